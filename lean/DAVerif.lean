import DAVerif.Generated.Tables
import DAVerif.Core.Val
import DAVerif.Core.Table
import DAVerif.Core.OrderedSet
import DAVerif.Core.CC
import DAVerif.Spec.Conn
import DAVerif.Expr.Term
import DAVerif.Ops.Node
import DAVerif.Ops.Builder
import DAVerif.Ops.Compose
import DAVerif.Ops.Eq
import DAVerif.Ops.UsedDag
import DAVerif.Sem.WindowTies
import DAVerif.Spec.Used
import DAVerif.Spec.Erase
import DAVerif.Generated.ExprTables
import DAVerif.Expr.Cst
import DAVerif.Expr.Lex
import DAVerif.Expr.Parse
import DAVerif.Expr.Walk
import DAVerif.Expr.Print
import DAVerif.Expr.Eval
import DAVerif.Expr.Canon
import DAVerif.Sem.Eval
import DAVerif.Sem.EvalG
import DAVerif.Sem.Theta
import DAVerif.CData.Record
import DAVerif.CData.RecordSpec
import DAVerif.Proofs.CData
import DAVerif.Proofs.CDataSpec
import DAVerif.Proofs.CDataCollapse
import DAVerif.Proofs.CDataMap
import DAVerif.Proofs.CDataCompose
import DAVerif.Text.Quote
import DAVerif.Text.Lex
import DAVerif.Proofs.Text
import DAVerif.Proofs.TextSql
import DAVerif.Sql.NearSql
import DAVerif.Sql.ToNearSql
import DAVerif.Sql.Sem
import DAVerif.Sql.ThetaSql
import DAVerif.Sql.WithForm
import DAVerif.Schema.Schema
import DAVerif.Proofs.Schema
import DAVerif.Space.EvalCache
import DAVerif.Space.DataSpace
import DAVerif.Proofs.DataSpace
import DAVerif.Proofs.PrefixCode
import DAVerif.Proofs.EvalCache
import DAVerif.Proofs.OSet
import DAVerif.Proofs.SemBasic
import DAVerif.Spec.Perm
import DAVerif.Proofs.Order
import DAVerif.Proofs.Perm
import DAVerif.Proofs.CC
import DAVerif.Proofs.EqTerm
import DAVerif.Proofs.EqOps
import DAVerif.Proofs.EraseMap
import DAVerif.Proofs.EqSem
import DAVerif.Proofs.EvalRead
import DAVerif.Proofs.EqBuild
import DAVerif.Proofs.ExprWf
import DAVerif.Proofs.ExprWalkNode
import DAVerif.Proofs.ExprWalk
import DAVerif.Proofs.ExprPrint
import DAVerif.Proofs.ExprParseEqns
import DAVerif.Proofs.ExprParse
import DAVerif.Proofs.UsedBasic
import DAVerif.Proofs.SemCongr
import DAVerif.Proofs.UsedSem
import DAVerif.Proofs.UsedTop
import DAVerif.Proofs.UsedDag
import DAVerif.Proofs.UsedReach
import DAVerif.Props.C10
import DAVerif.Props.C11
import DAVerif.Props.C13
import DAVerif.Props.C14
import DAVerif.Props.C17
import DAVerif.Props.C18
import DAVerif.Props.C20
import DAVerif.Props.C22
import DAVerif.Props.C23
import DAVerif.Props.C24
import DAVerif.Props.C25
import DAVerif.Spec.Rules
import DAVerif.Proofs.BuilderBasics
import DAVerif.Proofs.BuilderWF
import DAVerif.Proofs.BuilderRules
import DAVerif.Proofs.BuilderReach
import DAVerif.Props.C26
import DAVerif.Spec.DocSem
import DAVerif.Sem.ThetaC05
import DAVerif.Sql.SqlExpr
import DAVerif.Generated.SqlFormatters
import DAVerif.Proofs.Methods
import DAVerif.Proofs.MethodsFloor
import DAVerif.Proofs.MethodsScalar
import DAVerif.Proofs.MethodsScalar2
import DAVerif.Proofs.MethodsAgg
import DAVerif.Proofs.MethodsFormatters
import DAVerif.Props.C05
import DAVerif.Spec.SqlSem
import DAVerif.Proofs.SqlBasic
import DAVerif.Proofs.SqlCongr
import DAVerif.Proofs.SqlMonad
import DAVerif.Proofs.ToNearStep
import DAVerif.Proofs.SqlStep
import DAVerif.Proofs.SqlTrans
import DAVerif.Proofs.SqlStepReads
import DAVerif.Proofs.SqlUnary
import DAVerif.Proofs.SqlUnary2
import DAVerif.Proofs.SqlUnary3
import DAVerif.Proofs.SqlMain
import DAVerif.Proofs.Window
import DAVerif.Proofs.SqlOrder
import DAVerif.Proofs.SqlReach
import DAVerif.Props.C01core
import DAVerif.Heap.Own
import DAVerif.Proofs.Own
import DAVerif.Proofs.OwnDet
import DAVerif.Proofs.OwnRun
import DAVerif.Props.C19
import DAVerif.Solutions.Common
import DAVerif.Solutions.RankToAverage
import DAVerif.Solutions.Locf
import DAVerif.Solutions.Replicate
import DAVerif.Solutions.MultiColumnMap
import DAVerif.Solutions.ReplicateInterp
import DAVerif.Spec.Solutions
import DAVerif.Proofs.SolRows
import DAVerif.Proofs.SolSem
import DAVerif.Proofs.SolComb
import DAVerif.Proofs.SolBuild
import DAVerif.Proofs.SolReplicate
import DAVerif.Proofs.SolLocfCore
import DAVerif.Proofs.SolTb
import DAVerif.Proofs.SolRank
import DAVerif.Proofs.SolLocf
import DAVerif.Proofs.SolMcm
import DAVerif.Props.C21
import DAVerif.Ops.PrintCalls
import DAVerif.Proofs.PrintCalls
import DAVerif.Proofs.PrintExprs
import DAVerif.Props.C12
import DAVerif.Spec.Ref
import DAVerif.Proofs.RefSem
import DAVerif.Proofs.RefJoin
import DAVerif.Proofs.ThetaWin
import DAVerif.Props.C08
import DAVerif.Props.C09
import DAVerif.Props.C16
import DAVerif.Props.C27
import DAVerif.Spec.Chain
import DAVerif.Proofs.OpsBasic
import DAVerif.Proofs.RowBasic
import DAVerif.Proofs.Builders
import DAVerif.Proofs.MkForms
import DAVerif.Proofs.Built
import DAVerif.Proofs.EquivC
import DAVerif.Proofs.OpsGet
import DAVerif.Proofs.ApplyNode
import DAVerif.Proofs.ApplyCongr
import DAVerif.Proofs.Merge
import DAVerif.Proofs.Valid
import DAVerif.Proofs.C06Sem
import DAVerif.Proofs.C06Accept
import DAVerif.Proofs.C06Main
import DAVerif.Proofs.ChkPerm
import DAVerif.Proofs.C06Chain
import DAVerif.Proofs.ScopeC
import DAVerif.Proofs.C07Sem
import DAVerif.Proofs.C07Struct
import DAVerif.Proofs.C07Single
import DAVerif.Proofs.C07Compose
import DAVerif.Props.C06
import DAVerif.Props.C07
import DAVerif.Proofs.C06Exact
import DAVerif.Proofs.C07Total
import DAVerif.Proofs.SqlMergeInv
import DAVerif.Proofs.SqlMerge
import DAVerif.Proofs.SqlMergeTrans
import DAVerif.Proofs.SqlMergeMain
import DAVerif.Proofs.SqlTotal
import DAVerif.Props.C04merge
import DAVerif.Proofs.SqlJoin
import DAVerif.Proofs.SqlConcat
import DAVerif.Proofs.SqlGood
import DAVerif.Proofs.SqlNestedScope
import DAVerif.Proofs.SqlJoinSqlite
import DAVerif.Props.C01joins
import DAVerif.Proofs.SqlFullPerm
import DAVerif.Proofs.SqlFullSem
import DAVerif.Proofs.SqlFullTrans
import DAVerif.Props.C16full
import DAVerif.Spec.Rename
import DAVerif.Proofs.RenameBasic
import DAVerif.Proofs.RenameBuild
import DAVerif.Proofs.RenameSem
import DAVerif.Proofs.RenameExt
import DAVerif.Proofs.RenameSqlSem
import DAVerif.Proofs.RenameNearBasic
import DAVerif.Proofs.RenameNear
import DAVerif.Spec.WithText
import DAVerif.Proofs.WithText
import DAVerif.Proofs.RenameWith
import DAVerif.Props.C15
import DAVerif.Prim.Polars
import DAVerif.Sem.Polars
import DAVerif.Spec.Polars
import DAVerif.Proofs.PolarsRow
import DAVerif.Proofs.Polars
import DAVerif.Proofs.PolarsJoin
import DAVerif.Proofs.PolarsTheta
import DAVerif.Props.C03
import DAVerif.Sql.WithFormG
import DAVerif.Proofs.WithForm
import DAVerif.Proofs.WithSound
import DAVerif.Proofs.WithNames
import DAVerif.Proofs.WithScope
import DAVerif.Proofs.WithFix
import DAVerif.Proofs.WithKey
import DAVerif.Props.C04
import DAVerif.Proofs.SqlAllTrans
import DAVerif.Props.C01all
import DAVerif.Proofs.SqlNested
import DAVerif.Props.C16nested
import DAVerif.Proofs.SqlEvalI
import DAVerif.Proofs.SolRankSql
import DAVerif.Proofs.SolRepSql
import DAVerif.Proofs.SolLocfSql
import DAVerif.Proofs.SolSqlWitness
import DAVerif.Props.C21sql
import DAVerif.Spec.EraseSql
import DAVerif.Proofs.EqSqlBuild
import DAVerif.Proofs.EqSqlNear
import DAVerif.Proofs.EqSqlSem
import DAVerif.Props.C11sql
import DAVerif.Proofs.MethodsAggOrder
import DAVerif.Proofs.MethodsAggStat
import DAVerif.Proofs.MethodsAggWin
import DAVerif.Proofs.MethodsAggFmt
import DAVerif.Props.C05agg
import DAVerif.Proofs.PrintSemStruct
import DAVerif.Proofs.PrintSem
import DAVerif.Proofs.PrintSemScope
import DAVerif.Spec.ColOrder
import DAVerif.Proofs.PrintSemRMain
import DAVerif.Props.C12sem
import DAVerif.Proofs.WithKeyFaithDefs
import DAVerif.Proofs.WithKeyFaithRender1
import DAVerif.Proofs.WithKeyFaithRender
import DAVerif.Proofs.WithKeyFaithNode
import DAVerif.Proofs.WithKeyFaithTrans
import DAVerif.Proofs.WithKeyFaithSem
import DAVerif.Props.C04key
import DAVerif.Proofs.ExprWalkWfDefs
import DAVerif.Proofs.ExprWalkWfParse
import DAVerif.Proofs.ExprWalkWfBuild
import DAVerif.Proofs.ExprWalkWfLits
import DAVerif.Proofs.ExprWalkWfCalls
import DAVerif.Proofs.ExprWalkWfMain
import DAVerif.Proofs.ExprWalkWfNames
import DAVerif.Proofs.ExprWalkWfPrintNames
import DAVerif.Proofs.ExprWalkWfFloat
import DAVerif.Props.C13wf
import DAVerif.Props.C24cmp
