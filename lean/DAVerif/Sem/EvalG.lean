import DAVerif.Sem.Eval
/-
The relational semantics `sem` with the row comparison used by `order_rows` and by window orderings as a parameter:
`semG rowLe = sem` (pandas: nulls last), `semG (sqlRowLe ec)` = the same operators with an engine's NULL placement
(`Spec/SqlSem.lean`).  The windowed `extend` and `order_rows` of Polars (`Sem/Polars.lean`) are `semExtendWindowG` and
`semOrderG` at Polars' comparison.

No imports beyond model files.
-/
namespace DAVerif
namespace Sql

/-- a row comparison for `ORDER BY`: order columns, reversed columns, two rows -/
abbrev RowCmp := List String → List String → Row → Row → Bool

def semOrderG (le : RowCmp) (cs reverse : List String) (limit : Option Nat) (t : Table) : Table :=
  let s := t.rows.mergeSort (fun a b => le cs reverse a b)
  ⟨t.cols, match limit with | none => s | some n => s.take n⟩

/-- value of one window expression on the row `ri` of the indexed rows `idx` -/
def winCell (le : RowCmp) (Θ : Interp) (partition order reverse : List String) (idx : List (Row × Nat))
    (ri : Row × Nat) (t : Term) : Val :=
  let part := idx.filter (fun rj => keyOf rj.1 partition == keyOf ri.1 partition)
  let sorted := part.mergeSort (fun a b => le order reverse a.1 b.1)
  let pos := sorted.findIdx (fun rj => rj.2 == ri.2)
  Θ.win (opName t) (constArgs t) (argValues t (sorted.map (·.1))) pos

def semExtendWindowG (le : RowCmp) (Θ : Interp) (ops : Assign) (partition order reverse : List String) (t : Table)
    (outCols : List String) : Table :=
  let idx := t.rows.zipIdx
  ⟨outCols, idx.map (fun ri =>
    (ri.1.setAll (ops.map (fun kv => (kv.1, winCell le Θ partition order reverse idx ri kv.2)))).select outCols)⟩

/-- `sem` with the comparison `le` in `order_rows` and in window orderings -/
def semG (le : RowCmp) (Θ : Interp) (cfg : SemCfg) (env : Env) : Ops → Except Err Table
  | .table name cs =>
    match env.lookup name with
    | none => .error .valueError
    | some t => if subset cs t.cols then .ok (t.selectCols cs) else .error .valueError
  | n@(.extend src ops partition order reverse windowed) => do
    let t ← semG le Θ cfg env src
    if windowed then return semExtendWindowG le Θ ops partition order reverse t n.cols
    else return semExtendPlain Θ ops t n.cols
  | n@(.project src ops group) => do
    let t ← semG le Θ cfg env src
    return semProject Θ ops group t n.cols
  | .selectRows src e => do
    let t ← semG le Θ cfg env src
    return semSelectRows Θ e t
  | .selectCols src cs => do
    let t ← semG le Θ cfg env src
    return t.selectCols cs
  | n@(.dropCols src _) => do
    let t ← semG le Θ cfg env src
    return t.selectCols n.cols
  | .order src cs reverse limit => do
    let t ← semG le Θ cfg env src
    return semOrderG le cs reverse limit t
  | n@(.rename src m) => do
    let t ← semG le Θ cfg env src
    let rev := m.map (fun kv => (kv.2, kv.1))
    return ⟨n.cols, t.rows.map (fun r => r.rename (fun c => (lookupLast rev c).getD c))⟩
  | n@(.mapCols src m dels) => do
    let t ← semG le Θ cfg env src
    return ⟨n.cols, t.rows.map (fun r => (r.drop dels).rename (fun c => (lookupLast m c).getD c))⟩
  | n@(.join a b onA onB jt) => do
    let ta ← semG le Θ cfg env a
    let tb ← semG le Θ cfg env b
    return semJoin cfg jt onA onB ta tb (appendNew a.cols b.cols) |>.selectCols n.cols
  | n@(.concat a b idc an bn) => do
    let ta ← semG le Θ cfg env a
    let tb ← semG le Θ cfg env b
    return semConcat idc an bn ta tb n.cols
  | .convert src rm => do
    let t ← semG le Θ cfg env src
    Θ.convert rm t

end Sql
end DAVerif
