import DAVerif.Text.Quote
/-
Dialect lexers for the part of SQL that carries user text: string literals, quoted identifiers, `--` line
comments, and a token stream around them.  This is the *specification side* of C14: it is written from the
dialect manuals, not from data_algebra:

* SQLite      "SQL As Understood By SQLite" (literal values, keywords) and tokenize.c: `'…'` with `''`;
              `"…"` and backtick identifiers with doubling; `--` to `\n`.
* PostgreSQL  manual 4.1 (standard_conforming_strings = on): `'…'` with `''` only; `"…"` identifiers with `""`,
              zero-length identifier is an error; `--` to `\n` or `\r`.
* MySQL       manual 11.1.1 / 11.2 / 11.7 (default sql_mode): `'…'` and `"…"` strings with backslash escapes
              *and* quote doubling; backtick identifiers with doubling, no escapes; `-- ` needs a following
              whitespace/control character, ends at `\n`.
* Spark SQL   SqlBaseLexer.g4 / SparkParserUtils.unescapeSQLString (4.x): `'…'` and `"…"` strings with backslash
              escapes and quote doubling; backtick identifiers with doubling; `--` to `\r`/`\n`, where a
              backslash immediately before `\n` continues the comment on the next line.
* BigQuery    "Lexical structure and syntax": `'…'` and `"…"` strings with backslash escapes, no doubling, no raw
              newline; backtick identifiers with the same escapes, not empty; `--` to newline.

Whatever a dialect has beyond this (block comments, `E'…'`, `$$…$$`, `[…]`, `#`, triple-quoted and prefixed
literals) is answered `none` (= "not handled"), so a theorem `lex… = some …` also shows such constructs are absent.
Only the SQLite and Spark models can be validated against an engine here; the other three are assumptions.
No imports besides the model: this file is part of the compiled driver.
-/
namespace DAVerif.Text

/-! ## pieces shared by the string lexers -/

def hexVal (c : Char) : Option Nat :=
  let n := c.toNat
  if 48 ≤ n ∧ n ≤ 57 then some (n - 48)
  else if 97 ≤ n ∧ n ≤ 102 then some (n - 87)
  else if 65 ≤ n ∧ n ≤ 70 then some (n - 55)
  else none

/-- value of a hexadecimal digit string (`none` if some character is not a hex digit) -/
def hexNum : List Char → Option Nat
  | [] => some 0
  | cs => cs.foldl (fun acc c => match acc, hexVal c with
      | some a, some v => some (16 * a + v)
      | _, _ => none) (some 0)

def octVal (c : Char) : Option Nat :=
  let n := c.toNat
  if 48 ≤ n ∧ n ≤ 55 then some (n - 48) else none

/-- the character with a given code point, if it is a Unicode scalar value -/
def charOfCode (n : Nat) : Option Char :=
  if n < 0xD800 ∨ (0xDFFF < n ∧ n < 0x110000) then some (Char.ofNat n) else none

/-- prepend decoded characters to the value part of a lexer result -/
def consVal (pre : List Char) (r : Option (List Char × List Char)) : Option (List Char × List Char) :=
  r.map (fun p => (pre ++ p.1, p.2))

/-! ## SQLite, PostgreSQL strings; quoted identifiers of every dialect but BigQuery -/

/-- Body of a literal opened by `q` where only the doubled quote is special.  Input = text after the opening
quote; result = (value, text after the closing quote); `none` = unterminated. -/
def lexBodyStd (q : Char) : List Char → Option (List Char × List Char)
  | [] => none
  | c :: cs =>
    if c = q then
      match cs with
      | [] => some ([], [])
      | c2 :: cs2 => if c2 = q then consVal [q] (lexBodyStd q cs2) else some ([], c2 :: cs2)
    else consVal [c] (lexBodyStd q cs)

/-! ## MySQL strings (default sql_mode) -/

/-- MySQL manual table 11.1 "Special Character Escape Sequences"; "for all other escape sequences, backslash is
ignored"; `\%` and `\_` keep the backslash outside pattern-matching contexts. -/
def mysqlEsc (e : Char) : List Char :=
  if e = '0' then [Char.ofNat 0] else if e = 'b' then [Char.ofNat 8] else if e = 'n' then ['\n']
  else if e = 'r' then ['\r'] else if e = 't' then ['\t'] else if e = 'Z' then [Char.ofNat 26]
  else if e = '%' then ['\\', '%'] else if e = '_' then ['\\', '_'] else [e]

def lexBodyMy (q : Char) : List Char → Option (List Char × List Char)
  | [] => none
  | c :: cs =>
    if c = q then
      match cs with
      | [] => some ([], [])
      | c2 :: cs2 => if c2 = q then consVal [q] (lexBodyMy q cs2) else some ([], c2 :: cs2)
    else if c = '\\' then
      match cs with
      | [] => none
      | e :: cs2 => consVal (mysqlEsc e) (lexBodyMy q cs2)
    else consVal [c] (lexBodyMy q cs)

/-! ## Spark SQL strings (spark.sql.parser.escapedStringLiterals = false) -/

/-- `appendEscapedChar` of SparkParserUtils.unescapeSQLString -/
def sparkEsc (e : Char) : List Char :=
  if e = '0' then [Char.ofNat 0] else if e = 'b' then [Char.ofNat 8] else if e = 'n' then ['\n']
  else if e = 'r' then ['\r'] else if e = 't' then ['\t'] else if e = 'Z' then [Char.ofNat 26]
  else if e = '%' then ['\\', '%'] else if e = '_' then ['\\', '_'] else [e]

/-- lexer rule `'"' ( ~('"'|'\\') | '""' | ('\\' .) )* '"'` (same with `'`), value by unescapeSQLString:
`\uXXXX`, `\UXXXXXXXX`, octal `\[01][0-7][0-7]`, then the single-character escapes. -/
def lexBodySpark (q : Char) : List Char → Option (List Char × List Char)
  | [] => none
  | c :: cs =>
    if c = q then
      match cs with
      | [] => some ([], [])
      | c2 :: cs2 => if c2 = q then consVal [q] (lexBodySpark q cs2) else some ([], c2 :: cs2)
    else if c = '\\' then
      match cs with
      | [] => none
      | e :: cs2 =>
        if e = 'u' then
          match cs2 with
          | a :: b :: x :: y :: cs6 =>
            match (hexNum [a, b, x, y]).bind charOfCode with
            | some ch => consVal [ch] (lexBodySpark q cs6)
            | none => if (hexNum [a, b, x, y]).isSome then none   -- a surrogate half: not a scalar value, not handled
                      else consVal ['u'] (lexBodySpark q (a :: b :: x :: y :: cs6))
          | cs2 => consVal ['u'] (lexBodySpark q cs2)
        else if e = 'U' then
          match cs2 with
          | a :: b :: x :: y :: a' :: b' :: x' :: y' :: cs10 =>
            match (hexNum [a, b, x, y, a', b', x', y']).bind charOfCode with
            | some ch => consVal [ch] (lexBodySpark q cs10)
            | none => if (hexNum [a, b, x, y, a', b', x', y']).isSome then none
                      else consVal ['U'] (lexBodySpark q (a :: b :: x :: y :: a' :: b' :: x' :: y' :: cs10))
          | cs2 => consVal ['U'] (lexBodySpark q cs2)
        else
          match cs2 with
          | o2 :: o3 :: cs4 =>
            match (if e = '0' ∨ e = '1' then octVal e else none), octVal o2, octVal o3 with
            | some v1, some v2, some v3 => consVal [Char.ofNat (64 * v1 + 8 * v2 + v3)] (lexBodySpark q cs4)
            | _, _, _ => consVal (sparkEsc e) (lexBodySpark q (o2 :: o3 :: cs4))
          | cs2 => consVal (sparkEsc e) (lexBodySpark q cs2)
    else consVal [c] (lexBodySpark q cs)

/-! ## BigQuery strings and quoted identifiers -/

/-- BigQuery "Escape sequences for string and bytes literals", single-character ones; anything else after a
backslash is an error. -/
def bqEsc (e : Char) : Option Char :=
  if e = 'a' then some (Char.ofNat 7) else if e = 'b' then some (Char.ofNat 8)
  else if e = 'f' then some (Char.ofNat 12) else if e = 'n' then some '\n' else if e = 'r' then some '\r'
  else if e = 't' then some '\t' else if e = 'v' then some (Char.ofNat 11) else if e = '\\' then some '\\'
  else if e = '?' then some '?' else if e = '"' then some '"' else if e = '\'' then some '\''
  else if e = '`' then some '`' else none

/-- single-line quoted literal: no doubling, no raw newline, escapes `\ooo \xhh \Xhh \uhhhh \Uhhhhhhhh` and
`bqEsc`. -/
def lexBodyBq (q : Char) : List Char → Option (List Char × List Char)
  | [] => none
  | c :: cs =>
    if c = q then some ([], cs)
    else if c = '\n' ∨ c = '\r' then none
    else if c = '\\' then
      match cs with
      | [] => none
      | e :: cs2 =>
        if e = 'x' ∨ e = 'X' then
          match cs2 with
          | a :: b :: cs4 =>
            match (hexNum [a, b]).bind charOfCode with
            | some ch => consVal [ch] (lexBodyBq q cs4)
            | none => none
          | _ => none
        else if e = 'u' then
          match cs2 with
          | a :: b :: x :: y :: cs6 =>
            match (hexNum [a, b, x, y]).bind charOfCode with
            | some ch => consVal [ch] (lexBodyBq q cs6)
            | none => none
          | _ => none
        else if e = 'U' then
          match cs2 with
          | a :: b :: x :: y :: a' :: b' :: x' :: y' :: cs10 =>
            match (hexNum [a, b, x, y, a', b', x', y']).bind charOfCode with
            | some ch => consVal [ch] (lexBodyBq q cs10)
            | none => none
          | _ => none
        else if (octVal e).isSome then
          match cs2 with
          | o2 :: o3 :: cs4 =>
            match octVal e, octVal o2, octVal o3 with
            | some v1, some v2, some v3 =>
              if v1 ≤ 3 then consVal [Char.ofNat (64 * v1 + 8 * v2 + v3)] (lexBodyBq q cs4) else none
            | _, _, _ => none
          | _ => none
        else
          match bqEsc e with
          | some ch => consVal [ch] (lexBodyBq q cs2)
          | none => none
    else consVal [c] (lexBodyBq q cs)

/-! ## the per-dialect entry points -/

/-- characters that open a string literal -/
def strQuotes : Dialect → List Char
  | .sqlite => ['\''] | .postgres => ['\''] | .mysql => ['\'', '"'] | .spark => ['\'', '"']
  | .bigquery => ['\'', '"']

/-- characters that open a quoted identifier (SQLite also accepts MySQL-style backticks) -/
def idQuotes : Dialect → List Char
  | .sqlite => ['"', '`'] | .postgres => ['"'] | .mysql => ['`'] | .spark => ['`'] | .bigquery => ['`']

/-- Read one string literal at the head of the input (which must start with an opening quote).
Result: (the value the dialect reads, the text after the literal). -/
def lexString (d : Dialect) : List Char → Option (List Char × List Char)
  | [] => none
  | q :: cs =>
    if q ∈ strQuotes d then
      match d with
      | .sqlite => lexBodyStd q cs
      | .postgres => lexBodyStd q cs
      | .mysql => lexBodyMy q cs
      | .spark => lexBodySpark q cs
      | .bigquery =>
        match cs with
        | c2 :: c3 :: _ => if c2 = q ∧ c3 = q then none /- triple-quoted literal: not handled -/ else lexBodyBq q cs
        | _ => lexBodyBq q cs
    else none

/-- Read one quoted identifier at the head of the input. -/
def lexIdent (d : Dialect) : List Char → Option (List Char × List Char)
  | [] => none
  | q :: cs =>
    if q ∈ idQuotes d then
      match d with
      | .bigquery =>
        match lexBodyBq q cs with
        | some ([], _) => none           -- "quoted identifiers cannot be empty"
        | r => r
      | .postgres =>
        match lexBodyStd q cs with
        | some ([], _) => none           -- "zero-length delimited identifier"
        | r => r
      | _ => lexBodyStd q cs
    else none

/-! ## token stream -/

inductive Tok where
  | str (s : List Char)      -- string literal, decoded
  | ident (s : List Char)    -- quoted identifier, decoded
  | word (w : List Char)     -- maximal run of letters, digits, `_` and non-ASCII characters (keywords, names)
  | num (n : Nat)            -- a word made of decimal digits only
  | sym (c : Char)           -- any other single character
  deriving DecidableEq, Repr

/-- white space between tokens -/
def isWs (d : Dialect) (c : Char) : Bool :=
  let n := c.toNat
  match d with
  | .sqlite => n == 32 || n == 9 || n == 10 || n == 12 || n == 13
  | .postgres => n == 32 || n == 9 || n == 10 || n == 12 || n == 13
  | .mysql => n == 32 || (9 ≤ n && n ≤ 13)
  | .spark => n == 32 || (9 ≤ n && n ≤ 13) || n == 0xA0
  | .bigquery => n == 32 || (9 ≤ n && n ≤ 13)

/-- the character ends a `--` comment -/
def commentEnd (d : Dialect) (c : Char) : Bool :=
  match d with
  | .sqlite => c == '\n'
  | .mysql => c == '\n'
  | _ => c == '\n' || c == '\r'

/-- `--` has just been read, `cs` follows: is this a comment?  (MySQL: "the second dash must be followed by at
least one whitespace or control character"; end of input counts.) -/
def startsComment (d : Dialect) (cs : List Char) : Bool :=
  match d, cs with
  | .mysql, [] => true
  | .mysql, c :: _ => isWs .mysql c || c.toNat < 32 || c.toNat == 127
  | _, _ => true

/-- skip the text of a line comment, up to (not including) its terminator.  Spark: `'\\\n'` inside the comment
rule, i.e. a backslash directly before a newline continues the comment. -/
def skipComment (d : Dialect) : List Char → List Char
  | [] => []
  | c :: cs =>
    match cs with
    | [] => if commentEnd d c then [c] else []
    | c2 :: cs2 =>
      if d = .spark ∧ c = '\\' ∧ c2 = '\n' then skipComment d cs2
      else if commentEnd d c then c :: c2 :: cs2 else skipComment d (c2 :: cs2)

def isDigit (c : Char) : Bool := 48 ≤ c.toNat && c.toNat ≤ 57

def isWordChar (c : Char) : Bool :=
  let n := c.toNat
  isDigit c || (65 ≤ n && n ≤ 90) || (97 ≤ n && n ≤ 122) || n == 95 || 128 ≤ n

/-- constructs the model does not read: the tokenizer answers `none` when one starts at top level -/
def notHandled (d : Dialect) (c : Char) (cs : List Char) : Bool :=
  (c == '/' && cs.head? == some '*') ||
  (match d with
   | .sqlite => c == '['
   | .postgres => c == '$' || (c == '&' && (cs.head? == some '\'' || cs.head? == some '"'))
   | .mysql => c == '#'
   | .spark => false
   | .bigquery => c == '#')

/-- decimal value of a digit string -/
def digitsVal (w : List Char) : Nat := w.foldl (fun a c => 10 * a + (c.toNat - 48)) 0

def mkWord (w : List Char) : Tok := if w.all isDigit then .num (digitsVal w) else .word w

theorem length_skipComment_le (d : Dialect) (cs : List Char) : (skipComment d cs).length ≤ cs.length := by
  fun_induction skipComment d cs <;> simp only [List.length_cons, List.length_nil] at * <;> omega

/-- The token stream of a SQL text; `none` = lexical error (unterminated literal) or a construct not handled. -/
def lexSql (d : Dialect) (inp : List Char) : Option (List Tok) :=
  match inp with
  | [] => some []
  | c :: cs =>
    if isWs d c then lexSql d cs
    else if c = '-' ∧ cs.head? = some '-' ∧ startsComment d (cs.drop 1) then lexSql d (skipComment d (cs.drop 1))
    else if c ∈ strQuotes d then
      match lexString d (c :: cs) with
      | none => none
      | some (s, r) => if r.length < (c :: cs).length then (lexSql d r).map (Tok.str s :: ·) else none
    else if c ∈ idQuotes d then
      match lexIdent d (c :: cs) with
      | none => none
      | some (s, r) => if r.length < (c :: cs).length then (lexSql d r).map (Tok.ident s :: ·) else none
    else if notHandled d c cs then none
    else if isWordChar c then
      let r := cs.dropWhile isWordChar
      -- a word directly followed by a string quote is a prefixed literal (E'..', N'..', X'..', r"..", _utf8'..')
      if (match r.head? with | some q => decide (q ∈ strQuotes d) | none => false) then none
      else (lexSql d r).map (mkWord (c :: cs.takeWhile isWordChar) :: ·)
    else (lexSql d cs).map (Tok.sym c :: ·)
termination_by inp.length
decreasing_by
  · simp
  · have h1 := length_skipComment_le d (cs.drop 1)
    have h2 : (cs.drop 1).length ≤ cs.length := by simp
    simp only [List.length_cons]; omega
  · assumption
  · assumption
  · have h1 : (cs.dropWhile isWordChar).length ≤ cs.length := List.Sublist.length_le (List.dropWhile_sublist _)
    simp only [List.length_cons]; omega
  · simp

end DAVerif.Text
