import DAVerif.Spec.Perm
import DAVerif.Proofs.Order
import DAVerif.Proofs.Window
import DAVerif.Sem.Theta
/-!
# C18  Results ignore input row order, and `order_rows` orders and limits

Specification-side vocabulary: `Spec/Perm.lean` (`t ≈ t'`, `Env.Equiv`, `ResEquiv`, the laws `AggOrderFree` / `WinOrderFree`
/ `ConvertPermInvariant` on the interpretation `Θ`, the scope `WindowsTotal`); per-operator lemmas: `Proofs/Perm.lean`,
`Proofs/Window.lean`; order theory: `Proofs/Order.lean`.
-/
namespace DAVerif

/-- **C18, row order (general form).**  For every interpretation `Θ` of the function symbols whose record
transforms respect row order, every backend configuration, every pipeline `p` whose `project` nodes use order
free aggregates, and every pair of environments with the same tables up to row order: if `p` is in scope on
`env` (`WindowsTotal`: each windowed `extend` has a window order that is total within each partition – or only
order free window functions –, each `order_rows` with a limit does not cut through a tie; both stated on the
intermediate tables computed from `env`), then evaluating `p` on the two environments gives the same error, or
two tables with the same columns and the same multiset of rows. -/
theorem C18_perm_invariant_gen (Θ : Interp) (cfg : SemCfg) {env env' : Env} (p : Ops)
    (hA : AggsOrderFree Θ p) (hC : ConvertPermInvariant Θ) (hW : WindowsTotal Θ cfg env p)
    (hE : Env.Equiv env env') : ResEquiv (sem Θ cfg env p) (sem Θ cfg env' p) := by
  induction p with
  | table name cs => exact semTable_equiv Θ cfg hE name cs
  | extend src ops part od rv w ih =>
    obtain ⟨hW1, hW2⟩ := hW
    cases w with
    | true =>
      simp only [sem, if_true]
      exact ResEquiv.bind (ih hA hW1) (fun t t' hx ht =>
        semExtendWindow_equiv Θ ops part od rv ht _ (hW2 rfl t hx))
    | false =>
      simp only [sem, Bool.false_eq_true, if_false]
      exact ResEquiv.bind (ih hA hW1) (fun t t' _ ht => semExtendPlain_equiv Θ ops ht _)
  | project src ops g ih =>
    exact ResEquiv.bind (ih hA.1 hW) (fun t t' _ ht => semProject_equiv Θ ops g ht _ hA.2)
  | selectRows src e ih =>
    exact ResEquiv.bind (ih hA hW) (fun t t' _ ht => semSelectRows_equiv Θ e ht)
  | selectCols src cs ih =>
    exact ResEquiv.bind (ih hA hW) (fun t t' _ ht => ht.selectCols cs)
  | dropCols src dels ih =>
    exact ResEquiv.bind (ih hA hW) (fun t t' _ ht => ht.selectCols _)
  | order src cs rv lim ih =>
    obtain ⟨hW1, hW2⟩ := hW
    refine ResEquiv.bind (ih hA hW1) (fun t t' hx ht => ?_)
    cases lim with
    | none => exact semOrder_equiv cs rv ht
    | some n => exact semOrder_limit_equiv cs rv n ht (hW2 n rfl t hx)
  | rename src m ih =>
    exact ResEquiv.bind (ih hA hW) (fun t t' _ ht => semRename_equiv ht _ _)
  | mapCols src m dels ih =>
    exact ResEquiv.bind (ih hA hW) (fun t t' _ ht => semMapCols_equiv ht _ dels _)
  | join a b oa ob jt iha ihb =>
    refine ResEquiv.bind (iha hA.1 hW.1) (fun ta ta' _ hta => ?_)
    exact ResEquiv.bind (ihb hA.2 hW.2) (fun tb tb' _ htb =>
      (semJoin_equiv cfg jt oa ob hta htb _).selectCols _)
  | concat a b idc an bn iha ihb =>
    refine ResEquiv.bind (iha hA.1 hW.1) (fun ta ta' _ hta => ?_)
    exact ResEquiv.bind (ihb hA.2 hW.2) (fun tb tb' _ htb => semConcat_equiv idc an bn hta htb _)
  | convert src rm ih =>
    exact ResEquiv.bind (ih hA hW) (fun t t' _ ht => hC rm t t' ht)

/-- **C18, row order.**  With aggregates that only depend on the multiset of their arguments and record
transforms that respect row order: permuting the rows of the input tables of a pipeline in scope
(`WindowsTotal`) leaves the result unchanged as a multiset (same error, or same columns and same multiset of
rows) – for the Pandas configuration and for the reference (SQL) configuration alike. -/
theorem C18_perm_invariant (Θ : Interp) (cfg : SemCfg) {env env' : Env} (p : Ops)
    (hA : AggPermInvariant Θ) (hC : ConvertPermInvariant Θ) (hW : WindowsTotal Θ cfg env p)
    (hE : Env.Equiv env env') : ResEquiv (sem Θ cfg env p) (sem Θ cfg env' p) :=
  C18_perm_invariant_gen Θ cfg p (aggsOrderFree_of_permInvariant hA p) hC hW hE

theorem WindowsTotal.of_envEquiv (Θ : Interp) (cfg : SemCfg) {env env' : Env} (p : Ops)
    (hA : AggsOrderFree Θ p) (hC : ConvertPermInvariant Θ) (hW : WindowsTotal Θ cfg env p)
    (hE : Env.Equiv env env') : WindowsTotal Θ cfg env' p := by
  have back : ∀ (q : Ops), AggsOrderFree Θ q → WindowsTotal Θ cfg env q → ∀ t', sem Θ cfg env' q = .ok t' →
      ∃ t, sem Θ cfg env q = .ok t ∧ t ≈ t' := by
    intro q hAq hWq t' ht'
    obtain ⟨t, h1, h2⟩ := (C18_perm_invariant_gen Θ cfg q hAq hC hWq hE).symm.of_ok ht'
    exact ⟨t, h1, h2.symm⟩
  induction p with
  | table => trivial
  | extend src ops part od rv w ih =>
    refine ⟨ih hA hW.1, fun hw t' ht' => ?_⟩
    obtain ⟨t, h1, h2⟩ := back src hA hW.1 t' ht'
    exact (hW.2 hw t h1).perm h2.2
  | order src cs rv lim ih =>
    refine ⟨ih hA hW.1, fun n hn t' ht' => ?_⟩
    obtain ⟨t, h1, h2⟩ := back src hA hW.1 t' ht'
    exact (hW.2 n hn t h1).perm h2.2
  | project src ops g ih => exact ih hA.1 hW
  | join a b oa ob jt iha ihb => exact ⟨iha hA.1 hW.1, ihb hA.2 hW.2⟩
  | concat a b idc an bn iha ihb => exact ⟨iha hA.1 hW.1, ihb hA.2 hW.2⟩
  | selectRows src e ih => exact ih hA hW
  | selectCols src cs ih => exact ih hA hW
  | dropCols src dels ih => exact ih hA hW
  | rename src m ih => exact ih hA hW
  | mapCols src m dels ih => exact ih hA hW
  | convert src rm ih => exact ih hA hW

/-- **Syntactic criterion (windows).**  A window evaluated directly on the result of a `project` is total
within each partition as soon as its partition and order columns together include all the group columns. -/
theorem C18_window_after_project_total {Θ : Interp} {cfg : SemCfg} {env : Env} {src : Ops} {aops : Assign}
    {group part od rv : List String} (hsub : ∀ c ∈ group, c ∈ part ∨ c ∈ od) {t : Table}
    (ht : sem Θ cfg env (.project src aops group) = .ok t) : WinTotal part od rv t.rows := by
  obtain ⟨tq, _, ht⟩ := bind_eq_ok.mp ht
  cases ht
  exact winTotal_of_isKey hsub (semProject_isKey Θ aops group _ _ (fun c hc => mem_appendNew_left _ _ hc))

/-- **Syntactic criterion (limit).**  An ordering of the result of a `project` by columns that include all the
group columns is total. -/
theorem C18_order_after_project_total {Θ : Interp} {cfg : SemCfg} {env : Env} {src : Ops} {aops : Assign}
    {group cs rv : List String} (hsub : ∀ c ∈ group, c ∈ cs) {t : Table}
    (ht : sem Θ cfg env (.project src aops group) = .ok t) : TotalOn cs rv t.rows := by
  obtain ⟨tq, _, ht⟩ := bind_eq_ok.mp ht
  cases ht
  exact totalOn_of_isKey hsub (semProject_isKey Θ aops group _ _ (fun c hc => mem_appendNew_left _ _ hc))

/-- **C18, the partition columns are a set.**  A windowed `extend` does not depend on the order (or
multiplicity) in which the partition columns are listed – the executor iterates over a Python `set`, the only
hash-seed dependent choice in it. -/
theorem C18_partition_list_order (Θ : Interp) (cfg : SemCfg) (env : Env) (src : Ops) (ops : Assign)
    {p p' : List String} (h : ∀ c, c ∈ p ↔ c ∈ p') (o rv : List String) (w : Bool) :
    sem Θ cfg env (.extend src ops p o rv w) = sem Θ cfg env (.extend src ops p' o rv w) := by
  cases w with
  | true => simp only [sem, if_true, Ops.cols, semExtendWindow_partition_set Θ ops h]
  | false => simp only [sem, Ops.cols, Bool.false_eq_true, if_false]

/-- **C18, sorted.**  The rows of a pipeline that ends in `order_rows` (with or without a limit) come out
sorted: each row is before-or-tied-with every later row in the order given by the columns `cs` with the
reversals `rev` (`rowLe`; `C18_order_sorted_spec` unfolds it). -/
theorem C18_order_sorted {Θ : Interp} {cfg : SemCfg} {env : Env} {q : Ops} {cs rev : List String}
    {lim : Option Nat} {t : Table} (h : sem Θ cfg env (.order q cs rev lim) = .ok t) :
    t.rows.Pairwise (fun a b => rowLe cs rev a b = true) := by
  obtain ⟨tq, _, rfl⟩ := sem_order_ok h
  simp only [semOrder]
  cases lim with
  | none => exact sortRows_sorted cs rev tq.rows
  | some n => exact (sortRows_sorted cs rev tq.rows).sublist (List.take_sublist _ _)

/-- **C18, same rows.**  Without a limit the result of `order_rows` has the columns and exactly the rows of
its input (as a multiset). -/
theorem C18_order_perm {Θ : Interp} {cfg : SemCfg} {env : Env} {q : Ops} {cs rev : List String} {t : Table}
    (h : sem Θ cfg env (.order q cs rev none) = .ok t) : ∃ tq, sem Θ cfg env q = .ok tq ∧ t ≈ tq := by
  obtain ⟨tq, hq, rfl⟩ := sem_order_ok h
  exact ⟨tq, hq, rfl, sortRows_perm cs rev tq.rows⟩

/-- **C18, limit.**  With `limit = n` the result is exactly the first `n` rows of the sorted input. -/
theorem C18_order_limit {Θ : Interp} {cfg : SemCfg} {env : Env} {q : Ops} {cs rev : List String} {n : Nat}
    {t : Table} (h : sem Θ cfg env (.order q cs rev (some n)) = .ok t) :
    ∃ tq, sem Θ cfg env q = .ok tq ∧ t.cols = tq.cols ∧ t.rows = (sortRows cs rev tq.rows).take n := by
  obtain ⟨tq, hq, rfl⟩ := sem_order_ok h
  exact ⟨tq, hq, rfl, rfl⟩

/-- **C18, limit keeps the least rows.**  The `n` kept rows (all rows when there are fewer) together with the
dropped rows are the input rows, the kept rows are sorted, and every kept row is before-or-tied-with every
dropped row. -/
theorem C18_order_limit_least {Θ : Interp} {cfg : SemCfg} {env : Env} {q : Ops} {cs rev : List String}
    {n : Nat} {t : Table} (h : sem Θ cfg env (.order q cs rev (some n)) = .ok t) :
    ∃ tq dropped, sem Θ cfg env q = .ok tq ∧ (t.rows ++ dropped).Perm tq.rows ∧
      t.rows.length = min n tq.rows.length ∧ t.rows.Pairwise (fun a b => rowLe cs rev a b = true) ∧
      ∀ a ∈ t.rows, ∀ b ∈ dropped, rowLe cs rev a b = true := by
  obtain ⟨tq, hq, rfl⟩ := sem_order_ok h
  refine ⟨tq, (sortRows cs rev tq.rows).drop n, hq, ?_, ?_, ?_, ?_⟩
  · simp only [semOrder, List.take_append_drop]; exact sortRows_perm cs rev tq.rows
  · simp [semOrder, List.length_take]
  · exact (sortRows_sorted cs rev tq.rows).sublist (List.take_sublist _ _)
  · have := sortRows_sorted cs rev tq.rows
    rw [← List.take_append_drop n (sortRows cs rev tq.rows), List.pairwise_append] at this
    exact this.2.2

/-- **C18, the kept rows are determined.**  When no two different rows tie on the order columns, the limited
result is the *only* list with the properties of `C18_order_limit_least`: any way of splitting the input rows
into `min n (#rows)` sorted kept rows and dropped rows, no kept row after a dropped row, gives the same list. -/
theorem C18_order_limit_unique {Θ : Interp} {cfg : SemCfg} {env : Env} {q : Ops} {cs rev : List String}
    {n : Nat} {t tq : Table} (h : sem Θ cfg env (.order q cs rev (some n)) = .ok t)
    (hq : sem Θ cfg env q = .ok tq) (htot : TotalOn cs rev tq.rows) (kept dropped : List Row)
    (hp : (kept ++ dropped).Perm tq.rows) (hl : kept.length = min n tq.rows.length)
    (hs : kept.Pairwise (fun a b => rowLe cs rev a b = true))
    (hle : ∀ a ∈ kept, ∀ b ∈ dropped, rowLe cs rev a b = true) : t.rows = kept := by
  obtain ⟨tq', hq', rfl⟩ := sem_order_ok h
  rw [hq] at hq'
  cases hq'
  have hsorted : (kept ++ sortRows cs rev dropped).Pairwise (fun a b => rowLe cs rev a b = true) := by
    rw [List.pairwise_append]
    exact ⟨hs, sortRows_sorted cs rev dropped, fun a ha b hb => hle a ha b (mem_sortRows.mp hb)⟩
  have hperm : (kept ++ sortRows cs rev dropped).Perm tq.rows :=
    ((sortRows_perm cs rev dropped).append_left kept).trans hp
  simp only [semOrder]
  rw [sortRows_eq_of_sorted_perm htot hperm hsorted]
  have hlen : (kept ++ dropped).length = tq.rows.length := hp.length_eq
  rw [List.length_append] at hlen
  by_cases hn : n ≤ tq.rows.length
  · exact List.take_left' (by omega)
  · have hd : dropped = [] := List.eq_nil_of_length_eq_zero (by omega)
    subst hd
    rw [show sortRows cs rev [] = [] by simp [sortRows], List.append_nil]
    exact List.take_of_length_le (by omega)

/-- **C18, sorted (readable form).**  In the result of a pipeline ending in `order_rows`, for every row and
every later row: they agree on all order columns, or at the first order column where they differ the earlier
row has the smaller cell (the larger one for a reversed column), a null cell counting as larger than every
value in both directions ("nulls last"). -/
theorem C18_order_sorted_spec {Θ : Interp} {cfg : SemCfg} {env : Env} {q : Ops} {cs rev : List String}
    {lim : Option Nat} {t : Table} (h : sem Θ cfg env (.order q cs rev lim) = .ok t) :
    t.rows.Pairwise (LexLe cs rev) :=
  (C18_order_sorted h).imp (fun {a b} hab => (rowLe_iff_lexLe cs rev a b).mp hab)

namespace C18Ex

/-- the driver's concrete interpretation, record transforms being the identity -/
def Θc : Interp := Theta.concrete (fun _ t => .ok t)

theorem convert_ok : ConvertPermInvariant Θc := fun _ _ _ h => h

theorem size_agg_orderFree : AggOrderFree Θc "size" := by
  intro vs vs' h
  simp [Θc, Theta.concrete, Theta.agg, h.length_eq]

/-- a group aggregate used as a window function is order free -/
theorem size_win_orderFree : WinOrderFree Θc "size" := by
  intro cargs vs vs' pos pos' h _ _
  simp [Θc, Theta.concrete, Theta.win, Theta.agg, h.length_eq]

def ra : Row := [("g", .num 1), ("o", .num 1), ("x", .num 10)]
def rb : Row := [("g", .num 1), ("o", .num 2), ("x", .num 20)]
def rc : Row := [("g", .num 2), ("o", .num 1), ("x", .num 5)]
def rd : Row := [("g", .num 2), ("o", .num 3), ("x", .null)]
def env : Env := [("d", ⟨["g", "o", "x"], [ra, rb, rc, rd]⟩)]
/-- the same table with its rows permuted -/
def env' : Env := [("d", ⟨["g", "o", "x"], [rc, ra, rd, rb]⟩)]
def d : Ops := .table "d" ["g", "o", "x"]

theorem env_equiv : Env.Equiv env env' := ⟨rfl, ⟨rfl, by decide⟩, trivial⟩

theorem sem_d (cfg : SemCfg) : sem Θc cfg env d = .ok ⟨["g", "o", "x"], [ra, rb, rc, rd]⟩ := rfl

/-- a running sum per group `g` in the order of `o` (the values of `o` tie across groups, not within a group),
joined with the group sizes -/
def p1 : Ops :=
  .join (.extend d [("c", .app "cumsum" [.col "x"] false true)] ["g"] ["o"] [] true)
    (.project d [("n", .app "size" [] false true)] ["g"]) ["g"] ["g"] .left

theorem p1_aggs : AggsOrderFree Θc p1 :=
  ⟨trivial, trivial, fun kv h => by
    simp only [List.mem_singleton] at h
    subst h
    exact size_agg_orderFree⟩

theorem p1_scope (cfg : SemCfg) : WindowsTotal Θc cfg env p1 := by
  refine ⟨⟨trivial, fun _ t ht => Or.inl ?_⟩, trivial⟩
  rw [sem_d] at ht
  cases ht
  decide +kernel

example (cfg : SemCfg) : ResEquiv (sem Θc cfg env p1) (sem Θc cfg env' p1) :=
  C18_perm_invariant_gen Θc cfg p1 p1_aggs convert_ok (p1_scope cfg) env_equiv

example : ∃ t, sem Θc .pandas env p1 = .ok t ∧ t.cols = ["g", "o", "x", "c", "n"] ∧ t.rows.length = 4 :=
  ⟨_, rfl, by decide +kernel, by decide +kernel⟩

/-- descending by `x`, nulls last, first two rows: the order is total on the table -/
def p2 : Ops := .order d ["x"] ["x"] (some 2)

theorem p2_scope (cfg : SemCfg) : WindowsTotal Θc cfg env p2 :=
  ⟨trivial, fun n _ t ht => Or.inl (by rw [sem_d] at ht; cases ht; decide +kernel)⟩

example (cfg : SemCfg) : ResEquiv (sem Θc cfg env p2) (sem Θc cfg env' p2) :=
  C18_perm_invariant_gen Θc cfg p2 trivial convert_ok (p2_scope cfg) env_equiv

/-- the two largest `x` in descending order; the null `x` of `rd` would come last -/
example : sem Θc .pandas env p2 = .ok ⟨["g", "o", "x"], [rb, ra]⟩ := by
  -- the sort is not evaluated: under a total order it is the one sorted permutation of the rows
  have hs : sortRows ["x"] ["x"] [ra, rb, rc, rd] = [rb, ra, rc, rd] :=
    sortRows_eq_of_sorted_perm (by decide +kernel) (by decide +kernel) (by decide +kernel)
  have h : sem Θc .pandas env p2 = .ok (semOrder ["x"] ["x"] (some 2) ⟨["g", "o", "x"], [ra, rb, rc, rd]⟩) := rfl
  rw [h, semOrder, hs]
  rfl

/-- ascending by `o`, first two rows: `ra` and `rc` tie (`o = 1`), so the order is not total, but the cut falls
between `o = 1` and `o = 2` -/
def p3 : Ops := .order d ["o"] [] (some 2)

example : ¬ TotalOn ["o"] [] [ra, rb, rc, rd] := by decide +kernel

theorem p3_scope (cfg : SemCfg) : WindowsTotal Θc cfg env p3 :=
  ⟨trivial, fun n hn t ht => Or.inr (by
    cases hn
    rw [sem_d] at ht
    cases ht
    exact ⟨[ra, rc], [rb, rd], by decide +kernel, by decide +kernel, by decide +kernel⟩)⟩

example (cfg : SemCfg) : ResEquiv (sem Θc cfg env p3) (sem Θc cfg env' p3) :=
  C18_perm_invariant_gen Θc cfg p3 trivial convert_ok (p3_scope cfg) env_equiv

/-- a window without `order_by` over partitions of two rows: not total, but the function is order free -/
def p4 : Ops := .extend d [("n", .app "size" [] false true)] ["g"] [] [] true

example : ¬ WinTotal ["g"] [] [] [ra, rb, rc, rd] := by decide +kernel

theorem p4_scope (cfg : SemCfg) : WindowsTotal Θc cfg env p4 :=
  ⟨trivial, fun _ t _ => Or.inr (fun kv h => by
    simp only [List.mem_singleton] at h
    subst h
    exact size_win_orderFree)⟩

example (cfg : SemCfg) : ResEquiv (sem Θc cfg env p4) (sem Θc cfg env' p4) :=
  C18_perm_invariant_gen Θc cfg p4 trivial convert_ok (p4_scope cfg) env_equiv

/-- the syntactic criterion: `(g, o)` is a key of the table, so any window partitioned by `g` and ordered by
`o` is total, and so is any ordering that includes `g` and `o` -/
example : IsKey ["g", "o"] [ra, rb, rc, rd] := by decide
example : WinTotal ["g"] ["o"] [] [ra, rb, rc, rd] :=
  winTotal_of_isKey (ks := ["g", "o"]) (by decide) (by decide)
example : TotalOn ["o", "x", "g"] ["x"] [ra, rb, rc, rd] :=
  totalOn_of_isKey (ks := ["g", "o"]) (by decide) (by decide)

/-- the criterion for a pipeline, without looking at any data: group sizes, then a window over the whole table ordered by
the group column, then an `order_rows` by the group column without limit – in scope on **every** environment -/
def p5 : Ops :=
  .order (.extend (.project d [("n", .app "size" [] false true)] ["g"])
    [("k", .app "cumsum" [.col "n"] false true)] [] ["g"] [] true) ["g"] [] none

example (cfg : SemCfg) (e : Env) : WindowsTotal Θc cfg e p5 :=
  ⟨⟨trivial, fun _ _ ht => Or.inl (C18_window_after_project_total (by decide) ht)⟩, fun _ hn => by cases hn⟩

def n1 : Row := [("o", .num 1), ("x", .num 1)]
def n2 : Row := [("o", .num 1), ("x", .num 10)]
def envN : Env := [("d", ⟨["o", "x"], [n1, n2]⟩)]
def envN' : Env := [("d", ⟨["o", "x"], [n2, n1]⟩)]
theorem envN_equiv : Env.Equiv envN envN' := ⟨rfl, ⟨rfl, by decide⟩, trivial⟩

/-- row numbers in the order of `o`, where both rows have `o = 1` -/
def pW : Ops := .extend (.table "d" ["o", "x"]) [("c", .app "_row_number" [] false false)] [] ["o"] [] true
/-- the first row in the order of `o`, where both rows have `o = 1` -/
def pL : Ops := .order (.table "d" ["o", "x"]) ["o"] [] (some 1)
/-- the first `x` per value of `o` -/
def pA : Ops := .project (.table "d" ["o", "x"]) [("f", .app "first" [.col "x"] false true)] ["o"]

end C18Ex

open C18Ex in
/-- **The window condition of `WindowsTotal` is necessary.**  With a tie in the window order the row numbers
depend on the input order: rows `(o,x) = (1,1), (1,10)` are numbered `x=1 ↦ 1, x=10 ↦ 2`, the permuted input
gives `x=10 ↦ 1, x=1 ↦ 2` (the real library does the same on this input). -/
theorem C18_scope_necessary_window :
    ¬ ∀ (Θ : Interp) (cfg : SemCfg) (env env' : Env) (p : Ops), AggsOrderFree Θ p → ConvertPermInvariant Θ →
        Env.Equiv env env' → ResEquiv (sem Θ cfg env p) (sem Θ cfg env' p) := by
  intro h
  have h0 := h Θc .pandas envN envN' pW trivial convert_ok envN_equiv
  have e1 : sem Θc .pandas envN pW = .ok (semExtendWindow Θc [("c", .app "_row_number" [] false false)] []
      ["o"] [] ⟨["o", "x"], [n1, n2]⟩ ["o", "x", "c"]) := rfl
  have e2 : sem Θc .pandas envN' pW = .ok (semExtendWindow Θc [("c", .app "_row_number" [] false false)] []
      ["o"] [] ⟨["o", "x"], [n2, n1]⟩ ["o", "x", "c"]) := rfl
  -- both rows tie on `o`, so each window is the partition in input order (the sort is stable); no sort is evaluated
  rw [e1, e2, semExtendWindow_of_allTied _ _ _ _ _ _ _ (by decide +kernel),
    semExtendWindow_of_allTied _ _ _ _ _ _ _ (by decide +kernel)] at h0
  exact absurd (ResEquiv.ok_iff.mp h0) (by decide +kernel)

open C18Ex in
/-- **The limit condition of `WindowsTotal` is necessary.**  With a tie at the cut, which row is kept depends on
the input order. -/
theorem C18_scope_necessary_limit :
    ¬ ∀ (Θ : Interp) (cfg : SemCfg) (env env' : Env) (p : Ops), AggsOrderFree Θ p → ConvertPermInvariant Θ →
        Env.Equiv env env' → ResEquiv (sem Θ cfg env p) (sem Θ cfg env' p) := by
  intro h
  have h0 := h Θc .pandas envN envN' pL trivial convert_ok envN_equiv
  have e1 : sem Θc .pandas envN pL = .ok (semOrder ["o"] [] (some 1) ⟨["o", "x"], [n1, n2]⟩) := rfl
  have e2 : sem Θc .pandas envN' pL = .ok (semOrder ["o"] [] (some 1) ⟨["o", "x"], [n2, n1]⟩) := rfl
  -- both inputs are already sorted by `o` (the rows tie), and a sorted list is a fixed point of the stable sort
  have s1 : sortRows ["o"] [] [n1, n2] = [n1, n2] := sortRows_of_sorted (by decide)
  have s2 : sortRows ["o"] [] [n2, n1] = [n2, n1] := sortRows_of_sorted (by decide)
  rw [e1, e2] at h0
  simp only [semOrder, s1, s2] at h0
  exact absurd (ResEquiv.ok_iff.mp h0) (by decide +kernel)

open C18Ex in
/-- **The law on aggregates is necessary.**  `first` is not order free, and a `project` using it depends on the
input order (`f = 1` against `f = 10`; the real library does the same on this input). -/
theorem C18_aggs_necessary :
    ¬ ∀ (Θ : Interp) (cfg : SemCfg) (env env' : Env) (p : Ops), ConvertPermInvariant Θ →
        WindowsTotal Θ cfg env p → Env.Equiv env env' → ResEquiv (sem Θ cfg env p) (sem Θ cfg env' p) := by
  intro h
  have h0 := h Θc .pandas envN envN' pA convert_ok trivial envN_equiv
  have e1 : sem Θc .pandas envN pA = .ok (semProject Θc [("f", .app "first" [.col "x"] false true)] ["o"]
      ⟨["o", "x"], [n1, n2]⟩ ["o", "f"]) := rfl
  have e2 : sem Θc .pandas envN' pA = .ok (semProject Θc [("f", .app "first" [.col "x"] false true)] ["o"]
      ⟨["o", "x"], [n2, n1]⟩ ["o", "f"]) := rfl
  rw [e1, e2] at h0
  exact absurd (ResEquiv.ok_iff.mp h0) (by decide +kernel)


end DAVerif
