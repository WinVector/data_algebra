import DAVerif.Props.C24

/-!
# C24 — the containment queries `<=` / `>=` read the other container as a set

`OrderedSet.__le__` / `__ge__` accept any container (`all(e in other for e in self)` / `all(e in self for e in other)`).
The answer is the plain-set containment of the *elements* of the argument: repeats and order of the argument do not matter
(so an answer that compares lengths first, "a longer argument cannot be contained", would be wrong exactly for an
argument with repeats).
-/

namespace DAVerif.OSet
variable {α : Type} [DecidableEq α]

/-- `s >= o` holds exactly when every element of `o` is in `s`. -/
theorem C24_ge_spec (s o : List α) : ge s o = true ↔ ∀ x ∈ o, x ∈ s := by
  simp only [ge, List.all_eq_true, List.contains_iff_mem]

/-- `s <= o` holds exactly when every element of `s` is in `o`. -/
theorem C24_le_spec (s o : List α) : le s o = true ↔ ∀ x ∈ s, x ∈ o := by
  simp only [le, List.all_eq_true, List.contains_iff_mem]

theorem ge_congr {s o o' : List α} (h : ∀ x, x ∈ o ↔ x ∈ o') : ge s o = ge s o' := by
  rw [Bool.eq_iff_iff, C24_ge_spec, C24_ge_spec]
  simp only [h]

theorem le_congr {s o o' : List α} (h : ∀ x, x ∈ o ↔ x ∈ o') : le s o = le s o' := by
  rw [Bool.eq_iff_iff, C24_le_spec, C24_le_spec]
  simp only [h]

/-- repeats in the argument never change `>=`: the raw list and the set built from it give the same answer -/
theorem C24_ge_ofList (s o : List α) : ge s (ofList o) = ge s o := ge_congr fun _ => mem_ofList

/-- repeats in the argument never change `<=` -/
theorem C24_le_ofList (s o : List α) : le s (ofList o) = le s o := le_congr fun _ => mem_ofList

/-- non-vacuity: a list longer than the set, with a repeat, is contained in it -/
example : ge ["a", "c", "b"] ["a", "a", "b", "c"] = true := by decide +kernel

end DAVerif.OSet
