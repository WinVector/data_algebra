import DAVerif.Proofs.TextSql
/-!
# C14 — Generated SQL carries every literal and identifier verbatim

Model of the code: `Text/Quote.lean` (written for the code *after* `fixes/c14-quote-backslash.diff` and
`fixes/c14-concat-label-value.diff`).  Specification side: the dialect lexers of `Text/Lex.lean` (from the dialect manuals),
the piece vocabulary `Piece` / `renderPs` / `toksPs` of `Proofs/Text.lean` ("a sequence of fixed keywords, punctuation,
blanks and quoted user text") and the definitions in this file.  Strings are `List Char` (Unicode scalar values),
quantified without any bound.  Scope hypotheses (from the property text, DESIGN Appendix B): a name does not contain the
dialect's identifier quote and is not empty where the dialect has no empty identifier (`IdentOk`); the text that follows a
literal does not start with the same quote character (generated SQL always continues with a blank, `,` or `)`).
-/
namespace DAVerif.Text

/-- **C14 (strings).** For every dialect, every string `s` and every continuation `rest` that does not start with
the string quote: the dialect's lexer reads the text `quote_string(s)` as one literal with value exactly `s` and
stops exactly in front of `rest`. -/
theorem C14_string_roundtrip (d : Dialect) (s rest : List Char) (hr : rest.head? ≠ some d.stringQuote) :
    lexString d (quoteString d s ++ rest) = some (s, rest) :=
  lexString_quoteString d s rest hr

theorem C14_string_roundtrip_sqlite (s rest : List Char) (hr : rest.head? ≠ some '\'') :
    lexString .sqlite (quoteString .sqlite s ++ rest) = some (s, rest) := C14_string_roundtrip .sqlite s rest hr
theorem C14_string_roundtrip_postgres (s rest : List Char) (hr : rest.head? ≠ some '\'') :
    lexString .postgres (quoteString .postgres s ++ rest) = some (s, rest) := C14_string_roundtrip .postgres s rest hr
theorem C14_string_roundtrip_mysql (s rest : List Char) (hr : rest.head? ≠ some '\'') :
    lexString .mysql (quoteString .mysql s ++ rest) = some (s, rest) := C14_string_roundtrip .mysql s rest hr
theorem C14_string_roundtrip_spark (s rest : List Char) (hr : rest.head? ≠ some '"') :
    lexString .spark (quoteString .spark s ++ rest) = some (s, rest) := C14_string_roundtrip .spark s rest hr
theorem C14_string_roundtrip_bigquery (s rest : List Char) (hr : rest.head? ≠ some '"') :
    lexString .bigquery (quoteString .bigquery s ++ rest) = some (s, rest) := C14_string_roundtrip .bigquery s rest hr

/-- non-vacuity: a hostile string (quotes of both kinds, backslash, newline, comment marker, percent, non-ASCII) -/
example : lexString .bigquery (quoteString .bigquery "a'\"\\\n--%é".toList ++ " AS".toList)
    = some ("a'\"\\\n--%é".toList, " AS".toList) := by decide +kernel
example : lexString .mysql (quoteString .mysql "a'\"\\\n--%é".toList ++ ", 1".toList)
    = some ("a'\"\\\n--%é".toList, ", 1".toList) := by decide +kernel
/-- the hypothesis on `rest` cannot be dropped: `'a'` followed by `'` is a different literal -/
example : lexString .sqlite (quoteString .sqlite "a".toList ++ "'b'".toList) ≠ some ("a".toList, "'b'".toList) := by
  decide +kernel

/-! ### D17: the base-class `quote_string` (doubling only) is not enough for MySQL, Spark and BigQuery

Before `fixes/c14-quote-backslash.diff` all five dialects used `SQLModel.quote_string` = `quoteStringBase`.
Full-strength statement that FAILS for d ∈ {mysql, spark, bigquery}:
`∀ s rest, rest.head? ≠ some d.stringQuote → lexString d (quoteStringBase d s ++ rest) = some (s, rest)`.
What holds for the unfixed code is the guarded statement (`…_base_partial`), and the guard is necessary. -/

/-- finding guard of the unfixed code: no backslash (BigQuery also: no `"`, no line break) -/
def G_C14_base_string (d : Dialect) (s : List Char) : Prop :=
  '\\' ∉ s ∧ (d = .bigquery → '"' ∉ s ∧ '\n' ∉ s ∧ '\r' ∉ s)

theorem C14_string_backslash_mysql_necessary :
    ¬ lexString .mysql (quoteStringBase .mysql "a\\".toList ++ []) = some ("a\\".toList, []) := by decide +kernel
theorem C14_string_backslash_spark_necessary :
    ¬ lexString .spark (quoteStringBase .spark "a\\".toList ++ []) = some ("a\\".toList, []) := by decide +kernel
theorem C14_string_backslash_bigquery_necessary :
    ¬ lexString .bigquery (quoteStringBase .bigquery "a\\".toList ++ []) = some ("a\\".toList, []) := by decide +kernel
/-- an interior backslash silently changes the value instead of failing: `'a\nb'` is read as a, newline, b -/
theorem C14_string_backslash_mysql_changes_value :
    lexString .mysql (quoteStringBase .mysql "a\\nb".toList) = some ("a\nb".toList, []) := by decide +kernel
/-- BigQuery does not read a doubled quote as a quote: `"a""b"` ends after `a` -/
theorem C14_string_quote_bigquery_necessary :
    ¬ lexString .bigquery (quoteStringBase .bigquery "a\"b".toList ++ []) = some ("a\"b".toList, []) := by decide +kernel
theorem C14_string_newline_bigquery_necessary :
    ¬ lexString .bigquery (quoteStringBase .bigquery "a\nb".toList ++ []) = some ("a\nb".toList, []) := by decide +kernel

theorem quoteString_eq_base_of_guard {d : Dialect} (hd : d = .mysql ∨ d = .bigquery) {s : List Char}
    (h : G_C14_base_string d s) : quoteString d s = quoteStringBase d s := by
  obtain ⟨h1, h2⟩ := h
  rcases hd with rfl | rfl
  · simp [quoteString, quoteStringBase, pyReplace_of_not_mem _ h1]
  · obtain ⟨h3, h4, h5⟩ := h2 rfl
    simp [quoteString, quoteStringBase, Dialect.stringQuote, pyReplace_of_not_mem _ h1, pyReplace_of_not_mem _ h3,
      pyReplace_of_not_mem _ h4, pyReplace_of_not_mem _ h5]

theorem lexBodySpark_base (s rest : List Char) (h : '\\' ∉ s) (hr : rest.head? ≠ some '"') :
    lexBodySpark '"' (pyReplace '"' ['"', '"'] s ++ '"' :: rest) = some (s, rest) :=
  body_roundtrip _ (pyReplace_append '"' _) (lexBodySpark_end '"' rest hr) (hstep := fun x hx cs => by
    have h1 : x ≠ '\\' := fun e => h (e ▸ hx)
    by_cases h2 : x = '"'
    · subst h2; rw [lexBodySpark.eq_def]; simp [pyReplace]
    · simp [pyReplace, h2, lexBodySpark_cons_plain _ h2 h1])

/-- **C14 (strings, unfixed code, partial).** Under the guard the base-class quoting reads back verbatim in the
three backslash dialects as well. -/
theorem C14_string_base_partial (d : Dialect) (s rest : List Char) (hg : G_C14_base_string d s)
    (hr : rest.head? ≠ some d.stringQuote) : lexString d (quoteStringBase d s ++ rest) = some (s, rest) := by
  cases d
  case sqlite => exact C14_string_roundtrip .sqlite s rest hr
  case postgres => exact C14_string_roundtrip .postgres s rest hr
  case mysql => rw [← quoteString_eq_base_of_guard (.inl rfl) hg]; exact C14_string_roundtrip .mysql s rest hr
  case bigquery => rw [← quoteString_eq_base_of_guard (.inr rfl) hg]; exact C14_string_roundtrip .bigquery s rest hr
  case spark =>
    have := lexBodySpark_base s rest hg.1 hr
    simpa [quoteStringBase, Dialect.stringQuote, lexString, strQuotes] using this

instance (d : Dialect) (s : List Char) : Decidable (G_C14_base_string d s) := by
  unfold G_C14_base_string; infer_instance
example : G_C14_base_string .bigquery "it's 100%".toList := by decide +kernel

/-- **C14 (identifiers).** For every dialect and every name in scope, `quote_identifier` does not raise and the
dialect's lexer reads its text as one quoted identifier with exactly that name. -/
theorem C14_ident_roundtrip (d : Dialect) (s rest : List Char) (h : IdentOk d s)
    (hr : rest.head? ≠ some d.identQuote) :
    ∃ t, quoteIdent d s = .ok t ∧ lexIdent d (t ++ rest) = some (s, rest) :=
  ⟨identText d s, quoteIdent_ok h.1, lexIdent_identText h rest hr⟩

theorem C14_ident_roundtrip_sqlite (s rest : List Char) (h : '"' ∉ s) (hr : rest.head? ≠ some '"') :
    ∃ t, quoteIdent .sqlite s = .ok t ∧ lexIdent .sqlite (t ++ rest) = some (s, rest) :=
  C14_ident_roundtrip .sqlite s rest ⟨h, by simp⟩ hr
theorem C14_ident_roundtrip_postgres (s rest : List Char) (h : '"' ∉ s) (hne : s ≠ []) (hr : rest.head? ≠ some '"') :
    ∃ t, quoteIdent .postgres s = .ok t ∧ lexIdent .postgres (t ++ rest) = some (s, rest) :=
  C14_ident_roundtrip .postgres s rest ⟨h, fun _ => hne⟩ hr
theorem C14_ident_roundtrip_mysql (s rest : List Char) (h : '`' ∉ s) (hr : rest.head? ≠ some '`') :
    ∃ t, quoteIdent .mysql s = .ok t ∧ lexIdent .mysql (t ++ rest) = some (s, rest) :=
  C14_ident_roundtrip .mysql s rest ⟨h, by simp⟩ hr
theorem C14_ident_roundtrip_spark (s rest : List Char) (h : '`' ∉ s) (hr : rest.head? ≠ some '`') :
    ∃ t, quoteIdent .spark s = .ok t ∧ lexIdent .spark (t ++ rest) = some (s, rest) :=
  C14_ident_roundtrip .spark s rest ⟨h, by simp⟩ hr
theorem C14_ident_roundtrip_bigquery (s rest : List Char) (h : '`' ∉ s) (hne : s ≠ []) (hr : rest.head? ≠ some '`') :
    ∃ t, quoteIdent .bigquery s = .ok t ∧ lexIdent .bigquery (t ++ rest) = some (s, rest) :=
  C14_ident_roundtrip .bigquery s rest ⟨h, fun _ => hne⟩ hr

/-- Outside the scope the code refuses instead of emitting a broken identifier. -/
theorem C14_ident_rejects (d : Dialect) (s : List Char) (h : d.identQuote ∈ s) :
    quoteIdent d s = .error .valueError := by
  cases d <;> simp [quoteIdent, quoteIdentBase, h]

example : IdentOk .postgres "a b'\\x".toList := ⟨by decide, fun _ => by decide⟩
/-- unfixed code (base-class `quote_identifier`) on BigQuery: a backslash inside backticks is an escape -/
theorem C14_ident_backslash_bigquery_necessary :
    quoteIdentBase .bigquery "a\\b".toList = .ok "`a\\b`".toList ∧
    lexIdent .bigquery ("`a\\b`".toList ++ []) ≠ some ("a\\b".toList, []) :=
  ⟨rfl, by decide +kernel⟩

/-- the tokens a literal value stands for (specification side; floats are not covered: the `[]` of the float case is a
placeholder, `C14_value_to_sql` assumes `noFloat`) -/
def litToks : PyVal → List Tok
  | .none => [.word "NULL".toList]
  | .bool true => [.word "TRUE".toList]
  | .bool false => [.word "FALSE".toList]
  | .int i => (if i < 0 then [.sym '-'] else []) ++ [.num i.natAbs]
  | .str s => [.str s]
  | .float _ => []
  | .list l => .sym '(' :: litsToks l ++ [.sym ')']
where
  litsToks : List PyVal → List Tok
  | [] => []
  | [v] => litToks v
  | v :: w :: vs => litToks v ++ .sym ',' :: litsToks (w :: vs)

theorem breakStart_cons {c : Char} (h : isBreak c = true) (x : List Char) : BreakStart (c :: x) :=
  fun _ hk => Option.some.inj hk ▸ h

theorem lexSql_keyword (d : Dialect) (s : String)
    (hs : (Piece.kw s.toList).Valid d ∧ mkWord s.toList = .word s.toList) {rest : List Char} (hr : BreakStart rest) :
    lexSql d (s.toList ++ rest) = (lexSql d rest).map ([Tok.word s.toList] ++ ·) :=
  hs.2 ▸ lexSql_piece (a := .kw s.toList) hs.1 hr

theorem lexSql_valueToSql (d : Dialect) (v : PyVal) (hv : v.noFloat = true) :
    ∀ rest, BreakStart rest → lexSql d (valueToSql d v ++ rest) = (lexSql d rest).map (litToks v ++ ·) := by
  induction v using PyVal.rec (motive_2 := fun l => PyVal.noFloat.noFloats l = true → ∀ rest, BreakStart rest →
      lexSql d (valuesToSql d l ++ rest) = (lexSql d rest).map (litToks.litsToks l ++ ·)) with
  | none => exact fun _ => lexSql_keyword d "NULL" (by simp only [Piece.Valid]; decide +kernel)
  | bool b =>
    cases b
    · exact fun _ => lexSql_keyword d "FALSE" (by simp only [Piece.Valid]; decide +kernel)
    · exact fun _ => lexSql_keyword d "TRUE" (by simp only [Piece.Valid]; decide +kernel)
  | int i =>
    intro rest hr
    have hd := lexSql_piece (kw_valid_digits d i.natAbs) (x := rest) hr
    rw [show (Piece.kw (natDigits i.natAbs)).toks = [.num i.natAbs] from congrArg (· :: []) (mkWord_natDigits _)] at hd
    by_cases hi : i < 0
    · have hm := lexSql_piece (d := d) (a := .minus) trivial
        (sepBy_of_follows (a := .minus) rfl (kw_valid_digits d i.natAbs) rest)
      rw [hd] at hm
      rw [valueToSql, intRepr, litToks, if_pos hi, if_pos hi]
      exact hm.trans (by cases lexSql d rest <;> rfl)
    · rw [valueToSql, intRepr, litToks, if_neg hi, if_neg hi]; exact hd
  | str s => exact fun rest hr => lexSql_piece (a := .str s) trivial hr
  | float r => cases hv
  | list l ih =>
    intro rest hr
    have h := ih hv (')' :: rest) (breakStart_cons rfl rest)
    rw [lexSql_punct rest rfl] at h
    rw [valueToSql, List.cons_append, List.cons_append, List.append_assoc, lexSql_punct _ rfl, List.singleton_append, h]
    cases lexSql d rest <;> simp [litToks]
  | nil => rename_i rest _; exact (Option.map_id' ..).symm
  | cons v vs ihv ihvs =>
    rename_i hh rest hr
    simp only [PyVal.noFloat.noFloats, Bool.and_eq_true] at hh
    cases vs with
    | nil => exact ihv hh.1 rest hr
    | cons w ws =>
      have h := ihv hh.1 (',' :: ' ' :: (valuesToSql d (w :: ws) ++ rest)) (breakStart_cons rfl _)
      rw [lexSql_punct _ rfl, lexSql_ws _ (by cases d <;> rfl), ihvs hh.2 rest hr] at h
      rw [valuesToSql, List.append_assoc, List.cons_append, List.cons_append, h]
      cases lexSql d rest <;> simp [litToks.litsToks]

/-- **C14 (literals).** For every dialect and every value built from None, booleans, integers, strings and
(nested) lists: the text `value_to_sql(v)`, followed by a blank, `,`, `)`, … or nothing, lexes to exactly the tokens
of `v` — `NULL`/`TRUE`/`FALSE`, the same integer, the same string, the same parenthesised list — and then continues
with the tokens of the rest.  In particular the text is lexically well formed whatever the strings contain.
Not covered: floats (`str(float)` is CPython's formatting; NaN → NULL is in the model and the correspondence). -/
theorem C14_value_to_sql (d : Dialect) (v : PyVal) (hv : v.noFloat = true) (rest : List Char) (hr : BreakStart rest) :
    lexSql d (valueToSql d v ++ rest) = (lexSql d rest).map (litToks v ++ ·) :=
  lexSql_valueToSql d v hv rest hr

example : PyVal.noFloat (.list [.int (-3), .str "x'); --".toList, .none, .list [.bool true]]) = true := by decide +kernel
example : BreakStart ")".toList := by intro c hc; simp at hc; subst hc; rfl
example : litToks (.list [.int (-3), .str "x'".toList]) =
    [.sym '(', .sym '-', .num 3, .sym ',', .str "x'".toList, .sym ')'] := by decide +kernel

/-- **cleanAnnotation_no_line_break.** Whatever the annotation text, no character at which any consumer ends a
line (`\n \v \f \r FS GS RS NEL LS PS`) survives `_clean_annotation`. -/
theorem cleanAnnotation_no_line_break (a : List Char) : ∀ c ∈ cleanAnnotation a, isLineBreak c = false :=
  cleanAnnotation_lineBreak_free a

/-- every line terminator of a `--` comment in the five dialects is one of those characters -/
theorem commentEnd_isLineBreak (d : Dialect) (c : Char) (h : commentEnd d c = true) : isLineBreak c = true :=
  commentEnd_lineBreak h

/-- **C14_comment_inert.** The annotated first line of a step, `SELECT  -- <cleaned annotation>`, gives the same
token stream as the bare `SELECT` line, for every annotation text and every continuation.
Scope hypothesis for Spark only: the cleaned annotation does not end with a backslash (Spark's comment rule
continues a comment over backslash-newline); every annotation the code produces is a printed pipeline step and
ends with `)`. -/
theorem C14_comment_inert (d : Dialect) (a rest : List Char)
    (hsp : d = .spark → (cleanAnnotation a).getLast? ≠ some '\\') :
    lexSql d (annotatedSelectLine a ++ '\n' :: rest) = lexSql d ("SELECT".toList ++ '\n' :: rest) :=
  comment_inert d a rest hsp

example : (cleanAnnotation "extend({'x': '\"a\\nb\"'})\n -- 100%   x".toList).getLast? ≠ some '\\' := by decide +kernel
example : cleanAnnotation "a \r\n  b%".toList = "a bpercent".toList := by decide +kernel

/-- **C14_labels (concat_rows).** The SQL term of a `concat_rows` source label is exactly `quote_string(label)`,
and it lexes to the one string token carrying the label (fixed code, `fixes/c14-concat-label-value.diff`). -/
theorem C14_concat_label (d : Dialect) (name rest : List Char) (hr : BreakStart rest) :
    concatLabelTerm d name = quoteString d name ∧
    lexSql d (concatLabelTerm d name ++ rest) = (lexSql d rest).map (Tok.str name :: ·) := by
  refine ⟨rfl, ?_⟩
  have := C14_value_to_sql d (.str name) rfl rest hr
  simpa [litToks, concatLabelTerm] using this

/-- the text of a list of generated lines, as `to_sql` joins them -/
def unlines (ls : List (List Char)) : List Char := joinSep ['\n'] ls

theorem lexSql_lines {d : Dialect} (shape : List (List Piece)) (h : ∀ l ∈ shape, Good d l) :
    lexSql d (unlines (shape.map (renderPs d))) = some (toksPs (joinPieces [.nl] shape)) := by
  have hg := joinPieces_good (nlSep_good d) (openHead_cons _ rfl) (openLast_concat [] rfl) (by simp) shape h
  have := hg.lexes [] (fun c hc => nomatch hc)
  rw [← renderPs_joinPieces] at this
  simpa [unlines, lexSql.eq_1, renderPs, Piece.text] using this

/-- **C14_labels (record map, rows → blocks).** For every record specification whose names are in the identifier
scope, `row_recs_to_blocks_query_str_list_pair` does not raise, its two line lists are exactly the texts of the
explicit shapes `r2bPrefixShape` / `r2bSuffixShape` — fixed keywords, punctuation and blanks, with every column
name only as `quote_identifier(name)` and every control-table entry only as `quote_string(entry)` /
`quote_identifier(entry)` — and each lexes to the tokens of its shape: every user string is exactly one `str` or
`ident` token with its verbatim value, whatever characters it contains. -/
theorem C14_recordmap_rows_to_blocks (d : Dialect) (r : RecSpec) (h : NamesOk d r) :
    ∃ pre suf, rowRecsToBlocks d r = .ok (pre, suf) ∧
      pre = (r2bPrefixShape d r).map (renderPs d) ∧ suf = (r2bSuffixShape d r).map (renderPs d) ∧
      lexSql d (unlines pre) = some (toksPs (joinPieces [.nl] (r2bPrefixShape d r))) ∧
      lexSql d (unlines suf) = some (toksPs (joinPieces [.nl] (r2bSuffixShape d r))) := by
  obtain ⟨e, g1, g2⟩ := rowRecsToBlocks_ok h
  exact ⟨_, _, e, rfl, rfl, lexSql_lines _ g1, lexSql_lines _ g2⟩

/-- **C14_labels (record map, blocks → rows).** The same for `blocks_to_row_recs_query_str_list_pair`
(`r.rows ≠ []` is the code's own `assert ct.shape[0] >= 1`). -/
theorem C14_recordmap_blocks_to_rows (d : Dialect) (r : RecSpec) (h : NamesOk d r) (hrows : r.rows ≠ []) :
    ∃ pre suf, blocksToRowRecs d r = .ok (pre, suf) ∧
      pre = (b2rPrefixShape d r).map (renderPs d) ∧ suf = (b2rSuffixShape r).map (renderPs d) ∧
      lexSql d (unlines pre) = some (toksPs (joinPieces [.nl] (b2rPrefixShape d r))) ∧
      lexSql d (unlines suf) = some (toksPs (joinPieces [.nl] (b2rSuffixShape r))) := by
  obtain ⟨e, g1, g2⟩ := blocksToRowRecs_ok h hrows
  exact ⟨_, _, e, rfl, rfl, lexSql_lines _ g1, lexSql_lines _ g2⟩

/-- **C14_labels (control table as VALUES).** `table_values_to_sql_str_list` on string cells. -/
theorem C14_table_values (d : Dialect) (cols : List (List Char)) (rows : List (List (List Char)))
    (h : ∀ c ∈ cols, IdentOk d c) :
    ∃ ls, tableValuesToSql d cols rows = .ok ls ∧ ls = (tableValuesShape d cols rows).map (renderPs d) ∧
      lexSql d (unlines ls) = some (toksPs (joinPieces [.nl] (tableValuesShape d cols rows))) := by
  obtain ⟨e, g⟩ := tableValues_ok h rows
  exact ⟨_, e, rfl, lexSql_lines _ g⟩

/-- non-vacuity: a record specification with hostile names, keys and entries -/
def exampleSpec : RecSpec :=
  { recordKeys := ["id -- x".toList], controlKeys := ["k'".toList],
    cols := ["k'".toList, "v\\".toList],
    rows := [["a'); DROP".toList, "c\n1".toList], ["b\\".toList, "c%2".toList]] }

instance (d : Dialect) (s : List Char) : Decidable (IdentOk d s) := by unfold IdentOk; infer_instance

example : NamesOk .sqlite exampleSpec := ⟨by decide +kernel, by decide +kernel, by decide +kernel, by decide +kernel⟩
example : NamesOk .bigquery exampleSpec := ⟨by decide +kernel, by decide +kernel, by decide +kernel, by decide +kernel⟩
example : (toksPs (joinPieces [.nl] (b2rSuffixShape exampleSpec))) =
    [.sym ')', .word "a".toList, .word "GROUP".toList, .word "BY".toList, .ident "id -- x".toList,
     .word "ORDER".toList, .word "BY".toList, .ident "id -- x".toList] := by decide +kernel

end DAVerif.Text
