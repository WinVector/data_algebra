import DAVerif.Proofs.OSet
/-!
# C24 — OrderedSet is a set that remembers first insertion order

Model: `Core/OrderedSet.lean`; lemmas about the model alone: `Proofs/OSet.lean`.  The specification side is here:
`specMem` / `specRaises` (what a plain Python `set` does) and the primitive events `Ev` on the underlying ordered
dictionary with their log `liveLog`.  Every theorem quantifies over all element types with decidable equality, all
states and all histories.
-/
namespace DAVerif.OSet
variable {α : Type} [DecidableEq α]

/-- What a plain Python `set` would contain after the operation (membership only).
`pop` on a plain set removes an arbitrary element; here it is the first one. -/
def specMem (s : List α) : Op α → α → Prop
  | .add x, y => y = x ∨ y ∈ s
  | .discard x, y => y ∈ s ∧ y ≠ x
  | .remove x, y => y ∈ s ∧ y ≠ x
  | .pop, y => y ∈ s ∧ some y ≠ s.head?
  | .clear, _ => False
  | .update a, y => y ∈ s ∨ ∃ o ∈ a, y ∈ o
  | .ior o, y => y ∈ s ∨ y ∈ o
  | .iand o, y => y ∈ s ∧ y ∈ o
  | .isub o, y => y ∈ s ∧ y ∉ o
  | .ixor o, y => (y ∈ s ∧ y ∉ o) ∨ (y ∉ s ∧ y ∈ o)
  | .reinit v, y => y ∈ v
  | .assignCopy, y => y ∈ s
  | .assignUnion a, y => y ∈ s ∨ ∃ o ∈ a, y ∈ o
  | .assignSub o, y => y ∈ s ∧ y ∉ o
  | .assignAnd o, y => y ∈ s ∧ y ∈ o
  | .assignOr o, y => y ∈ s ∨ y ∈ o
  | .assignXor o, y => (y ∈ s ∧ y ∉ o) ∨ (y ∉ s ∧ y ∈ o)

/-- when a plain set would raise: `remove` of an absent element, `pop` of an empty set -/
def specRaises (s : List α) : Op α → Prop
  | .remove x => x ∉ s
  | .pop => s = []
  | _ => False

theorem mem_sub {s o : List α} {y : α} : y ∈ sub s o ↔ y ∈ s ∧ y ∉ o := by
  simp [sub, mem_ofList]
theorem mem_and {s o : List α} {y : α} : y ∈ OSet.and s o ↔ y ∈ s ∧ y ∈ o := by
  simp [OSet.and, mem_ofList, and_comm]
theorem mem_or {s o : List α} {y : α} : y ∈ OSet.or s o ↔ y ∈ s ∨ y ∈ o := by
  simp [OSet.or, mem_ofList]
theorem mem_xor {s o : List α} {y : α} : y ∈ xor s o ↔ (y ∈ s ∧ y ∉ o) ∨ (y ∉ s ∧ y ∈ o) :=
  mem_or.trans (or_congr mem_sub (mem_sub.trans and_comm))

/-- one round of the `__ixor__` loop flips the membership of `v` and of nothing else -/
theorem toggle_spec {s : List α} (hs : s.Nodup) (v : α) :
    (if v ∈ s then discard s v else add s v).Nodup ∧
    ∀ y, y ∈ (if v ∈ s then discard s v else add s v) ↔ (y ∈ s ↔ y ≠ v) := by
  split
  · rename_i hv
    refine ⟨nodup_discard hs v, fun y => (mem_discard hs).trans ?_⟩
    by_cases hy : y = v <;> simp [hy, hv]
  · rename_i hv
    refine ⟨nodup_add hs v, fun y => mem_add.trans ?_⟩
    by_cases hy : y = v <;> simp [hy, hv]

theorem mem_ixor_aux (o : List α) (ho : o.Nodup) (s : List α) (hs : s.Nodup) :
    (o.foldl (fun s v => if v ∈ s then discard s v else add s v) s).Nodup ∧
    ∀ y, (y ∈ o.foldl (fun s v => if v ∈ s then discard s v else add s v) s ↔
      ((y ∈ s ∧ y ∉ o) ∨ (y ∉ s ∧ y ∈ o))) := by
  induction o generalizing s with
  | nil => simp [hs]
  | cons v o ih =>
    rw [List.nodup_cons] at ho
    obtain ⟨hn, hm⟩ := toggle_spec hs v
    have h := ih ho.2 _ hn
    refine ⟨h.1, fun y => ?_⟩
    rw [List.foldl_cons, h.2, hm]
    by_cases hy : y = v <;> simp [hy, ho.1]

theorem refines_of_some {s r : List α} {op : Op α} (h : step s op = some r) (hr : ¬ specRaises s op)
    (hn : r.Nodup) (hm : ∀ y, y ∈ r ↔ specMem s op y) :
    (step s op = none ↔ specRaises s op) ∧
    (∀ s', step s op = some s' → s'.Nodup ∧ ∀ y, y ∈ s' ↔ specMem s op y) := by
  rw [h]
  exact ⟨iff_of_false nofun hr, fun s' e => by cases e; exact ⟨hn, hm⟩⟩

/-- **C24 (set part, one step).** From a duplicate-free state every operation either raises exactly
when a plain set would (the state is then left as it was, by the definition of `stepT`), or yields a duplicate-free
state whose members are exactly the plain-set result. -/
theorem C24_step_refines (s : List α) (hs : s.Nodup) (op : Op α) :
    (step s op = none ↔ specRaises s op) ∧
    (∀ s', step s op = some s' → s'.Nodup ∧ ∀ y, y ∈ s' ↔ specMem s op y) := by
  cases op with
  | add x => exact refines_of_some rfl id (nodup_add hs x) fun _ => mem_add
  | discard x => exact refines_of_some rfl id (nodup_discard hs x) fun _ => mem_discard hs
  | remove x =>
    by_cases hx : x ∈ s
    · exact refines_of_some (if_pos hx) (not_not_intro hx) (nodup_discard hs x) fun _ => mem_discard hs
    · rw [show step s (.remove x) = none from if_neg hx]
      exact ⟨iff_of_true rfl hx, nofun⟩
  | pop =>
    cases s with
    | nil => exact ⟨iff_of_true rfl rfl, nofun⟩
    | cons a t =>
      exact refines_of_some rfl (List.cons_ne_nil a t) (nodup_discard hs a) fun _ =>
        (mem_discard hs).trans (and_congr_right' (not_congr Option.some_inj.symm))
  | clear =>
    exact refines_of_some (congrArg some (clear_eq s)) id List.nodup_nil fun _ =>
      iff_of_false List.not_mem_nil id
  | update a => exact refines_of_some rfl id (nodup_update hs a) fun _ => mem_update
  | ior o => exact refines_of_some rfl id (nodup_addAll hs o) fun _ => mem_addAll
  | iand o =>
    refine refines_of_some rfl id (nodup_foldl_discard hs _) fun y =>
      (mem_foldl_discard hs _).trans (and_congr_right fun hy => ?_)
    rw [mem_sub]
    exact ⟨fun h => Decidable.not_not.mp fun hn => h ⟨hy, hn⟩, fun h hn => hn.2 h⟩
  | isub o => exact refines_of_some rfl id (nodup_foldl_discard hs o) fun _ => mem_foldl_discard hs o
  | ixor o =>
    have h := mem_ixor_aux (ofList o) (nodup_ofList o) s hs
    exact refines_of_some rfl id h.1 fun y =>
      (h.2 y).trans (or_congr (and_congr_right' (not_congr mem_ofList)) (and_congr_right' mem_ofList))
  | reinit v => exact refines_of_some rfl id (nodup_ofList v) fun _ => mem_ofList
  | assignCopy => exact refines_of_some rfl id (nodup_ofList s) fun _ => mem_ofList
  | assignUnion a =>
    exact refines_of_some (congrArg some (union_eq s a)) id (nodup_update (nodup_ofList s) a) fun _ =>
      mem_update.trans (or_congr_left mem_ofList)
  | assignSub o =>
    exact refines_of_some rfl id (nodup_ofList _) fun _ => mem_sub.trans (and_congr_right' (not_congr mem_ofList))
  | assignAnd o =>
    exact refines_of_some rfl id (nodup_ofList _) fun _ => mem_and.trans (and_congr_right' mem_ofList)
  | assignOr o =>
    exact refines_of_some rfl id (nodup_ofList _) fun _ => mem_or.trans (or_congr_right mem_ofList)
  | assignXor o =>
    exact refines_of_some rfl id (nodup_ofList _) fun _ =>
      mem_xor.trans (or_congr (and_congr_right' (not_congr mem_ofList)) (and_congr_right' mem_ofList))

/-- **C24 (set part, every history).** Every state reachable from a duplicate-free state (in particular
from the empty set) is duplicate-free. -/
theorem C24_run_nodup (s : List α) (hs : s.Nodup) (h : List (Op α)) : (run s h).Nodup := by
  induction h generalizing s with
  | nil => exact hs
  | cons op h ih =>
    apply ih
    unfold stepT
    cases hst : step s op with
    | none => exact hs
    | some s' => exact ((C24_step_refines s hs op).2 s' hst).1

/-! ## First-insertion order

Every operation is a sequence of primitive events on the underlying ordered dictionary: insert a key
(`impl[k] = None`), delete a key, or start from a fresh dictionary.  `events` spells that sequence out for
each operation; `liveLog` is the specification: the log of inserted elements in time order, with every
occurrence of an element dropped when it is deleted.  The iteration order is the first-occurrence order of
that log – "order of first insertion since the element was last absent". -/

inductive Ev (α : Type) where
  | ins (x : α) | del (x : α) | reset

def evStep (s : List α) : Ev α → List α
  | .ins x => add s x
  | .del x => discard s x
  | .reset => []

def liveStep (l : List α) : Ev α → List α
  | .ins x => l ++ [x]
  | .del x => l.filter (fun y => y ≠ x)
  | .reset => []

def liveLog (evs : List (Ev α)) : List α := evs.foldl liveStep []

/-- One event on the set is the same event on the log: the set stays the first-occurrence order of the log. -/
theorem evStep_dedupFirst (l : List α) : ∀ e : Ev α, evStep (dedupFirst l) e = dedupFirst (liveStep l e)
  | .ins x => add_dedupFirst l x
  | .del x => discard_dedupFirst l x
  | .reset => rfl

theorem foldl_evStep_dedupFirst (evs : List (Ev α)) (l : List α) :
    evs.foldl evStep (dedupFirst l) = dedupFirst (evs.foldl liveStep l) := by
  induction evs generalizing l with
  | nil => rfl
  | cons e evs ih => exact (congrArg (evs.foldl evStep) (evStep_dedupFirst l e)).trans (ih _)

/-- **C24 (order).** After any sequence of primitive events the iteration order is the first-occurrence
order of the live insertion log. -/
theorem C24_first_insertion_order (evs : List (Ev α)) :
    evs.foldl evStep [] = dedupFirst (liveLog evs) := foldl_evStep_dedupFirst evs []

/-- the primitive events each operation performs in state `s` (read off the method bodies) -/
def events (s : List α) : Op α → List (Ev α)
  | .add x => [.ins x]
  | .discard x => [.del x]
  | .remove x => if x ∈ s then [.del x] else []
  | .pop => match s with | [] => [] | x :: _ => [.del x]
  | .clear => s.map .del
  | .update a => a.flatten.map .ins
  | .ior o => o.map .ins
  | .iand o => ((dedupFirst s).filter (fun v => !(o.contains v))).map .del
  | .isub o => o.map .del
  | .ixor o => (dedupFirst o).map (fun v => if v ∈ s then .del v else .ins v)
  | .reinit v => .reset :: v.map .ins
  | .assignCopy => .reset :: s.map .ins
  | .assignUnion a => .reset :: (s.map .ins ++ a.flatten.map .ins)
  | .assignSub o => .reset :: (s.filter (fun v => !(o.contains v))).map .ins
  | .assignAnd o => .reset :: ((dedupFirst o).filter (fun v => s.contains v)).map .ins
  | .assignOr o => .reset :: (s ++ o).map .ins
  | .assignXor o => .reset :: ((s.filter (fun v => !(o.contains v))) ++
                                ((dedupFirst o).filter (fun v => !(s.contains v)))).map .ins

theorem foldl_ins (s v : List α) : (v.map Ev.ins).foldl evStep s = addAll s v := List.foldl_map

theorem foldl_del (s v : List α) : (v.map Ev.del).foldl evStep s = v.foldl discard s := List.foldl_map

theorem reset_ins (s l : List α) : (Ev.reset :: l.map Ev.ins).foldl evStep s = ofList l := foldl_ins [] l

theorem ixor_events (s : List α) (hs : s.Nodup) (o : List α) (ho : o.Nodup) :
    (o.map (fun v => if v ∈ s then Ev.del v else Ev.ins v)).foldl evStep s =
    o.foldl (fun s v => if v ∈ s then discard s v else add s v) s := by
  -- membership of the not yet processed elements is the same in the evolving state and in `s`
  suffices h : ∀ (t : List α), t.Nodup → (∀ v ∈ o, v ∈ t ↔ v ∈ s) →
      (o.map (fun v => if v ∈ s then Ev.del v else Ev.ins v)).foldl evStep t =
      o.foldl (fun s v => if v ∈ s then discard s v else add s v) t from h s hs (fun _ _ => Iff.rfl)
  induction o with
  | nil => intros; rfl
  | cons v o ih =>
    intro t ht hmem
    rw [List.nodup_cons] at ho
    obtain ⟨hn, hm⟩ := toggle_spec ht v
    have hev : evStep t (if v ∈ s then Ev.del v else Ev.ins v) = if v ∈ t then discard t v else add t v := by
      simp only [hmem v List.mem_cons_self]
      split <;> rfl
    rw [List.map_cons, List.foldl_cons, List.foldl_cons, hev]
    refine ih ho.2 _ hn fun w hw => ?_
    rw [hm, ← hmem w (List.mem_cons_of_mem _ hw)]
    exact iff_true_right fun e => ho.1 (e ▸ hw)

/-- **C24 (operations are event sequences).** In every duplicate-free state each operation's effect is
exactly that of its primitive event sequence `events s op` (which depends on the state `s` the operation starts
from).  `C24_first_insertion_order` is about event sequences applied to the empty set. -/
theorem C24_step_events (s : List α) (hs : s.Nodup) (op : Op α) :
    stepT s op = (events s op).foldl evStep s := by
  cases op with
  | add x => rfl
  | discard x => rfl
  | remove x =>
    show (remove s x).getD s = (if x ∈ s then [Ev.del x] else []).foldl evStep s
    unfold remove
    split <;> rfl
  | pop => cases s <;> rfl
  | clear =>
    have h : s.foldl discard s = [] :=
      List.eq_nil_iff_forall_not_mem.mpr fun y hy => ((mem_foldl_discard hs s).mp hy).2 ((mem_foldl_discard hs s).mp hy).1
    exact (clear_eq s).trans ((foldl_del s s).trans h).symm
  | update a => exact (update_flatten s a).trans (foldl_ins s _).symm
  | ior o => exact (foldl_ins s o).symm
  | iand o =>
    show (ofList (s.filter _)).foldl discard s = (((dedupFirst s).filter _).map Ev.del).foldl evStep s
    rw [foldl_del, ofList_eq, dedupFirst_filter]
  | isub o => exact (foldl_del s o).symm
  | ixor o =>
    show (ofList o).foldl _ s = ((dedupFirst o).map _).foldl evStep s
    rw [ofList_eq]
    exact (ixor_events s hs _ (nodup_dedupFirst o)).symm
  | reinit v => exact (reset_ins s v).symm
  | assignCopy => exact (reset_ins s s).symm
  | assignUnion a =>
    show union s a = (Ev.reset :: (s.map Ev.ins ++ a.flatten.map Ev.ins)).foldl evStep s
    rw [← List.map_append, reset_ins]
    exact (union_eq s a).trans ((update_flatten _ _).trans (addAll_append [] s _).symm)
  | assignSub o =>
    show sub s (ofList o) = _
    simp only [sub, contains_ofList]
    exact (reset_ins s _).symm
  | assignAnd o =>
    show ofList ((ofList o).filter _) = _
    rw [ofList_eq o]
    exact (reset_ins s _).symm
  | assignOr o => exact (ofList_append_ofList s o).trans (reset_ins s _).symm
  | assignXor o =>
    show xor s (ofList o) = _
    simp only [xor, OSet.or, sub, contains_ofList, ofList_ofList_append, ofList_append_ofList]
    rw [ofList_eq o]
    exact (reset_ins s _).symm

/-- `ordered_union(a, b)`: the set union, ordered by `a` first and then by `b` for the elements only in `b`. -/
theorem C24_ordered_union (a b : List α) : orderedUnion a b = dedupFirst (a ++ b) := by
  unfold orderedUnion
  rw [guarded_add, ← ofList_eq]
  exact (addAll_append [] a b).symm

/-- `ordered_intersect(a, b)`: the set intersection in `a`'s order. -/
theorem C24_ordered_intersect (a b : List α) :
    orderedIntersect a b = (dedupFirst a).filter (fun v => b.contains v) := by
  simp [orderedIntersect, ofList_eq, dedupFirst_filter]

/-- `ordered_diff(a, b)`: the set difference in `a`'s order. -/
theorem C24_ordered_diff (a b : List α) :
    orderedDiff a b = (dedupFirst a).filter (fun v => !(b.contains v)) := by
  simp [orderedDiff, ofList_eq, dedupFirst_filter]

example : ([3, 1, 2] : List Nat).Nodup := by decide +kernel
example : run ([] : List Nat) [.add 3, .add 1, .add 3, .discard 3, .add 2, .add 3] = [1, 2, 3] := by decide +kernel
example : liveLog ([.ins 3, .ins 1, .ins 3, .del 3, .ins 2, .ins 3] : List (Ev Nat)) = [1, 2, 3] := by decide +kernel
example : orderedUnion [2, 1, 2] [3, 1, 0] = [2, 1, 3, 0] := by decide +kernel
example : step [1, 2] (.remove 5) = none := by decide +kernel

end DAVerif.OSet
