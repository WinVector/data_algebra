import DAVerif.Proofs.CC
/-!
# C23 — connected_components labels each edge by its component's least vertex

"For every list of edges, the result labels edge i with the least vertex of the connected component
containing both of its endpoints.  Two edges get the same label exactly when they are in the same component."

Model: `Core/CC.lean` (the algorithm as written: dict of references to mutable `Component` objects in a heap).
Specification side: `Spec/Conn.lean` (`Conn es a b`, the reflexive-symmetric-transitive closure of the edge relation;
`IsLeastOfClass es a m`).  Lemmas and the loop invariant `Inv`: `Proofs/CC.lean`.

Every theorem quantifies over
* every vertex type `V` with decidable equality and a linear order (`Std.IsLinearOrder`, `<` the strict part
  of `≤`) – the scope "hashable, ordered vertex values",
* every pair of lists `f`, `g` of any lengths (`zip` stops at the shorter list while the result is read off
  all of `f`; the length hypothesis `f.length = g.length` of the docstring is only needed to speak about
  `g[i]`),
* every enumeration `ks` of the Python set `keys` (hash order), as long as it contains the vertices.
A result `none` of the model is a `KeyError`; the theorems show it never occurs.
-/
namespace DAVerif.CC
open DAVerif.CCSpec

variable {V : Type} [DecidableEq V] [LE V] [LT V] [DecidableLT V] [Std.IsLinearOrder V] [Std.LawfulOrderLT V]

/-- **C23 (invariant over prefixes).**  For every `n`, running the loop over the first `n` edges of
`zip(f, g)` does not raise and leaves a state in which every key references a live `Component` whose `items`
are exactly the key's connected component w.r.t. those `n` edges, whose `id` is the least vertex of that
component, and which is shared (same object) by all members of the component (`Inv`, `KeyOk` in
`Proofs/CC.lean`). -/
theorem C23_invariant (ks f g : List V) (hks : ∀ v, v ∈ f ∨ v ∈ g → v ∈ ks) (n : Nat) :
    ∃ σ, runEdges (init ks) ((f.zip g).take n) = some σ ∧ Inv ks ((f.zip g).take n) σ := by
  have hz : ∀ e ∈ (f.zip g).take n, e.1 ∈ ks ∧ e.2 ∈ ks := by
    rintro ⟨a, b⟩ he
    have := List.of_mem_zip (List.mem_of_mem_take he)
    exact ⟨hks a (Or.inl this.1), hks b (Or.inr this.2)⟩
  obtain ⟨σ, hs, hinv⟩ := inv_run _ hz (inv_init ks)
  exact ⟨σ, hs, by simpa using hinv⟩

/-- **C23 (labels, general form).**  For lists of any lengths and any enumeration `ks` of the key set:
the call does not raise, returns one label per element of `f`, and for every position `i`
* `labels[i]` is the least vertex of the connected component of `f[i]` in the graph with edges `zip(f, g)`
  (it is connected to `f[i]`, and `≤` every vertex connected to `f[i]`);
* if edge `i` exists (`i < g.length`), `g[i]` is in that same component, so the label is the least vertex of
  the component containing both endpoints.
For `i ≥ g.length` (`f` longer than `g`) there is no edge `i`: `zip` dropped it, and `f[i]` is labelled by
the least vertex of its component w.r.t. the edges that were kept. -/
theorem C23_label_of_keys (ks f g : List V) (hks : ∀ v, v ∈ f ∨ v ∈ g → v ∈ ks) :
    ∃ labels, connectedComponentsWith ks f g = some labels ∧ labels.length = f.length ∧
      ∀ i (hf : i < f.length) (hl : i < labels.length),
        IsLeastOfClass (f.zip g) f[i] labels[i] ∧
        ∀ (hg : i < g.length), Conn (f.zip g) f[i] g[i] ∧ IsLeastOfClass (f.zip g) g[i] labels[i] := by
  obtain ⟨ls, h1, h2, h3⟩ := cc_spec ks f g hks
  refine ⟨ls, h1, h2, fun i hf hl => ⟨h3 i hf hl, fun hg => ?_⟩⟩
  have hc : Conn (f.zip g) f[i] g[i] := by
    refine .edge ?_
    have hz : i < (f.zip g).length := by simp [List.length_zip]; omega
    have := List.getElem_mem hz
    rwa [List.getElem_zip] at this
  exact ⟨hc, isLeast_congr hc (h3 i hf hl)⟩

/-- **C23 (totality).**  `connected_components(f, g)` never raises `KeyError` and returns `len(f)` labels,
whatever the two lengths are. -/
theorem C23_total (f g : List V) :
    ∃ labels, connectedComponents f g = some labels ∧ labels.length = f.length := by
  obtain ⟨ls, h1, h2, _⟩ := C23_label_of_keys (keysOf f g) f g (fun v hv => mem_keysOf.mpr hv)
  exact ⟨ls, h1, h2⟩

/-- **C23 (labels).**  For edge lists `f`, `g` of equal length, `connected_components(f, g)` returns `labels`
with: both endpoints of edge `i` are in one component; `labels[i]` is a vertex of that component (connected
to `f[i]` and to `g[i]`); and `labels[i] ≤ v` for every vertex `v` of that component.  I.e. edge `i` is
labelled with the least vertex of the connected component containing both of its endpoints. -/
theorem C23_label (f g : List V) (hlen : f.length = g.length) :
    ∃ labels, connectedComponents f g = some labels ∧ labels.length = f.length ∧
      ∀ i (hf : i < f.length) (hl : i < labels.length),
        Conn (f.zip g) f[i] (g[i]'(hlen ▸ hf)) ∧
        Conn (f.zip g) f[i] labels[i] ∧ Conn (f.zip g) (g[i]'(hlen ▸ hf)) labels[i] ∧
        (∀ v, Conn (f.zip g) f[i] v → labels[i] ≤ v) ∧
        (∀ v, Conn (f.zip g) (g[i]'(hlen ▸ hf)) v → labels[i] ≤ v) := by
  obtain ⟨ls, h1, h2, h3⟩ := C23_label_of_keys (keysOf f g) f g (fun v hv => mem_keysOf.mpr hv)
  refine ⟨ls, h1, h2, fun i hf hl => ?_⟩
  obtain ⟨a, b⟩ := h3 i hf hl
  obtain ⟨c, d⟩ := b (hlen ▸ hf)
  exact ⟨c, a.1, d.1, a.2, d.2⟩

/-- **C23 (same label ⇔ same component).**  In any result `labels` of the call, positions `i` and `j` carry
the same label exactly when `f[i]` and `f[j]` (hence, for real edges, all four endpoints) are connected. -/
theorem C23_same_label_iff (ks f g labels : List V) (hks : ∀ v, v ∈ f ∨ v ∈ g → v ∈ ks)
    (hrun : connectedComponentsWith ks f g = some labels)
    (i j : Nat) (hi : i < f.length) (hj : j < f.length) (hi' : i < labels.length) (hj' : j < labels.length) :
    labels[i] = labels[j] ↔ Conn (f.zip g) f[i] f[j] := by
  obtain ⟨ls, h1, _, h3⟩ := cc_spec ks f g hks
  rw [hrun] at h1
  injection h1 with h1
  subst h1
  have li := h3 i hi hi'
  have lj := h3 j hj hj'
  constructor
  · intro e
    rw [e] at li
    exact li.1.trans lj.1.symm
  · intro hc
    exact isLeast_unique (isLeast_congr hc li) lj

/-- **C23 (hash order of `keys` is irrelevant).**  Two enumerations of key sets containing the vertices give
the same result. -/
theorem C23_keys_order_irrelevant (ks ks' f g : List V) (hks : ∀ v, v ∈ f ∨ v ∈ g → v ∈ ks)
    (hks' : ∀ v, v ∈ f ∨ v ∈ g → v ∈ ks') :
    connectedComponentsWith ks f g = connectedComponentsWith ks' f g := by
  obtain ⟨l, h1, h2, h3⟩ := cc_spec ks f g hks
  obtain ⟨l', h1', h2', h3'⟩ := cc_spec ks' f g hks'
  rw [h1, h1']
  congr 1
  apply List.ext_getElem (by omega)
  intro i hi hi'
  exact isLeast_unique (h3 i (by omega) hi) (h3' i (by omega) hi')

-- the docstring example of the function, and the string variant
example : connectedComponents [1, 4, 6, 2, 1] ([2, 5, 7, 3, 7] : List Int) = some [1, 4, 1, 1, 1] := by decide +kernel
example : connectedComponents ["b", "a", "z"] ["c", "b", "z"] = some ["a", "a", "z"] := by decide +kernel
-- unequal lengths: zip truncates, the result still has len(f) entries
example : connectedComponents [3, 2, 1, 1] ([2, 9] : List Int) = some [2, 2, 1, 1] := by decide +kernel
-- with a key set that misses a vertex the run ends in `none` (KeyError): the hypothesis `hks` is not idle
example : connectedComponentsWith [1] [1] ([2] : List Int) = none := by decide +kernel
-- the order classes are inhabited by the vertex types the driver uses
example := C23_label (V := Int) [1, 4, 6, 2, 1] [2, 5, 7, 3, 7] rfl
example := C23_label (V := String) ["b", "a"] ["c", "b"] rfl
-- `hks` holds for the enumeration the model uses
example (f g : List Int) : ∀ v, v ∈ f ∨ v ∈ g → v ∈ keysOf f g := fun _ hv => mem_keysOf.mpr hv
-- both directions of `C23_same_label_iff` are exercised: `f[0] = 1` and `f[3] = 2` are connected (edge 0 is (1, 2)),
-- edge 1 is in another component
example : Conn ([1, 4, 6, 2, 1].zip ([2, 5, 7, 3, 7] : List Int)) 1 2 := .edge (by decide)
example :
    let f : List Int := [1, 4, 6, 2, 1]; let g : List Int := [2, 5, 7, 3, 7]
    ∃ labels, connectedComponentsWith (keysOf f g) f g = some labels ∧
      labels[0]? = labels[3]? ∧ labels[0]? ≠ labels[1]? := ⟨[1, 4, 1, 1, 1], by decide +kernel, by decide, by decide⟩

end DAVerif.CC
