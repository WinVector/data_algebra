import DAVerif.Proofs.Schema
/-!
# C22 — Schema-check decorators raise exactly on schema violations

Model: `Schema/Schema.lean` (the code with `fixes/C22-schema-set-normalization.diff` and
`fixes/C22-schema-none-arg-specs.diff` applied); lemmas about the checker alone: `Proofs/Schema.lean`.  Every theorem
quantifies over all type universes `T` with an arbitrary `issubclass` relation, all specifications (types, type sets,
example values, nested column specifications), all argument / return values (scalars of any class, null or not; Pandas
and Polars frames of any size), all wrapped functions and both switch states.

One part of the property fails on the unchanged (and on the fixed) code and is kept as a known finding with guard `G1`
(positional arguments are matched to parameter names by index, whatever the parameter kind): `C22_args_iff_partial`,
`C22_G1_necessary`.
-/
namespace DAVerif.Schema
set_option linter.unusedSectionVars false

variable {T : Type} [U : TypeUniverse T] [DecidableEq T]

/-- `v` is an instance of class `t` (its class is `t` or a subclass). -/
def HasType (v : Value T) (t : T) : Prop := U.sub (typeOf v) t = true

instance (v : Value T) (t : T) : Decidable (HasType v t) := by unfold HasType; infer_instance

/-- The type a set member / single declaration declares: a class declares itself, an **example value declares
its own class**, `None` declares nothing. -/
inductive Declares : Atom T → T → Prop
  | ty (t : T) : Declares (.ty t) t
  | exampleOf (t : T) : Declares (.exampleOf t) t

/-- `Conforms s v`: value `v` satisfies the user-level specification `s`.
* `None`: no constraint.
* a class or an example value: `v` is an instance of the declared class (a `None` *argument* is a value like any
  other and is **not** exempt – DESIGN Appendix B).
* a set: `v` is an instance of the class declared by some member (a `None` member declares nothing).
* a dict: `v` is a data frame, every declared column is present, and every **non-null cell** of a declared
  column conforms to the column's specification. -/
inductive Conforms : Spec T → Value T → Prop
  | unconstrained (v : Value T) : Conforms (.atom .none) v
  | single {a : Atom T} {t : T} {v : Value T} : Declares a t → HasType v t → Conforms (.atom a) v
  | oneOf {ms : List (Atom T)} {a : Atom T} {t : T} {v : Value T} :
      a ∈ ms → Declares a t → HasType v t → Conforms (.oneOf ms) v
  | frame {cols : List (String × Spec T)} {f : Frame T} :
      (∀ c s, (c, s) ∈ cols → ∃ cells, f.column c = some cells) →
      (∀ c s cells x, (c, s) ∈ cols → f.column c = some cells → x ∈ cells → x.isNull = false →
          Conforms s (.scalar x)) →
      Conforms (.frame cols) (.frame f)

theorem declares_iff {a : Atom T} {t : T} : Declares a t ↔ a.declared = some t := by
  constructor
  · rintro (_ | _) <;> rfl
  · cases a <;> simp [Atom.declared] <;> rintro rfl <;> constructor

theorem conforms_atom_iff {a : Atom T} {t : T} (hd : Declares a t) {v : Value T} :
    Conforms (.atom a) v ↔ HasType v t := by
  refine ⟨fun h => ?_, .single hd⟩
  cases h with
  | unconstrained => cases hd
  | single hd' ht => cases hd <;> cases hd' <;> exact ht

theorem conforms_oneOf_iff {ms : List (Atom T)} {v : Value T} :
    Conforms (.oneOf ms) v ↔ ∃ a ∈ ms, ∃ t, Declares a t ∧ HasType v t :=
  ⟨fun h => by cases h with | oneOf ha hd ht => exact ⟨_, ha, _, hd, ht⟩,
   fun ⟨_, ha, _, hd, ht⟩ => .oneOf ha hd ht⟩

theorem conforms_frame_iff {cols : List (String × Spec T)} {f : Frame T} :
    Conforms (.frame cols) (.frame f) ↔
      ∀ p ∈ cols,
        (∃ cells, f.column p.1 = some cells) ∧
        (∀ cells x, f.column p.1 = some cells → x ∈ cells → x.isNull = false → Conforms p.2 (.scalar x)) :=
  ⟨fun h => by cases h with | frame h1 h2 => exact fun p hm => ⟨h1 p.1 p.2 hm, fun cells x => h2 p.1 p.2 cells x hm⟩,
   fun h => .frame (fun c s hm => (h (c, s) hm).1) (fun c s cells x hm => (h (c, s) hm).2 cells x)⟩

/-- The set case of the check.  It does not look inside frames: no well-formedness needed. -/
theorem check_oneOf_iff {ms : List (Atom T)} {v : Value T} :
    checkSpec (normalize (.oneOf ms)) v = none ↔ ∃ a ∈ ms, ∃ t, Declares a t ∧ HasType v t := by
  simp only [normalize, checkSpec_oneOf, mem_normalizeSet, declares_iff]
  constructor
  · rintro ⟨t, ⟨a, ha, hd⟩, ht⟩; exact ⟨a, ha, t, hd, ht⟩
  · rintro ⟨a, ha, t, hd, ht⟩; exact ⟨t, ⟨a, ha, hd⟩, ht⟩

mutual
/-- **C22 (value check).** For every specification `s` and every value `v` (frames rectangular):
`_check_spec(_prep_schema_specification(s), v)` returns no message **iff** `v` conforms to `s`. -/
theorem C22_check_iff (s : Spec T) (v : Value T) (hv : v.WF) :
    checkSpec (normalize s) v = none ↔ Conforms s v := by
  match s with
  | .atom .none => exact ⟨fun _ => .unconstrained v, fun _ => rfl⟩
  | .atom (.ty t) => exact checkSpec_ty.trans (conforms_atom_iff (.ty t)).symm
  | .atom (.exampleOf t) => exact checkSpec_ty.trans (conforms_atom_iff (.exampleOf t)).symm
  | .oneOf ms => exact check_oneOf_iff.trans conforms_oneOf_iff.symm
  | .frame cols =>
    cases v with
    | scalar x => exact ⟨nofun, nofun⟩
    | frame f =>
      rw [normalize, checkSpec_frame, checkCols_nil hv, normalizeCols_eq_map, List.forall_mem_map, conforms_frame_iff]
      exact forall₂_congr fun p hm => by simp only [cells_iff cols p hm]
theorem cells_iff (cols : List (String × Spec T)) :
    ∀ p ∈ cols, ∀ x : Scalar T, checkSpec (normalize p.2) (.scalar x) = none ↔ Conforms p.2 (.scalar x) := by
  match cols with
  | [] => exact nofun
  | (_, s) :: rest =>
    exact List.forall_mem_cons.mpr ⟨fun x => C22_check_iff s (.scalar x) trivial, cells_iff rest⟩
end

/-- the column loop: no issue iff every declared column is present and all its non-null cells conform -/
theorem C22_cols_iff (cols : List (String × Spec T)) (f : Frame T) (hf : f.Rect) :
    checkCols (normalizeCols cols) f = [] ↔
      ∀ c s, (c, s) ∈ cols →
        (∃ cells, f.column c = some cells) ∧
        (∀ cells x, f.column c = some cells → x ∈ cells → x.isNull = false → Conforms s (.scalar x)) :=
  (checkSpec_frame.symm.trans (C22_check_iff (.frame cols) (.frame f) hf)).trans (conforms_frame_iff.trans Prod.forall)

/-- The value the call `f(*args, **kwargs)` passes for the name `k`, for a function whose first `npos`
parameters can be filled positionally (positional-only and positional-or-keyword parameters; `names` lists all
parameters in signature order): the positional argument at `k`'s position if there is one, else the keyword
argument `k`.  Positional arguments beyond `npos` go to `*args` and are passed for no name. -/
def passed (names : List String) (npos : Nat) (args : List (Value T)) (kwargs : List (String × Value T))
    (k : String) : Option (Value T) :=
  match ((names.take npos).zip args).lookup k with
  | some v => some v
  | none => kwargs.lookup k

/-- A schema violation of the call with respect to the declared argument specifications `A`: some declared
argument is not passed, or is passed a value that does not conform. -/
def ArgViolation (A : List (String × Spec T)) (names : List String) (npos : Nat) (args : List (Value T))
    (kwargs : List (String × Value T)) : Prop :=
  ∃ k s, (k, s) ∈ A ∧
    (passed names npos args kwargs k = none ∨ ∃ v, passed names npos args kwargs k = some v ∧ ¬ Conforms s v)

/-- Representation invariants of a call: parameter names are distinct and `npos` of them are positional, the
keys of the `arg_specs` dict are distinct, frames are rectangular. (All are guaranteed by Python.) -/
structure CallWF (A : List (String × Spec T)) (names : List String) (npos : Nat) (args : List (Value T))
    (kwargs : List (String × Value T)) : Prop where
  names_nodup : names.Nodup
  npos_le : npos ≤ names.length
  specs_nodup : (A.map Prod.fst).Nodup
  args_wf : ∀ v ∈ args, v.WF
  kwargs_wf : ∀ p ∈ kwargs, p.2.WF

/-- Finding guard `G1` (known finding `C22-positional-by-index`): no positional argument lands in `*args`
(in particular the function is not called with more positional arguments than it has positional parameters). -/
def G1 (npos : Nat) (args : List (Value T)) : Prop := args.length ≤ npos

instance (npos : Nat) (args : List (Value T)) : Decidable (G1 npos args) := by unfold G1; infer_instance

/-- Inside G1 the value passed for `k` is the one `check_args` looks at: `args[i]` for `names[i] = k`, else
`kwargs[k]`. -/
theorem passed_eq {names : List String} {npos : Nat} {args : List (Value T)} (g1 : G1 npos args)
    (kwargs : List (String × Value T)) (k : String) :
    passed names npos args kwargs k = ((names.zip args).lookup k).or (kwargs.lookup k) := by
  unfold passed
  rw [take_zip_eq names args npos g1]
  cases (names.zip args).lookup k <;> rfl

theorem not_argViolation_iff {A : List (String × Spec T)} {names : List String} {npos : Nat}
    {args : List (Value T)} {kwargs : List (String × Value T)} :
    ¬ ArgViolation A names npos args kwargs ↔
      ∀ p ∈ A, ∃ v, passed names npos args kwargs p.1 = some v ∧ Conforms p.2 v := by
  constructor
  · intro hno p hm
    cases hp : passed names npos args kwargs p.1 with
    | none => exact absurd ⟨p.1, p.2, hm, .inl hp⟩ hno
    | some v => exact ⟨v, rfl, Classical.byContradiction fun hn => hno ⟨p.1, p.2, hm, .inr ⟨v, hp, hn⟩⟩⟩
  · rintro h ⟨k, s, hm, hviol⟩
    obtain ⟨v, hp, hc⟩ := h (k, s) hm
    rw [hp] at hviol
    rcases hviol with h0 | ⟨_, h1, hn⟩
    · cases h0
    · cases h1; exact hn hc

/-- What `check_args` collects, inside or outside G1: it reads `args[i]` as the value for `names[i]`, whatever
kind of parameter that is. -/
theorem argIssues_nil_iff {A : List (String × Spec T)} {names : List String} {npos : Nat}
    {args : List (Value T)} {kwargs : List (String × Value T)}
    (wf : CallWF A names npos args kwargs) (hlen : args.length ≤ names.length) :
    argIssues (normalizeCols A) names args kwargs = .ok [] ↔
      ∀ p ∈ A, ∃ v, ((names.zip args).lookup p.1).or (kwargs.lookup p.1) = some v ∧ Conforms p.2 v := by
  have hwf : ∀ {k v}, ((names.zip args).lookup k).or (kwargs.lookup k) = some v → v.WF := by
    intro k v hp
    rcases Option.or_eq_some_iff.mp hp with h | ⟨_, h⟩
    · exact wf.args_wf v (List.of_mem_zip (lookup_some_mem h)).2
    · exact wf.kwargs_wf _ (lookup_some_mem h)
  rw [argIssues_nil wf.names_nodup (normalizeCols_fst A ▸ wf.specs_nodup) hlen, normalizeCols_eq_map,
    List.forall_mem_map]
  exact forall₂_congr fun p _ => exists_congr fun v => and_congr_right fun hp => C22_check_iff p.2 v (hwf hp)

/-
Full-strength statement of the property for `check_args` (no guard):

    ∀ A names npos args kwargs, CallWF A names npos args kwargs →
      (checkArgs true (some (normalizeCols A)) names args kwargs = .error .typeError
         ↔ ArgViolation A names npos args kwargs) ∧
      (checkArgs true (some (normalizeCols A)) names args kwargs = .ok ()
         ↔ ¬ ArgViolation A names npos args kwargs)

It is FALSE for the code as it is (`C22_G1_necessary` below): `check_args` matches `args[i]` with
`arg_names[i]` for every `i`, also when `arg_names[i]` is a `*args`, keyword-only or `**kwargs` parameter, and
raises IndexError when there are more positional arguments than parameter names.  What is missing is exactly
the guard `G1 npos args`.
-/

theorem checkArgs_iff {A : List (String × Spec T)} {names : List String} {npos : Nat} {args : List (Value T)}
    {kwargs : List (String × Value T)} (sw : Bool) (wf : CallWF A names npos args kwargs) (g1 : G1 npos args) :
    (checkArgs sw (some (normalizeCols A)) names args kwargs = .error .typeError
        ↔ sw = true ∧ ArgViolation A names npos args kwargs) ∧
    (checkArgs sw (some (normalizeCols A)) names args kwargs = .ok ()
        ↔ ¬ (sw = true ∧ ArgViolation A names npos args kwargs)) := by
  cases sw
  · exact ⟨iff_of_false nofun (fun h => nomatch h.1),
      iff_of_true rfl (fun h => nomatch h.1)⟩
  · have key : argIssues (normalizeCols A) names args kwargs = .ok [] ↔ ¬ ArgViolation A names npos args kwargs := by
      rw [argIssues_nil_iff wf (Nat.le_trans g1 wf.npos_le), not_argViolation_iff]
      simp only [passed_eq g1]
    unfold checkArgs
    cases hi : argIssues (normalizeCols A) names args kwargs with
    | error e => simp [argIssues, Nat.not_lt.mpr (Nat.le_trans g1 wf.npos_le)] at hi
    | ok l =>
      rw [hi] at key
      cases l with
      | nil => simp [hi, key.mp rfl]
      | cons i is => simp [hi, show ArgViolation A names npos args kwargs from Classical.not_not.mp (mt key.mpr nofun)]

/-- **C22 (arguments; partial, guard G1).** With checking on and no positional argument landing in `*args`:
`check_args` raises TypeError **iff** some declared argument is missing or is passed a non-conforming value;
otherwise it returns normally (in particular it raises nothing else). -/
theorem C22_args_iff_partial (A : List (String × Spec T)) (names : List String) (npos : Nat)
    (args : List (Value T)) (kwargs : List (String × Value T))
    (wf : CallWF A names npos args kwargs) (g1 : G1 npos args) :
    (checkArgs true (some (normalizeCols A)) names args kwargs = .error .typeError
        ↔ ArgViolation A names npos args kwargs) ∧
    (checkArgs true (some (normalizeCols A)) names args kwargs = .ok ()
        ↔ ¬ ArgViolation A names npos args kwargs) := by
  simpa using checkArgs_iff true wf g1

/-- **The guard G1 is necessary** (known finding `C22-positional-by-index`), on the concrete universe:
the full-strength statement fails in two ways.
(a) `def f(a, *rest)` declared `{a: int}`, called `f(1, 2, 3)`: no violation, but `check_args` raises
IndexError.  (b) `def f(a, *rest, b)` declared `{a: int, b: int}`, called `f(1, 2, "x", b=4)`: no violation
(`b` is passed the int 4), but `check_args` raises TypeError because it reads `"x"` as `b`.
The theorem is proved from (a); (b) is `C22_G1_necessary_misbinding`. -/
theorem C22_G1_necessary :
    ¬ (∀ (A : List (String × Spec PyType)) (names : List String) (npos : Nat) (args : List (Value PyType))
        (kwargs : List (String × Value PyType)), CallWF A names npos args kwargs →
        ((checkArgs true (some (normalizeCols A)) names args kwargs = .error .typeError
            ↔ ArgViolation A names npos args kwargs) ∧
         (checkArgs true (some (normalizeCols A)) names args kwargs = .ok ()
            ↔ ¬ ArgViolation A names npos args kwargs))) := by
  intro h
  let i : Value PyType := .scalar ⟨.int, false⟩
  let A : List (String × Spec PyType) := [("a", .atom (.ty .int))]
  have wf : CallWF A ["a", "rest"] 1 [i, i, i] [] :=
    ⟨by decide, by decide, by decide, by decide, by decide⟩
  have hnov : ¬ ArgViolation A ["a", "rest"] 1 [i, i, i] [] := not_argViolation_iff.mpr fun p hm => by
    cases List.mem_singleton.mp hm
    exact ⟨i, by decide, .single (.ty _) (by decide)⟩
  exact absurd ((h A ["a", "rest"] 1 [i, i, i] [] wf).2.mpr hnov) (by decide +kernel)

/-- (b) of `C22_G1_necessary` as a separate fact: the mis-binding of a keyword-only parameter. -/
theorem C22_G1_necessary_misbinding :
    let i : Value PyType := .scalar ⟨.int, false⟩
    let x : Value PyType := .scalar ⟨.str, false⟩
    let A : List (String × Spec PyType) := [("a", .atom (.ty .int)), ("b", .atom (.ty .int))]
    checkArgs true (some (normalizeCols A)) ["a", "rest", "b"] [i, i, x] [("b", i)] = .error .typeError ∧
    ¬ ArgViolation A ["a", "rest", "b"] 1 [i, i, x] [("b", i)] := by
  intro i x A
  refine ⟨by decide +kernel, not_argViolation_iff.mpr fun p hm => ?_⟩
  simp only [A, List.mem_cons, List.not_mem_nil, or_false] at hm
  rcases hm with rfl | rfl <;> exact ⟨i, by decide, .single (.ty _) (by decide)⟩

/-- what the undecorated function does: its own outcome and the switch state it leaves -/
def own {E : Type} (f : PyFn T E) (sw : Bool) (args : List (Value T)) (kwargs : List (String × Value T)) :
    Outcome T E × Bool :=
  match f sw args kwargs with
  | (.error e, sw') => (.ownRaise e, sw')
  | (.ok r, sw') => (.returned r, sw')

theorem own_ne {E : Type} (f : PyFn T E) (sw : Bool) (args : List (Value T)) (kwargs : List (String × Value T)) :
    (own f sw args kwargs).1 ≠ .argsError ∧ (own f sw args kwargs).1 ≠ .returnError ∧
    ∀ e, (own f sw args kwargs).1 ≠ .internalError e := by
  unfold own
  split <;> exact ⟨nofun, nofun, fun _ => nofun⟩

theorem wrapped_cases {E : Type} (sc : Schema T) (names : List String) (f : PyFn T E) (sw : Bool)
    (args : List (Value T)) (kwargs : List (String × Value T)) :
    let ca := checkArgs sw sc.argSpecs names args kwargs
    let w := wrapped sc names f sw args kwargs
    (ca = .error .typeError ∧ w = (.argsError, sw)) ∨
    (ca = .error .indexError ∧ w = (.internalError .indexError, sw)) ∨
    (ca = .ok () ∧ ∃ r sw', f sw args kwargs = (.ok r, sw') ∧ checkReturn sw' sc.returnSpec r ≠ .ok () ∧
      w = (.returnError, sw')) ∨
    (ca = .ok () ∧ (∀ r sw', f sw args kwargs = (.ok r, sw') → checkReturn sw' sc.returnSpec r = .ok ()) ∧
      w = own f sw args kwargs) := by
  intro ca w
  subst ca w
  unfold wrapped own
  cases checkArgs sw sc.argSpecs names args kwargs with
  | error e =>
    cases e
    · exact .inl ⟨rfl, rfl⟩
    · exact .inr (.inl ⟨rfl, rfl⟩)
  | ok u =>
    refine .inr (.inr ?_)
    rcases f sw args kwargs with ⟨e | r, sw'⟩
    · exact .inr ⟨rfl, by rintro _ _ ⟨⟩, rfl⟩
    · dsimp only
      cases hcr : checkReturn sw' sc.returnSpec r with
      | error e => exact .inl ⟨rfl, r, sw', rfl, by rw [hcr]; nofun, rfl⟩
      | ok u => exact .inr ⟨rfl, by rintro _ _ ⟨⟩; exact hcr, rfl⟩

/-- **C22 (wrapper raises exactly on violations; partial, guard G1).**  For a decorator built from argument
specifications `A` and return specification `R`, any wrapped function `f`, and a call inside G1:
* the call ends in the `check_args` TypeError **iff** checking is on and the call has an argument violation;
* it ends in the `check_return` TypeError **iff** there is no such argument error, the function returned a
  value `r`, checking is on after the function ran, and `r` does not conform to `R`;
* nothing else escapes the checker (no internal error). -/
theorem C22_raises_iff_partial {E : Type} (A : List (String × Spec T)) (R : Spec T) (names : List String)
    (npos : Nat) (f : PyFn T E) (sw : Bool) (args : List (Value T)) (kwargs : List (String × Value T))
    (wf : CallWF A names npos args kwargs) (g1 : G1 npos args)
    (hret : ∀ r sw', f sw args kwargs = (.ok r, sw') → r.WF) :
    let out := (wrapped (mkSchema (some A) R) names f sw args kwargs).1
    (out = .argsError ↔ (sw = true ∧ ArgViolation A names npos args kwargs)) ∧
    (out = .returnError ↔
        (¬ (sw = true ∧ ArgViolation A names npos args kwargs) ∧
         ∃ r sw', f sw args kwargs = (.ok r, sw') ∧ sw' = true ∧ ¬ Conforms R r)) ∧
    (∀ e, out ≠ .internalError e) := by
  intro out
  obtain ⟨hE, hO⟩ := checkArgs_iff sw wf g1
  have hR : ∀ r sw', f sw args kwargs = (.ok r, sw') →
      (checkReturn sw' (normalize R) r = .ok () ↔ (sw' = true → Conforms R r)) :=
    fun r sw' hf => checkReturn_ok_iff.trans (imp_congr_right fun _ => C22_check_iff R r (hret r sw' hf))
  rcases wrapped_cases (mkSchema (some A) R) names f sw args kwargs with
    ⟨hca, hw⟩ | ⟨hca, _⟩ | ⟨hca, r, sw', hf, hcr, hw⟩ | ⟨hca, hcr, hw⟩
  · have hv := hE.mp hca
    rw [show out = .argsError from congrArg Prod.fst hw]
    exact ⟨iff_of_true rfl hv, iff_of_false nofun (fun h => h.1 hv), fun _ => nofun⟩
  · by_cases hv : sw = true ∧ ArgViolation A names npos args kwargs
    · cases (hE.mpr hv).symm.trans hca
    · cases (hO.mpr hv).symm.trans hca
  · have hv := hO.mp hca
    rw [show out = .returnError from congrArg Prod.fst hw]
    exact ⟨iff_of_false nofun hv,
      iff_of_true rfl ⟨hv, r, sw', hf, Classical.not_imp.mp (mt (hR r sw' hf).mpr hcr)⟩, fun _ => nofun⟩
  · have hv := hO.mp hca
    obtain ⟨h1, h2, h3⟩ := own_ne f sw args kwargs
    rw [show out = (own f sw args kwargs).1 from congrArg Prod.fst hw]
    exact ⟨iff_of_false h1 hv,
      iff_of_false h2 fun ⟨_, r, sw', hf, hs, hn⟩ => hn ((hR r sw' hf).mp (hcr r sw' hf) hs), h3⟩

/-- **C22 (transparency).**  Whenever the wrapped call does not end in one of the checker's own exceptions, it
ends exactly as the undecorated function does on the same `*args, **kwargs`: the same return value (the very
object – nothing is copied or converted), or the same exception, and the same final switch state.  No
hypothesis at all: this holds for every call, inside or outside G1. -/
theorem C22_transparent {E : Type} (sc : Schema T) (names : List String) (f : PyFn T E) (sw : Bool)
    (args : List (Value T)) (kwargs : List (String × Value T)) :
    let w := wrapped sc names f sw args kwargs
    w.1 = .argsError ∨ w.1 = .returnError ∨ (∃ e, w.1 = .internalError e) ∨ w = own f sw args kwargs := by
  intro w
  rcases wrapped_cases sc names f sw args kwargs with ⟨_, hw⟩ | ⟨_, hw⟩ | ⟨_, _, _, _, _, hw⟩ | ⟨_, _, hw⟩
  · exact .inl (congrArg Prod.fst hw)
  · exact .inr (.inr (.inl ⟨_, congrArg Prod.fst hw⟩))
  · exact .inr (.inl (congrArg Prod.fst hw))
  · exact .inr (.inr (.inr hw))

/-- **C22 (no violation ⇒ own result; partial, guard G1).**  If the call has no argument violation (or checking
is off) and the function's return value conforms (or checking is off afterwards, or the function raises), the
wrapped call is indistinguishable from the undecorated one. -/
theorem C22_no_violation_partial {E : Type} (A : List (String × Spec T)) (R : Spec T) (names : List String)
    (npos : Nat) (f : PyFn T E) (sw : Bool) (args : List (Value T)) (kwargs : List (String × Value T))
    (wf : CallWF A names npos args kwargs) (g1 : G1 npos args)
    (hret : ∀ r sw', f sw args kwargs = (.ok r, sw') → r.WF)
    (hargs : ¬ (sw = true ∧ ArgViolation A names npos args kwargs))
    (hres : ∀ r sw', f sw args kwargs = (.ok r, sw') → sw' = true → Conforms R r) :
    wrapped (mkSchema (some A) R) names f sw args kwargs = own f sw args kwargs := by
  have h := C22_raises_iff_partial A R names npos f sw args kwargs wf g1 hret
  rcases C22_transparent (mkSchema (some A) R) names f sw args kwargs with h1 | h1 | ⟨e, h1⟩ | h1
  · exact absurd (h.1.mp h1) hargs
  · obtain ⟨_, r, sw', hf, hs, hn⟩ := h.2.1.mp h1
    exact absurd (hres r sw' hf hs) hn
  · exact absurd h1 (h.2.2 e)
  · exact h1

/-- **C22 (switch off).**  With checking switched off (before the call, and still off when the function
returns) the wrapped call never raises for schema reasons – nor for any other reason of the checker's: it is
exactly the undecorated call.  No hypothesis on specifications, signature or arguments. -/
theorem C22_switch_off {E : Type} (sc : Schema T) (names : List String) (f : PyFn T E)
    (args : List (Value T)) (kwargs : List (String × Value T))
    (hoff : (f false args kwargs).2 = false) :
    wrapped sc names f false args kwargs = own f false args kwargs := by
  rcases wrapped_cases sc names f false args kwargs with ⟨hca, _⟩ | ⟨hca, _⟩ | ⟨_, r, sw', hf, hcr, _⟩ | ⟨_, _, hw⟩
  · cases hca
  · cases hca
  · rw [hf] at hoff
    cases hoff
    exact absurd rfl hcr
  · exact hw

/-- The switch is read at check time: off before the call ⇒ no argument error and no internal error,
whatever the function then does to the switch; off after the call ⇒ no return-value error. -/
theorem C22_switch_read_at_check_time {E : Type} (sc : Schema T) (names : List String) (f : PyFn T E)
    (sw : Bool) (args : List (Value T)) (kwargs : List (String × Value T)) :
    let w := wrapped sc names f sw args kwargs
    (sw = false → w.1 ≠ .argsError ∧ ∀ e, w.1 ≠ .internalError e) ∧
    (w.2 = false → w.1 ≠ .returnError) := by
  intro w
  rcases wrapped_cases sc names f sw args kwargs with ⟨hca, hw⟩ | ⟨hca, hw⟩ | ⟨_, r, sw', _, hcr, hw⟩ | ⟨_, _, hw⟩
  · rw [show w = _ from hw]
    exact ⟨(by rintro rfl; cases hca), fun _ => nofun⟩
  · rw [show w = _ from hw]
    exact ⟨(by rintro rfl; cases hca), fun _ => nofun⟩
  · rw [show w = _ from hw]
    exact ⟨fun _ => ⟨nofun, fun _ => nofun⟩, by rintro rfl; exact absurd rfl hcr⟩
  · obtain ⟨h1, h2, h3⟩ := own_ne f sw args kwargs
    rw [show w = _ from hw]
    exact ⟨fun _ => ⟨h1, h3⟩, fun _ => h2⟩

/-- **C22 (no argument declarations).**  A decorator built with `arg_specs=None` (the constructor's default; stated
here with `return_spec=None` as well) never raises from `check_args` (fix `C22-schema-none-arg-specs`; the unrepaired
code raised AttributeError). -/
theorem C22_no_arg_specs (sw : Bool) (names : List String) (args : List (Value T))
    (kwargs : List (String × Value T)) :
    checkArgs sw (mkSchema (T := T) none (.atom .none)).argSpecs names args kwargs = .ok () := by
  cases sw <;> simp [checkArgs, mkSchema]

/-- **C22 (SchemaMock).**  The mock decorator returns the function itself. -/
theorem C22_mock {E : Type} (sc : Schema T) (f : PyFn T E) (sw : Bool) (args : List (Value T))
    (kwargs : List (String × Value T)) : mockWrapped sc f sw args kwargs = own f sw args kwargs := rfl

/-- read an example value as the class it declares -/
def Atom.asType : Atom T → Atom T
  | .exampleOf t => .ty t
  | a => a

/-- **C22 (example values).**
(1) Alone: `_prep_schema_specification(example)` is the example's class.
(2) Inside a set: normalisation gives the same set of classes as when every example value is replaced by its
    class – in any position, next to classes, other examples and `None`s.
(3) So the check accepts exactly the instances of the declared classes; in particular (for a reflexive
    `issubclass`) every value conforms to itself used as an example, alone or inside any set.
(Fix `C22-schema-set-normalization`; on the unrepaired code (2) fails: the raw members stay in the set.) -/
theorem C22_examples :
    (∀ t : T, normalize (.atom (.exampleOf t)) = .ty t) ∧
    (∀ ms : List (Atom T), normalize (.oneOf ms) = normalize (.oneOf (ms.map Atom.asType))) ∧
    (∀ (ms : List (Atom T)) (v : Value T), checkSpec (normalize (.oneOf ms)) v = none ↔
        ∃ a ∈ ms, ∃ t, Declares a t ∧ HasType v t) ∧
    (∀ (x : Scalar T), U.sub x.ty x.ty = true →
        checkSpec (normalize (.atom (.exampleOf x.ty))) (.scalar x) = none ∧
        ∀ ms : List (Atom T), Atom.exampleOf x.ty ∈ ms → checkSpec (normalize (.oneOf ms)) (.scalar x) = none) := by
  refine ⟨fun t => rfl, fun ms => ?_, fun ms v => check_oneOf_iff, fun x hx => ⟨checkSpec_ty.mpr hx, fun ms hm => ?_⟩⟩
  · have h : ∀ a : Atom T, a.asType.declared = a.declared := fun a => by cases a <;> rfl
    simp only [normalize, normalizeSet, List.filterMap_map, Function.comp_def, h]
  · exact check_oneOf_iff.mpr ⟨_, hm, x.ty, .exampleOf _, hx⟩

def pyTypes : List PyType :=
  [.object, .bool, .int, .float, .str, .noneType, .npInt64, .npFloat64, .npBool, .npStr, .npNumber, .npGeneric,
   .naType, .pandasDF, .polarsDF]

theorem mem_pyTypes (a : PyType) : a ∈ pyTypes := by cases a <;> decide +kernel

/-- the concrete universe's `issubclass` is reflexive and transitive, and `bool ≤ int` -/
theorem C22_pytype_sub : (∀ a : PyType, PyType.sub a a = true) ∧
    (∀ a b c : PyType, PyType.sub a b = true → PyType.sub b c = true → PyType.sub a c = true) ∧
    PyType.sub .bool .int = true ∧ PyType.sub .int .bool = false := by
  refine ⟨fun a => by cases a <;> rfl, fun a b c hab hbc => ?_, by decide, by decide⟩
  -- `issubclass` on the fifteen classes is a finite table: transitivity is checked by evaluation over `pyTypes`
  have table : ∀ a ∈ pyTypes, ∀ b ∈ pyTypes, PyType.sub a b = true →
      ∀ c ∈ pyTypes, PyType.sub b c = true → PyType.sub a c = true := by decide +kernel
  exact table a (mem_pyTypes a) b (mem_pyTypes b) hab c (mem_pyTypes c) hbc

section Examples
open PyType

private def iv : Value PyType := .scalar ⟨.int, false⟩
private def bv : Value PyType := .scalar ⟨.bool, false⟩
private def nonev : Value PyType := .scalar ⟨.noneType, true⟩
private def fr : Value PyType :=
  .frame ⟨.pandas, 2, [("x", [⟨.int, false⟩, ⟨.noneType, true⟩]), ("y", [⟨.str, false⟩, ⟨.float, true⟩])]⟩
private def Aex : List (String × Spec PyType) :=
  [("a", .atom (.ty .int)), ("d", .frame [("x", .oneOf [.exampleOf .bool, .ty .int]), ("y", .atom (.exampleOf .str))])]

/-- `CallWF` and `G1` hold for `def f(a, b, *, d)` called as `f(1, True, d=frame)` -/
example : CallWF Aex ["a", "b", "d"] 2 [iv, bv] [("d", fr)] ∧ G1 2 [iv, bv] :=
  ⟨⟨by decide +kernel, by decide +kernel, by decide +kernel, by decide +kernel, by decide +kernel⟩, by decide +kernel⟩
example : fr.WF := by decide +kernel
example : checkArgs true (some (normalizeCols Aex)) ["a", "b", "d"] [iv, bv] [("d", fr)] = .ok () := by decide +kernel
-- a None argument is not exempt; a missing declared argument is reported
example : checkArgs true (some (normalizeCols Aex)) ["a", "b", "d"] [nonev, bv] [("d", fr)] = .error .typeError := by
  decide +kernel
example : checkArgs true (some (normalizeCols Aex)) ["a", "b", "d"] [iv, bv] [] = .error .typeError := by decide +kernel
-- null cells are exempt, a non-null cell of a wrong class is not
example : checkSpec (normalize (.frame [("y", .atom (.ty PyType.str))])) fr = none := by decide +kernel
example : checkSpec (normalize (.frame [("y", .atom (.ty PyType.float))])) fr = some (.columns [.badCell "y"]) := by
  decide +kernel
example : ArgViolation Aex ["a", "b", "d"] 2 [iv, bv] [] :=
  ⟨"d", .frame [("x", .oneOf [.exampleOf .bool, .ty .int]), ("y", .atom (.exampleOf .str))], by simp [Aex],
    Or.inl (by decide +kernel)⟩
-- switch off: the hypothesis of C22_switch_off is satisfiable by a function returning a non-conforming value
example : (wrapped (mkSchema (some Aex) (.atom (.ty .str))) ["a"] (fun sw _ _ => ((.ok iv : Except Unit _), sw))
    false [nonev] []).1 = .returned iv := by decide +kernel
example : (wrapped (mkSchema (some Aex) (.atom (.ty .str))) ["a", "b", "d"]
    (fun sw _ _ => ((.ok iv : Except Unit _), sw)) true [iv, bv] [("d", fr)]).1 = .returnError := by decide +kernel
end Examples

end DAVerif.Schema
