import DAVerif.Proofs.SqlReach
import DAVerif.Proofs.SqlAllTrans
import DAVerif.Props.C04merge
import DAVerif.Props.C01joins
/-!
# C01 / C02 / C16 — the SQL translation theorems for every dialect configuration: by dialect, for reachable pipelines, on examples

The theorems themselves stand with their special cases (`Props/C01core.lean`, `Props/C01joins.lean`,
`Props/C04merge.lean`, `Props/C16full.lean`).  Here `C01_translation_sound_all` with the scope `Sql.Good` written out for a
dialect with native RIGHT / FULL joins, for SQLite, and for pipelines the builders produce; and two evaluated pipelines in
which merges meet a join and a labelled `concat_rows`: a join / `UNION ALL` step is never `mergeable`, so an `extend` above
it starts a new step into which further compatible extends are merged; the label step `extend({id: "name"})` that
`concat_rows(id_column=…)` puts on each side by a builder call may be merged into the side's own extend step.
-/
namespace DAVerif
open DAVerif.Sql

/-- **generic dialect** (native RIGHT / FULL joins; PostgreSQL, …), extend merges on or off: all five SQL join types -/
theorem C01_translation_sound_all_generic (Θ : Interp) (ec : EngineCfg) (env : Env) (cfg : SqlCfg)
    (hgen : cfg.emulateRightFull = false) (p : Ops)
    (hf : InFragJ p = true) (hwf : WF p) (hsq : SqlWF p) (hmp : MapsOK p) (hj : JoinWF p) (ht : JoinTypesSql p)
    (hl : LabelSidesPlain p) (he : EnvOK false env p)
    (hA : AggsOrderFree Θ p) (hW : WindowsTotal Θ SemCfg.ref env p) (hS : SqlScope Θ SemCfg.ref env p)
    {q : Near} (h : toNearSql cfg p = .ok q) :
    ∃ T t, semSql Θ ec env q = .ok T ∧ sem Θ SemCfg.ref env p = .ok t ∧ t.cols = p.cols ∧ T.EquivS t :=
  C01_translation_sound_all Θ ec env cfg p (Good.of_generic hgen hf hwf hsq hmp hj ht hl he) hA hW hS h

/-- **SQLite dialect** (`emulateRightFull = true`), extend merges on or off: pipelines whose joins are INNER, LEFT or
CROSS (`JoinsNative`); for RIGHT / FULL joins anywhere in the pipeline see `Props/C16nested.lean`. -/
theorem C01_translation_sound_all_sqlite (Θ : Interp) (ec : EngineCfg) (env : Env) (cfg : SqlCfg)
    (_hemu : cfg.emulateRightFull = true) (p : Ops)
    (hf : InFragJ p = true) (hwf : WF p) (hsq : SqlWF p) (hmp : MapsOK p) (hj : JoinWF p) (ht : JoinTypesSql p)
    (hn : JoinsNative cfg p) (hl : LabelSidesPlain p) (he : EnvOK false env p)
    (hA : AggsOrderFree Θ p) (hW : WindowsTotal Θ SemCfg.ref env p) (hS : SqlScope Θ SemCfg.ref env p)
    {q : Near} (h : toNearSql cfg p = .ok q) :
    ∃ T t, semSql Θ ec env q = .ok T ∧ sem Θ SemCfg.ref env p = .ok t ∧ t.cols = p.cols ∧ T.EquivS t :=
  C01_translation_sound_all Θ ec env cfg p ⟨hf, hwf, hsq, hmp, hj, ht, hn, hl, he⟩ hA hW hS h

/-- **for pipelines built by the builders**: `Reachable p` replaces `WF`, `SqlWF` and `JoinWF` -/
theorem C01_translation_sound_all_reachable (Θ : Interp) (ec : EngineCfg) (env : Env) (cfg : SqlCfg)
    (p : Ops) (hr : Reachable p) (hf : InFragJ p = true) (hmp : MapsOK p)
    (ht : JoinTypesSql p) (hn : JoinsNative cfg p) (hl : LabelSidesPlain p) (he : EnvOK false env p)
    (hA : AggsOrderFree Θ p) (hW : WindowsTotal Θ SemCfg.ref env p) (hS : SqlScope Θ SemCfg.ref env p)
    {q : Near} (h : toNearSql cfg p = .ok q) :
    ∃ T t, semSql Θ ec env q = .ok T ∧ sem Θ SemCfg.ref env p = .ok t ∧ t.cols = p.cols ∧ T.EquivS t :=
  C01_translation_sound_all Θ ec env cfg p
    ⟨hf, C26_reachable_wf hr, C01_reachable_sqlwf hr, hmp, C16_reachable_joinwf hr, ht, hn, hl, he⟩ hA hW hS h

namespace C01AllEx
open C18Ex (Θc)
open C01JEx (envJ tA tB tA2)
open C04Ex (xPlus1 xTimes2 sizeW)

/-- SQLite dialect / generic dialect with `allow_extend_merges = True` (the default of every dialect); SQLite without -/
def cfgST : SqlCfg := ⟨true, true⟩
def cfgGT : SqlCfg := ⟨true, false⟩
def cfgSF : SqlCfg := ⟨false, true⟩

/-- `A.natural_join(B, on=['k'], jointype='left').extend({'w': 'x + 1'}).extend({'z': 'x * 2'})` (two extend nodes) -/
def pJM : Ops :=
  .extend (.extend (.join tA tB ["k"] ["k"] .left) [("w", xPlus1)] [] [] [] false) [("z", xTimes2)] [] [] [] false

/-- with merges: **two** queries – the join, and one SELECT that computes `w` and `z` side by side over it (the
join step is not mergeable: the first extend is a new step, the second is merged into it); without merges: three -/
example : ∃ q, toNearSql cfgST pJM = .ok q ∧ q.names = ["extend_1", "natural_join_0"] ∧
    q.termKeys = some ["k", "x", "y", "w", "z"] := exists_ok_of_eval (by decide +kernel)
example : ∃ q, toNearSql cfgSF pJM = .ok q ∧ q.names = ["extend_2", "extend_1", "natural_join_0"] :=
  exists_ok_of_eval (by decide +kernel)

theorem good_pJM (cfg : SqlCfg) : Good cfg envJ pJM := by
  refine ⟨rfl, by decide +kernel, by decide +kernel, by decide +kernel, by decide +kernel, by decide +kernel, ?_, by decide +kernel, by decide +kernel⟩
  simp [JoinsNative, joinsNativeb, pJM, tA, tB]

example : ∃ q T, toNearSql cfgST pJM = .ok q ∧ semSql Θc EngineCfg.sqlite envJ q = .ok T ∧
    T.rows = [[("k", .num 1), ("x", .num 10), ("y", .num 5), ("w", .num 11), ("z", .num 20)],
      [("k", .null), ("x", .num 20), ("y", .null), ("w", .num 21), ("z", .num 40)],
      [("k", .num 2), ("x", .num 30), ("y", .null), ("w", .num 31), ("z", .num 60)]] :=
  exists_ok_ok_of_eval (by decide +kernel)

example (ec : EngineCfg) (cfg : SqlCfg) {q : Near} (h : toNearSql cfg pJM = .ok q) :
    ∃ T t, semSql Θc ec envJ q = .ok T ∧ sem Θc SemCfg.ref envJ pJM = .ok t ∧ t.cols = pJM.cols ∧ T.EquivS t :=
  C01_translation_sound_all Θc ec envJ cfg pJM (good_pJM cfg) ⟨trivial, trivial⟩
    ⟨⟨⟨trivial, trivial⟩, fun h => by cases h⟩, fun h => by cases h⟩
    ⟨⟨⟨trivial, trivial⟩, fun h => by cases h⟩, fun h => by cases h⟩ h

example (ec : EngineCfg) {q₁ q₂ : Near} (h₁ : toNearSql cfgST pJM = .ok q₁) (h₂ : toNearSql cfgSF pJM = .ok q₂) :
    ∃ T₁ T₂, semSql Θc ec envJ q₁ = .ok T₁ ∧ semSql Θc ec envJ q₂ = .ok T₂ ∧
      (∀ c, c ∈ T₁.cols ↔ c ∈ pJM.cols) ∧ (∀ c, c ∈ T₂.cols ↔ c ∈ pJM.cols) ∧
      T₁.rows.map (fun r => r.select pJM.cols) = T₂.rows.map (fun r => r.select pJM.cols) ∧ SameUpToColOrder T₁ T₂ :=
  C04_merge_option_sound_all Θc ec envJ cfgST pJM (good_pJM cfgST) h₁ h₂

/-- `A.extend({'c': '_.size()'}, partition_by=['k']).concat_rows(A2.extend({'c': '7'}), id_column='src')`.
Left side: a *windowed* extend – the builder keeps the label step `extend({'src': '"a"'})` as a node of its own, the
SQL generator (`cfg.merges`) merges it into the window step.  Right side: a plain extend – the builder merges the
label assignment into the node. -/
def pUM : Ops :=
  .concat (.extend tA [("c", sizeW)] ["k"] [] [] true) (.extend tA2 [("c", .value (.int 7))] [] [] [] false)
    (some "src") "a" "b"

/-- with merges one SELECT per side (`COUNT(1) OVER (PARTITION BY k) AS c, 'a' AS src` in one step); without merges
the left side has two -/
example : ∃ q, toNearSql cfgST pUM = .ok q ∧ q.names = ["concat_rows_2", "extend_0", "extend_1"] :=
  exists_ok_of_eval (by decide +kernel)
example : ∃ q, toNearSql cfgSF pUM = .ok q ∧ q.names = ["concat_rows_3", "extend_1", "extend_0", "extend_2"] :=
  exists_ok_of_eval (by decide +kernel)

example : ∃ nm ts r cs key, toNearSql cfgST pUM = .ok (.union nm ts
      (.unary "extend_0" (some [("k", .pass), ("x", .pass), ("c", .expr sizeW (some ⟨["k"], [], []⟩)),
          ("src", .expr (.value (.str "a")) none)]) false (.table "A" ["k", "x"]) (some ["k", "x"]) .none true
        (some [("k", ["k"]), ("x", ["x"]), ("c", ["k"]), ("src", [])])
        (keyOfNode "extend" (.extend (.extend tA [("c", sizeW)] ["k"] [] [] true) [("src", .value (.str "a"))] [] [] [] false)
          ["k", "x", "c", "src"])) r cs key) := ⟨_, _, _, _, _, rfl⟩

theorem wf_pUM : WF pUM := by decide +kernel

theorem good_pUM (cfg : SqlCfg) : Good cfg envJ pUM := by
  refine ⟨rfl, wf_pUM, by decide +kernel, by decide +kernel, by decide +kernel, by decide +kernel, ?_, by decide +kernel, by decide +kernel⟩
  simp [JoinsNative, joinsNativeb, pUM, tA, tA2]

example : ∃ q T, toNearSql cfgST pUM = .ok q ∧ semSql Θc EngineCfg.sqlite envJ q = .ok T ∧
    T.rows = [[("k", .num 1), ("x", .num 10), ("c", .num 1), ("src", .str "a")],
      [("k", .null), ("x", .num 20), ("c", .num 1), ("src", .str "a")],
      [("k", .num 2), ("x", .num 30), ("c", .num 1), ("src", .str "a")],
      [("k", .num 2), ("x", .num 30), ("c", .num 7), ("src", .str "b")]] :=
  exists_ok_ok_of_eval (by decide +kernel)

example (ec : EngineCfg) (cfg : SqlCfg) {q : Near} (h : toNearSql cfg pUM = .ok q) :
    ∃ T t, semSql Θc ec envJ q = .ok T ∧ sem Θc SemCfg.ref envJ pUM = .ok t ∧ t.cols = pUM.cols ∧ T.EquivS t :=
  C01_translation_sound_all Θc ec envJ cfg pUM (good_pUM cfg) ⟨trivial, trivial⟩
    ⟨⟨trivial, fun _ t _ => Or.inr (fun kv hkv => by
        simp only [List.mem_singleton] at hkv
        subst hkv
        exact C18Ex.size_win_orderFree)⟩, ⟨trivial, fun h => by cases h⟩⟩
    ⟨⟨trivial, fun _ t _ => Or.inl (fun _ _ _ hc => by cases hc)⟩, ⟨trivial, fun h => by cases h⟩⟩ h

example (ec : EngineCfg) (cfg : SqlCfg) {q : Near} (h : toNearSql cfg pUM = .ok q) :
    ∃ T t, semSql Θc ec envJ q = .ok T ∧ sem Θc SemCfg.ref envJ pUM = .ok t ∧ t.cols = pUM.cols ∧ T.EqS t :=
  C01_translation_exact_all Θc ec envJ cfg pUM (good_pUM cfg)
    ⟨⟨trivial, fun _ _ _ _ _ hc => by cases hc⟩, ⟨trivial, fun _ _ _ _ _ hc => by cases hc⟩⟩ h

end C01AllEx

end DAVerif
