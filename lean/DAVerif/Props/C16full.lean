import DAVerif.Proofs.SqlFullTrans
import DAVerif.Props.C01joins
/-!
# C16 — SQLite's emulated FULL join (`_emit_full_join_as_complex`)

SQLite has no FULL JOIN; `SQLiteModel` renders `a.natural_join(b, on=K, jointype='full')` as
`keys = (a.project({}, K) ++ b.project({}, K)).project({}, K);  (keys ⟕ a on K) ⟕ b on K`, built through the user-level
builders and re-translated.  The code asserts `len(on_a) > 0` and `on_a == on_b` (`SqliteFullOK`; otherwise
`AssertionError`, `C16_sqlite_full_scope`).  When no join key of either side is null the SQL returns the rows of the
reference FULL join as a multiset; with null keys every null-key row of either side is replaced by one row holding NULL in
all non-key columns (`GROUP BY` puts the null keys into one group, which then matches nothing; DESIGN §5.5 D19,
`C16_sqlite_full_nullkeys_necessary`; the real library on sqlite3 behaves the same).
-/
namespace DAVerif
open DAVerif.Sql

def SqliteFullOK (onA onB : List String) : Prop := onA ≠ [] ∧ onA = onB

instance (onA onB : List String) : Decidable (SqliteFullOK onA onB) := by unfold SqliteFullOK; exact inferInstance

/-- **C16_sqlite_full_scope.**  Outside `SqliteFullOK` (no keys, or differently named keys) `to_sql` of a FULL join
fails on SQLite with `AssertionError` – at the root and, since the translation is compositional in errors, wherever
the node is reached (`Sql.toNear_sqlite_full_assert`). -/
theorem C16_sqlite_full_scope (cfg : SqlCfg) (hemu : cfg.emulateRightFull = true) (a b : Ops) (onA onB : List String)
    (h : ¬ SqliteFullOK onA onB) : toNearSql cfg (.join a b onA onB .full) = .error .assertionError := by
  have h' : onA = [] ∨ onA ≠ onB := by
    by_cases h1 : onA = []
    · exact Or.inl h1
    · exact Or.inr (fun h2 => h ⟨h1, h2⟩)
  unfold toNearSql
  have hfuel : 6 * (Ops.join a b onA onB .full).size + 6 = (6 * (Ops.join a b onA onB .full).size + 5) + 1 := rfl
  rw [hfuel]
  have := toNear_sqlite_full_assert hemu (6 * (Ops.join a b onA onB .full).size + 5) a b onA onB h' none 0
  simp only [StateT.run, this]
  rfl

/-- **C16_sqlite_full_partial_all** (`C16_sqlite_full_partial` for every dialect configuration: extend merges on or
off).  SQLite, FULL join at the root over two pipelines of the fragment (`Good`: their own joins rendered
natively), **guard: no join key of either side is null**.  If `to_sql` produces `q`, then `q`
evaluates, has exactly the columns of the two sides, and returns the rows of the reference FULL join as a multiset. -/
theorem C16_sqlite_full_partial_all (Θ : Interp) (ec : EngineCfg) (env : Env) (cfg : SqlCfg)
    (hemu : cfg.emulateRightFull = true) (a b : Ops) (onA onB : List String)
    (hga : Good cfg env a) (hgb : Good cfg env b)
    (hna : ∀ ta, semE ec Θ SemCfg.ref env a = .ok ta → NullFreeOn onA ta.rows)
    (hnb : ∀ tb, semE ec Θ SemCfg.ref env b = .ok tb → NullFreeOn onB tb.rows)
    {q : Near} (h : toNearSql cfg (.join a b onA onB .full) = .ok q) :
    SqliteFullOK onA onB ∧
    ∃ T ta tb, semSql Θ ec env q = .ok T ∧ semE ec Θ SemCfg.ref env a = .ok ta ∧ semE ec Θ SemCfg.ref env b = .ok tb ∧
      (∀ c, c ∈ T.cols ↔ c ∈ a.cols ∨ c ∈ b.cols) ∧
      (T.rows.map (fun r => r.select (Ops.join a b onA onB .full).cols)).Perm
        ((semJoin SemCfg.ref .full onA onB ta tb (appendNew a.cols b.cols)).selectCols
          (Ops.join a b onA onB .full).cols).rows := by
  obtain ⟨st', hrun⟩ := toNearSql_ok h
  exact sqlite_full_root hemu a b onA onB hga hgb hna hnb hrun

/-- **C16_sqlite_full_partial.**  SQLite, FULL join over two pipelines of the fragment (`Good`: their own joins rendered
natively), **guard: no join key of either side is null**.  If `to_sql` (no extend merges) produces `q`, then `q`
evaluates, has exactly the columns of the two sides, and returns the rows of the reference FULL join as a multiset. -/
theorem C16_sqlite_full_partial (Θ : Interp) (ec : EngineCfg) (env : Env) (cfg : SqlCfg) (hm : cfg.merges = false)
    (hemu : cfg.emulateRightFull = true) (a b : Ops) (onA onB : List String)
    (hga : Good cfg env a) (hgb : Good cfg env b)
    (hna : ∀ ta, semE ec Θ SemCfg.ref env a = .ok ta → NullFreeOn onA ta.rows)
    (hnb : ∀ tb, semE ec Θ SemCfg.ref env b = .ok tb → NullFreeOn onB tb.rows)
    {q : Near} (h : toNearSql cfg (.join a b onA onB .full) = .ok q) :
    SqliteFullOK onA onB ∧
    ∃ T ta tb, semSql Θ ec env q = .ok T ∧ semE ec Θ SemCfg.ref env a = .ok ta ∧ semE ec Θ SemCfg.ref env b = .ok tb ∧
      (∀ c, c ∈ T.cols ↔ c ∈ a.cols ∨ c ∈ b.cols) ∧
      (T.rows.map (fun r => r.select (Ops.join a b onA onB .full).cols)).Perm
        ((semJoin SemCfg.ref .full onA onB ta tb (appendNew a.cols b.cols)).selectCols
          (Ops.join a b onA onB .full).cols).rows :=
  C16_sqlite_full_partial_all Θ ec env cfg hemu a b onA onB hga hgb hna hnb h

namespace C16FullEx
open C18Ex (Θc)

def cfgS : SqlCfg := ⟨false, true⟩
def a1 : Row := [("k", .null), ("x", .num 1)]
def a2 : Row := [("k", .num 1), ("x", .num 5)]
def b1 : Row := [("k", .num 1), ("y", .num 2)]
def b2 : Row := [("k", .null), ("y", .num 7)]
def envF : Env := [("A", ⟨["k", "x"], [a1, a2]⟩), ("B", ⟨["k", "y"], [b1, b2]⟩)]
def tA : Ops := .table "A" ["k", "x"]
def tB : Ops := .table "B" ["k", "y"]
/-- `A.natural_join(B, on=['k'], jointype='full')` -/
def pF : Ops := .join tA tB ["k"] ["k"] .full

theorem good_tA : Good cfgS envF tA :=
  good_table cfgS rfl (by decide) (by decide) (by decide)

theorem good_tB : Good cfgS envF tB :=
  good_table cfgS rfl (by decide) (by decide) (by decide)

theorem fullSim_ex : fullSim tA tB ["k"] = .ok (fullSimOps tA tB ["k"]) := by
  have h1 : build tA (.project [] ["k"]) = .ok (.project tA [] ["k"]) := rfl
  have h2 : build tB (.project [] ["k"]) = .ok (.project tB [] ["k"]) := rfl
  have h3 : build (.project tA [] ["k"]) (.concat (some (.project tB [] ["k"])) none "a" "b") =
      .ok (.concat (.project tA [] ["k"]) (.project tB [] ["k"]) none "a" "b") := rfl
  have h4 : build (.concat (.project tA [] ["k"]) (.project tB [] ["k"]) none "a" "b") (.project [] ["k"]) =
      .ok (.project (.concat (.project tA [] ["k"]) (.project tB [] ["k"]) none "a" "b") [] ["k"]) := rfl
  have hj : ∀ (p b : Ops), strip p = p → tablesConsistent p.tables b.tables = true →
      subset ["k"] p.cols = true → subset ["k"] b.cols = true →
      build p (.join b ["k"] ["k"] "left" false) = .ok (.join p b ["k"] ["k"] .left) := by
    intro p b hs ht h1 h2
    show joinB p b ["k"] ["k"] "left" false = _
    rw [joinB_eq, hs]
    simp only [mkJoin, ht, h1, h2, parse_left]
    rfl
  have h5 := hj (.project (.concat (.project tA [] ["k"]) (.project tB [] ["k"]) none "a" "b") [] ["k"]) tA rfl
    (by decide) (by decide) (by decide)
  have h6 := hj (.join (.project (.concat (.project tA [] ["k"]) (.project tB [] ["k"]) none "a" "b") [] ["k"]) tA
    ["k"] ["k"] .left) tB rfl (by decide) (by decide) (by decide)
  simp only [fullSim, h1, h2, h3, h4, h5, h6, bind, Except.bind]
  rfl

/-- the emulation on the witness data: two rows, the null-key rows of both sides collapsed into one all-null row
(fuel `23 = 6 * pF.size + 6 - 1`: what `toNearSql` has left for the emulation pipeline below the FULL join node) -/
theorem full_ex_core : ∃ q st' T, toNear cfgS 23 (fullSimOps tA tB ["k"]) (some ["k", "x", "y"]) 0 = .ok (q, st') ∧
    semSql Θc EngineCfg.sqlite envF q = .ok T ∧
    T.rows = [[("k", .num 1), ("x", .num 5), ("y", .num 2)], [("k", .null), ("x", .null), ("y", .null)]] :=
  ⟨_, _, _, rfl, rfl, by decide +kernel⟩

end C16FullEx

open C16FullEx in
/-- **C16_sqlite_full_nullkeys_necessary.**  `A.natural_join(B, on=['k'], jointype='full')` with a null key on each
side: every structural hypothesis of `C16_sqlite_full_partial` holds (`Good` sides, `SqliteFullOK`), the translation
succeeds and the query evaluates – to **two** rows, `(1, 5, 2)` and `(NULL, NULL, NULL)`; the reference FULL join has
the three rows `(NULL, 1, NULL)`, `(1, 5, 2)`, `(NULL, NULL, 7)`.  The null-free guard cannot be dropped (the real
library on sqlite3 returns the same two rows). -/
theorem C16_sqlite_full_nullkeys_necessary :
    Good cfgS envF tA ∧ Good cfgS envF tB ∧ SqliteFullOK ["k"] ["k"] ∧
    ∃ q T t, toNearSql cfgS pF = .ok q ∧ semSql C18Ex.Θc EngineCfg.sqlite envF q = .ok T ∧
      sem C18Ex.Θc SemCfg.ref envF pF = .ok t ∧
      T.rows = [[("k", .num 1), ("x", .num 5), ("y", .num 2)], [("k", .null), ("x", .null), ("y", .null)]] ∧
      t.rows = [[("k", .num 1), ("x", .num 5), ("y", .num 2)], [("k", .null), ("x", .num 1), ("y", .null)],
        [("k", .null), ("x", .null), ("y", .num 7)]] ∧
      ¬ (T.rows.map (fun r => r.select pF.cols)).Perm t.rows := by
  refine ⟨good_tA, good_tB, by decide, ?_⟩
  obtain ⟨q, st', T, h1, h2, h3⟩ := full_ex_core
  refine ⟨q, T, _, ?_, h2, rfl, h3, by decide, ?_⟩
  · have hrun : toNear cfgS (23 + 1) pF none 0 = .ok (q, st') := by
      rw [show pF = .join tA tB ["k"] ["k"] .full from rfl,
        toNear_sqlite_full_of_sim rfl 23 (by decide) fullSim_ex]
      exact h1
    unfold toNearSql
    have hf : 6 * pF.size + 6 = 23 + 1 := rfl
    rw [hf]
    simp only [StateT.run, hrun]
    rfl
  · rw [h3]
    exact fun hp => absurd hp.length_eq (by decide)

namespace C16FullEx
open C18Ex (Θc)

def g1 : Row := [("k", .num 1), ("x", .num 10)]
def g2 : Row := [("k", .num 2), ("x", .num 30)]
def g3 : Row := [("k", .num 1), ("y", .num 5)]
def g4 : Row := [("k", .num 3), ("y", .num 7)]
/-- the same tables without null keys -/
def envG : Env := [("A", ⟨["k", "x"], [g1, g2]⟩), ("B", ⟨["k", "y"], [g3, g4]⟩)]

theorem good_tA' : Good cfgS envG tA :=
  good_table cfgS rfl (by decide) (by decide) (by decide)

theorem good_tB' : Good cfgS envG tB :=
  good_table cfgS rfl (by decide) (by decide) (by decide)

example : ∃ q, toNearSql cfgS pF = .ok q := by
  obtain ⟨_, _, _, q, _, _, h, _⟩ := C16_sqlite_full_nullkeys_necessary
  exact ⟨q, h⟩

example (ec : EngineCfg) {q : Near} (h : toNearSql cfgS pF = .ok q) :
    ∃ T ta tb, semSql Θc ec envG q = .ok T ∧ semE ec Θc SemCfg.ref envG tA = .ok ta ∧
      semE ec Θc SemCfg.ref envG tB = .ok tb ∧ (∀ c, c ∈ T.cols ↔ c ∈ tA.cols ∨ c ∈ tB.cols) ∧
      (T.rows.map (fun r => r.select pF.cols)).Perm
        ((semJoin SemCfg.ref .full ["k"] ["k"] ta tb (appendNew tA.cols tB.cols)).selectCols pF.cols).rows :=
  (C16_sqlite_full_partial Θc ec envG cfgS rfl rfl tA tB ["k"] ["k"] good_tA' good_tB'
    (by
      intro ta hta
      have : semE ec Θc SemCfg.ref envG tA = .ok ⟨["k", "x"], [g1, g2]⟩ := rfl
      rw [this] at hta
      cases hta
      decide)
    (by
      intro tb htb
      have : semE ec Θc SemCfg.ref envG tB = .ok ⟨["k", "y"], [g3, g4]⟩ := rfl
      rw [this] at htb
      cases htb
      decide) h).2

end C16FullEx

end DAVerif
