import DAVerif.Proofs.C07Total
import DAVerif.Props.C06
/-!
# C07  Pipeline composition equals sequential application and is associative

Model: `Ops.replaceLeaves` (`replace_leaves`: every node is rebuilt through its builder on the replaced sources) and
`Ops.actOn` (`self.act_on(b)`, i.e. `b >> self`) in `Ops/Compose.lean`, for /repo after the fixes D1, D2 and 8e6df35 of
DESIGN.md (`ExtendNode.replace_leaves` keeps the windowed situation of a `partition_by=1` step).  Because composition
re-runs the builders, all statements rest on the C06 per-builder lemmas.  The boundary of `act_on` requires equal column
**sets**; the table node selects its declared columns by name, so the order in which the first pipeline lists them does not
matter; the conclusions are up to column order because the composed pipeline may *declare* its columns in another order.
-/
namespace DAVerif

/-- **C07, `replace_leaves` is substitution.**  If `replace_leaves m p` succeeds on a reachable pipeline `p`,
then for every environment `env'` that binds each replaced table `k` of `p` to the result (in `env`) of its
replacement `m k` – a valid pipeline whose columns are, as a set, the columns `p` declares for `k` – and the
other tables as `env` does (`LeafOK`): the rebuilt pipeline evaluates in `env` to the same error, or the same
table up to the order of rows and columns, as `p` in `env'`; under C18's scope conditions for `p` on `env'`. -/
theorem C07_replace_leaves_sem (Θ : Interp) (cfg : SemCfg) (env env' : Env) (hΘ : ConvertOK Θ)
    (hC : ConvertInvariant Θ) {m : List (String × Ops)} {p q : Ops} (hp : Reachable p)
    (hl : ∀ kc ∈ p.tables, LeafOK Θ cfg env m env' kc.1 kc.2) (hA : AggsOrderFree Θ p)
    (hW : WindowsTotal Θ cfg env' p) (h : Ops.replaceLeaves m p = .ok q) :
    ResEquivC (sem Θ cfg env q) (sem Θ cfg env' p) :=
  (replaceLeaves_sem hΘ hC p hp.valid hl hA hW q h).2

/-- **C07, composition is sequential application.**  For reachable `a` and `b` (`key` the table key of `b`): if
`a >> b` (`b.act_on(a)`) succeeds with `c`, then on every environment `c` evaluates to the same error, or the
same table up to the order of rows and columns, as evaluating `a` and then `b` with its table bound to the result
of `a` (when `a` fails, `c` fails with the same error); under C18's scope conditions for `b` on that input.
The boundary check of `act_on` (equal column sets) is part of `actOn` succeeding. -/
theorem C07_compose_sem (Θ : Interp) (cfg : SemCfg) (env : Env) (hΘ : ConvertOK Θ) (hC : ConvertInvariant Θ)
    {a b c : Ops} {key : String} (ha : Reachable a) (hb : Reachable b) (h : Ops.actOn b a = .ok c)
    (hkey : (b.tables.map (·.1)).eraseDups = [key]) (hA : AggsOrderFree Θ b)
    (hW : ∀ ta, sem Θ cfg env a = .ok ta → WindowsTotal Θ cfg ((key, ta) :: env) b) :
    ResEquivC (sem Θ cfg env c) (sem Θ cfg env a >>= fun ta => sem Θ cfg ((key, ta) :: env) b) :=
  compose_sem_valid hΘ hC ha.valid hb.valid h hkey hA hW

/-- **C07, dom / cod.**  The composed pipeline `a >> b` reads exactly the table descriptions of `a` (its `dom`),
declares the columns of `b` up to order (its `cod`), and is again a valid pipeline. -/
theorem C07_dom_cod {a b c : Ops} (ha : Reachable a) (hb : Reachable b) (h : Ops.actOn b a = .ok c) :
    (∀ x, x ∈ c.tables ↔ x ∈ a.tables) ∧ c.cols.Perm b.cols ∧ c.valid = true := by
  obtain ⟨key, oldCols, hkey, hold, h1, h2, hrep⟩ := actOn_inv h
  have hbound := actOn_boundary hb.valid ha.valid hkey hold h1 h2
  obtain ⟨hv, ht, hc, _⟩ := replaceSingle ha.valid b hb.valid hbound c hrep
  exact ⟨ht, hc, hv⟩

/-- **C07, composition is total.**  For reachable `a` and `b`, `b` reading one table key whose declared columns
are, as a set, the columns of `a`: `a >> b` succeeds – no operator kind of `b` (nor any simplification the
builders re-apply) makes the composition raise. -/
theorem C07_compose_total {a b : Ops} {key : String} {oldCols : List String} (ha : Reachable a)
    (hb : Reachable b) (hkey : (b.tables.map (·.1)).eraseDups = [key])
    (hold : lookupLast b.tables key = some oldCols) (hset : ∀ c, c ∈ a.cols ↔ c ∈ oldCols) :
    ∃ c, Ops.actOn b a = .ok c :=
  actOn_total ha.valid hb.valid hkey hold hset

theorem actOn_key {a b c : Ops} {ka : String} (ha : a.valid = true) (hb : b.valid = true)
    (h : Ops.actOn b a = .ok c) (hka : (a.tables.map (·.1)).eraseDups = [ka]) :
    (c.tables.map (·.1)).eraseDups = [ka] ∧ c.valid = true := by
  obtain ⟨key, oldCols, hkey, hold, h1, h2, hrep⟩ := actOn_inv h
  have hbound := actOn_boundary hb ha hkey hold h1 h2
  obtain ⟨hv, ht, _, _⟩ := replaceSingle ha b hb hbound c hrep
  refine ⟨eraseDups_eq_singleton (fun e => tables_ne_nil c (List.map_eq_nil_iff.mp e)) (fun k hk => ?_), hv⟩
  -- the table descriptions of `c` are those of `a`
  obtain ⟨x, hx, rfl⟩ := List.mem_map.mp hk
  exact eq_of_eraseDups_singleton hka (List.mem_map.mpr ⟨x, (ht x).mp hx, rfl⟩)

/-- **C07, composition is associative (semantically).**  For reachable `a`, `b`, `c` with table keys `kb`, `kc`
of `b`, `c`: if both ways of composing succeed, `(a >> b) >> c` and `a >> (b >> c)` evaluate on every
environment to the same error, or the same table up to the order of rows and columns – the aggregates of `b`,
`c`, `b >> c` being order free and these three pipelines being in C18's scope on every environment (e.g. no
windowed `extend` with ties, no limit through a tie). -/
theorem C07_assoc_sem (Θ : Interp) (cfg : SemCfg) (env : Env) (hΘ : ConvertOK Θ) (hC : ConvertInvariant Θ)
    {a b c ab bc l r : Ops} {kb kc : String} (ha : Reachable a) (hb : Reachable b)
    (hc : Reachable c) (hkb : (b.tables.map (·.1)).eraseDups = [kb])
    (hkc : (c.tables.map (·.1)).eraseDups = [kc])
    (hab : Ops.actOn b a = .ok ab) (hl : Ops.actOn c ab = .ok l)
    (hbc : Ops.actOn c b = .ok bc) (hr : Ops.actOn bc a = .ok r)
    (hAb : AggsOrderFree Θ b) (hAc : AggsOrderFree Θ c) (hAbc : AggsOrderFree Θ bc)
    (hWb : ∀ e, WindowsTotal Θ cfg e b) (hWc : ∀ e, WindowsTotal Θ cfg e c)
    (hWbc : ∀ e, WindowsTotal Θ cfg e bc) :
    ResEquivC (sem Θ cfg env l) (sem Θ cfg env r) := by
  have hav := ha.valid
  have hbv := hb.valid
  have hcv := hc.valid
  have habv : ab.valid = true := (C07_dom_cod ha hb hab).2.2
  obtain ⟨hkbc, hbcv⟩ := actOn_key hbv hcv hbc hkb
  -- left: (a >> b) >> c
  have L1 := compose_sem_valid (Θ := Θ) (cfg := cfg) (env := env) hΘ hC habv hcv hl hkc hAc
    (fun _ _ => hWc _)
  have L2 := compose_sem_valid (Θ := Θ) (cfg := cfg) (env := env) hΘ hC hav hbv hab hkb hAb
    (fun _ _ => hWb _)
  have hck : ∀ k ∈ c.tables.map (·.1), k = kc := fun k => eq_of_eraseDups_singleton hkc
  have Lc : ResEquivC (sem Θ cfg env ab >>= fun t => sem Θ cfg ((kc, t) :: env) c)
      ((sem Θ cfg env a >>= fun ta => sem Θ cfg ((kb, ta) :: env) b) >>= fun t =>
        sem Θ cfg ((kc, t) :: env) c) := by
    apply ResEquivC.bind L2
    intro t t' _ _ htt
    refine sem_congrC hΘ hC c hcv ?_ hAc (hWc _)
    intro k hk
    rw [hck k hk]
    exact Or.inr ⟨t, t', List.lookup_cons_self, List.lookup_cons_self, htt⟩
  -- right: a >> (b >> c)
  have R1 := compose_sem_valid (Θ := Θ) (cfg := cfg) (env := env) hΘ hC hav hbcv hr hkbc hAbc
    (fun _ _ => hWbc _)
  have Rc : ResEquivC (sem Θ cfg env a >>= fun ta => sem Θ cfg ((kb, ta) :: env) bc)
      (sem Θ cfg env a >>= fun ta => sem Θ cfg ((kb, ta) :: env) b >>= fun t =>
        sem Θ cfg ((kc, t) :: env) c) := by
    apply ResEquivC.bind (ResEquivC.of_eq rfl (fun t ht => sem_wf_nodup hΘ hav ht))
    intro ta ta' hta hta' _
    rw [hta] at hta'; cases hta'
    have R2 := compose_sem_valid (Θ := Θ) (cfg := cfg) (env := (kb, ta) :: env) hΘ hC hbv hcv hbc hkc hAc
      (fun _ _ => hWc _)
    refine R2.trans (ResEquivC.of_eq ?_ ?_)
    · apply except_bind_congr
      intro tb _
      apply sem_env_congr
      intro k hk
      rw [hck k hk, List.lookup_cons_self, List.lookup_cons_self]
    · intro t ht
      obtain ⟨tb, htb, hsem⟩ := bind_eq_ok.mp ht
      exact sem_wf_nodup hΘ hcv hsem
  rw [bind_assoc] at Lc
  exact (L1.trans Lc).trans (R1.trans Rc).symm

/-- the same with every aggregate order free (`AggPermInvariant`) -/
theorem C07_assoc_sem_perm (Θ : Interp) (cfg : SemCfg) (env : Env) (hΘ : ConvertOK Θ) (hC : ConvertInvariant Θ)
    (hAgg : AggPermInvariant Θ) {a b c ab bc l r : Ops} {kb kc : String} (ha : Reachable a) (hb : Reachable b)
    (hc : Reachable c) (hkb : (b.tables.map (·.1)).eraseDups = [kb])
    (hkc : (c.tables.map (·.1)).eraseDups = [kc])
    (hab : Ops.actOn b a = .ok ab) (hl : Ops.actOn c ab = .ok l)
    (hbc : Ops.actOn c b = .ok bc) (hr : Ops.actOn bc a = .ok r)
    (hWb : ∀ e, WindowsTotal Θ cfg e b) (hWc : ∀ e, WindowsTotal Θ cfg e c)
    (hWbc : ∀ e, WindowsTotal Θ cfg e bc) :
    ResEquivC (sem Θ cfg env l) (sem Θ cfg env r) :=
  C07_assoc_sem Θ cfg env hΘ hC ha hb hc hkb hkc hab hl hbc hr (aggsOrderFree_of_permInvariant hAgg b)
    (aggsOrderFree_of_permInvariant hAgg c) (aggsOrderFree_of_permInvariant hAgg bc) hWb hWc hWbc

namespace C07Ex
open C06Ex

def T : Ops := .table "T" ["w"]
def M : Ops := .table "M" ["w", "x"]
def N : Ops := .table "N" ["w", "x", "y"]
/-- `T.extend({'x': 'w'})` -/
def a : Ops := .extend T [("x", .col "w")] [] [] [] false
/-- `M.extend({'y': 'x'})` -/
def b : Ops := .extend M [("y", .col "x")] [] [] [] false
/-- `N.extend({'y': 'w'})` -/
def c : Ops := .extend N [("y", .col "w")] [] [] [] false

theorem a_reach : Reachable a :=
  Reachable.of_calls "T" ["w"] [.extend [("x", .col "w")] .none [] []] (by decide) (by decide) rfl rfl
theorem b_reach : Reachable b :=
  Reachable.of_calls "M" ["w", "x"] [.extend [("y", .col "x")] .none [] []] (by decide) (by decide) rfl rfl
theorem c_reach : Reachable c :=
  Reachable.of_calls "N" ["w", "x", "y"] [.extend [("y", .col "w")] .none [] []] (by decide) (by decide) rfl rfl

/-- `a >> b` keeps two `extend` nodes: `b`'s `y := x` reads the `x` that `a`'s node assigns -/
theorem ab_eq : Ops.actOn b a = .ok (Ops.extend (Ops.extend T [("x", .col "w")] [] [] [] false)
    [("y", .col "x")] [] [] [] false) := by rfl

/-- `(a >> b) >> c`: `c`'s `y := w` merges with `b`'s node, replacing its `y := x`; the merged node is not merged
further into `a`'s node -/
theorem ab_c_eq : Ops.actOn c (Ops.extend (Ops.extend T [("x", .col "w")] [] [] [] false)
      [("y", .col "x")] [] [] [] false) =
    .ok (.extend (.extend T [("x", .col "w")] [] [] [] false) [("y", .col "w")] [] [] [] false) := by rfl

theorem bc_eq : Ops.actOn c b = .ok (.extend M [("y", .col "w")] [] [] [] false) := by rfl

/-- `a >> (b >> c)` is one merged node -/
theorem a_bc_eq : Ops.actOn (.extend M [("y", .col "w")] [] [] [] false) a =
    .ok (.extend T [("x", .col "w"), ("y", .col "w")] [] [] [] false) := by rfl

def env : Env := [("T", ⟨["w"], [[("w", .num 1)], [("w", .num 2)]]⟩)]

example : ResEquivC (sem Θc .pandas env (Ops.extend (Ops.extend T [("x", .col "w")] [] [] [] false)
      [("y", .col "x")] [] [] [] false))
    (sem Θc .pandas env a >>= fun ta => sem Θc .pandas (("M", ta) :: env) b) :=
  C07_compose_sem Θc .pandas env convertOK convertInv a_reach b_reach ab_eq (by decide) trivial
    (fun _ _ => ⟨trivial, fun h => by cases h⟩)

example : ∃ t, (sem Θc .pandas env a >>= fun ta => sem Θc .pandas (("M", ta) :: env) b) = .ok t ∧
    t.cols = ["w", "x", "y"] ∧ t.rows.length = 2 := ⟨_, rfl, by decide, by decide⟩

example : ∃ c, Ops.actOn b a = .ok c :=
  C07_compose_total (key := "M") (oldCols := ["w", "x"]) a_reach b_reach (by decide) (by decide)
    (fun c => by
      show c ∈ ["w", "x"] ↔ c ∈ ["w", "x"]
      exact Iff.rfl)

/-- semantic associativity applies to the triple whose two groupings differ structurally
(`C07_assoc_not_structural` below) -/
example : ResEquivC
    (sem Θc .pandas env (Ops.extend (Ops.extend T [("x", .col "w")] [] [] [] false)
      [("y", .col "w")] [] [] [] false))
    (sem Θc .pandas env (Ops.extend T [("x", .col "w"), ("y", .col "w")] [] [] [] false)) :=
  C07_assoc_sem Θc .pandas env convertOK convertInv (kb := "M") (kc := "N") a_reach b_reach c_reach
    (by decide) (by decide) ab_eq ab_c_eq bc_eq a_bc_eq
    trivial trivial trivial (fun _ => ⟨trivial, fun h => by cases h⟩) (fun _ => ⟨trivial, fun h => by cases h⟩)
    (fun _ => ⟨trivial, fun h => by cases h⟩)

end C07Ex

open C07Ex in
/-- **Composition is not associative structurally.**  `(a >> b) >> c` and `a >> (b >> c)` can be different
trees (here: two `extend` nodes against one merged node), because `try_to_merge_ops` is not associative: `b`'s
`y := x` cannot merge with `a`'s `x := w`, but once `c`'s `y := w` has replaced it, it can.  `==` (`eqOps`) tells
them apart as well; their results agree (`C07_assoc_sem`).  The real library does the same. -/
theorem C07_assoc_not_structural :
    ¬ ∀ (a b c ab bc l r : Ops), Reachable a → Reachable b → Reachable c → Ops.actOn b a = .ok ab →
        Ops.actOn c ab = .ok l → Ops.actOn c b = .ok bc → Ops.actOn bc a = .ok r → Ops.eqOps l r = true := by
  intro h
  exact absurd (h a b c _ _ _ _ a_reach b_reach c_reach ab_eq ab_c_eq bc_eq a_bc_eq) (by decide)

end DAVerif
