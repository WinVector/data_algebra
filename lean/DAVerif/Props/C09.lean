import DAVerif.Proofs.RefSem
import DAVerif.Proofs.BuilderBasics
import DAVerif.Sem.Theta
/-!
# C09  Aggregation returns one row per group, and one row without grouping  (executor model)

Specification side (`Spec/Ref.lean`): `Ref.keyTuple group r` – the cells of a row in the group columns, a null
cell being a value like any other – and `Ref.distinctKeys group rows` – how many different key tuples occur
(`C09_distinctKeys_card`: the size of *any* duplicate-free enumeration of the key tuples).  For windows:
`Ref.windowOf` / `Ref.windowRef` (the partition of a row = the rows that agree with it on every partition
column, null agreeing with null).  No hypothesis on `Θ`.  (The model is of /repo after the fixes D13/D13b:
`groupby(..., dropna=False)`.)  The SQL-side theorems are in `Props/C01core.lean`.
-/
namespace DAVerif
open RefSem

/-- `distinctKeys` is the number of different key tuples: the length of **any** duplicate-free list that
enumerates exactly the key tuples occurring among the rows -/
theorem C09_distinctKeys_card (group : List String) (rows : List Row) (ks : List (List Val)) (hn : ks.Nodup)
    (hk : ∀ k, k ∈ ks ↔ ∃ r ∈ rows, Ref.keyTuple group r = k) : ks.length = Ref.distinctKeys group rows := by
  have : ks.Perm ((rows.map (Ref.keyTuple group)).eraseDups) :=
    (List.perm_ext_iff_of_nodup hn (nodup_eraseDups _)).mpr (fun k => by
      rw [hk k, List.mem_eraseDups, List.mem_map])
  exact this.length_eq

/-- **C09, one row per group.**  A `project` with a non-empty `group_by` returns exactly as many rows as there
are different combinations of group-key values in its input; a null key value is a value like any other, so the
rows whose key is (or contains) null form groups of their own. -/
theorem C09_project_groups {Θ : Interp} {cfg : SemCfg} {env : Env} {q : Ops} {ops : Assign} {g : List String}
    {t tq : Table} (h : sem Θ cfg env (.project q ops g) = .ok t) (hq : sem Θ cfg env q = .ok tq)
    (hg : g ≠ []) : t.rows.length = Ref.distinctKeys g tq.rows := by
  cases sem_project_eq h hq
  have : g.isEmpty = false := by cases g <;> first | rfl | exact absurd rfl hg
  simp only [semProject, this, Bool.false_eq_true, if_false, List.length_map, Ref.distinctKeys]
  rfl

/-- **C09, one row without grouping.**  A `project` without `group_by` returns exactly one row – whatever its
input, in particular when the input has no rows, and whatever happens to its outputs later. -/
theorem C09_project_ungrouped {Θ : Interp} {cfg : SemCfg} {env : Env} {q : Ops} {ops : Assign} {t : Table}
    (h : sem Θ cfg env (.project q ops []) = .ok t) : t.rows.length = 1 := by
  obtain ⟨tq, _, h⟩ := bind_eq_ok.mp h
  cases h
  rfl

/-- **C09, the rows are the groups.**  With a non-empty `group_by`: every output row carries the key values of
some input row, every input row's key values are carried by some output row, and no two output rows carry the
same key values (the group columns are a key of the result). -/
theorem C09_project_keys {Θ : Interp} {cfg : SemCfg} {env : Env} {q : Ops} {ops : Assign} {g : List String}
    {t tq : Table} (h : sem Θ cfg env (.project q ops g) = .ok t) (hq : sem Θ cfg env q = .ok tq)
    (hg : g ≠ []) :
    (∀ r ∈ t.rows, ∃ r0 ∈ tq.rows, Ref.keyTuple g r = Ref.keyTuple g r0) ∧
    (∀ r0 ∈ tq.rows, ∃ r ∈ t.rows, Ref.keyTuple g r = Ref.keyTuple g r0) ∧
    t.rows.Pairwise (fun a b => Ref.keyTuple g a ≠ Ref.keyTuple g b) := by
  cases sem_project_eq h hq
  have hsub : ∀ c ∈ g, c ∈ (Ops.project q ops g).cols := fun c hc => mem_appendNew_left _ _ hc
  refine ⟨fun r hr => ?_, fun r0 hr0 => ⟨_, (mem_semProject_rows hg).mpr ⟨r0, hr0, rfl⟩, keyOf_projectRow hsub r0 _⟩,
    semProject_isKey Θ ops g tq _ hsub⟩
  obtain ⟨r0, hr0, rfl⟩ := (mem_semProject_rows hg).mp hr
  exact ⟨r0, hr0, keyOf_projectRow hsub r0 _⟩

/-- **C09, aggregate values.**  The output row of a group carries, in each aggregate column, the aggregate
`Θ.agg` of the argument values of exactly the input rows with that group's key (in input order); assignment
targets being pairwise different and different from the group columns, as the builder checks. -/
theorem C09_project_value {Θ : Interp} {cfg : SemCfg} {env : Env} {q : Ops} {ops : Assign} {g : List String}
    {t tq : Table} (h : sem Θ cfg env (.project q ops g) = .ok t) (hq : sem Θ cfg env q = .ok tq)
    (hg : g ≠ []) (hn : (ops.map (·.1)).Nodup) (hd : ∀ kv ∈ ops, kv.1 ∉ g) :
    ∀ r ∈ t.rows, ∀ kv ∈ ops, r.get kv.1 = Θ.agg (opName kv.2)
      ((tq.rows.filter (fun r0 => Ref.keyTuple g r0 == Ref.keyTuple g r)).map (Ref.callArg kv.2)) := by
  cases sem_project_eq h hq
  intro r hr kv hkv
  obtain ⟨r0, hr0, rfl⟩ := (mem_semProject_rows hg).mp hr
  have hsub : ∀ c ∈ g, c ∈ (Ops.project q ops g).cols := fun c hc => mem_appendNew_left _ _ hc
  have hmem : kv.1 ∈ (Ops.project q ops g).cols := mem_appendNew.mpr (Or.inr (List.mem_map_of_mem hkv))
  have hnk : kv.1 ∉ Row.keys (g.zip (keyOf r0 g)) := (Row.keys_zip_map g r0.get).symm ▸ hd kv hkv
  simp only [keyTuple_eq_keyOf, keyOf_projectRow hsub]
  rw [Row.select_get_of_mem hmem, Row.get_append, if_neg hnk,
    Row.get_of_mem_nodup (by rw [Row.keys, List.map_map]; exact hn) (List.mem_map.mpr ⟨kv, hkv, rfl⟩),
    argValues_eq_map]
  rfl

/-- **C09, a windowed extend keeps every row.**  The result has as many rows as the input, in the same order,
and each output row agrees with its input row on every column that is not an assignment target. -/
theorem C09_window_rows {Θ : Interp} {cfg : SemCfg} {env : Env} {q : Ops} {ops : Assign}
    {part od rv : List String} {t tq : Table} (h : sem Θ cfg env (.extend q ops part od rv true) = .ok t)
    (hq : sem Θ cfg env q = .ok tq) :
    t.rows.length = tq.rows.length ∧
    ∀ i < tq.rows.length, ∀ c ∈ q.cols, c ∉ ops.map (·.1) →
      (t.rows.getD i []).get c = (tq.rows.getD i []).get c := by
  cases sem_extend_window_eq h hq
  refine ⟨length_semExtendWindow .., ?_⟩
  intro i hi c hc hnot
  have hmem : c ∈ (Ops.extend q ops part od rv true).cols := mem_appendNew_left _ _ hc
  rw [← Sql.semExtendWindowG_rowLe, Sol21Sql.Cmp.getD_semExtendWindowG rowLe Θ ops part od rv tq _ hi,
    Row.select_get_of_mem hmem, Row.get_setAll_of_not_mem]
  simpa [List.map_map, Function.comp_def] using hnot

/-- **C09, each row's value is computed over that row's group.**  In the result of a windowed extend, the cell
of row `i` in an assigned column is the window function applied to the argument values of the rows of *its
partition* – the rows that agree with row `i` on every partition column, a null key value agreeing with a null
key value (so the rows whose key is null are a partition like any other) – in window order, and to the row's
position in that order (`Ref.windowRef`, `mem_windowOf`).  Assignment targets pairwise different, as the
builder checks. -/
theorem C09_window_value {Θ : Interp} {cfg : SemCfg} {env : Env} {q : Ops} {ops : Assign}
    {part od rv : List String} {t tq : Table} (h : sem Θ cfg env (.extend q ops part od rv true) = .ok t)
    (hq : sem Θ cfg env q = .ok tq) (hn : (ops.map (·.1)).Nodup) :
    ∀ i < tq.rows.length, ∀ kv ∈ ops,
      (t.rows.getD i []).get kv.1 =
        Ref.windowRef Θ (opName kv.2) (constArgs kv.2) (Ref.callArg kv.2) part od rv tq.rows i ∧
      (∀ j, j ∈ Ref.windowOf part od rv tq.rows i ↔
        j < tq.rows.length ∧ ∀ c ∈ part, (tq.rows.getD j []).get c = (tq.rows.getD i []).get c) := by
  cases sem_extend_window_eq h hq
  intro i hi kv hkv
  refine ⟨?_, fun j => mem_windowOf⟩
  exact semExtendWindow_get_ref Θ part od rv tq hn hi hkv
    (mem_appendNew.mpr (Or.inr (List.mem_map_of_mem hkv)))

namespace C09Ex

def Θc : Interp := Theta.concrete (fun _ t => .ok t)

/-- `g = a, null, a, null`, `x = 1, 2, 3, 4` (the witness of finding D13) -/
def rows : List Row :=
  [[("g", .str "a"), ("x", .num 1)], [("g", .null), ("x", .num 2)],
   [("g", .str "a"), ("x", .num 3)], [("g", .null), ("x", .num 4)]]
def env : Env := [("d", ⟨["g", "x"], rows⟩)]
def envEmpty : Env := [("d", ⟨["g", "x"], []⟩)]
def d : Ops := .table "d" ["g", "x"]

example : Ref.distinctKeys ["g"] rows = 2 := by decide

example (cfg : SemCfg) : ∃ t,
    sem Θc cfg env (.project d [("s", .app "sum" [.col "x"] false true)] ["g"]) = .ok t ∧
    t = ⟨["g", "s"], [[("g", .str "a"), ("s", .num 4)], [("g", .null), ("s", .num 6)]]⟩ :=
  ⟨_, rfl, by decide +kernel⟩

/-- an ungrouped project of an empty input, whose output is then overwritten: one row -/
example (cfg : SemCfg) : ∃ t,
    sem Θc cfg envEmpty (.extend (.project d [("s", .app "sum" [.col "x"] false true)] [])
      [("s", .value (.int 1))] [] [] [] false) = .ok t ∧ t = ⟨["s"], [[("s", .num 1)]]⟩ :=
  ⟨_, rfl, by decide +kernel⟩

/-- the window of row 1 (key null) is the partition of the two null-key rows -/
example : Ref.windowOf ["g"] [] [] rows 1 = [1, 3] := by
  rw [windowOf_unordered]; decide

def p : Ops := .project d [("s", .app "sum" [.col "x"] false true)] ["g"]
def w : Ops := .extend d [("s", .app "sum" [.col "x"] false true)] ["g"] [] [] true

example (cfg : SemCfg) : ∃ t, sem Θc cfg env p = .ok t ∧ t.rows.length = Ref.distinctKeys ["g"] rows :=
  ⟨_, rfl, C09_project_groups (cfg := cfg) (env := env) (q := d) (tq := ⟨["g", "x"], rows⟩) rfl rfl (by decide)⟩

example (cfg : SemCfg) : ∃ t, sem Θc cfg env w = .ok t ∧ t.rows.length = 4 ∧
    ∀ i < 4, (t.rows.getD i []).get "s" =
      Ref.windowRef Θc "sum" [] (Ref.callArg (.app "sum" [.col "x"] false true)) ["g"] [] [] rows i :=
  ⟨_, rfl,
   (C09_window_rows (cfg := cfg) (env := env) (q := d) (tq := ⟨["g", "x"], rows⟩) rfl rfl).1,
   fun i hi => (C09_window_value (cfg := cfg) (env := env) (q := d) (tq := ⟨["g", "x"], rows⟩) rfl rfl (by decide) i hi
     ("s", .app "sum" [.col "x"] false true) (by simp)).1⟩

end C09Ex
end DAVerif
