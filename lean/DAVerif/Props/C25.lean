import DAVerif.Proofs.EvalCache
/-!
# C25 — The evaluation result cache is transparent

> For every sequence of stores and lookups, a lookup succeeds only for a key built from the same dialect,
> SQL text and equal data tables as a stored entry, and it returns a copy equal to the stored result.
> Changing the returned copy never changes the cache.  Data maps that differ in any value, column name,
> shape or row order never share a key.

Model: `Space/EvalCache.lean`; lemmas about it: `Proofs/EvalCache.lean`.

Assumption (NOT a theorem, it is a hypothesis of every statement that mentions digests): SHA-256 over
`pandas.util.hash_pandas_object` is collision-free on what it is fed – `hsha` / `hinj` below.
-/
namespace DAVerif.EvalCache

/-- **key_encoding_injective.** The text `f"{d.shape}_{list(d.columns)}_{hash_str}"` determines the shape,
the list of column names and the digest – for *all* column names (underscores, quotes, commas, brackets,
backslashes, control and non-printable characters; `np` is any "not printable" predicate) and all digest
strings.  So two frames get the same `hash_data_frame` text only if all three components agree. -/
theorem key_encoding_injective (np : Char → Bool) (r c r' c' : Nat) (names names' : List Str)
    (dg dg' : Str) (h : hashDataFrame np r c names dg = hashDataFrame np r' c' names' dg') :
    r = r' ∧ c = c' ∧ names = names' ∧ dg = dg' := by
  unfold hashDataFrame at h
  obtain ⟨hr, hc, h⟩ := renderShape_unique r c r' c' _ _ h
  simp only [List.cons.injEq, true_and] at h
  obtain ⟨hn, h⟩ := pyReprList_unique np names names' _ _ h
  simp only [List.cons.injEq, true_and] at h
  exact ⟨hr, hc, hn, h⟩

/-! ## Keys and data maps, for abstract frames

Specification side: a data map is a finite map from table names to frames; two data maps are *related by
`E`* when they bind the same names and the frames bound to each name are `E`-related. -/

def MapsRel {F : Type} (E : F → F → Prop) (m1 m2 : List (Str × F)) : Prop :=
  ∀ name, match m1.lookup name, m2.lookup name with
    | some a, some b => E a b
    | none, none => True
    | _, _ => False

/-- what the code can observe of a frame when hashing it: `d.shape`, `list(d.columns)`, the hex digest -/
structure FrameObs (F : Type) where
  shape : F → Nat × Nat
  names : F → List Str
  digest : F → Str

/-- `hash_data_frame` on an abstract frame -/
def hashOf {F : Type} (np : Char → Bool) (o : FrameObs F) (d : F) : Str :=
  hashDataFrame np (o.shape d).1 (o.shape d).2 (o.names d) (o.digest d)

/-- **C25_key_sound** (the direction the property claims). If the digest separates frames that are not
`E`-equal (hypothesis `hinj`: the collision-freeness assumption, for frames with the same shape and labels),
then equal cache keys mean: same dialect name, same SQL text, and `E`-equal data maps. -/
theorem C25_key_sound {F : Type} (np : Char → Bool) (o : FrameObs F) (E : F → F → Prop)
    (hinj : ∀ a b, o.shape a = o.shape b → o.names a = o.names b → o.digest a = o.digest b → E a b)
    (d1 s1 d2 s2 : Str) (m1 m2 : List (Str × F))
    (h : makeKey (hashOf np o) d1 s1 m1 = makeKey (hashOf np o) d2 s2 m2) :
    d1 = d2 ∧ s1 = s2 ∧ MapsRel E m1 m2 := by
  obtain ⟨hd, hs, hl⟩ := makeKey_sound _ d1 s1 d2 s2 m1 m2 h
  refine ⟨hd, hs, fun name => ?_⟩
  have := hl name
  cases h1 : m1.lookup name <;> cases h2 : m2.lookup name <;> simp only [h1, h2, Option.map] at this ⊢
  · cases this
  · cases this
  · rename_i a b
    simp only [Option.some.injEq] at this
    obtain ⟨hr, hc, hn, hdg⟩ := key_encoding_injective np _ _ _ _ _ _ _ _ this
    exact hinj a b (Prod.ext hr hc) hn hdg

/-- **C25_key_iff.** With a digest that is injective up to `E` (`hinj`) and respects `E` (`hresp`), and data
maps that are dicts (no repeated name): two calls build the same key **iff** dialect, SQL and data maps agree. -/
theorem C25_key_iff {F : Type} (np : Char → Bool) (o : FrameObs F) (E : F → F → Prop)
    (hinj : ∀ a b, o.shape a = o.shape b → o.names a = o.names b → o.digest a = o.digest b → E a b)
    (hresp : ∀ a b, E a b → o.shape a = o.shape b ∧ o.names a = o.names b ∧ o.digest a = o.digest b)
    (d1 s1 d2 s2 : Str) (m1 m2 : List (Str × F))
    (n1 : (m1.map Prod.fst).Nodup) (n2 : (m2.map Prod.fst).Nodup) :
    makeKey (hashOf np o) d1 s1 m1 = makeKey (hashOf np o) d2 s2 m2 ↔
      d1 = d2 ∧ s1 = s2 ∧ MapsRel E m1 m2 := by
  constructor
  · exact C25_key_sound np o E hinj d1 s1 d2 s2 m1 m2
  · rintro ⟨rfl, rfl, hm⟩
    apply makeKey_complete _ _ _ _ _ n1 n2
    intro name
    have := hm name
    cases h1 : m1.lookup name with
    | none =>
      cases h2 : m2.lookup name with
      | none => rfl
      | some b => simp [h1, h2] at this
    | some a =>
      cases h2 : m2.lookup name with
      | none => simp [h1, h2] at this
      | some b =>
        simp only [h1, h2] at this
        obtain ⟨hs, hn, hdg⟩ := hresp a b this
        simp [hashOf, hs, hn, hdg]

/-! ## Keys and data maps, for concrete frames: what the real hash distinguishes

`hview` (model file) is what `hash_pandas_object` feeds into the digest.  The collision-freeness assumption
is `hsha : sha` injective on hash views.

Full-strength statement (what the property's last sentence asks for) – **false for the unchanged code**:

    ∀ sha injective, ∀ well-formed a b,  hashFrame np sha a = hashFrame np sha b → a = b

It fails in two ways, each confirmed on the real `hash_data_frame`:
* `G_C25_same_dtypes`: the dtype is not hashed – the int64 column `[1]` and the float64 column `[5e-324]`
  (bit pattern 1) share a key;
* `G_C25_obj_plain`: non-string cells of object columns are hashed as `str(cell)` – the object columns
  `[-1]` and `['-1']` share a key.
`C25_frame_key_partial` is the statement under these two guards; `C25_Gdtype_necessary` and
`C25_Gobj_necessary` show that neither guard can be dropped. -/

/-- **C25_frame_hash_partial.** Under the guards (same dtypes, no non-string object cells), for well-formed
frames and a collision-free digest: equal `hash_data_frame` strings mean *identical* frames – same shape,
column names, index, dtypes and every cell (so frames that differ in any value, column name, shape or row
order never share a hash). -/
theorem C25_frame_hash_partial (np : Char → Bool) (sha : List (List Atom) → Str)
    (hsha : ∀ x y, sha x = sha y → x = y) (a b : Frame)
    (wa : a.wf = true) (wb : b.wf = true) (pa : a.objPlain = true) (pb : b.objPlain = true)
    (hd : sameDtypes a b = true) (h : hashFrame np sha a = hashFrame np sha b) : a = b := by
  obtain ⟨hr, hc, hn, hdg⟩ := key_encoding_injective np _ _ _ _ _ _ _ _ h
  exact frame_eq_of_hview wa wb pa pb hd (Prod.ext hr hc) hn (hsha _ _ hdg)

def AllFrames (P : Frame → Prop) (m : List (Str × Frame)) : Prop := ∀ p ∈ m, P p.2

/-- **C25_frame_key_partial.** For data maps of well-formed frames inside the two guards: two calls build the
same cache key **iff** they name the same dialect, the same SQL text and bind every table name to the
identical frame. -/
theorem C25_frame_key_partial (np : Char → Bool) (sha : List (List Atom) → Str)
    (hsha : ∀ x y, sha x = sha y → x = y) (d1 s1 d2 s2 : Str) (m1 m2 : List (Str × Frame))
    (n1 : (m1.map Prod.fst).Nodup) (n2 : (m2.map Prod.fst).Nodup)
    (w1 : AllFrames (fun d => d.wf = true ∧ d.objPlain = true) m1)
    (w2 : AllFrames (fun d => d.wf = true ∧ d.objPlain = true) m2)
    (hd : ∀ name a b, m1.lookup name = some a → m2.lookup name = some b → sameDtypes a b = true) :
    makeKey (hashFrame np sha) d1 s1 m1 = makeKey (hashFrame np sha) d2 s2 m2 ↔
      d1 = d2 ∧ s1 = s2 ∧ ∀ name, m1.lookup name = m2.lookup name := by
  have mem_of_lookup : ∀ (m : List (Str × Frame)) (name : Str) (a : Frame), m.lookup name = some a →
      (name, a) ∈ m := fun m name a h => by
    obtain ⟨l₁, l₂, rfl, _⟩ := List.lookup_eq_some_iff.1 h
    simp
  constructor
  · intro h
    obtain ⟨hdl, hs, hl⟩ := makeKey_sound _ d1 s1 d2 s2 m1 m2 h
    refine ⟨hdl, hs, fun name => ?_⟩
    have := hl name
    cases h1 : m1.lookup name <;> cases h2 : m2.lookup name <;> simp only [h1, h2, Option.map] at this ⊢
    · cases this
    · cases this
    · rename_i a b
      simp only [Option.some.injEq] at this
      have ha := w1 _ (mem_of_lookup m1 name a h1)
      have hb := w2 _ (mem_of_lookup m2 name b h2)
      rw [C25_frame_hash_partial np sha hsha a b ha.1 hb.1 ha.2 hb.2 (hd name a b h1 h2) this]
  · rintro ⟨rfl, rfl, hl⟩
    exact makeKey_complete _ _ _ _ _ n1 n2 (fun name => by rw [hl name])

/-- witnesses for the dtype guard: an int64 column holding 1, a float64 column holding the bit pattern 1 -/
def wInt : Frame := { names := [['x']], cols := [.int64 [1]], index := [0] }
def wFlt : Frame := { names := [['x']], cols := [.float64 [1]], index := [0] }
/-- witnesses for the object guard: an object column holding the int -1 / the string "-1" -/
def wObjInt : Frame := { names := [['x']], cols := [.object [.int (-1)]], index := [0] }
def wObjStr : Frame := { names := [['x']], cols := [.object [.str ['-', '1']]], index := [0] }

/-- **C25_Gdtype_necessary.** Without `G_C25_same_dtypes` the statement fails whatever the digest function is:
two well-formed frames without object columns, different in dtype and value, with equal hash strings. -/
theorem C25_Gdtype_necessary :
    wInt.wf = true ∧ wFlt.wf = true ∧ wInt.objPlain = true ∧ wFlt.objPlain = true ∧ wInt ≠ wFlt ∧
    ∀ np sha, hashFrame np sha wInt = hashFrame np sha wFlt := by
  refine ⟨by decide, by decide, by decide, by decide, by decide, fun np sha => ?_⟩
  have : hview wInt = hview wFlt := by decide
  simp only [hashFrame, this]
  rfl

/-- **C25_Gobj_necessary.** Without `G_C25_obj_plain` the statement fails whatever the digest function is:
two well-formed frames with the *same* dtypes, different in a cell value, with equal hash strings. -/
theorem C25_Gobj_necessary :
    wObjInt.wf = true ∧ wObjStr.wf = true ∧ sameDtypes wObjInt wObjStr = true ∧ wObjInt ≠ wObjStr ∧
    ∀ np sha, hashFrame np sha wObjInt = hashFrame np sha wObjStr := by
  refine ⟨by decide, by decide, by decide, by decide, fun np sha => ?_⟩
  have h1 : decDigits 1 = ['1'] := by rw [decDigits]; decide
  have : hview wObjInt = hview wObjStr := by
    simp [hview, wObjInt, wObjStr, Column.atoms, OCell.atom, pyReprInt, h1]
  simp only [hashFrame, this]
  rfl

/-! ## Store/get histories refine a map

Specification side (`Proofs/EvalCache.lean`): `abs s` is the finite map denoted by a cache state,
`specStore` is `store` on a plain map, `storeEvent` reads the `(key, content)` of a store call at call time.
Here: the trace of a history and the run of the plain map over it. -/

section Cache
variable {F K : Type} [DecidableEq K]

/-- the `(key, content of res at call time)` of every store call of the history whose assertions pass -/
def trace (hk : F → K) (eqv : F → F → Bool) (s : State F K) : List (Op F) → List (EvalKey K × F)
  | [] => []
  | op :: h => (storeEvent hk s op).toList ++ trace hk eqv (step hk eqv s op).1 h

def specRun (eqv : F → F → Bool) (M : EvalKey K → Option F) (evs : List (EvalKey K × F)) : EvalKey K → Option F :=
  evs.foldl (fun M e => specStore eqv M e.1 e.2) M

/-- the value of the most recent store event with key `k` -/
def lastStored (evs : List (EvalKey K × F)) (k : EvalKey K) : Option F :=
  evs.foldl (fun acc e => if e.1 = k then some e.2 else acc) none

theorem refines_from (hk : F → K) (eqv : F → F → Bool) (h : List (Op F)) (s : State F K) (hs : Inv s) :
    abs (run hk eqv s h).1 = specRun eqv (abs s) (trace hk eqv s h) := by
  induction h generalizing s with
  | nil => rfl
  | cons op h ih =>
    simp only [run, trace]
    rw [ih _ (step_inv hk eqv s hs op)]
    unfold specRun
    rw [List.foldl_append, abs_step hk eqv s hs op]
    cases storeEvent hk s op <;> rfl

theorem trace_of_no_store (hk : F → K) (eqv : F → F → Bool) (h : List (Op F))
    (hns : ∀ op ∈ h, ∀ a r, op ≠ .store a r) (s : State F K) : trace hk eqv s h = [] := by
  induction h generalizing s with
  | nil => rfl
  | cons op h ih =>
    rw [trace, ih (fun op' hop' => hns op' (List.mem_cons_of_mem _ hop')), List.append_nil]
    cases op with
    | store a r => exact absurd rfl (hns _ List.mem_cons_self a r)
    | _ => rfl

/-- **C25_refines.** For every history of `new / mutate / store / get / dataOff` operations from the empty
cache, the map denoted by the final cache state is the plain map run over the history's store events
(key and content of `res` as they were at the time of each call). -/
theorem C25_refines (hk : F → K) (eqv : F → F → Bool) (h : List (Op F)) :
    abs (run hk eqv State.init h).1 = specRun eqv (fun _ => none) (trace hk eqv State.init h) :=
  refines_from hk eqv h State.init inv_init

/-- **C25_get_outcome.** In every reachable state, `get`
* raises AssertionError exactly when an argument is ill-typed, and KeyError exactly when the denoted map has
  no entry for the key built from the arguments' current contents – both without changing the state;
* otherwise returns a **fresh** object (an id no caller reference and no cache entry uses) whose content is
  the mapped value, and leaves the denoted map unchanged. -/
theorem C25_get_outcome (hk : F → K) (eqv : F → F → Bool) (h : List (Op F)) (a : Args) :
    let s := (run hk eqv State.init h).1
    match keyOf hk s.heap a with
    | none => step hk eqv s (.get a) = (s, .err .assertion)
    | some k =>
      match abs s k with
      | none => step hk eqv s (.get a) = (s, .err .key)
      | some v =>
        let r := step hk eqv s (.get a)
        r.2 = .obj s.heap.length ∧ r.1.heap[s.heap.length]? = some v ∧ abs r.1 = abs s ∧
        s.heap.length ∉ s.ext ∧ (∀ p ∈ s.result, p.2 ≠ s.heap.length) ∧
        (∀ dc, s.data = some dc → ∀ p ∈ dc, p.2 ≠ s.heap.length) := by
  intro s
  have hs : Inv s := run_inv hk eqv h State.init inv_init
  have hg := step_get hk eqv s a
  cases hkk : keyOf hk s.heap a with
  | none => simpa [hkk] using hg
  | some k =>
    cases hv : abs s k with
    | none => simpa [hkk, hv] using hg
    | some v =>
      simp only [hkk, hv] at hg
      simp only [hv]
      refine ⟨by rw [hg], by rw [hg]; simp, ?_, ?_, ?_, ?_⟩
      · exact abs_step hk eqv s hs (.get a)
      · intro hx; have := hs.ext_lt _ hx; omega
      · intro p hp e; have := (hs.res_ok p hp).1; omega
      · intro dc hdc p hp e; have := (hs.data_ok dc hdc p hp).1; omega

/-- `acc` describes the map entry `m`: both are absent together, and a present entry is `equals` to the value
in `acc` -/
def Tracks (eqv : F → F → Bool) (m acc : Option F) : Prop :=
  (m = none ↔ acc = none) ∧ ∀ p, m = some p → ∃ v, acc = some v ∧ eqv p v = true

theorem tracks_specStore {eqv : F → F → Bool} (hrefl : ∀ v, eqv v v = true) {M : EvalKey K → Option F}
    {k : EvalKey K} {acc : Option F} (h : Tracks eqv (M k) acc) (e : EvalKey K × F) :
    Tracks eqv (specStore eqv M e.1 e.2 k) (if e.1 = k then some e.2 else acc) := by
  unfold specStore
  by_cases hek : e.1 = k
  · subst hek
    rw [if_pos rfl]
    cases hany : (M e.1).any (fun p => eqv p e.2) with
    | true =>
      obtain ⟨p, hp, hpe⟩ := (Option.any_eq_true _ _).1 hany
      rw [if_pos rfl, hp]
      exact ⟨by simp, fun p' hp' => ⟨e.2, rfl, by cases hp'; exact hpe⟩⟩
    | false =>
      rw [if_neg Bool.false_ne_true, if_pos rfl]
      exact ⟨by simp, fun p hp => ⟨e.2, rfl, by cases hp; exact hrefl _⟩⟩
  · rw [if_neg hek]
    split
    · exact h
    · show Tracks eqv (if k = e.1 then some e.2 else M k) acc
      rw [if_neg (Ne.symm hek)]; exact h

theorem tracks_specRun {eqv : F → F → Bool} (hrefl : ∀ v, eqv v v = true) (evs : List (EvalKey K × F))
    (k : EvalKey K) (M : EvalKey K → Option F) (acc : Option F) (h : Tracks eqv (M k) acc) :
    Tracks eqv (specRun eqv M evs k) (evs.foldl (fun acc e => if e.1 = k then some e.2 else acc) acc) := by
  induction evs generalizing M acc with
  | nil => exact h
  | cons e evs ih => exact ih _ _ (tracks_specStore hrefl h e)

theorem lastStored_eq_none (evs : List (EvalKey K × F)) (k : EvalKey K) :
    lastStored evs k = none ↔ ∀ e ∈ evs, e.1 ≠ k := by
  suffices h : ∀ acc : Option F, evs.foldl (fun acc e => if e.1 = k then some e.2 else acc) acc = none ↔
      acc = none ∧ ∀ e ∈ evs, e.1 ≠ k from (h none).trans (and_iff_right rfl)
  induction evs with
  | nil => simp
  | cons e evs ih =>
    intro acc
    rw [List.foldl_cons, ih, List.forall_mem_cons]
    by_cases hek : e.1 = k
    · rw [if_pos hek]; exact ⟨fun h => absurd h.1 (Option.some_ne_none _), fun h => absurd hek h.2.1⟩
    · rw [if_neg hek]; exact ⟨fun h => ⟨h.1, hek, h.2⟩, fun h => ⟨h.1, h.2.2⟩⟩

/-- **C25_get_after_store** (plain-map side, with `C25_refines` and `C25_get_outcome` this is the property's
first sentence). After any list of store events: the map has no entry for `k` iff no event had key `k`;
and an entry for `k` is `equals` to the value of the most recent store with key `k` (`equals` reflexive). -/
theorem C25_get_after_store (eqv : F → F → Bool) (hrefl : ∀ v, eqv v v = true)
    (evs : List (EvalKey K × F)) (k : EvalKey K) :
    (specRun eqv (fun _ => none) evs k = none ↔ ∀ e ∈ evs, e.1 ≠ k) ∧
    (∀ p, specRun eqv (fun _ => none) evs k = some p → ∃ v, lastStored evs k = some v ∧ eqv p v = true) := by
  have h := tracks_specRun hrefl evs k (fun _ => none) none ⟨Iff.rfl, fun _ hp => nomatch hp⟩
  exact ⟨h.1.trans (lastStored_eq_none evs k), h.2⟩

theorem run_append (hk : F → K) (eqv : F → F → Bool) (h1 h2 : List (Op F)) (s : State F K) :
    (run hk eqv s (h1 ++ h2)).1 = (run hk eqv (run hk eqv s h1).1 h2).1 := by
  induction h1 generalizing s with
  | nil => rfl
  | cons op h1 ih => simp only [List.cons_append, run]; exact ih _

/-- the contents the debugging `data_cache` holds -/
def dataAbs (s : State F K) : Option (List (K × Option F)) :=
  s.data.map (fun dc => dc.map (fun p => (p.1, s.heap[p.2]?)))

/-- **C25_copy_isolation.** In every reachable state, an in-place change of *any* object the caller holds –
a frame it passed to `store` as `res` or inside the data map, or a frame `get` returned – to *any* new
content changes neither the map the cache denotes nor the contents of its `data_cache`. -/
theorem C25_copy_isolation (hk : F → K) (eqv : F → F → Bool) (h : List (Op F)) (i : Nat) (v : F) :
    let s := (run hk eqv State.init h).1
    abs (step hk eqv s (.mutate i v)).1 = abs s ∧ dataAbs (step hk eqv s (.mutate i v)).1 = dataAbs s := by
  intro s
  have hs : Inv s := run_inv hk eqv h State.init inv_init
  refine ⟨abs_step hk eqv s hs _, ?_⟩
  simp only [step]
  split
  · rename_i hi
    have hkeep : Keeps s { s with heap := s.heap.set i v } := keeps_set hi v rfl
    unfold dataAbs
    cases hdc : s.data with
    | none => simp
    | some dc => exact congrArg some (List.map_congr_left fun p hp => congrArg _ (hkeep _ (hs.data_ok dc hdc p hp)))
  · rfl

/-- **C25_only_store_changes.** Whatever the caller does between two points of a history without calling
`store` (creating frames, mutating any frame it holds, calling `get`, switching the debug cache off), the
map the cache denotes is the same at both points: later `get`s see exactly the stored values. -/
theorem C25_only_store_changes (hk : F → K) (eqv : F → F → Bool) (h1 h2 : List (Op F))
    (hns : ∀ op ∈ h2, ∀ a r, op ≠ .store a r) :
    abs (run hk eqv State.init (h1 ++ h2)).1 = abs (run hk eqv State.init h1).1 := by
  rw [run_append, refines_from hk eqv h2 _ (run_inv hk eqv h1 State.init inv_init), trace_of_no_store hk eqv h2 hns]
  rfl

end Cache

/-- hostile column names: the two renderings are different texts (and by the theorem they must be) -/
example : pyReprList (fun _ => false) [['a', '\'', ',', ' ', '\'', 'b']] ≠
          pyReprList (fun _ => false) [['a'], ['b']] := by decide +kernel
example : pyReprList (fun _ => false) [['a', '_', 'b'], ['c', '"', '\'']] =
    "['a_b', 'c\"\\'']".toList := by decide +kernel
/-- `hinj`/`hresp` of `C25_key_iff` hold for the identity digest on frames that *are* their digest text -/
example : let o : FrameObs Str := { shape := fun _ => (0, 0), names := fun _ => [], digest := id }
    (∀ a b, o.shape a = o.shape b → o.names a = o.names b → o.digest a = o.digest b → a = b) ∧
    (∀ a b, a = b → o.shape a = o.shape b ∧ o.names a = o.names b ∧ o.digest a = o.digest b) := by
  intro o; exact ⟨fun a b _ _ h => h, fun a b h => by subst h; exact ⟨rfl, rfl, rfl⟩⟩
def exFrame : Frame :=
  { names := [['x'], ['y']], cols := [.int64 [1, 2], .str [some ['a'], none]], index := [0, 1] }
example : exFrame.wf = true ∧ exFrame.objPlain = true ∧ sameDtypes exFrame exFrame = true := by decide
/-- a history on a cache of numbers (hash = identity, equals = ==): store 5 under a key, overwrite the
caller's object with 9, get → a fresh object holding 5 -/
example :
    let a : Args := { valid := true, dialect := ['S'], sql := ['q'], data := [(['t'], 0)] }
    let r := run (F := Nat) (K := Nat) id (· == ·) State.init [.new 5, .store a 0, .mutate 0 9, .new 5, .get { a with data := [(['t'], 3)] }]
    r.2 = [.obj 0, .done, .done, .obj 3, .obj 4] ∧ r.1.heap[4]? = some 5 ∧ r.1.heap[0]? = some 9 := by
  decide +kernel

end DAVerif.EvalCache
