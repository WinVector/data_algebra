import DAVerif.Proofs.PrintCalls
import DAVerif.Proofs.PrintExprs
import DAVerif.Props.C26
import DAVerif.Props.C11
import DAVerif.Props.C13
/-!
# C12 — Printed pipelines rebuild to equal pipelines with identical results

Model of printing: `C12.toCalls` (Ops/PrintCalls.lean) – which builder calls `to_python_src_` prints for a pipeline and with
which argument values; of evaluating the printed text: `C12.rebuild` (re-applies `build`, receiver first, then the `b=`
argument, then the call).  `==` is `Eq.eqOps` (C11); pipelines are `Reachable` (Props/C26.lean); expressions: C13.
Specification side, independent of the model of the builders: `Rebuilds p`, `SameResults p p'`.

Finding `C12-extend-remerge` (known_findings.json; case N26 of harness/pipe_witnesses.py), confirmed on the real code:
`extend_parsed_` merges a new step into an existing `ExtendNode` by *replacing* that node with the merged one over the same
source; it does not ask whether the merged node could in turn be merged into an `ExtendNode` below (the old node may have
been unmergeable only because of an assignment the new step overwrites).  The printed text of such a pipeline evaluates to
the further-merged pipeline, which is not `==`.  The theorems hold under the guard `noRemerge` (decidable,
Ops/PrintCalls.lean); `C12_G_noRemerge_necessary` shows that it cannot be dropped.
-/
namespace DAVerif.C12
open DAVerif Rules26

/-- the printed calls of `p` evaluate to a pipeline that compares equal to `p` (`==` in both directions) -/
def Rebuilds (p : Ops) : Prop :=
  ∃ p', rebuild (toCalls p) = .ok p' ∧ Eq.eqOps p p' = true ∧ Eq.eqOps p' p = true

/-- the same outcome on every input, for every meaning of the function symbols, in both configurations -/
def SameResults (p p' : Ops) : Prop :=
  ∀ (Θ : Interp) (cfg : SemCfg) (env : Env), sem Θ cfg env p' = sem Θ cfg env p

/-- Every pipeline the builders can produce is in *builder normal form* (`NF`, Proofs/PrintCalls.lean): at every node
the source is not an `order_rows` without limit, and the builder call that the printer writes for the node – with the
printer's normal form of the arguments (`partition_by=1` / omitted, remapping and deletions as one dictionary, the
upper-case join type, no key check) – applied to the node's own source passes every check and returns exactly the
node; for extend nodes this is stated for the path that builds a new node (whether `extend` would merge instead is the
guard).  So the elimination of `order_rows`, the collapse of `select_columns` through select / drop nodes and the
argument normalisations are idempotent on reachable pipelines, unconditionally. -/
theorem C12_reachable_nf {p : Ops} (h : Reachable p) : NF p := by
  induction h with
  | table name cs hne hnd => exact ⟨hne, hnd⟩
  | step _ _ hb ihp ihb => exact build_nf ihp ihb hb

theorem reachable_c11 {p : Ops} (h : Reachable p) : ReachableC11 p := by
  induction h with
  | table name cs _ _ => exact ReachableC11.table name cs
  | step _ _ hb ihp ihb => exact ReachableC11.step ihp (fun b hbs => ihb b (Step.arg_eq_some.mp hbs)) hb

/-
FULL STATEMENT (false for the unchanged library, see `C12_G_noRemerge_necessary`):

  theorem C12_pipeline_rebuild : Reachable p → ∃ p', rebuild (toCalls p) = .ok p' ∧ Eq.eqOps p p' = true
-/

/-- **C12 (exact form), under the guard.**  For every reachable pipeline `p` – any number of steps, nested joins and
concats – in which no extend node would be merged into the extend node below it (`noRemerge`), evaluating the printed
calls raises nothing and returns *the same tree* `p`: every field of every node, including the `method` flags of the
expressions and the order of dictionaries. -/
theorem C12_pipeline_rebuild_exact_partial {p : Ops} (h : Reachable p) (hG : noRemerge p = true) :
    rebuild (toCalls p) = .ok p :=
  rebuild_of_nf p (C12_reachable_nf h) hG

/-- **C12, under the guard**, in the words of the property: the printed calls evaluate to a pipeline that compares
equal (`==`: `Eq.eqOps`, the model of `__eq__` after the C11 fixes) to the original, in both directions. -/
theorem C12_pipeline_rebuild_partial {p : Ops} (h : Reachable p) (hG : noRemerge p = true) : Rebuilds p :=
  have hr := C11.C11_refl_reachable (reachable_c11 h)
  ⟨p, C12_pipeline_rebuild_exact_partial h hG, hr, hr⟩

/-- `d.extend({'n4': 'x'}).extend({'r': 'y + n4'}).extend({'r': 'y'})` as the builders leave it: the third step was
merged into the second (its `r` replaces the second step's `r`), the result sits un-merged on the first. -/
def witnessN26 : Ops :=
  .extend (.extend (.table "d" ["x", "y"]) [("n4", .col "x")] [] [] [] false) [("r", .col "y")] [] [] [] false

/-- what its printed text `….extend({'n4': 'x'}).extend({'r': 'y'})` evaluates to: one merged node -/
def witnessN26Rebuilt : Ops :=
  .extend (.table "d" ["x", "y"]) [("n4", .col "x"), ("r", .col "y")] [] [] [] false

theorem witnessN26_reachable : Reachable witnessN26 :=
  Reachable.of_calls "d" ["x", "y"]
    [.extend [("n4", .col "x")] .none [] [], .extend [("r", .app "+" [.col "y", .col "n4"] true false)] .none [] [],
      .extend [("r", .col "y")] .none [] []] (by decide) (by decide) rfl rfl

theorem witnessN26_rebuild : rebuild (toCalls witnessN26) = .ok witnessN26Rebuilt := by rfl

/-- **The guard is necessary (finding `C12-extend-remerge`, N26).**  The full statement is false: the reachable pipeline
`witnessN26` prints two extend calls whose evaluation merges them into one node; the result does not compare equal to
the original (the node kinds differ: `ExtendNode` over `ExtendNode` vs `ExtendNode` over the table).  The real library
behaves the same (corpus/C12/extend_remerge.json).  The guard fails on it. -/
theorem C12_G_noRemerge_necessary :
    ¬ ∀ p : Ops, Reachable p → ∃ p', rebuild (toCalls p) = .ok p' ∧ Eq.eqOps p p' = true := by
  intro h
  obtain ⟨p', h1, h2⟩ := h witnessN26 witnessN26_reachable
  rw [witnessN26_rebuild] at h1
  cases h1
  exact absurd h2 (by decide)

example : noRemerge witnessN26 = false := by decide
example : noRemerge witnessN26Rebuilt = true := by decide

/-- The guard is only about extend nodes that sit directly on extend nodes: a pipeline without such a pair satisfies
it (in particular every pipeline with at most one extend step between other steps). -/
def noExtendOnExtend : Ops → Bool
  | .table _ _ => true
  | .extend (.extend ..) .. => false
  | .extend s _ _ _ _ _ => noExtendOnExtend s
  | .project s _ _ | .selectRows s _ | .selectCols s _ | .dropCols s _ | .order s _ _ _ | .rename s _
  | .mapCols s _ _ | .convert s _ => noExtendOnExtend s
  | .join a b _ _ _ | .concat a b _ _ _ => noExtendOnExtend a && noExtendOnExtend b

theorem C12_noRemerge_single_extend (p : Ops) (h : noExtendOnExtend p = true) : noRemerge p = true := by
  induction p with
  | table n cs => rfl
  | extend s ops part order rev w ih =>
    cases s with
    | extend => simp [noExtendOnExtend] at h
    | _ =>
      have h' := ih h
      rw [noRemerge, h']
      rfl
  | project s _ _ ih | selectRows s _ ih | selectCols s _ ih | dropCols s _ ih | order s _ _ _ ih | rename s _ ih
  | mapCols s _ _ ih | convert s _ ih => exact ih h
  | join a b _ _ _ iha ihb | concat a b _ _ _ iha ihb =>
    simp only [noExtendOnExtend, Bool.and_eq_true] at h
    simp only [noRemerge, iha h.1, ihb h.2, Bool.and_self]

/-- **The guard can only be lost by a merging extend step.**  If `p` satisfies the guard (and so do the `b` arguments),
then the result of any builder call satisfies it too, unless the call is an `extend` that was merged into the extend
node at the end of `p`.  In particular two consecutive extend steps that were *not* merged when the pipeline was built
are not merged when the printed text is evaluated. -/
theorem C12_guard_kept_unless_merge {p : Ops} (_hp : Reachable p) (hG : noRemerge p = true) {s : Step}
    (hb : ∀ b ∈ stepArgs s, noRemerge b = true) {q : Ops} (h : build p s = .ok q) :
    noRemerge q = true ∨
    ∃ ops pa order rev src ops1 part1 order1 rev1 w1 newOps,
      s = .extend ops pa order rev ∧ strip p = .extend src ops1 part1 order1 rev1 w1 ∧
      tryMergeOps ops1 ops = some newOps ∧ mkExtend src newOps pa order rev = .ok q := by
  have hGs := noRemerge_strip hG
  rcases build_eq_ok.mp h with ⟨_, rfl⟩ | ⟨_, hpl⟩
  · exact Or.inl hG
  cases hpl with
  | merge _ _ ha hm hc => exact Or.inr ⟨_, _, _, _, _, _, _, _, _, _, _, rfl, ha, hm, mkExtend_of_chk hc⟩
  | extend _ _ hm =>
    left
    rw [noRemerge, hGs, remerges_printPart, remerges_eq, hm]
    rfl
  | selectCols =>
    exact Or.inl (Ops.selectBase_preserves (P := (noRemerge · = true)) (fun _ _ _ h => h) (fun _ _ h => h)
      (fun _ _ h => h) hGs)
  | join | concat =>
    left
    simp only [noRemerge, hGs, hb _ List.mem_cons_self, Bool.and_self]
  | _ => exact Or.inl hGs

/-- Whenever the printed calls evaluate to a pipeline that compares equal to the (reachable) original, the two give the
same outcome for every interpretation of the function symbols, both configurations and every environment
(C11's soundness of `==`; `RecCoherent`: record maps with the same printed specifications are the same record map, an
invariant of the real objects, see Props/C11.lean). -/
theorem C12_rebuild_sem {p p' : Ops} (h : Reachable p) (_hr : rebuild (toCalls p) = .ok p')
    (he : Eq.eqOps p p' = true) (hc : Ops.RecCoherent p p') : SameResults p p' := by
  intro Θ cfg env
  exact (C11.C11_sound_sem_reachable p' (reachable_c11 h) hc he Θ cfg env).symm

/-- **C12 (results), under the guard**: the printed calls of a reachable pipeline inside the guard evaluate to a
pipeline that compares equal and has the same result on every input (namely the pipeline itself,
`C12_pipeline_rebuild_exact_partial`; outside the guard see Props/C12sem.lean). -/
theorem C12_rebuild_sem_partial {p : Ops} (h : Reachable p) (hG : noRemerge p = true) :
    ∃ p', rebuild (toCalls p) = .ok p' ∧ Eq.eqOps p p' = true ∧ SameResults p p' :=
  ⟨p, C12_pipeline_rebuild_exact_partial h hG, C11.C11_refl_reachable (reachable_c11 h), fun _ _ _ => rfl⟩

/-- `rebuild` in terms of `buildChain`: the successful evaluations of the printed text are exactly the successful runs
of `buildChain` over the steps of the main chain (their `b=` arguments evaluated the same way) from the printed table
description (`rebuildChain`, Ops/PrintCalls.lean). -/
theorem C12_rebuild_eq_buildChain (pr : Printed) (q : Ops) : rebuild pr = .ok q ↔ rebuildChain pr = .ok q :=
  rebuild_iff_chain pr q

open DAVerif.Expr in
/-- **C12 (expressions) = C13's round trip, for every expression of a pipeline.**  Let `t` be an expression of a
reachable pipeline, evaluated over a node with columns `cols` (`exprsIn`).  If `t` is *well formed in itself*
(`wfAny`: literals re-read to themselves, collections non-empty with distinct keys, every node is what the parser's
builder builds – `Expr.wf` over the columns the term itself mentions), then it is well formed over `cols` (the builders
have checked that it mentions known columns only), the tokens of its printed text parse to the tree `cst t`, and the
walker maps that tree back to exactly `t`. -/
theorem C12_expr_roundtrip {p : Ops} (h : Reachable p) (cols : List String) (t : Term)
    (hm : (cols, t) ∈ exprsIn p) (hwf : wfAny t) :
    wf (Generated.env cols) t = true ∧
    parseToks (printToks t) = .ok (cst t) ∧ walk (Generated.env cols) (cst t) = .ok t := by
  have hw := wf_of_wfAny hwf (exprsIn_cols (C12_reachable_nf h) cols t hm)
  exact ⟨hw, C13_print_parse (Generated.env cols) (C13_generated_negfolds cols) t hw⟩

/-- **The builders pass expressions through unchanged.**  Every expression of the result of a builder call is an
expression of the prefix, of the step's arguments, or of the step's `b` pipeline (the extend merge concatenates
assignment lists, nothing rewrites a term). -/
theorem C12_exprs_preserved {p : Ops} (_hp : Reachable p) {s : Step} {q : Ops} (h : build p s = .ok q) :
    ∀ t ∈ termsOf q, t ∈ termsOf p ∨ t ∈ stepTerms s ∨ ∃ b ∈ stepArgs s, t ∈ termsOf b :=
  build_terms h

/-- pipelines built from table descriptions by builder calls whose expression arguments all satisfy `T` -/
inductive ReachableWith (T : Term → Prop) : Ops → Prop
  | table (name : String) (cs : List String) : cs ≠ [] → cs.Nodup → ReachableWith T (.table name cs)
  | step {p : Ops} {s : Step} {q : Ops} :
      ReachableWith T p → (∀ b ∈ stepArgs s, ReachableWith T b) → (∀ t ∈ stepTerms s, T t) → build p s = .ok q →
      ReachableWith T q

theorem ReachableWith.reachable {T : Term → Prop} {p : Ops} (h : ReachableWith T p) : Reachable p := by
  induction h with
  | table name cs h1 h2 => exact Reachable.table name cs h1 h2
  | step _ _ _ hb ihp ihb => exact Reachable.step ihp ihb hb

/-- **Do the builders guarantee well-formed expressions?**  They check the columns an expression mentions and nothing
else about its shape (`C12_builders_accept_ill_formed`); what they guarantee is *preservation*: if every expression
handed to a builder call is well formed in itself – true of everything the library's parser returns from a text
without dunder method names (C13, checked on every run by suite `expr_canon`) – then every expression of the resulting
pipeline is, and therefore (by `C12_expr_roundtrip`) every expression of the pipeline is re-read from its printed text
to itself. -/
theorem C12_exprs_wf_of_steps {p : Ops} (h : ReachableWith wfAny p) :
    ∀ ct ∈ exprsIn p, Expr.wf (Generated.env ct.1) ct.2 = true := by
  have hall : ∀ t ∈ termsOf p, wfAny t := by
    induction h with
    | table name cs _ _ => intro t ht; simp [termsOf] at ht
    | @step p s q hp _ hT hb ihp ihb =>
      intro t ht
      rcases build_terms hb t ht with h1 | h1 | ⟨b, hbm, h1⟩
      · exact ihp t h1
      · exact hT t h1
      · exact ihb b hbm t h1
  intro ct hct
  exact wf_of_wfAny (hall ct.2 (exprsIn_terms p ct hct)) (exprsIn_cols (C12_reachable_nf h.reachable) ct.1 ct.2 hct)

/-- the builder accepts an expression that is not well formed (a unary minus applied to a constant, which the parser
would have folded): well-formedness is a property of what is handed to the builders, not something they establish -/
theorem C12_builders_accept_ill_formed :
    ∃ q, build (.table "d" ["x"]) (.extend [("a", .app "-" [.value (.int 5)] true false)] .none [] []) = .ok q ∧
      Expr.wf (Generated.env ["x"]) (.app "-" [.value (.int 5)] true false) = false :=
  ⟨_, by rfl, by decide +kernel⟩

private def d : Ops := .table "d" ["g", "x", "y"]
private def e : Ops := .table "e" ["g", "z"]

/-- `d.extend({'m': 'x.max()'}, partition_by=1).natural_join(b=e.order_rows(['z']), on=['g'], jointype='LEFT')
     .map_columns({'y': None, 'x': 'x2'})` -/
private def pipe1 : Ops :=
  .mapCols (.join (.extend d [("m", .app "max" [.col "x"] false true)] [] [] [] true) (.order e ["z"] [] none)
    ["g"] ["g"] .left) [("x", "x2")] ["y"]

private theorem build_max :
    build d (.extend [("m", .app "max" [.col "x"] false true)] .one [] [])
      = .ok (.extend d [("m", .app "max" [.col "x"] false true)] [] [] [] true) := by rfl

private theorem wfAny_max : wfAny (.app "max" [.col "x"] false true) := by decide +kernel

example : Reachable pipe1 :=
  Reachable.step (p := .join (.extend d [("m", .app "max" [.col "x"] false true)] [] [] [] true)
      (.order e ["z"] [] none) ["g"] ["g"] .left)
    (s := .mapCols [("y", none), ("x", some "x2")])
    (Reachable.step (p := .extend d [("m", .app "max" [.col "x"] false true)] [] [] [] true)
      (s := .join (.order e ["z"] [] none) ["g"] ["g"] "left" true)
      (Reachable.step (p := d) (s := .extend [("m", .app "max" [.col "x"] false true)] .one [] [])
        (Reachable.table _ _ (by decide) (by decide)) (by intro b hb; simp [stepArgs] at hb) build_max)
      (by
        intro b hb
        simp only [stepArgs, List.mem_singleton] at hb
        subst hb
        exact Reachable.step (p := e) (s := .order ["z"] [] none) (Reachable.table _ _ (by decide) (by decide))
          (by intro b hb; simp [stepArgs] at hb) (by rfl))
      (by
        have hp : JoinType.parse "left" = some .left := by decide +kernel
        show joinB _ _ _ _ _ _ = _
        rw [joinB_eq]
        simp only [mkJoin, hp]
        rfl))
    (by intro b hb; simp [stepArgs] at hb) (by rfl)

example : noRemerge pipe1 = true := by decide
-- the printed calls: partition_by=1, the upper-case join type, deletions after renamings
example : toCalls pipe1 =
    .call (.join (.call (.table "d" ["g", "x", "y"]) (.extend [("m", .app "max" [.col "x"] false true)] .one [] []))
      (.call (.table "e" ["g", "z"]) (.order ["z"] [] none)) [("g", "g")] "LEFT")
      (.mapCols [("x", some "x2"), ("y", none)]) := by rfl
example : wfAny (.app "max" [.col "x"] false true) := wfAny_max
example : ReachableWith wfAny (.extend d [("m", .app "max" [.col "x"] false true)] [] [] [] true) :=
  ReachableWith.step (p := d) (s := .extend [("m", .app "max" [.col "x"] false true)] .one [] [])
    (ReachableWith.table _ _ (by decide) (by decide)) (by intro b hb; simp [stepArgs] at hb)
    (by intro t ht; rw [List.mem_singleton.mp ht]; exact wfAny_max)
    build_max
example : exprsIn pipe1 = [(["g", "x", "y"], .app "max" [.col "x"] false true)] := by rfl

end DAVerif.C12
