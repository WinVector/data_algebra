import DAVerif.Proofs.SemBasic
import DAVerif.Props.C26
import DAVerif.Sem.Theta
/-!
# C08  Results have exactly the columns the pipeline declares  (executor model)

"Declared columns" is `Ops.cols` (`column_names`, recomputed per node as the constructors do); there is no other
specification-side definition.  The theorems are about `sem` for every configuration (`SemCfg.pandas` = what
`pandas_base.py` computes, `SemCfg.ref` = the standard meaning) and every interpretation `Θ` of the function
symbols whose record transforms return the columns their record map declares (`ConvertOK`, C17's theorem).
The SQL-side statements of C08 are in `Props/C01core.lean`.
-/
namespace DAVerif

/-- **C08, columns.**  Whatever the pipeline, the configuration and the inputs: a returned table has exactly
the declared columns – as a *list*, i.e. also in the declared order. -/
theorem C08_cols (Θ : Interp) (hΘ : ConvertOK Θ) (cfg : SemCfg) (env : Env) (p : Ops) {t : Table}
    (h : sem Θ cfg env p = .ok t) : t.cols = p.cols :=
  (sem_cols_wf Θ hΘ cfg env p t h).1

/-- **C08, rows.**  Every row of a returned table has exactly the declared columns, in the declared order (no
extra scratch column, no missing column). -/
theorem C08_rows_wf (Θ : Interp) (hΘ : ConvertOK Θ) (cfg : SemCfg) (env : Env) (p : Ops) {t : Table}
    (h : sem Θ cfg env p = .ok t) : ∀ r ∈ t.rows, r.keys = p.cols := by
  obtain ⟨hc, hw⟩ := sem_cols_wf Θ hΘ cfg env p t h
  intro r hr
  rw [← hc]
  exact hw r hr

/-- **C08, no duplicates.**  For every pipeline obtained from table descriptions by builder calls (`Reachable`,
defined with C26; `C26_reachable_cols`: the builders keep the declared columns duplicate-free) the columns of a
returned table are pairwise different. -/
theorem C08_cols_nodup (Θ : Interp) (hΘ : ConvertOK Θ) (cfg : SemCfg) (env : Env) {p : Ops} (hp : Reachable p)
    {t : Table} (h : sem Θ cfg env p = .ok t) : t.cols.Nodup := by
  rw [C08_cols Θ hΘ cfg env p h]
  exact (C26_reachable_cols hp).2

/-- **C08, same set.**  Column set form of `C08_cols`: a column is in the result iff it is declared. -/
theorem C08_cols_set (Θ : Interp) (hΘ : ConvertOK Θ) (cfg : SemCfg) (env : Env) (p : Ops) {t : Table}
    (h : sem Θ cfg env p = .ok t) (c : String) : c ∈ t.cols ↔ c ∈ p.cols := by
  rw [C08_cols Θ hΘ cfg env p h]

/-- **C08, order after `select_columns`.**  The result of a pipeline ending in `select_columns(cs)` has the
columns `cs` as a list: in the order the step names them (no hypothesis on `Θ` is needed here). -/
theorem C08_select_order (Θ : Interp) (cfg : SemCfg) (env : Env) (q : Ops) (cs : List String) {t : Table}
    (h : sem Θ cfg env (.selectCols q cs) = .ok t) : t.cols = cs ∧ ∀ r ∈ t.rows, r.keys = cs := by
  obtain ⟨tq, _, h⟩ := bind_eq_ok.mp h
  cases h
  exact ⟨rfl, Table.wf_selectCols _ _⟩

/-- **Evaluation fails only at a table lookup or inside a record transform.**  If the environment binds every
table description of the pipeline to a table with (at least) the described columns, and the record transforms of
its `convert_records` nodes do not fail, evaluation returns a table – whatever the rows are. -/
theorem sem_ok_of_tables (Θ : Interp) (cfg : SemCfg) (env : Env) (p : Ops)
    (hT : ∀ nc ∈ p.tables, ∃ t, env.lookup nc.1 = some t ∧ subset nc.2 t.cols = true)
    (hC : ∀ rm ∈ p.recMaps, ∀ t, ∃ t', Θ.convert rm t = .ok t') : ∃ t, sem Θ cfg env p = .ok t :=
  Sql.semG_rowLe Θ cfg env p ▸ Sql.semG_ok_of_tables rowLe Θ cfg env p hT hC

/-- **C08, empty inputs.**  When every input table is empty (it exists and has the described columns, but no
rows) evaluation still succeeds and the result has exactly the declared columns, in every row it may have (an
ungrouped `project` returns a row even then) – provided the record transforms of the pipeline do not fail. -/
theorem C08_empty (Θ : Interp) (hΘ : ConvertOK Θ) (cfg : SemCfg) (env : Env) (p : Ops)
    (hT : ∀ nc ∈ p.tables, ∃ t, env.lookup nc.1 = some t ∧ subset nc.2 t.cols = true ∧ t.rows = [])
    (hC : ∀ rm ∈ p.recMaps, ∀ t, ∃ t', Θ.convert rm t = .ok t') :
    ∃ t, sem Θ cfg env p = .ok t ∧ t.cols = p.cols ∧ ∀ r ∈ t.rows, r.keys = p.cols := by
  obtain ⟨t, ht⟩ := sem_ok_of_tables Θ cfg env p
    (fun nc h => let ⟨t, h1, h2, _⟩ := hT nc h; ⟨t, h1, h2⟩) hC
  exact ⟨t, ht, C08_cols Θ hΘ cfg env p ht, C08_rows_wf Θ hΘ cfg env p ht⟩

namespace C08Ex

/-- the driver's concrete interpretation; record transforms return an empty table with the declared columns -/
def Θc : Interp := Theta.concrete (fun rm _ => .ok ⟨rm.produced, []⟩)

theorem Θc_ok : ConvertOK Θc := by
  intro rm t t' h
  cases h
  exact ⟨rfl, fun r hr => by cases hr⟩

def d : Ops := .table "d" ["g", "x", "y"]
def env : Env := [("d", ⟨["g", "x", "y", "unused"],
  [[("g", .str "a"), ("x", .num 1), ("y", .null), ("unused", .num 0)],
   [("g", .null), ("x", .num 2), ("y", .num 5), ("unused", .num 0)]]⟩)]
def envEmpty : Env := [("d", ⟨["g", "x", "y", "unused"], []⟩)]

/-- overwrite `x`, add `z`, aggregate per `g`, overwrite every aggregate (a dead project), keep two columns in a
new order -/
def p1 : Ops :=
  .selectCols (.extend (.project (.extend d [("x", .app "+" [.col "x", .value (.int 1)] true false),
      ("z", .app "+" [.col "y", .value (.int 1)] true false)] [] [] [] false)
    [("s", .app "sum" [.col "x"] false true)] ["g"]) [("s", .value (.int 0))] [] [] [] false) ["s", "g"]

/-- `p1` is what the builders return for
`d.extend({x: x+1, z: y+1}).project({s: x.sum()}, group_by=[g]).extend({s: 0}).select_columns([s, g])` -/
theorem p1_reachable : Reachable p1 :=
  Reachable.of_calls "d" ["g", "x", "y"]
    [.extend [("x", .app "+" [.col "x", .value (.int 1)] true false),
        ("z", .app "+" [.col "y", .value (.int 1)] true false)] .none [] [],
      .project [("s", .app "sum" [.col "x"] false true)] ["g"], .extend [("s", .value (.int 0))] .none [] [],
      .selectCols ["s", "g"]] (by decide) (by decide) rfl rfl

example : p1.cols = ["s", "g"] := by decide

example (cfg : SemCfg) : ∃ t, sem Θc cfg env p1 = .ok t ∧ t.cols = ["s", "g"] ∧ t.rows.length = 2 :=
  ⟨_, rfl, by decide +kernel, by decide +kernel⟩

example (cfg : SemCfg) : ∃ t, sem Θc cfg envEmpty p1 = .ok t ∧ t.cols = p1.cols ∧ ∀ r ∈ t.rows, r.keys = p1.cols :=
  C08_empty Θc Θc_ok cfg envEmpty p1 (by decide) (fun rm h => by
    have : p1.recMaps = [] := by decide
    rw [this] at h
    cases h)

example (cfg : SemCfg) {t : Table} (h : sem Θc cfg env p1 = .ok t) : t.cols.Nodup :=
  C08_cols_nodup Θc Θc_ok cfg env p1_reachable h

end C08Ex
end DAVerif
