import DAVerif.Proofs.OwnRun
/-!
# C19 — Evaluation never modifies the caller's tables and is repeatable

Model: `Heap/Own.lean` (frame-ownership model of `pandas_base.py`: every executor step as a sequence of allocations and
in-place writes on a heap of frame objects).  Every theorem quantifies over all pipelines `p` (with every value of the
data-dependent hints they carry: row counts, group counts, and `fail` = the step raises after any number of its writes), all
heaps of caller frames with any earlier log, all data maps, all set-iteration orders `ord`.  `C19_deterministic` and
`C19_repeatable` in addition assume `Scoped dm p n` (`Proofs/OwnRun.lean`: the frames the data map and the table
descriptions of `p` point to are among the caller's first `n`) and, for two orders, `OrdOK` (`Proofs/OwnDet.lean`: an order
only permutes); `C19_deterministic` compares logs up to `evShape`.

Stated limit (NOT proven here): that a write to a *new* DataFrame object cannot reach the data of the object it was made
from is runtime behaviour of pandas (copy-on-write) / Polars; the theorems are about the repository's own discipline
(which object every in-place write targets, which object every step returns).
-/
namespace DAVerif.Own

/-- the caller's frames are exactly as before: same objects at the same positions, same columns, rows, payload token -/
def CallerFramesUnchanged (before after : List Frame) : Prop :=
  after.take before.length = before

/-- every in-place write in `evs` is preceded, in `evs`, by the allocation of the frame it targets -/
def WritesOnlyAllocated (evs : List Ev) : Prop :=
  ∀ pre post k id c, evs = pre ++ Ev.write k id c :: post → ∃ w, Ev.alloc id w ∈ pre

/-- no event of `evs` writes to, or returns, one of the first `n` frames -/
def NeverTouches (n : Nat) (evs : List Ev) : Prop :=
  (∀ k id c, Ev.write k id c ∈ evs → n ≤ id) ∧ (∀ id f, Ev.ret id f ∈ evs → n ≤ id)

/-- what the property asks of one public entry point `run` (a state transformer returning a frame or raising) -/
def OwnershipSafe (run : St → Except Err (FrameId × Frame) × St) : Prop :=
  ∀ s : St,
    CallerFramesUnchanged s.heap (run s).2.heap ∧
    (∃ new, (run s).2.log = s.log ++ new ∧ WritesOnlyAllocated new ∧ NeverTouches s.heap.length new) ∧
    (∀ r f, (run s).1 = .ok (r, f) → s.heap.length ≤ r ∧ r < (run s).2.heap.length)

theorem ext_writesOnlyAllocated {s s' : St} (h : Ext s.heap.length s s') :
    ∃ new, s'.log = s.log ++ new ∧ WritesOnlyAllocated new ∧ NeverTouches s.heap.length new := by
  obtain ⟨new, hl, hr, hw, hret⟩ := h.ex
  refine ⟨new, hl, ?_, hw, hret⟩
  intro pre post k id c he
  subst he
  obtain ⟨n', hp, hfit⟩ := replay_split hr
  exact replay_alloc_mem hp id (hw k id c (by simp)) (of_decide_eq_true hfit)

/-- **C19_writes_fresh.** Every frame written in place during `exec p` was allocated during that run: each write event
is preceded in the run's own log by the allocation event of its target; no write targets, and no step returns, one of
the caller's frames.  Holds whether the run returns or raises, for every hint and every set-iteration order. -/
theorem C19_writes_fresh (ord : Ord) (dm : DataMap) (p : Pipe) (s : St) :
    ∃ new, (exec ord dm p s).2.log = s.log ++ new ∧ WritesOnlyAllocated new ∧ NeverTouches s.heap.length new :=
  ext_writesOnlyAllocated (exec_ext ord dm p s).1

theorem ext_unchanged {s s' : St} (h : Ext s.heap.length s s') : CallerFramesUnchanged s.heap s'.heap := by
  have := h.keep
  simpa [CallerFramesUnchanged] using this

/-- **C19_inputs_unchanged.** After `exec p` (returning or raising) the heap restricted to the caller's positions is the
caller's heap: every input frame has the same columns, rows and payload token, at the same identity. -/
theorem C19_inputs_unchanged (ord : Ord) (dm : DataMap) (p : Pipe) (s : St) :
    CallerFramesUnchanged s.heap (exec ord dm p s).2.heap ∧
    ∀ id, id < s.heap.length → (exec ord dm p s).2.heap[id]? = s.heap[id]? := by
  have h := ext_unchanged (exec_ext ord dm p s).1
  refine ⟨h, fun id hid => ?_⟩
  have := getElem?_of_take_eq (l₁ := (exec ord dm p s).2.heap) (l₂ := s.heap) (n := s.heap.length)
    (by rw [h]; simp) hid
  exact this

/-- **C19_result_fresh.** The frame `exec p` returns is not one of the caller's frames: its position did not exist
before the run (and exists after it). -/
theorem C19_result_fresh (ord : Ord) (dm : DataMap) (p : Pipe) (s : St) (r : FrameId) (f : Frame)
    (h : (exec ord dm p s).1 = .ok (r, f)) :
    s.heap.length ≤ r ∧ r < (exec ord dm p s).2.heap.length :=
  (exec_ext ord dm p s).2 r f h

/-- **C19_result_mutation_isolated.** Whatever is afterwards written in place into the returned frame (any sequence of
new contents `gs`), the caller's frames stay unchanged: mutating the result cannot change the inputs. -/
theorem C19_result_mutation_isolated (ord : Ord) (dm : DataMap) (p : Pipe) (s : St) (r : FrameId) (f : Frame)
    (h : (exec ord dm p s).1 = .ok (r, f)) (gs : List Frame) :
    CallerFramesUnchanged s.heap (gs.foldl (fun hp g => hp.set r g) (exec ord dm p s).2.heap) := by
  have hr := (C19_result_fresh ord dm p s r f h).1
  have h0 := (C19_inputs_unchanged ord dm p s).1
  generalize (exec ord dm p s).2.heap = hp at h0
  induction gs generalizing hp with
  | nil => exact h0
  | cons g gs ih =>
    apply ih
    unfold CallerFramesUnchanged at *
    rw [List.take_set_of_le hr]
    exact h0

theorem ownershipSafe_of_exec (ord : Ord) (dm : DataMap) (p : Pipe) : OwnershipSafe (exec ord dm p) :=
  fun s => ⟨(C19_inputs_unchanged ord dm p s).1, C19_writes_fresh ord dm p s, C19_result_fresh ord dm p s⟩

theorem ownershipSafe_const (e : Err) : OwnershipSafe (fun s => (.error e, s)) := by
  intro s
  refine ⟨by simp [CallerFramesUnchanged], ⟨[], by simp, ?_, ?_, ?_⟩, by intro r f h; cases h⟩
  · intro pre post k id c he; cases pre <;> simp at he
  · intro k id c hm; cases hm
  · intro id f hm; cases hm

/-- an entry point that, in every state, either raises at once or hands over to the executor is safe -/
theorem ownershipSafe_of_cases {ord : Ord} {p : Pipe} {run : St → Except Err (FrameId × Frame) × St}
    (h : ∀ s, (∃ e, run s = (.error e, s)) ∨ ∃ dm, run s = exec ord dm p s) : OwnershipSafe run := by
  intro s
  rcases h s with ⟨e, he⟩ | ⟨dm, he⟩
  · rw [he]; exact ownershipSafe_const e s
  · rw [he]; exact ownershipSafe_of_exec ord dm p s

/-- **C19_entry_points.** `eval(data_map)`, `transform(X)`, `ex()` and `act_on(X)` (= `X >> ops`) all leave the caller's
frames unchanged, write only to frames allocated during the call and return a new frame. -/
theorem C19_entry_points (ord : Ord) (dm : DataMap) (x : FrameId) (p : Pipe) :
    OwnershipSafe (eval ord dm p) ∧ OwnershipSafe (transform ord x p) ∧ OwnershipSafe (ex ord p) ∧
    OwnershipSafe (actOn ord x p) := by
  -- each entry point checks its arguments, raises or builds a data map, and ends in `exec`
  have hev : ∀ dm' s, (∃ e, eval ord dm' p s = (.error e, s)) ∨ ∃ dm, eval ord dm' p s = exec ord dm p s := by
    intro dm' s
    unfold eval
    split
    · exact Or.inl ⟨_, rfl⟩
    · exact Or.inr ⟨_, rfl⟩
  have htr : ∀ s, (∃ e, transform ord x p s = (.error e, s)) ∨ ∃ dm, transform ord x p s = exec ord dm p s := by
    intro s
    unfold transform
    split
    · exact hev _ s
    · exact Or.inl ⟨_, rfl⟩
  refine ⟨ownershipSafe_of_cases (hev dm), ownershipSafe_of_cases htr,
    ownershipSafe_of_cases (ord := ord) (p := p) fun s => ?_,
    ownershipSafe_of_cases (ord := ord) (p := p) fun s => ?_⟩
  · unfold ex
    split
    · exact Or.inl ⟨_, rfl⟩
    · exact hev _ s
  · unfold actOn
    split
    · split
      · exact htr s
      · exact Or.inl ⟨_, rfl⟩
    · exact Or.inl ⟨_, rfl⟩

/-- **C19_deterministic.** The executor model is a function of the pipeline (with its hints), the data map and the
heap; the only thing the Python code leaves open beyond that is the iteration order of Python sets
(`set(op.partition_by)` in `_extend_step`, the column intersection in `add_data_frame_columns_to_data_frame_`,
`common_cols` in `_natural_join_step`), a parameter `ord` here.  For a data map that names caller frames: the result
(error class, or identity, columns, rows and payload token of the returned frame), the size of the heap and the
sequence of events up to column names and allocation labels — hence the set of frames written and which frame every
step returns — do not depend on that order, i.e. not on PYTHONHASHSEED.
(Before `fixes/c19-project-empty-group-order.diff` a fourth loop, over `missing_group_cols` in `_project_step`, made the
column ORDER of an empty grouped result depend on it; see `C19_unpatched_project_order_dependent`.) -/
theorem C19_deterministic {ord₁ ord₂ : Ord} (h₁ : OrdOK ord₁) (h₂ : OrdOK ord₂) (dm : DataMap) (p : Pipe)
    (s : St) (hsc : Scoped dm p s.heap.length) :
    (exec ord₁ dm p s).1 = (exec ord₂ dm p s).1 ∧
    (exec ord₁ dm p s).2.heap.length = (exec ord₂ dm p s).2.heap.length ∧
    (exec ord₁ dm p s).2.log.map evShape = (exec ord₂ dm p s).2.log.map evShape := by
  obtain ⟨a, b⟩ := exec_ord h₁ h₂ dm p s.heap.length hsc s s (SRel.refl s) (Nat.le_refl _) rfl
  exact ⟨a, b.len, b.log⟩

theorem ordOK_id : OrdOK (fun l => l) := fun l => List.Perm.refl l
theorem ordOK_reverse : OrdOK List.reverse := fun l => List.reverse_perm l

/-- the loop of the UNPATCHED `_project_step` (`for g in missing_group_cols: res[g] = []`, a set iteration) -/
def unpatchedMissingLoop (ord : Ord) (r : H) (groupBy : List Col) : B H :=
  setAll r (ord ((groupBy.filter (· ∉ r.f.cols)).eraseDups))

/-- **C19_unpatched_project_order_dependent.** Why the patch is needed: with two missing group columns the unpatched
loop yields differently ordered columns for two iteration orders (`s, g, h` vs `s, h, g`), so the same pipeline on the
same (empty) input returned differently ordered frames in processes with different PYTHONHASHSEED. -/
theorem C19_unpatched_project_order_dependent :
    ¬ (∀ ord₁ ord₂ : Ord, OrdOK ord₁ → OrdOK ord₂ →
        (unpatchedMissingLoop ord₁ ⟨.loc 0, ⟨["s"], 0, 0⟩⟩ ["g", "h"] 1).1.f.cols =
        (unpatchedMissingLoop ord₂ ⟨.loc 0, ⟨["s"], 0, 0⟩⟩ ["g", "h"] 1).1.f.cols) := by
  intro h
  have := h (fun l => l) List.reverse ordOK_id ordOK_reverse
  revert this
  decide

/-- **C19_repeatable.** Evaluating the same pipeline on the same inputs again (from the state the first evaluation
left) gives the same outcome: the same error class, or a frame with the same columns, rows and payload token — in a
NEW object; the first result is not touched by the second evaluation. -/
theorem C19_repeatable (ord : Ord) (dm : DataMap) (p : Pipe) (s : St) (hsc : Scoped dm p s.heap.length) :
    let first := exec ord dm p s
    let second := exec ord dm p first.2
    second.1.map Prod.snd = first.1.map Prod.snd ∧
    (∀ r₁ f₁ r₂ f₂, first.1 = .ok (r₁, f₁) → second.1 = .ok (r₂, f₂) →
        r₁ < r₂ ∧ second.2.heap[r₁]? = first.2.heap[r₁]?) ∧
    CallerFramesUnchanged s.heap second.2.heap := by
  intro first second
  have e1 := exec_ext ord dm p s
  have e2 := exec_ext ord dm p first.2
  have hlen := e1.1.len_le
  have hkeep : first.2.heap.take s.heap.length = s.heap.take s.heap.length := e1.1.keep
  refine ⟨?_, ?_, ?_⟩
  · exact exec_agree ord dm p s.heap.length hsc first.2 s hlen (Nat.le_refl _) hkeep
  · intro r₁ f₁ r₂ f₂ h1 h2
    have a := (e1.2 r₁ f₁ h1).2
    have b := (e2.2 r₂ f₂ h2).1
    refine ⟨Nat.lt_of_lt_of_le a b, ?_⟩
    exact getElem?_of_take_eq e2.1.keep a
  · have := (Ext.mono hlen e2.1).keep
    unfold CallerFramesUnchanged
    rw [this, hkeep]
    simp

/-- `d(g, x)` with 3 rows and `e(g, z)` with 2 rows are the caller's frames -/
def exHeap : St := ⟨[⟨["g", "x"], 3, 0⟩, ⟨["g", "z"], 2, 0⟩], []⟩
def exDm : DataMap := [("d", 0), ("e", 1)]

/-- `d.extend({'w': 'x.sum()', 'c': '(1).sum()'}, partition_by=['g']).natural_join(e.extend({'x': 'z * 2'}), on=[], 'cross')
      .concat_rows(d.extend(...), id_column='src').project({'s': 'x.sum()'}, group_by=['g']).order_rows(['g'])` -/
def exPipe : Pipe :=
  let d := Pipe.table ⟨"d", ["g", "x"], none⟩
  let e := Pipe.table ⟨"e", ["g", "z"], none⟩
  let w := Pipe.un (.extend ⟨["w", "c"], [.col "x", .val "1"], true, ["g"], [], false⟩) none d
  let j := Pipe.bin (.join ⟨[], [], ["g", "x", "w", "c", "z"], 6⟩) none w
            (.un (.extend ⟨["x"], [.none], false, [], [], false⟩) none e)
  let c := Pipe.bin (.concat ⟨some "src"⟩) none j (.un (.extend ⟨["w", "c", "z"], [], false, [], [], true⟩) none d)
  .un (.orderRows none) none (.un (.project ⟨["s"], [.col "x"], ["g"], 2⟩) none c)

example : Scoped exDm exPipe exHeap.heap.length := by
  refine ⟨?_, ?_⟩
  · intro k id h
    simp only [exDm, List.lookup] at h
    split at h
    · cases h; decide
    · split at h
      · cases h; decide
      · cases h
  · intro t ht h hh
    simp [exPipe, tablesOf] at ht
    rcases ht with rfl | rfl | rfl <;> cases hh

/-- the run returns, performs 19 in-place writes (on frames returned by source steps and on local frames), allocates 25
frames, and returns a frame outside the caller's heap -/
example :
    ((exec (fun l => l) exDm exPipe exHeap).1.toOption.map (·.2.cols) = some ["g", "s"]) ∧
    ((exec (fun l => l) exDm exPipe exHeap).2.log.filter (fun e => match e with | .write _ _ _ => true | _ => false)).length = 19 ∧
    (exec (fun l => l) exDm exPipe exHeap).2.heap.length = 27 := by decide +kernel

/-- a pipeline whose run raises half way: the join raises after its two writes into the frames its sources returned
(the example below: no result, two writes in the log) -/
def exFailPipe : Pipe :=
  .bin (.join ⟨[], [], [], 6⟩) (some ⟨2, "TypeError"⟩) (.table ⟨"d", ["g", "x"], none⟩) (.table ⟨"e", ["g", "z"], none⟩)

example :
    (exec (fun l => l) exDm exFailPipe exHeap).1.toOption = none ∧
    (exec (fun l => l) exDm exFailPipe exHeap).2.log.filter (fun e => match e with | .write _ _ _ => true | _ => false)
      = [.write .setitem 3 "data_algebra_temp_merge_col", .write .setitem 5 "data_algebra_temp_merge_col"] := by decide +kernel

/-- the witness of the hash-seed dependence of the unpatched code (grouped project with two group columns over an empty table): on the
patched code both iteration orders return the columns in the order of `group_by` -/
def witnessP : Pipe :=
  .un (.project ⟨["s"], [.col "x"], ["g", "h"], 0⟩) none (.table ⟨"d", ["g", "h", "x"], none⟩)
def witnessS : St := ⟨[⟨["g", "h", "x"], 0, 0⟩], []⟩
example :
    (exec (fun l => l) [("d", 0)] witnessP witnessS).1.toOption.map (·.2.cols) = some ["s", "g", "h"] ∧
    (exec List.reverse [("d", 0)] witnessP witnessS).1.toOption.map (·.2.cols) = some ["s", "g", "h"] := by decide +kernel

example : OrdOK (fun l => l) ∧ OrdOK List.reverse ∧ (fun l : List Col => l) ["a", "b"] ≠ List.reverse ["a", "b"] :=
  ⟨ordOK_id, ordOK_reverse, by decide⟩

/-- what a violation looks like: a table step that returned the caller's own frame would break `NeverTouches`
(the event list `[ret 0 _]` is rejected), and a write to position 0 breaks `CallerFramesUnchanged` -/
example : ¬ NeverTouches 1 [.ret 0 ⟨["g"], 1, 0⟩] := by
  intro h; have := h.2 0 ⟨["g"], 1, 0⟩ (List.mem_singleton.mpr rfl); omega
example : ¬ CallerFramesUnchanged [⟨["g"], 1, 0⟩] ([(⟨["g"], 1, 0⟩ : Frame)].set 0 ⟨["g", "t"], 1, 1⟩) := by
  unfold CallerFramesUnchanged; decide

end DAVerif.Own
