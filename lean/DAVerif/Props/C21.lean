import DAVerif.Proofs.SolRank
import DAVerif.Proofs.SolReplicate
import DAVerif.Proofs.SolLocf
import DAVerif.Proofs.SolMcm
import DAVerif.Sql.Sem
import DAVerif.Proofs.EvalRead
/-!
# C21 — Solution helpers compute what their documentation promises

The specification side (`Spec/Solutions.lean`: `tieGroupMeanRank`, `locfValue`, `replicateSpec`, `multiMapSpec`) is
written on plain lists of rows, independently of pipelines and executor.  The models of the helpers are
`Solutions/*.lean` (each helper re-built call by call through the model's builders; tied to
`/repo/data_algebra/solutions.py` by the tree-equality suite `k2_solutions` and the execution suites `k4_solutions`
/ `k5_solutions`).

Every theorem has the form: *if the helper accepts its parameters* (`helper … = .ok p`: all its `assert`s and all the
builders' checks pass) *then evaluating the returned pipeline `p` yields the specified table*.  The executor is `sem`
with the concrete interpretation `Theta.concrete` of the window / scalar functions (what the Pandas executor
computes); theorems that do not involve a join hold for both configurations of `sem`.
-/
namespace DAVerif
open DAVerif.Solutions DAVerif.Spec21 DAVerif.Sol

/-- **The tree `rank_to_average` builds** over a table description: `_row_number()` over `order_by` as tie breaker,
a running count per partition ordered by `order_by` and the tie breaker, its mean per `partition_by ++ order_by`, and
the tie breaker dropped – exactly these four nodes (no builder simplification applies), and the helper's assertion
together with the builders' checks gives: the table's columns are distinct, the two new names are new and
different, `order_by` is non-empty, `order_by` and `partition_by` name columns of the table. -/
theorem C21_rank_to_average_tree {name : String} {cols orderBy : List String} {partitionBy : Option (List String)}
    {rankCol tbCol : String} {p : Ops}
    (h : rankToAverage (.table name cols) orderBy partitionBy rankCol tbCol = .ok p) :
    p = rankTree (.table name cols) orderBy (partitionBy.getD []) rankCol tbCol ∧
    RankOK cols orderBy (partitionBy.getD []) rankCol tbCol :=
  rankToAverage_ok (plain_table ..) (by intro _ _ _ _ _ _ e; cases e) h

/-- **rank_to_average computes the mean position of each row's tie group.**  For every table description, every
parameter choice the helper accepts, every environment holding the table (with at least the declared columns) and
every record-transform interpretation: the pipeline evaluates to the input rows, in input order, each extended by
the column `rank_column_name` holding the mean of the 1-based positions `less+1 … less+ties` of the row's tie group
(rows of its partition with the same `order_by` cells) in its partition sorted by `order_by` (ascending, missing
values last – `rowLe`, see `rowLe_iff_lexLe` of C18 for its reading).  Holds for both configurations of `sem`. -/
theorem C21_rank_to_average (cv : RecMap → Table → Except Err Table) (cfg : SemCfg) (env : Env)
    {name : String} {cols orderBy : List String} {partitionBy : Option (List String)} {rankCol tbCol : String}
    {p : Ops} {t0 : Table}
    (hbuild : rankToAverage (.table name cols) orderBy partitionBy rankCol tbCol = .ok p)
    (henv : env.lookup name = some t0) (hsub : subset cols t0.cols = true) :
    sem (Theta.concrete cv) cfg env p
      = .ok (rankSpec (rowLe orderBy []) (partitionBy.getD []) rankCol (t0.selectCols cols)) := by
  obtain ⟨rfl, hok⟩ := C21_rank_to_average_tree hbuild
  have hd : sem (Theta.concrete cv) cfg env (.table name cols) = .ok (t0.selectCols cols) := by
    simp only [sem, henv, hsub, if_true]
  exact sem_rankTree cv cfg env (.table name cols) (t0.selectCols cols) hok hd (Table.wf_selectCols _ _)

/-- The same for every view `d` (not only table descriptions) on which the helper's first `extend` adds its own
node (`d` is not an `order_rows` without limit, and not an `extend` with the same ordering – then the builders would
skip / merge, which is C06's subject): whatever well-formed table `d` evaluates to, the helper's pipeline extends
each of its rows by the mean position of the row's tie group. -/
theorem C21_rank_to_average_view (cv : RecMap → Table → Except Err Table) (cfg : SemCfg) (env : Env)
    {d : Ops} {orderBy : List String} {partitionBy : Option (List String)} {rankCol tbCol : String} {p : Ops}
    {t : Table} (hplain : strip d = d)
    (hnomerge : ∀ src ops1 p1 o1 r1 w1, d = .extend src ops1 p1 o1 r1 w1 → (orderBy == o1) = false)
    (hbuild : rankToAverage d orderBy partitionBy rankCol tbCol = .ok p)
    (hd : sem (Theta.concrete cv) cfg env d = .ok t) (hwf : t.WF) (hcols : t.cols = d.cols) :
    sem (Theta.concrete cv) cfg env p = .ok (rankSpec (rowLe orderBy []) (partitionBy.getD []) rankCol t) := by
  obtain ⟨rfl, hok⟩ := rankToAverage_ok hplain hnomerge hbuild
  rw [sem_rankTree cv cfg env d t hok hd (fun r hr => (hwf r hr).trans hcols)]
  simp only [rankSpec, hcols]

/-- The documented reading "rank of each item is the average of all items with same order position": the mean of
the positions `less+1 … less+ties` is `less + (ties + 1) / 2`. -/
theorem C21_rank_mean_closed_form (le : Row → Row → Bool) (part : List String) (rows : List Row) (r : Row)
    (h : 0 < tieCount le part rows r) :
    tieGroupMeanRank le part rows r
      = (lessCount le part rows r : Rat) + ((tieCount le part rows r : Rat) + 1) / 2 := by
  simp only [tieGroupMeanRank]
  generalize lessCount le part rows r = L at *
  generalize tieCount le part rows r = E at *
  have h1 := sum_map_add_const (List.range E) (fun e => e) L
  have h2 := sum_range_id E
  rw [List.length_range] at h1
  have h3 : ((List.range E).map (fun i => L + i + 1)).sum = E * (L + 1) + ((List.range E).map (fun e => e)).sum := h1
  rw [h3]
  generalize ((List.range E).map (fun e => e)).sum = S at *
  have hE : (E : Rat) ≠ 0 := by
    intro e
    have : E = 0 := by exact_mod_cast e
    omega
  have h2' : (2 : Rat) * S + E = E * E := by exact_mod_cast h2
  rw [Rat.natCast_add, Rat.natCast_mul, Rat.natCast_add]
  have : ((1 : Nat) : Rat) = 1 := rfl
  rw [this]
  -- field arithmetic: `(E * (L + 1) + S) / E = L + (E + 1) / 2`, from `2 * S + E = E * E` (`h2'`, `S = 0 + … + (E-1)`)
  -- and `E ≠ 0`
  grind

/-- **The tree `last_observed_carried_forward` builds** over a table description (default `selection_predicate`
`is_null()`): the three marking steps `use = v.is_null().where(0, 1)`, `tb = _row_number()` ordered by
`partition_by + order_by`, `rank = use.cumsum()` per partition ordered by `order_by + [tb]`; the left join of the marked
rows with the marked rows that have `use == 1` (restricted to `partition_by + [rank, v]`) on `partition_by + [rank]`; the
three temporary columns dropped.  Side conditions: distinct table columns, three new distinct temporary names, the
value column exists, `partition_by + order_by` is not empty. -/
theorem C21_locf_tree {name : String} {cols orderBy : List String} {partitionBy : Option (List String)}
    {valueCol useCol rankCol tbCol : String} {p : Ops}
    (h : lastObservedCarriedForward (.table name cols) orderBy partitionBy valueCol useCol rankCol tbCol = .ok p) :
    p = locfTree (.table name cols) orderBy (partitionBy.getD []) valueCol useCol rankCol tbCol ∧
    LocfOK cols orderBy (partitionBy.getD []) valueCol useCol rankCol tbCol :=
  locf_ok h

/-- an accepted call returns the tree of the `_tree` theorem (what an evaluated `isOk` gives on a concrete call) -/
theorem rankToAverage_of_isOk {name : String} {cols orderBy : List String} {partitionBy : Option (List String)}
    {rankCol tbCol : String} (h : (rankToAverage (.table name cols) orderBy partitionBy rankCol tbCol).isOk = true) :
    rankToAverage (.table name cols) orderBy partitionBy rankCol tbCol
      = .ok (rankTree (.table name cols) orderBy (partitionBy.getD []) rankCol tbCol) := by
  obtain ⟨p, hq⟩ := exists_ok_of_isOk h
  rw [hq, (C21_rank_to_average_tree hq).1]

theorem locf_of_isOk {name : String} {cols orderBy : List String} {partitionBy : Option (List String)}
    {valueCol useCol rankCol tbCol : String}
    (h : (lastObservedCarriedForward (.table name cols) orderBy partitionBy valueCol useCol rankCol tbCol).isOk = true) :
    lastObservedCarriedForward (.table name cols) orderBy partitionBy valueCol useCol rankCol tbCol
      = .ok (locfTree (.table name cols) orderBy (partitionBy.getD []) valueCol useCol rankCol tbCol) := by
  obtain ⟨p, hq⟩ := exists_ok_of_isOk h
  rw [hq, (C21_locf_tree hq).1]

/-- **last_observed_carried_forward fills each missing value with the latest earlier non-missing value of its
partition** (Pandas configuration of the executor model, where the join matches missing partition keys with each
other).  For every table description, every accepted parameter choice with `order_by` / `partition_by` naming table
columns, every environment holding the table: there are tie-breaking numbers `tb` (the helper's `_row_number()`, one
per row position) that are pairwise different and increase along `partition_by + order_by`, such that the pipeline
evaluates to a table with the table's columns whose rows are – up to row order – the input rows with the value
column replaced by `locfValue`: the row's own value if present, otherwise the value of the latest row of its
partition strictly before it in the order (`order_by` ascending with missing values last, ties broken by `tb`) whose
value is present, and missing if there is none.

(The documentation leaves the order inside a tie of `order_by` open; the statement says that *some* fixed refinement
is used consistently.  Row order: rows without any earlier value leave the left join after the others.) -/
theorem C21_locf (cv : RecMap → Table → Except Err Table) (env : Env)
    {name : String} {cols orderBy : List String} {partitionBy : Option (List String)}
    {valueCol useCol rankCol tbCol : String} {p : Ops} {t0 : Table}
    (hbuild : lastObservedCarriedForward (.table name cols) orderBy partitionBy valueCol useCol rankCol tbCol = .ok p)
    (hob : ∀ c ∈ orderBy, c ∈ cols) (hpb : ∀ c ∈ partitionBy.getD [], c ∈ cols)
    (henv : env.lookup name = some t0) (hsub : subset cols t0.cols = true) :
    ∃ (tb : Nat → Nat) (t : Table),
      (∀ j k, j < (t0.selectCols cols).rows.length → k < (t0.selectCols cols).rows.length → tb j = tb k → j = k) ∧
      (∀ j k, j < (t0.selectCols cols).rows.length → k < (t0.selectCols cols).rows.length →
        strictlyBefore (rowLe (partitionBy.getD [] ++ orderBy) []) ((t0.selectCols cols).rows.getD j [])
          ((t0.selectCols cols).rows.getD k []) = true → tb j < tb k) ∧
      sem (Theta.concrete cv) SemCfg.pandas env p = .ok t ∧ t.cols = cols ∧
      t.rows.Perm (locfSpec (rowLe orderBy []) tb (partitionBy.getD []) valueCol (t0.selectCols cols).rows) := by
  obtain ⟨rfl, hok⟩ := C21_locf_tree hbuild
  have hc : LocfCtx cols orderBy (partitionBy.getD []) valueCol useCol rankCol tbCol := ⟨hok, hob, hpb⟩
  obtain ⟨t, hsem, hcols, hperm⟩ := sem_locfTree hc cv env name t0 henv hsub
  refine ⟨Sol21Sql.Cmp.rk1G rowLe (partitionBy.getD [] ++ orderBy) (t0.selectCols cols).rows, t, ?_, ?_, hsem, hcols,
    hperm⟩
  · intro j k hj hk h
    exact Sol21Sql.Cmp.rk1_inj _ hj hk h
  · intro j k hj hk h
    simp only [strictlyBefore, Bool.and_eq_true, Bool.not_eq_true'] at h
    exact Sol21Sql.Cmp.rk1_lt _ Sol21Sql.Cmp.cmpLex_rowLe hj hk h.2

/-- "unchanged if the row itself is non-missing", and the shape of the answer otherwise: the value of a candidate
(a row of the same partition, strictly earlier, with a present value) that no other candidate comes after -/
theorem C21_locf_value_reading (le : Row → Row → Bool) (tb : Nat → Nat) (part : List String) (v : String)
    (rows : List Row) (i : Nat) :
    ((((rows.getD i []).get v).isNull = false → locfValue le tb part v rows i = (rows.getD i []).get v)) ∧
    (((rows.getD i []).get v).isNull = true →
      (locfValue le tb part v rows i = Val.null ∨
       ∃ j ∈ locfCandidates le tb part v rows i, locfValue le tb part v rows i = (rows.getD j []).get v ∧
         ∀ k ∈ locfCandidates le tb part v rows i, k = j ∨ locfBefore le tb rows k j = true)) := by
  constructor
  · intro h
    unfold locfValue
    simp only [h, Bool.not_false, if_true]
  · intro h
    unfold locfValue
    simp only [h, Bool.not_true, Bool.false_eq_true, if_false]
    cases hf : (locfCandidates le tb part v rows i).find?
        (fun j => (locfCandidates le tb part v rows i).all (fun k => k == j || locfBefore le tb rows k j)) with
    | none => exact Or.inl rfl
    | some j =>
      right
      have hm := List.mem_of_find?_eq_some hf
      have hp := List.find?_some hf
      refine ⟨j, hm, rfl, ?_⟩
      intro k hk
      have := List.all_eq_true.mp hp k hk
      simpa using this

/-- **The tree `replicate_rows_query` builds**, the count frame it returns and the side conditions its assertions give:
`d` is a table description, the count column exists, the sequence column and the reserved column `power` are new and
different, `max_count > 0`; the count frame has, for every power `p ≤ powerOf max_count`, the rows
`(p<p>, 0) … (p<p>, 2^p - 1)`.  `powerOf` stands for the floating point expression `ceil(log(c)/log(2))`. -/
theorem C21_replicate_tree {powerOf : Nat → Nat} {d p : Ops} {countCol seqCol joinTemp : String} {maxCount : Nat}
    {frame : Table} (h : replicateRowsQuery powerOf d countCol seqCol joinTemp maxCount = .ok (p, frame)) :
    (∃ n cs, d = .table n cs) ∧ p = repTree d countCol seqCol joinTemp ∧
    frame = countFrame seqCol (powerOf maxCount) ∧ RepOK d.cols countCol seqCol ∧ 0 < maxCount :=
  replicate_ok h

/-- **replicate_rows_query emits every row `count` times, numbered `0 … count-1`** – under the hypothesis `hlog` that
the floating point expression the helper uses to choose a power table, `ceil(log(c)/log(2))` (`powerOf`), equals the
exact `⌈log₂ c⌉` (`clog2`) for every `c` in `1 … max_count`.  Lean has no theory of `Float.log`; the check
discharges `hlog` by evaluating the expression on numpy, Pandas and SQLite for **every** `c` in `1 … N` (suite
`hlog_table`; a complete check of a finite table).

Quantification: every interpretation `Θ` that evaluates the helper's power expression on a row with count `c` to the
key of power table `powerOf c` (`PowerSem`) and `<` on two numbers as the comparison (`LtSem`) – the executable
interpretations `thetaSol` / `thetaSqlSol` are instances, see below –, both configurations of `sem`, every table
description with distinct columns, every accepted parameter choice, every environment that holds the table and, under
`join_temp_name`, the returned count frame, provided every count cell is a natural number in `1 … max_count`
(`count = 0` is finding C21-replicate-zero-count: the real engines raise; `count > max_count` is outside the
documented bound).  The result rows come in input order, the copies of a row in order of their number. -/
theorem C21_replicate_partial (Θ : Interp) (cfg : SemCfg) (env : Env) (powerOf : Nat → Nat)
    {name joinTemp countCol seqCol : String} {cols : List String} {maxCount : Nat} {p : Ops} {frame t0 : Table}
    (hlog : ∀ c, 1 ≤ c → c ≤ maxCount → powerOf c = clog2 c)
    (hpow : PowerSem Θ countCol powerOf maxCount) (hlt : LtSem Θ)
    (hcols : cols.Nodup)
    (hbuild : replicateRowsQuery powerOf (.table name cols) countCol seqCol joinTemp maxCount = .ok (p, frame))
    (henv : env.lookup name = some t0) (hsub : subset cols t0.cols = true)
    (hjt : env.lookup joinTemp = some frame)
    (hcounts : ∀ r ∈ t0.rows, ∃ c : Nat, r.get countCol = Val.num (c : Nat) ∧ 1 ≤ c ∧ c ≤ maxCount) :
    sem Θ cfg env p = .ok (replicateSpec countCol seqCol (t0.selectCols cols)) := by
  obtain ⟨_, rfl, rfl, hok, hmax⟩ := C21_replicate_tree hbuild
  exact sem_repTree cfg env name joinTemp t0 hok hcols hlt hpow hlog hmax henv hsub hjt hcounts

/-- the hypotheses on `Θ` are satisfiable: the Pandas-side and the SQLite-side executable interpretations used by the
driver evaluate the power expression to `p⌈log₂ c⌉` (with the stand-in for `log` of `Solutions/ReplicateInterp.lean`,
so `hlog` holds by construction for `powerOf = clog2`) -/
theorem C21_replicate_interp_instances (cv : RecMap → Table → Except Err Table) (cc : String) (maxCount : Nat) :
    PowerSem (thetaSol cv) cc clog2 maxCount ∧ LtSem (thetaSol cv) ∧
    PowerSem thetaSqlSol cc clog2 maxCount ∧ LtSem thetaSqlSol :=
  ⟨thetaSol_powerSem cv cc maxCount, thetaSol_ltSem cv, thetaSqlSol_powerSem cc maxCount, thetaSqlSol_ltSem⟩

/-- **The tree `def_multi_column_map` builds** over table descriptions, for `coalesce_value` absent or an int / float /
bool constant: `d` restricted to the row keys and the listed columns, un-pivoted (`unpivot_specification`), left-joined
with the mapping table restricted to its three columns on (column name, value), the mapped value coalesced if asked,
pivoted back (`pivot_specification`), the listed columns renamed if asked.  Side conditions from the helper's
assertions and the builders' checks: at least one row key, **at least two listed columns** (a single one makes the
real helper raise: finding C21-multi-map-single-column), all the name lists duplicate free and pairwise disjoint as
asserted, the columns exist in the two tables. -/
theorem C21_multi_column_map_tree {dn mn : String} {dcols mcols keys cmap : List String} {nk vk mk : String}
    {cv : Option Lit} {back : Option (List String)} {p : Ops} (hcv : ∀ v, cv = some v → coalesceLitOk v = true)
    (h : defMultiColumnMap (.table dn dcols) (.table mn mcols) keys cmap nk vk mk cv back = .ok p) :
    p = mcmTree (.table dn dcols) (.table mn mcols) keys cmap nk vk mk cv back ∧
    McmOK dcols mcols keys cmap nk vk mk cv back :=
  mcm_ok hcv h

/-- **def_multi_column_map maps every listed column through the mapping table** (Pandas configuration of the
executor model; the record transforms are those `Solutions/MultiColumnMap.lean` transcribes from the Pandas
executor for the helper's two record maps).  For all table descriptions `d` and `mapping_table`, every accepted
parameter choice (coalesce value absent or numeric / boolean), every environment holding the two tables, **if `d` is
uniquely keyed by `row_keys` and the mapping table by (`col_name_key`, `col_value_key`)** – the documented
preconditions – the pipeline evaluates to a table that is, up to row order, `multiMapSpec`: one row per row of `d`
with its row keys and, for every listed column under its (new) name, the mapped value of the mapping row with that
column name and that cell value (`mapLookup`), replaced by the coalesce value when there is no such row or its
mapped value is missing.  (Cells are matched by equality; a missing cell matches a mapping row whose value is
missing, as Pandas `merge` does.) -/
theorem C21_multi_column_map (env : Env) {dn mn : String} {dcols mcols keys cmap : List String} {nk vk mk : String}
    {cv : Option Lit} {back : Option (List String)} {p : Ops} {D0 M0 : Table}
    (hcv : ∀ v, cv = some v → coalesceLitOk v = true)
    (hbuild : defMultiColumnMap (.table dn dcols) (.table mn mcols) keys cmap nk vk mk cv back = .ok p)
    (hdenv : env.lookup dn = some D0) (hdsub : subset dcols D0.cols = true)
    (hmenv : env.lookup mn = some M0) (hmsub : subset mcols M0.cols = true)
    (hD : ((D0.selectCols dcols).rows.map (fun r => r.vals keys)).Nodup)
    (hM : ((M0.selectCols mcols).rows.map (fun r => r.vals [nk, vk])).Nodup) :
    ∃ t, sem (Theta.concrete (mcmConvert keys nk vk mk cmap)) SemCfg.pandas env p = .ok t ∧
      t ≈ multiMapSpec nk vk mk (M0.selectCols mcols).rows keys (cmap.zip (back.getD cmap)) (cv.map Lit.toVal)
        (D0.selectCols dcols) := by
  obtain ⟨rfl, hok⟩ := C21_multi_column_map_tree hcv hbuild
  exact sem_mcmTree hok env dn mn D0 M0 hdenv hdsub hmenv hmsub hD hM

namespace C21Ex
open DAVerif.Sql

def cvNone : RecMap → Table → Except Err Table := fun _ _ => .error .other

/-- the documentation's example `rank_to_average([1, 1, 2]) = [1.5, 1.5, 3]`, with a second partition -/
def tRank : Table :=
  ⟨["g", "x"], [[("g", .str "a"), ("x", .num 1)], [("g", .str "a"), ("x", .num 1)], [("g", .str "a"), ("x", .num 2)],
                [("g", .str "b"), ("x", .num 1)]]⟩
def envRank : Env := [("d", tRank)]

def pRank : Ops := rankTree (.table "d" ["g", "x"]) ["x"] ["g"] "rk" "rank_tie_breaker"

theorem pRank_built : rankToAverage (.table "d" ["g", "x"]) ["x"] (some ["g"]) "rk" = .ok pRank :=
  rankToAverage_of_isOk (by decide +kernel)

example : sem (Theta.concrete cvNone) .pandas envRank pRank
    = .ok (rankSpec (rowLe ["x"] []) ["g"] "rk" (tRank.selectCols ["g", "x"])) := by
  have henv : envRank.lookup "d" = some tRank := by decide +kernel
  have hsub : subset ["g", "x"] tRank.cols = true := by decide +kernel
  have := C21_rank_to_average cvNone .pandas envRank pRank_built henv hsub
  exact this

example : (rankSpec (rowLe ["x"] []) ["g"] "rk" tRank).rows.map (fun r => r.get "rk")
    = [.num (3/2), .num (3/2), .num 3, .num 1] := by decide +kernel

/-- last_observed_carried_forward: two partitions, missing values at the start, in the middle and at the end -/
def tLocf : Table :=
  ⟨["g", "o", "v"],
   [[("g", .str "a"), ("o", .num 1), ("v", .null)], [("g", .str "a"), ("o", .num 2), ("v", .num 5)],
    [("g", .str "a"), ("o", .num 3), ("v", .null)], [("g", .str "b"), ("o", .num 1), ("v", .num 7)],
    [("g", .str "b"), ("o", .num 2), ("v", .null)]]⟩
def envLocf : Env := [("d", tLocf)]

theorem locf_built : lastObservedCarriedForward (.table "d" ["g", "o", "v"]) ["o"] (some ["g"]) "v"
    = .ok (locfTree (.table "d" ["g", "o", "v"]) ["o"] ["g"] "v" "locf_to_use" "locf_non_null_rank" "locf_tiebreaker") :=
  locf_of_isOk (by decide +kernel)

example : ∃ p, lastObservedCarriedForward (.table "d" ["g", "o", "v"]) ["o"] (some ["g"]) "v" = .ok p ∧
    ∃ (tb : Nat → Nat) (t : Table), sem (Theta.concrete cvNone) .pandas envLocf p = .ok t ∧ t.cols = ["g", "o", "v"] ∧
      t.rows.Perm (locfSpec (rowLe ["o"] []) tb ["g"] "v" tLocf.rows) := by
  have hq := locf_built
  have henv : envLocf.lookup "d" = some tLocf := by decide +kernel
  have hsub : subset ["g", "o", "v"] tLocf.cols = true := by decide +kernel
  obtain ⟨tb, t, _, _, hsem, hcols, hperm⟩ := C21_locf cvNone envLocf hq (by decide) (by decide) henv hsub
  have hrows : (tLocf.selectCols ["g", "o", "v"]).rows = tLocf.rows := by decide +kernel
  exact ⟨_, hq, tb, t, hsem, hcols, hrows ▸ hperm⟩

/-- with any tie-breaking numbers (there are no ties here) the promised values are `-, 5, 5, 7, 7` -/
example : (locfSpec (rowLe ["o"] []) (fun j => j) ["g"] "v" tLocf.rows).map (fun r => r.get "v")
    = [.null, .num 5, .num 5, .num 7, .num 7] := by decide +kernel

/-- def_multi_column_map: two columns mapped, one unmapped value coalesced to `0` -/
def tMcmD : Table :=
  ⟨["id", "a", "b"], [[("id", .num 1), ("a", .str "x"), ("b", .str "y")], [("id", .num 2), ("a", .str "y"), ("b", .str "q")]]⟩
def tMcmM : Table :=
  ⟨["column_name", "column_value", "mapped_value"],
   [[("column_name", .str "a"), ("column_value", .str "x"), ("mapped_value", .num 10)],
    [("column_name", .str "a"), ("column_value", .str "y"), ("mapped_value", .num 20)],
    [("column_name", .str "b"), ("column_value", .str "y"), ("mapped_value", .num 30)]]⟩
def envMcm : Env := [("d", tMcmD), ("m", tMcmM)]

example : ∃ p, defMultiColumnMap (.table "d" ["id", "a", "b"]) (.table "m" ["column_name", "column_value", "mapped_value"])
      ["id"] ["a", "b"] "column_name" "column_value" "mapped_value" (some (.int 0)) none = .ok p ∧
    ∃ t, sem (Theta.concrete (mcmConvert ["id"] "column_name" "column_value" "mapped_value" ["a", "b"])) .pandas envMcm p
        = .ok t ∧
      t ≈ multiMapSpec "column_name" "column_value" "mapped_value" tMcmM.rows ["id"] [("a", "a"), ("b", "b")]
        (some (.num 0)) tMcmD := by
  obtain ⟨p, hq⟩ := exists_ok_of_isOk (x := defMultiColumnMap (.table "d" ["id", "a", "b"])
      (.table "m" ["column_name", "column_value", "mapped_value"]) ["id"] ["a", "b"] "column_name" "column_value"
      "mapped_value" (some (.int 0)) none) (by decide +kernel)
  have henvd : envMcm.lookup "d" = some tMcmD := by decide +kernel
  have henvm : envMcm.lookup "m" = some tMcmM := by decide +kernel
  obtain ⟨t, hsem, heq⟩ := C21_multi_column_map envMcm (D0 := tMcmD) (M0 := tMcmM)
    (by intro v hv; cases hv; rfl) hq henvd (by decide +kernel) henvm (by decide +kernel)
    (by decide +kernel) (by decide +kernel)
  have h1 : (tMcmM.selectCols ["column_name", "column_value", "mapped_value"]).rows = tMcmM.rows := by decide +kernel
  have h2 : tMcmD.selectCols ["id", "a", "b"] = tMcmD := by decide +kernel
  rw [h1, h2] at heq
  exact ⟨p, hq, t, hsem, heq⟩

example : (multiMapSpec "column_name" "column_value" "mapped_value" tMcmM.rows ["id"] [("a", "a"), ("b", "b")]
    (some (.num 0)) tMcmD).rows
    = [[("id", .num 1), ("a", .num 10), ("b", .num 30)], [("id", .num 2), ("a", .num 20), ("b", .num 0)]] := by
  decide +kernel

/-- replicate: counts 1, 3, 4 with `max_count = 4` -/
def tRep : Table :=
  ⟨["k", "n"], [[("k", .str "a"), ("n", .num 1)], [("k", .str "b"), ("n", .num 3)], [("k", .str "c"), ("n", .num 4)]]⟩
def envRep : Env := [("d", tRep), ("jt", countFrame "i" 2)]

theorem rep_built : ∃ pf, replicateRowsQuery clog2 (.table "d" ["k", "n"]) "n" "i" "jt" 4 = .ok pf :=
  exists_ok_of_isOk (by decide +kernel)

theorem tRep_counts : ∀ r ∈ tRep.rows, ∃ c : Nat, r.get "n" = Val.num (c : Nat) ∧ 1 ≤ c ∧ c ≤ 4 := by
  intro r hr
  simp only [tRep, List.mem_cons, List.not_mem_nil, or_false] at hr
  rcases hr with rfl | rfl | rfl
  · exact ⟨1, rfl, by omega, by omega⟩
  · exact ⟨3, rfl, by omega, by omega⟩
  · exact ⟨4, rfl, by omega, by omega⟩

example : ∃ p frame, replicateRowsQuery clog2 (.table "d" ["k", "n"]) "n" "i" "jt" 4 = .ok (p, frame) ∧
    frame = countFrame "i" 2 ∧
    sem (thetaSol cvNone) .pandas envRep p = .ok (replicateSpec "n" "i" (tRep.selectCols ["k", "n"])) := by
  obtain ⟨⟨p, frame⟩, hq⟩ := rep_built
  have hfr : frame = countFrame "i" 2 := (C21_replicate_tree hq).2.2.1
  exact ⟨p, frame, hq, hfr, C21_replicate_partial (thetaSol cvNone) .pandas envRep clog2 (fun _ _ _ => rfl)
    (thetaSol_powerSem cvNone "n" 4) (thetaSol_ltSem cvNone) (by decide) hq (t0 := tRep) rfl rfl
    (by rw [hfr]; rfl) tRep_counts⟩

example : (replicateSpec "n" "i" tRep).rows.length = 8 := by decide +kernel

end C21Ex

end DAVerif
