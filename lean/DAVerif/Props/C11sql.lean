import DAVerif.Proofs.SqlReach
import DAVerif.Proofs.BuilderReach
import DAVerif.Proofs.EqSqlSem
import DAVerif.Props.C11
import DAVerif.Props.C04
/-!
# C11, the SQL half — "… and the same SQL in every dialect"

Model of the SQL generator: `toNearSql : SqlCfg → Ops → Except Err Near` (Sql/ToNearSql.lean; `SqlCfg` = the dialect family:
extend merges on/off, SQLite's RIGHT / FULL join emulation on/off), semantics `semSql` / `semWith` / `semToSql`;
specification side `Spec/Erase.lean`, `Spec/EraseSql.lean` (`Near.eraseM`, `Near.sqlShape`, `withShape`).

What "the same SQL" means here.  The text renderer (`to_sql_str_list`, `expr_to_sql`, the per-dialect formatters and
quoting) is not modelled: a NearSQL tree of the model carries the expression tree where the real tree carries its SQL text.
The only thing `==` ignores on purpose is the `method` flag of an `Expression` (`x.f()` vs `f(x)`); in /repo that flag is
read by `Expression.to_python` only (`expr_rep.py:1424, 1443`; `polars_model.py` copies it), `SQLModel.expr_to_sql` and
every formatter dispatch on `op` / `args` / `inline`.  Hence the SQL text of a query is a function of `Near.sqlShape n` = the
tree with the `method` flags (`eraseM`) and the `ops_key` strings (`eraseKeys`; a key is never printed, it is only compared by
CTE elimination) forgotten, and "the same SQL" is proved as: same shape, same WITH form without CTE elimination, same result.

What is false, in the model and in the real code (finding `C11-method-flag-cte-elim`): `ops_key` is `str(node)`
(`f"extend({extend_node}, {terms.keys()})"`, sql_model.py:1184…1719; `renderOps` in the model) and contains the printing
form of every expression.  So `toNearSql cfg p = toNearSql cfg q` is false (`C11_sql_exact_tree_false`), and with
`use_with=True, use_cte_elim=True` two equal pipelines can render different SQL (`C11_sql_cte_elim_necessary`; reproduced
on the PostgreSQL, BigQuery, MySQL, SparkSQL models, SQLite has `supports_cte_elim=False`): the texts differ, the results
are equal (`C11_sql_same_sem_cte_elim`, under C04's `KeyFaithful`).

Constants: a float constant is an exact rational in the model, so `0.0` and `-0.0` are the same `Lit`; the known finding
`C11-negative-zero-constant` (`0.0 == -0.0`, SQL `+ 0.0` vs `+ -0.0`) is outside the model's constants.
-/
namespace DAVerif.C11
open DAVerif DAVerif.Sql DAVerif.C11Sql

/-- **Every builder call commutes with forgetting the printing form** of the expressions it is given (and of the
pipelines it is given): same error, or the erased pipeline.  Two call sequences that differ only in `x.f()` vs `f(x)`
therefore fail alike or build pipelines with the same `erase`, i.e. (by `C11_complete_struct`) `==` pipelines. -/
theorem C11_sql_build_erase (p : Ops) (s : Step) : build p.erase (eraseStep s) = (build p s).map Ops.erase :=
  build_erase p s

/-- … for whole chains of calls. -/
theorem C11_sql_buildChain_erase (p : Ops) (steps : List Step) :
    buildChain p.erase (steps.map eraseStep) = (buildChain p steps).map Ops.erase := by
  rw [← eraseMap_ops, ← eraseMap_bstep]
  exact Ren.buildChain_map eraseMap_blind.col_inj eraseMap_blind.tab_inj p steps

/-- **`to_near_sql` does not look at the `method` flags**: the tree of the pipeline with the flags forgotten is the tree
of the pipeline with the flags of the carried expressions forgotten — same generated names, same everything —
except for the `ops_key` strings (which are texts of the pipeline and do show the printing form). -/
theorem C11_sql_erase_tree (cfg : SqlCfg) (p : Ops) :
    (toNearSql cfg p.erase).map Near.eraseKeys = (toNearSql cfg p).map Near.sqlShape := toNearSql_erase cfg p

/-- **If `p == q` then, for every dialect configuration, the translation to NearSQL fails with the same error on both
or yields two trees of the same shape** (`Near.sqlShape`: everything the SQL text is rendered from). -/
theorem C11_sql_same_tree (cfg : SqlCfg) (p q : Ops) (h : p.DictWF ∨ q.DictWF) (hc : Ops.RecCoherent p q)
    (he : Eq.eqOps p q = true) :
    (toNearSql cfg p).map Near.sqlShape = (toNearSql cfg q).map Near.sqlShape :=
  toNearSql_shape_of_erase_eq cfg (C11_sound_struct p q h hc he)

/-- … for pipelines made by the builders (the dict invariant is a theorem there). -/
theorem C11_sql_same_tree_reachable (cfg : SqlCfg) {p : Ops} (q : Ops) (hr : ReachableC11 p)
    (hc : Ops.RecCoherent p q) (he : Eq.eqOps p q = true) :
    (toNearSql cfg p).map Near.sqlShape = (toNearSql cfg q).map Near.sqlShape :=
  C11_sql_same_tree cfg p q (.inl (C11_reachable_dictWF hr)) hc he

/-- Once both pipelines are written in one printing form (`erase`: all calls in function form) the two NearSQL trees
are **literally identical**, every `ops_key` included. -/
theorem C11_sql_same_tree_normalised (cfg : SqlCfg) (p q : Ops) (h : p.DictWF ∨ q.DictWF) (hc : Ops.RecCoherent p q)
    (he : Eq.eqOps p q = true) : toNearSql cfg p.erase = toNearSql cfg q.erase := by
  rw [C11_sound_struct p q h hc he]

/-- **The WITH form without CTE elimination** (`use_with=True`; `withFormOf`: last step and the `name AS (…)` entries
with their bound columns, keys erased) **has the same shape for equal pipelines.** -/
theorem C11_sql_same_with_form (cfg : SqlCfg) (p q : Ops) (h : p.DictWF ∨ q.DictWF) (hc : Ops.RecCoherent p q)
    (he : Eq.eqOps p q = true) :
    (withFormOf cfg p).map withShape = (withFormOf cfg q).map withShape :=
  withFormOf_shape_of_erase_eq cfg (C11_sound_struct p q h hc he)

/-- The SQL semantics is a function of the shape: it never reads a `method` flag or an `ops_key`. -/
theorem C11_sql_shape_sem (Θ : Interp) (ec : EngineCfg) (env : Env) (n : Near) :
    semSql Θ ec env n.sqlShape = semSql Θ ec env n := semSql_sqlShape Θ ec env n

/-- … neither does the meaning of a WITH query. -/
theorem C11_sql_shape_sem_with (Θ : Interp) (ec : EngineCfg) (env : Env) (steps : List WithStep) (last : Near) :
    semWith Θ ec env (steps.map WithStep.eraseM) last.eraseM = semWith Θ ec env steps last :=
  semWith_eraseM Θ ec env steps last

/-- **If `p == q` then the SQL generated for `p` and for `q` (nested form) denotes the same table** — or both
translations fail with the same error, or both queries fail with the same error — for every dialect configuration,
every interpretation of the operators, every engine configuration (NULL placement) and every database. -/
theorem C11_sql_same_sem (cfg : SqlCfg) (p q : Ops) (h : p.DictWF ∨ q.DictWF) (hc : Ops.RecCoherent p q)
    (he : Eq.eqOps p q = true) (Θ : Interp) (ec : EngineCfg) (env : Env) :
    (toNearSql cfg p).map (semSql Θ ec env) = (toNearSql cfg q).map (semSql Θ ec env) :=
  map_congr_of_shape (C11_sql_same_tree cfg p q h hc he) _ (fun _ _ _ _ hs => semSql_congr_shape Θ ec env hs)

/-- **… also under `use_with` (on or off), without CTE elimination.**  (`semToSql` = the meaning of what `to_sql`
emits under the options, including its fall-back to the nested form.) -/
theorem C11_sql_same_sem_options (cfg : SqlCfg) (p q : Ops) (h : p.DictWF ∨ q.DictWF) (hc : Ops.RecCoherent p q)
    (he : Eq.eqOps p q = true) (Θ : Interp) (ec : EngineCfg) (env : Env) (useWith : Bool) :
    (toNearSql cfg p).map (semToSql Θ ec env useWith false) = (toNearSql cfg q).map (semToSql Θ ec env useWith false) :=
  map_congr_of_shape (C11_sql_same_tree cfg p q h hc he) _ (fun n n' hn hn' hs => by
    rw [C04_to_sql_options_sound Θ ec env n (C04_wf cfg p n hn) useWith false (by intro h; cases h),
      C04_to_sql_options_sound Θ ec env n' (C04_wf cfg q n' hn') useWith false (by intro h; cases h)]
    exact semSql_congr_shape Θ ec env hs)

/-- **… and under every option combination, CTE elimination included, as far as CTE elimination is sound at all**:
`KeyFaithful` (bound sub-queries with equal cache keys denote the same table) is the hypothesis of C04's
CTE-elimination theorems (`Props/C04.lean`; `Props/C04key.lean` establishes it for translated pipelines in the scope of
C01); it is needed of both translated trees because their keys differ. -/
theorem C11_sql_same_sem_cte_elim (cfg : SqlCfg) (p q : Ops) (h : p.DictWF ∨ q.DictWF) (hc : Ops.RecCoherent p q)
    (he : Eq.eqOps p q = true) (Θ : Interp) (ec : EngineCfg) (env : Env) (useWith cteElim : Bool)
    (hkp : ∀ n, toNearSql cfg p = .ok n → KeyFaithful n) (hkq : ∀ n, toNearSql cfg q = .ok n → KeyFaithful n) :
    (toNearSql cfg p).map (semToSql Θ ec env useWith cteElim)
      = (toNearSql cfg q).map (semToSql Θ ec env useWith cteElim) :=
  map_congr_of_shape (C11_sql_same_tree cfg p q h hc he) _ (fun n n' hn hn' hs => by
    rw [C04_to_sql_options_sound Θ ec env n (C04_wf cfg p n hn) useWith cteElim (fun _ => hkp n hn),
      C04_to_sql_options_sound Θ ec env n' (C04_wf cfg q n' hn') useWith cteElim (fun _ => hkq n' hn')]
    exact semSql_congr_shape Θ ec env hs)

/-! ## What is false: `ops_key` shows the printing form, CTE elimination compares `ops_key`s

Full statement (false): for all `useWith cteElim`, the WITH form `toWithForm (if cteElim then some [] else none)` of
the two trees has the same shape.  True for `cteElim = false` (`C11_sql_same_with_form`); for `cteElim = true`: -/

private def tD : Ops := .table "d" ["k", "x"]
private def absT (m : Bool) : Term := .app "abs" [.col "x"] false m
/-- `d.extend({'y': 'x.abs()'})` (`m = true`) / `d.extend({'y': 'abs(x)'})` (`m = false`) -/
private def ext (m : Bool) : Ops := .extend tD [("y", absT m)] [] [] [] false
/-- `ext m .natural_join(b=ext false, on=['k'], jointype='INNER')` -/
private def pJ (m : Bool) : Ops := .join (ext m) (ext false) ["k"] ["k"] .inner

private def kE (m : Bool) : Option String := keyOfNode "extend" (ext m) ["k", "x", "y"]
private def nExt (m : Bool) (name : String) : Near :=
  .unary name (some [("k", .pass), ("x", .pass), ("y", .expr (absT m) none)]) false (.table "d" ["k", "x"])
    (some ["k", "x"]) .none true (some [("k", ["k"]), ("x", ["x"]), ("y", ["x"])]) (kE m)
private def nJ (m : Bool) : Near :=
  .join "natural_join_0" [("k", .coalesce true "k"), ("x", .coalesce true "x"), ("y", .coalesce true "y")]
    (nExt m "extend_1") ["k", "x", "y"] "join_source_left_0" (nExt false "extend_2") ["k", "x", "y"]
    "join_source_right_0" .inner ["k"] ["k"] (keyOfNode "join" (pJ m) ["k", "x", "y"])

private theorem near_ext (m : Bool) : toNearSql .generic (ext m) = .ok (nExt m "extend_0") := by cases m <;> rfl
private theorem near_pJ (m : Bool) : toNearSql .generic (pJ m) = .ok (nJ m) := by cases m <;> rfl

private theorem kE_ne : kE true ≠ kE false := by
  intro h
  simp only [kE, keyOfNode, Option.some.injEq] at h
  have := congrArg String.length h
  simp [ext, absT, renderOps, renderAssign, renderTerm, renderTerms, String.length_append] at this

private theorem ck_ne : cacheKey (nExt true "extend_1") (some ["k", "x", "y"])
    ≠ cacheKey (nExt false "extend_2") (some ["k", "x", "y"]) := by
  intro h
  simp only [cacheKey, nExt, Near.key, kE, keyOfNode] at h
  have := congrArg String.length h
  simp [ext, absT, renderOps, renderAssign, renderTerm, renderTerms, String.length_append] at this

private theorem with_p : (toWithForm (some []) (nJ true)).2.1.map (·.name) = ["extend_1", "extend_2"] := by
  have hne := ck_ne
  simp only [cacheKey, nExt, Near.key] at hne
  simp [nJ, nExt, toWithForm, withStub, Near.isTable, Near.name, appendUnseen, lookupLast, cacheKey, Near.key, hne]

private theorem with_q : (toWithForm (some []) (nJ false)).2.1.map (·.name) = ["extend_1"] := by
  simp [nJ, nExt, toWithForm, withStub, Near.isTable, Near.name, appendUnseen, lookupLast, cacheKey, Near.key]

private theorem ext_eq : Eq.eqOps (ext true) (ext false) = true := by decide +kernel
private theorem pJ_eq : Eq.eqOps (pJ true) (pJ false) = true := by decide +kernel
private theorem ext_wf (m : Bool) : (ext m).DictWF := by simp [ext, tD, Ops.DictWF]
private theorem pJ_wf (m : Bool) : (pJ m).DictWF := by simp [pJ, ext, tD, Ops.DictWF]
private theorem ext_rc : Ops.RecCoherent (ext true) (ext false) := by
  intro r1 h1; simp [ext, tD, Ops.recmaps] at h1
private theorem pJ_rc : Ops.RecCoherent (pJ true) (pJ false) := by
  intro r1 h1; simp [pJ, ext, tD, Ops.recmaps] at h1

/-- **Literal equality of the NearSQL trees is false**: `d.extend({'y': 'x.abs()'})` and `d.extend({'y': 'abs(x)'})`
are `==`, and their trees carry different `ops_key`s (so `C11_sql_same_tree` cannot be strengthened to `=`). -/
theorem C11_sql_exact_tree_false :
    ¬ ∀ (cfg : SqlCfg) (p q : Ops), p.DictWF → q.DictWF → Ops.RecCoherent p q → Eq.eqOps p q = true →
        toNearSql cfg p = toNearSql cfg q := by
  intro hall
  have h := hall .generic (ext true) (ext false) (ext_wf _) (ext_wf _) ext_rc ext_eq
  rw [near_ext, near_ext] at h
  have hk : (nExt true "extend_0").key = (nExt false "extend_0").key := by
    rw [Except.ok.injEq] at h; rw [h]
  exact kE_ne hk

/-- **With CTE elimination equal pipelines do not render the same SQL** (the guard "no CTE elimination" of
`C11_sql_same_with_form` is necessary): the `==` pipelines `pJ true` / `pJ false` have WITH forms with two resp. one
common table expression.  Same behaviour in the real code (finding `C11-method-flag-cte-elim`). -/
theorem C11_sql_cte_elim_necessary :
    ¬ ∀ (cfg : SqlCfg) (p q : Ops), p.DictWF → q.DictWF → Ops.RecCoherent p q → Eq.eqOps p q = true →
        (toNearSql cfg p).map (fun n => (toWithForm (some []) n).2.1.map (·.name))
          = (toNearSql cfg q).map (fun n => (toWithForm (some []) n).2.1.map (·.name)) := by
  intro hall
  have h := hall .generic (pJ true) (pJ false) (pJ_wf _) (pJ_wf _) pJ_rc pJ_eq
  rw [near_pJ, near_pJ] at h
  simp only [Except.map, with_p, with_q] at h
  rw [Except.ok.injEq] at h
  exact absurd h (by decide +kernel)

/-- two textually different builder call sequences on the table description `d(k, x)` … -/
private def callsM : List Step := [.extend [("y", absT true)] .none [] [], .selectRows (some (.app ">" [.col "y", .value (.int 1)] true false))]
private def callsF : List Step := [.extend [("y", absT false)] .none [] [], .selectRows (some (.app ">" [.col "y", .value (.int 1)] true false))]
private def pipeOf (m : Bool) : Ops := .selectRows (ext m) (.app ">" [.col "y", .value (.int 1)] true false)

example : callsM.map eraseStep = callsF.map eraseStep := by rfl
example : buildChain tD callsM = .ok (pipeOf true) := by rfl
example : buildChain tD callsF = .ok (pipeOf false) := by rfl
example : pipeOf true ≠ pipeOf false := by simp [pipeOf, ext, absT]
example : ReachableC11 (pipeOf true) :=
  .step (st := .selectRows (some (.app ">" [.col "y", .value (.int 1)] true false))) (p := ext true)
    (.step (st := .extend [("y", absT true)] .none [] []) (p := tD) (ReachableC11.table "d" ["k", "x"])
      (by simp [Step.arg]) (by rfl))
    (by simp [Step.arg]) (by rfl)
example : Eq.eqOps (pipeOf true) (pipeOf false) = true := by decide +kernel
example : (pipeOf true).DictWF := by simp [pipeOf, ext, tD, Ops.DictWF]
example : Ops.RecCoherent (pipeOf true) (pipeOf false) := by
  intro r1 h1; simp [pipeOf, ext, tD, Ops.recmaps] at h1

/-- their common NearSQL shape: `SELECT k, x, y FROM (SELECT k, x, abs(x) AS y FROM d) WHERE y > 1` -/
private def shape : Near :=
  .unary "select_rows_1" (some [("k", .pass), ("x", .pass), ("y", .pass)]) false
    (.unary "extend_0" (some [("k", .pass), ("x", .pass), ("y", .expr (absT false) none)]) false
      (.table "d" ["k", "x"]) (some ["k", "x"]) .none true (some [("k", ["k"]), ("x", ["x"]), ("y", ["x"])]) none)
    (some ["k", "x", "y"]) (.whereE (.app ">" [.col "y", .value (.int 1)] true false)) false none none

example : (toNearSql .generic (pipeOf true)).map Near.sqlShape = .ok shape := by rfl
example : (toNearSql .generic (pipeOf false)).map Near.sqlShape = .ok shape := by rfl
example : (toNearSql .sqlite (pipeOf true)).map Near.sqlShape = .ok shape := by rfl

private def Θa : Interp :=
  { scalar := fun op args => match op, args with
      | "abs", [.v (.num q)] => .num (if q < 0 then -q else q)
      | ">", [.v (.num a), .v (.num b)] => .bool (decide (b < a))
      | _, _ => .null,
    agg := fun _ _ => .null, win := fun _ _ _ _ => .null, convert := fun _ t => .ok t }
private def envD : Env := [("d", ⟨["k", "x"], [[("k", .num 1), ("x", .num 1)], [("k", .num 2), ("x", .num (-2))]]⟩)]

example : semSql Θa .sqlite envD shape = .ok ⟨["k", "x", "y"], [[("k", .num 2), ("x", .num (-2)), ("y", .num 2)]]⟩ := by
  decide +kernel
example : (toNearSql .generic (pipeOf true)).map (semSql Θa .sqlite envD)
    = (toNearSql .generic (pipeOf false)).map (semSql Θa .sqlite envD) :=
  C11_sql_same_sem .generic _ _ (.inl (by simp [pipeOf, ext, tD, Ops.DictWF]))
    (by intro r1 h1; simp [pipeOf, ext, tD, Ops.recmaps] at h1) (by decide +kernel) Θa .sqlite envD

/-- the WITH forms (no CTE elimination) of the `==` join pipelines `pJ true` / `pJ false` have the same shape
(instance of `C11_sql_same_with_form`), although their CTE-eliminated forms differ -/
example : (withFormOf .generic (pJ true)).map withShape = (withFormOf .generic (pJ false)).map withShape :=
  C11_sql_same_with_form .generic _ _ (.inl (pJ_wf _)) pJ_rc pJ_eq

end DAVerif.C11
