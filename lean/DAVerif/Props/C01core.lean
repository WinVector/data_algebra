import DAVerif.Proofs.SqlAllTrans
import DAVerif.Proofs.SqlOrder
import DAVerif.Proofs.SqlReach
import DAVerif.Props.C26
import DAVerif.Props.C18
import DAVerif.Sql.ThetaSql
/-!
# C01 / C02 (core) — the SQL produced by `to_sql` returns the same table as the Pandas evaluation

First the translation theorems for every pipeline without `convert_records` (`toNear` fails on it) and every dialect
configuration (`…_all`), scope `Sql.Good cfg env p`; then their instances for the unary fragment `Sql.InFrag` with
`allow_extend_merges` off (the hypothesis `cfg.merges = false` delimits the property, the instances do not use it).
`toNearSql` = `to_near_sql_implementation_`, `semSql` = what the engine returns for the rendered query, `EngineCfg` = where
the engine sorts NULL, `sem` = the reference / Pandas semantics; one interpretation `Θ` of the function symbols on both
sides (the engine's against numpy's functions is C05); every statement is for both engines.  Stage A: row by row in order
against `Sql.semE ec` (the engine's NULL placement), no hypothesis on data or `Θ`; stage B: the engine's ordering against
pandas' (nulls last).

Hypotheses on the pipeline: `WF` (C26: every reachable pipeline), `Sql.SqlWF` (further facts the builders establish),
`Sql.MapsOK` (rename / map_columns dictionaries have unique keys – true of every Python dict – and a rename does not read
one source column twice: guard, `C08_rename_twice_necessary`, finding `C08-rename-source-twice`), `Sql.EnvOK false` (the
tables have at least the declared columns); on the data `OrdersNullFree` / `SqlScope` (NULL placement, finding D21) and
C18's `AggsOrderFree`, `WindowsTotal`.
-/
namespace DAVerif
open DAVerif.Sql

/-- **C01/C02, stage A, joins and `concat_rows`, every dialect configuration.**  For every pipeline `p` in scope
(`Good cfg env p`), every `Θ`, both engines, `allow_extend_merges` on or off: if `to_sql` produces the query `q`, then
`q` evaluates, its result has exactly the declared column set, and its rows restricted to the declared columns are
**exactly, in order** the rows of the table `p` denotes under the engine's NULL placement and the standard SQL join
semantics.  No hypothesis on data or `Θ`. -/
theorem C01_engine_order_all (Θ : Interp) (ec : EngineCfg) (env : Env) (cfg : SqlCfg)
    (p : Ops) (hg : Good cfg env p) {q : Near} (h : toNearSql cfg p = .ok q) :
    ∃ T tp, semSql Θ ec env q = .ok T ∧ semE ec Θ SemCfg.ref env p = .ok tp ∧ tp.cols = p.cols ∧
      (∀ c, c ∈ T.cols ↔ c ∈ p.cols) ∧ T.rows.map (fun r => r.select p.cols) = tp.rows :=
  SqlE.engine_order_all Θ ec env cfg p hg h

/-- **C01_translation_sound_all.**  Fragment = unary ∪ `natural_join` ∪ `concat_rows`, **every** dialect
configuration `cfg` for which the pipeline's joins are rendered natively (`Good` contains `JoinsNative cfg p`), extend
merges on or off.  Within the scope of C18 (order-free aggregates, total window orders, clean limit cuts) and
`SqlScope` (null-free order columns at ordered windows and at `order_rows` with limit): the query `to_sql` produces
evaluates, the reference semantics evaluates, and the two tables have the **same column set and the same multiset of
rows**. -/
theorem C01_translation_sound_all (Θ : Interp) (ec : EngineCfg) (env : Env) (cfg : SqlCfg)
    (p : Ops) (hg : Good cfg env p) (hA : AggsOrderFree Θ p) (hW : WindowsTotal Θ SemCfg.ref env p)
    (hS : SqlScope Θ SemCfg.ref env p) {q : Near} (h : toNearSql cfg p = .ok q) :
    ∃ T t, semSql Θ ec env q = .ok T ∧ sem Θ SemCfg.ref env p = .ok t ∧ t.cols = p.cols ∧ T.EquivS t :=
  SqlE.sound_all Θ ec env cfg p hg hA hW hS h

/-- **Strong scope: list equality, every dialect configuration.**  With null-free order columns at every `order_rows`
and ordered window the SQL result and the reference result have the same rows in the same order – joins,
`concat_rows` and extend merges included, any `Θ`. -/
theorem C01_translation_exact_all (Θ : Interp) (ec : EngineCfg) (env : Env) (cfg : SqlCfg)
    (p : Ops) (hg : Good cfg env p) (hN : OrdersNullFree Θ SemCfg.ref env p) {q : Near} (h : toNearSql cfg p = .ok q) :
    ∃ T t, semSql Θ ec env q = .ok T ∧ sem Θ SemCfg.ref env p = .ok t ∧ t.cols = p.cols ∧ T.EqS t :=
  SqlE.exact_all Θ ec env cfg p hg hN h

/-- **C08 with joins, every dialect configuration**: the SQL result has exactly the declared column set –
unconditionally (no hypothesis on data or `Θ`) -/
theorem C08_sql_cols_all (Θ : Interp) (ec : EngineCfg) (env : Env) (cfg : SqlCfg)
    (p : Ops) (hg : Good cfg env p) {q : Near} (h : toNearSql cfg p = .ok q) :
    ∃ T, semSql Θ ec env q = .ok T ∧ ∀ c, c ∈ T.cols ↔ c ∈ p.cols := by
  obtain ⟨T, _, h1, _, _, h4, _⟩ := C01_engine_order_all Θ ec env cfg p hg h
  exact ⟨T, h1, h4⟩

/-- **C09 with joins, every dialect configuration**: as many rows as the pipeline's table -/
theorem C09_sql_row_count_all (Θ : Interp) (ec : EngineCfg) (env : Env) (cfg : SqlCfg)
    (p : Ops) (hg : Good cfg env p) {q : Near} (h : toNearSql cfg p = .ok q) :
    ∃ T tp, semSql Θ ec env q = .ok T ∧ semE ec Θ SemCfg.ref env p = .ok tp ∧ T.rows.length = tp.rows.length := by
  obtain ⟨T, tp, h1, h2, _, _, h6⟩ := C01_engine_order_all Θ ec env cfg p hg h
  refine ⟨T, tp, h1, h2, ?_⟩
  have := congrArg List.length h6
  simpa using this

/-- **C01/C02, stage A.**  For every well-formed pipeline `p` of the fragment, every environment that has its
tables with at least the declared columns, every interpretation `Θ` and both engines: if `to_sql` (no extend
merges) produces the query `q`, then `q` evaluates; its result has exactly the declared column set; and its rows,
restricted to the declared columns, are **exactly, in order,** the rows of the table the pipeline denotes when
`order_rows` and window orders place NULL as the engine does (`semE ec`).  No hypothesis on the data, on `Θ`, on
names or on the fuel. -/
theorem C01_translation_engine_order (Θ : Interp) (ec : EngineCfg) (env : Env) (cfg : SqlCfg)
    (hm : cfg.merges = false) (p : Ops) (hf : InFrag p = true) (hwf : WF p) (hsq : SqlWF p) (hmp : MapsOK p)
    (he : EnvOK false env p) {q : Near} (h : toNearSql cfg p = .ok q) :
    ∃ T tp, semSql Θ ec env q = .ok T ∧ semE ec Θ SemCfg.ref env p = .ok tp ∧ tp.cols = p.cols ∧
      (∀ c, c ∈ T.cols ↔ c ∈ p.cols) ∧ T.rows.map (fun r => r.select p.cols) = tp.rows :=
  C01_engine_order_all Θ ec env cfg p (.of_frag hf hwf hsq hmp he) h

/-- **C01/C02 core (`C01_translation_sound_unary`).**  One interpretation `Θ` on both sides, both engines.  For
every well-formed pipeline `p` of the fragment and every environment with at least the declared columns, within
the scope of C18 (aggregates used are order free, window orders total, limits do not cut ties) and with null-free
order columns at ordered windows – unless all their functions are order free – and at `order_rows` with a limit
(`SqlScope`; windows without `order_by` and `order_rows` without limit are unrestricted): the query `to_sql`
produces (no extend merges) evaluates, the reference semantics evaluates, and the two tables have the **same column
set and the same multiset of rows** (`Table.EquivS`). -/
theorem C01_translation_sound_unary (Θ : Interp) (ec : EngineCfg) (env : Env) (cfg : SqlCfg)
    (hm : cfg.merges = false) (p : Ops) (hf : InFrag p = true) (hwf : WF p) (hsq : SqlWF p) (hmp : MapsOK p)
    (he : EnvOK false env p) (hA : AggsOrderFree Θ p) (hW : WindowsTotal Θ SemCfg.ref env p)
    (hS : SqlScope Θ SemCfg.ref env p)
    {q : Near} (h : toNearSql cfg p = .ok q) :
    ∃ T t, semSql Θ ec env q = .ok T ∧ sem Θ SemCfg.ref env p = .ok t ∧ t.cols = p.cols ∧ T.EquivS t :=
  C01_translation_sound_all Θ ec env cfg p (.of_frag hf hwf hsq hmp he) hA hW hS h

/-- the row half of `C01_translation_sound_unary` needs no guard: every declared column is returned and the rows,
restricted to the declared columns, are the reference rows as a multiset -/
theorem C01_translation_rows (Θ : Interp) (ec : EngineCfg) (env : Env) (cfg : SqlCfg)
    (hm : cfg.merges = false) (p : Ops) (hf : InFrag p = true) (hwf : WF p) (hsq : SqlWF p) (hmp : MapsOK p)
    (he : EnvOK false env p) (hA : AggsOrderFree Θ p) (hW : WindowsTotal Θ SemCfg.ref env p)
    (hS : SqlScope Θ SemCfg.ref env p) {q : Near} (h : toNearSql cfg p = .ok q) :
    ∃ T t, semSql Θ ec env q = .ok T ∧ sem Θ SemCfg.ref env p = .ok t ∧ (∀ c ∈ p.cols, c ∈ T.cols) ∧
      (T.rows.map (fun r => r.select p.cols)).Perm t.rows := by
  obtain ⟨T, t, h1, h2, hc, h4, h5⟩ := C01_translation_sound_unary Θ ec env cfg hm p hf hwf hsq hmp he hA hW hS h
  exact ⟨T, t, h1, h2, fun c hcp => (h4 c).mpr (hc ▸ hcp), hc ▸ h5⟩

/-- **Strong scope: list equality.**  If at every `order_rows` and every ordered window the order columns are null
free (`OrdersNullFree`), the SQL result and the reference result have the same rows **in the same order** – for
every `Θ` (no law on aggregates or window functions is needed), both engines. -/
theorem C01_translation_exact (Θ : Interp) (ec : EngineCfg) (env : Env) (cfg : SqlCfg)
    (hm : cfg.merges = false) (p : Ops) (hf : InFrag p = true) (hwf : WF p) (hsq : SqlWF p) (hmp : MapsOK p)
    (he : EnvOK false env p) (hN : OrdersNullFree Θ SemCfg.ref env p)
    {q : Near} (h : toNearSql cfg p = .ok q) :
    ∃ T t, semSql Θ ec env q = .ok T ∧ sem Θ SemCfg.ref env p = .ok t ∧ t.cols = p.cols ∧ T.EqS t :=
  C01_translation_exact_all Θ ec env cfg p (.of_frag hf hwf hsq hmp he) hN h

/-- **C01_final_order.**  A pipeline that ends in `order_rows`: if its source is in the multiset scope, and the
final order is total on the rows that reach it and its order columns contain no null, then the SQL result has
the reference rows **as a list** (same rows, same order), limit or not. -/
theorem C01_final_order (Θ : Interp) (ec : EngineCfg) (env : Env) (cfg : SqlCfg)
    (hm : cfg.merges = false) (src : Ops) (cs rv : List String) (lim : Option Nat)
    (hf : InFrag src = true) (hwf : WF (.order src cs rv lim)) (hsq : SqlWF (.order src cs rv lim))
    (hmp : MapsOK (.order src cs rv lim)) (he : EnvOK false env src)
    (hA : AggsOrderFree Θ src) (hW : WindowsTotal Θ SemCfg.ref env src) (hS : SqlScope Θ SemCfg.ref env src)
    {ts : Table} (hts : sem Θ SemCfg.ref env src = .ok ts)
    (hnull : NullFreeOn cs ts.rows) (htot : TotalOn cs rv ts.rows)
    {q : Near} (h : toNearSql cfg (.order src cs rv lim) = .ok q) :
    ∃ T t, semSql Θ ec env q = .ok T ∧ sem Θ SemCfg.ref env (.order src cs rv lim) = .ok t ∧
      T.rows.map (fun r => r.select src.cols) = t.rows := by
  obtain ⟨T, tp, h1, h2, _, _, h6⟩ :=
    C01_translation_engine_order Θ ec env cfg hm (.order src cs rv lim) hf hwf hsq hmp he h
  rw [semE_final_order_eq ec Θ SemCfg.ref env src cs rv lim hA (Or.inl hf) hW hS hts hnull htot] at h2
  exact ⟨T, tp, h1, h2, h6⟩

/-- **The main theorem for pipelines built by the builders.**  `Reachable p` (C26: obtained from table descriptions
by successful builder calls) replaces the structural hypotheses `WF` and `SqlWF` (`C26_reachable_wf`,
`C01_reachable_sqlwf`). -/
theorem C01_translation_sound_reachable (Θ : Interp) (ec : EngineCfg) (env : Env) (cfg : SqlCfg)
    (hm : cfg.merges = false) (p : Ops) (hr : Reachable p) (hf : InFrag p = true) (hmp : MapsOK p)
    (he : EnvOK false env p) (hA : AggsOrderFree Θ p) (hW : WindowsTotal Θ SemCfg.ref env p)
    (hS : SqlScope Θ SemCfg.ref env p)
    {q : Near} (h : toNearSql cfg p = .ok q) :
    ∃ T t, semSql Θ ec env q = .ok T ∧ sem Θ SemCfg.ref env p = .ok t ∧ t.cols = p.cols ∧ T.EquivS t :=
  C01_translation_sound_unary Θ ec env cfg hm p hf (C26_reachable_wf hr) (C01_reachable_sqlwf hr) hmp he hA hW hS h

/-- **C08_sql_cols.**  The SQL result has exactly the declared column set – for every `Θ`, both engines, no
hypothesis on the data, and unconditionally for the fragment.

This rests on `order_to_near_sql` naming its columns (/repo after fix 1805022, and the model).  With `SELECT *` at a
final `order_rows`, `d(a,g).extend({'x':'a.sum()'}, partition_by=['g']).select_columns(['a']).order_rows(['a'])`
renders `SELECT * FROM "d" ORDER BY "a"` and returns the undeclared column `g`: the pruned window step asks the table
for its partition column, and `select_columns` only edits the term list of the bare table node. -/
theorem C08_sql_cols (Θ : Interp) (ec : EngineCfg) (env : Env) (cfg : SqlCfg)
    (hm : cfg.merges = false) (p : Ops) (hf : InFrag p = true) (hwf : WF p) (hsq : SqlWF p) (hmp : MapsOK p)
    (he : EnvOK false env p) {q : Near} (h : toNearSql cfg p = .ok q) :
    ∃ T, semSql Θ ec env q = .ok T ∧ ∀ c, c ∈ T.cols ↔ c ∈ p.cols :=
  C08_sql_cols_all Θ ec env cfg p (.of_frag hf hwf hsq hmp he) h

/-- the SQL result has as many rows as the pipeline's table under the engine's ordering – unconditionally -/
theorem C09_sql_row_count (Θ : Interp) (ec : EngineCfg) (env : Env) (cfg : SqlCfg)
    (hm : cfg.merges = false) (p : Ops) (hf : InFrag p = true) (hwf : WF p) (hsq : SqlWF p) (hmp : MapsOK p)
    (he : EnvOK false env p) {q : Near} (h : toNearSql cfg p = .ok q) :
    ∃ T tp, semSql Θ ec env q = .ok T ∧ semE ec Θ SemCfg.ref env p = .ok tp ∧ T.rows.length = tp.rows.length :=
  C09_sql_row_count_all Θ ec env cfg p (.of_frag hf hwf hsq hmp he) h

/-- an un-grouped `project`, possibly below steps that keep the number of rows (`extend`, `select_columns`,
`drop_columns`, `rename_columns`, `map_columns`, `order_rows` without limit) – which may overwrite, drop or
ignore every aggregate it computes -/
inductive AboveUngrouped : Ops → Prop
  | project (src : Ops) (ops : Assign) : AboveUngrouped (.project src ops [])
  | extend {s : Ops} (ops : Assign) (part od rv : List String) (w : Bool) :
      AboveUngrouped s → AboveUngrouped (.extend s ops part od rv w)
  | selectCols {s : Ops} (cs : List String) : AboveUngrouped s → AboveUngrouped (.selectCols s cs)
  | dropCols {s : Ops} (ds : List String) : AboveUngrouped s → AboveUngrouped (.dropCols s ds)
  | rename {s : Ops} (m : List (String × String)) : AboveUngrouped s → AboveUngrouped (.rename s m)
  | mapCols {s : Ops} (m : List (String × String)) (ds : List String) :
      AboveUngrouped s → AboveUngrouped (.mapCols s m ds)
  | order {s : Ops} (cs rv : List String) : AboveUngrouped s → AboveUngrouped (.order s cs rv none)

theorem aboveUngrouped_one_row (le : RowCmp) (Θ : Interp) (cfg : SemCfg) (env : Env) {p : Ops}
    (hp : AboveUngrouped p) : ∀ t, semG le Θ cfg env p = .ok t → t.rows.length = 1 := by
  induction hp with
  | project src ops =>
    intro t h
    simp only [semG] at h
    obtain ⟨ts, _, rfl⟩ := bind_pure_ok h
    rfl
  | extend ops part od rv w _ ih =>
    intro t h
    simp only [semG] at h
    obtain ⟨ts, hts, h2⟩ := bind_eq_ok.mp h
    cases w
    · cases h2
      exact (List.length_map _).trans (ih ts hts)
    · cases h2
      exact (List.length_map _).trans (List.length_zipIdx.trans (ih ts hts))
  | selectCols _ _ ih | dropCols _ _ ih | rename _ _ ih | mapCols _ _ _ ih =>
    intro t h
    simp only [semG] at h
    obtain ⟨ts, hts, rfl⟩ := bind_pure_ok h
    exact (List.length_map _).trans (ih ts hts)
  | order cs rv _ ih =>
    intro t h
    simp only [semG] at h
    obtain ⟨ts, hts, rfl⟩ := bind_pure_ok h
    exact (List.length_mergeSort _).trans (ih ts hts)

/-- **C09_sql_ungrouped_one_row.**  An un-grouped `project` yields exactly one row in SQL, whatever is pruned above
it: for every pipeline that consists of row-count preserving steps above an un-grouped `project` (steps that may
overwrite, drop or never request any of its aggregates – the situations of the fixes D14 and D36), every `Θ`,
both engines and every environment with the declared columns (empty tables included), the query returns exactly
one row. -/
theorem C09_sql_ungrouped_one_row (Θ : Interp) (ec : EngineCfg) (env : Env) (cfg : SqlCfg)
    (hm : cfg.merges = false) (p : Ops) (hp : AboveUngrouped p) (hf : InFrag p = true) (hwf : WF p) (hsq : SqlWF p)
    (hmp : MapsOK p) (he : EnvOK false env p) {q : Near} (h : toNearSql cfg p = .ok q) :
    ∃ T, semSql Θ ec env q = .ok T ∧ T.rows.length = 1 := by
  obtain ⟨T, tp, h1, h2, h3⟩ := C09_sql_row_count Θ ec env cfg hm p hf hwf hsq hmp he h
  exact ⟨T, h1, h3.trans (aboveUngrouped_one_row _ Θ SemCfg.ref env hp tp h2)⟩

namespace C01Ex
open C18Ex (Θc)

def cfgN : SqlCfg := ⟨false, true⟩

def r1 : Row := [("g", .str "a"), ("x", .num 1)]
def r2 : Row := [("g", .str "b"), ("x", .num 2)]
def r3 : Row := [("g", .str "a"), ("x", .null)]
def envD : Env := [("d", ⟨["g", "x"], [r1, r2, r3]⟩)]
def d : Ops := .table "d" ["g", "x"]

/-- `d.extend({'z': 'x + 1'}).project({'n': '_.size()'}, group_by=['g'])` – the extend is pruned by the project -/
def pA : Ops :=
  .project (.extend d [("z", .app "+" [.col "x", .value (.int 1)] true false)] [] [] [] false)
    [("n", .app "size" [] false true)] ["g"]

theorem pA_frag : InFrag pA = true := rfl
theorem pA_wf : WF pA := by decide +kernel
theorem pA_sqlwf : SqlWF pA := by decide +kernel
theorem pA_maps : MapsOK pA := by decide +kernel
theorem pA_env : EnvOK false envD pA := envOK_single rfl rfl (by decide +kernel) (nomatch ·)
theorem pA_aggs : AggsOrderFree Θc pA := by
  refine ⟨trivial, ?_⟩
  intro kv hkv
  simp only [List.mem_singleton] at hkv
  subst hkv
  exact C18Ex.size_agg_orderFree

example : ∃ q, toNearSql cfgN pA = .ok q := ⟨_, rfl⟩

example (ec : EngineCfg) {q : Near} (h : toNearSql cfgN pA = .ok q) :
    ∃ T t, semSql Θc ec envD q = .ok T ∧ sem Θc SemCfg.ref envD pA = .ok t ∧ t.cols = pA.cols ∧ T.EquivS t :=
  C01_translation_sound_unary Θc ec envD cfgN rfl pA pA_frag pA_wf pA_sqlwf pA_maps pA_env pA_aggs
    ⟨trivial, fun h => by cases h⟩ ⟨trivial, fun h => by cases h⟩ h

example : ∃ t, sem Θc SemCfg.ref envD pA = .ok t ∧ t.cols = ["g", "n"] ∧ t.rows.length = 2 :=
  ⟨_, rfl, by decide +kernel, by decide +kernel⟩

/-- `d.extend({'c': '_.size()'}, partition_by=['g']).select_columns(['x'])`: a window step that is pruned away, and a
`select_columns` that modifies the step below it -/
def pB : Ops := .selectCols (.extend d [("c", .app "size" [] false true)] ["g"] [] [] true) ["x"]

theorem pB_wf : WF pB := by decide +kernel

example : ∃ q, toNearSql cfgN pB = .ok q := ⟨_, rfl⟩

example (ec : EngineCfg) {q : Near} (h : toNearSql cfgN pB = .ok q) :
    ∃ T, semSql Θc ec envD q = .ok T ∧ ∀ c, c ∈ T.cols ↔ c ∈ pB.cols :=
  C08_sql_cols Θc ec envD cfgN rfl pB rfl pB_wf (by decide +kernel) (by decide +kernel)
    (envOK_single rfl rfl (by decide +kernel) (nomatch ·)) h

/-- `d.project({'n': '_.size()', 'm': 'x.max()'}).extend({'n': '1', 'm': '2'})`: every aggregate is overwritten
(the situation of fix D14) -/
def pC : Ops :=
  .extend (.project d [("n", .app "size" [] false true), ("m", .app "max" [.col "x"] false true)] [])
    [("n", .value (.int 1)), ("m", .value (.int 2))] [] [] [] false

theorem pC_above : AboveUngrouped pC := .extend _ _ _ _ _ (.project _ _)
theorem pC_wf : WF pC := by decide +kernel

example : ∃ q, toNearSql cfgN pC = .ok q := ⟨_, rfl⟩

example (ec : EngineCfg) (rows : List Row) {q : Near} (h : toNearSql cfgN pC = .ok q) :
    ∃ T, semSql Θc ec [("d", ⟨["g", "x"], rows⟩)] q = .ok T ∧ T.rows.length = 1 :=
  C09_sql_ungrouped_one_row Θc ec _ cfgN rfl pC pC_above rfl pC_wf (by decide +kernel) (by decide +kernel)
    (envOK_single rfl rfl (fun _ hc => hc) (nomatch ·)) h

/-- `d.extend({'c': '_.size()'}, partition_by=['g'])`: a window step that is translated (`... OVER (PARTITION BY "g")`),
in scope because `size` is order free and the window has no `order_by` -/
def pW : Ops := .extend d [("c", .app "size" [] false true)] ["g"] [] [] true

theorem pW_wf : WF pW := by decide +kernel

theorem pW_env : EnvOK false envD pW := envOK_single rfl rfl (by decide +kernel) (nomatch ·)

example : ∃ q, toNearSql cfgN pW = .ok q := ⟨_, rfl⟩

example (ec : EngineCfg) {q : Near} (h : toNearSql cfgN pW = .ok q) :
    ∃ T t, semSql Θc ec envD q = .ok T ∧ sem Θc SemCfg.ref envD pW = .ok t ∧ t.cols = pW.cols ∧ T.EquivS t :=
  C01_translation_sound_unary Θc ec envD cfgN rfl pW rfl pW_wf (by decide +kernel) (by decide +kernel) pW_env trivial
    ⟨trivial, fun _ t _ => Or.inr (fun kv hkv => by
      simp only [List.mem_singleton] at hkv
      subst hkv
      exact C18Ex.size_win_orderFree)⟩
    ⟨trivial, fun _ t _ => Or.inl (fun _ _ _ hc => by cases hc)⟩ h

/-- `d.order_rows(['x'], limit=2)` on rows without nulls in `x`, all different: `C01_final_order` applies (list
equality, for SQLite's and PostgreSQL's NULL placement) -/
def x1 : Row := [("g", .str "a"), ("x", .num 3)]
def x2 : Row := [("g", .str "b"), ("x", .num 1)]
def x3 : Row := [("g", .str "a"), ("x", .num 2)]
def envX : Env := [("d", ⟨["g", "x"], [x1, x2, x3]⟩)]
def pO : Ops := .order d ["x"] [] (some 2)

example : ∃ q, toNearSql cfgN pO = .ok q := ⟨_, rfl⟩

example (ec : EngineCfg) {q : Near} (h : toNearSql cfgN pO = .ok q) :
    ∃ T t, semSql Θc ec envX q = .ok T ∧ sem Θc SemCfg.ref envX pO = .ok t ∧
      T.rows.map (fun r => r.select d.cols) = t.rows :=
  C01_final_order Θc ec envX cfgN rfl d ["x"] [] (some 2) rfl ⟨by decide +kernel, by decide +kernel⟩ (by decide +kernel) (by decide +kernel)
    (envOK_single rfl rfl (by decide +kernel) (nomatch ·))
    trivial trivial trivial (ts := ⟨["g", "x"], [x1, x2, x3]⟩) rfl (by decide +kernel) (by decide +kernel) h

example : OrdersNullFree Θc SemCfg.ref envX pO :=
  ⟨trivial, fun t ht => by
    have : sem Θc SemCfg.ref envX d = .ok ⟨["g", "x"], [x1, x2, x3]⟩ := rfl
    rw [this] at ht
    cases ht
    decide +kernel⟩

end C01Ex

namespace C01Ex

def k0 : Row := [("k", .null)]
def k1 : Row := [("k", .num 1)]
def envK : Env := [("d", ⟨["k"], [k0, k1]⟩)]
/-- `d.order_rows(['k'])` -/
def pK : Ops := .order (.table "d" ["k"]) ["k"] [] none
/-- `d.order_rows(['k'], reverse=['k'])` -/
def pKr : Ops := .order (.table "d" ["k"]) ["k"] ["k"] none

theorem pK_wf (rv : List String) : WF (.order (.table "d" ["k"]) ["k"] rv none) := ⟨by decide, by decide⟩
theorem pK_env (rv : List String) : EnvOK false envK (.order (.table "d" ["k"]) ["k"] rv none) :=
  envOK_single rfl rfl (by decide) (nomatch ·)

/-- `d.order_rows(['k'], reverse=rv)` on the rows `k = NULL, 1`, for an engine and a direction in which the engine
leaves `NULL, 1` as it is while pandas' order is `1, NULL`: all of stage A applies, and the results differ -/
theorem nullorder_witness (ec : EngineCfg) (rv : List String)
    (s1 : [k0, k1].mergeSort (fun a b => sqlRowLe ec ["k"] rv a b) = [k0, k1])
    (s2 : sortRows ["k"] rv [k0, k1] = [k1, k0]) :
    ∃ q T t, toNearSql cfgN (.order (.table "d" ["k"]) ["k"] rv none) = .ok q ∧
      semSql C18Ex.Θc ec envK q = .ok T ∧
      sem C18Ex.Θc SemCfg.ref envK (.order (.table "d" ["k"]) ["k"] rv none) = .ok t ∧
      T.rows.map (fun r => r.select ["k"]) = [k0, k1] ∧ t.rows = [k1, k0] := by
  obtain ⟨q, hq⟩ : ∃ q, toNearSql cfgN (.order (.table "d" ["k"]) ["k"] rv none) = .ok q := ⟨_, rfl⟩
  obtain ⟨T, tp, h1, h2, _, _, h6⟩ := C01_translation_engine_order C18Ex.Θc ec envK cfgN rfl _ rfl (pK_wf rv)
    rfl rfl (pK_env rv) hq
  cases h2
  exact ⟨q, T, _, hq, h1, rfl, h6.trans s1, s2⟩

end C01Ex

open C01Ex in
/-- **C01_nullorder_necessary (SQLite, finding D21).**  `d.order_rows(['k'])` on the rows `k = NULL, 1`: the order
is total, every other hypothesis of `C01_final_order` holds, yet SQLite (NULL smallest) returns `NULL, 1` and the
reference semantics (pandas: nulls last) `1, NULL`.  The null-free hypothesis cannot be dropped. -/
theorem C01_nullorder_necessary_sqlite :
    ∃ q T t, toNearSql cfgN pK = .ok q ∧ TotalOn ["k"] [] [k0, k1] ∧
      semSql C18Ex.Θc EngineCfg.sqlite envK q = .ok T ∧ sem C18Ex.Θc SemCfg.ref envK pK = .ok t ∧
      T.rows.map (fun r => r.select pK.cols) = [k0, k1] ∧ t.rows = [k1, k0] := by
  obtain ⟨q, T, t, hq, h⟩ := nullorder_witness EngineCfg.sqlite [] (List.mergeSort_of_pairwise (by decide))
    (sortRows_eq_of_sorted_perm (by decide) (by decide) (by decide))
  exact ⟨q, T, t, hq, by decide, h⟩

open C01Ex in
/-- **C01_nullorder_necessary (PostgreSQL).**  The same for an engine that sorts NULL largest, with a descending
order: `d.order_rows(['k'], reverse=['k'])` returns `NULL, 1` there, the reference semantics `1, NULL`. -/
theorem C01_nullorder_necessary_postgres :
    ∃ q T t, toNearSql cfgN pKr = .ok q ∧ TotalOn ["k"] ["k"] [k0, k1] ∧
      semSql C18Ex.Θc EngineCfg.postgres envK q = .ok T ∧ sem C18Ex.Θc SemCfg.ref envK pKr = .ok t ∧
      T.rows.map (fun r => r.select pKr.cols) = [k0, k1] ∧ t.rows = [k1, k0] := by
  obtain ⟨q, T, t, hq, h⟩ := nullorder_witness EngineCfg.postgres ["k"] (List.mergeSort_of_pairwise (by decide))
    (sortRows_eq_of_sorted_perm (by decide) (by decide) (by decide))
  exact ⟨q, T, t, hq, by decide, h⟩

namespace C01Ex
def ab1 : Row := [("a", .num 1), ("b", .num 3)]
def envR : Env := [("d", ⟨["a", "b"], [ab1]⟩)]
/-- `d.rename_columns({'x': 'a', 'y': 'a'})` -/
def pR : Ops := .rename (.table "d" ["a", "b"]) [("x", "a"), ("y", "a")]
def qR : Near :=
  .unary "rename_0" (some [("x", .ident "a"), ("y", .ident "a"), ("b", .pass)]) false (.table "d" ["a", "b"])
    (some ["a", "b"]) .none false none (keyOfNode "rename" pR ["x", "y", "b"])
end C01Ex

open C01Ex in
/-- **C08_rename_twice_necessary (finding `C08-rename-source-twice`).**  `rename_columns({'x': 'a', 'y': 'a'})` is accepted by the
builder, declares the columns `y, b` (Pandas returns these), but the SQL selects `"a" AS "x", "a" AS "y", "b"`: the
result has the undeclared column `x`.  `WF` and `SqlWF` hold; `MapsOK` (a rename reads each source column at most
once) does not, and cannot be dropped.  The real library behaves the same. -/
theorem C08_rename_twice_necessary (Θ : Interp) (ec : EngineCfg) :
    toNearSql cfgN pR = .ok qR ∧ WF pR ∧ SqlWF pR ∧ ¬ MapsOK pR ∧ EnvOK true envR pR ∧ pR.cols = ["y", "b"] ∧
      ∃ T, semSql Θ ec envR qR = .ok T ∧ T.cols = ["x", "y", "b"] := by
  refine ⟨rfl, ⟨⟨by decide, by decide⟩, by decide⟩, by decide, by decide,
    envOK_single rfl rfl (by decide) (fun _ => by decide), rfl, ?_⟩
  · have hsub : semNear Θ ec envR [] (.table "d" ["a", "b"]) (some ["a", "b"]) false = .ok ⟨["a", "b"], [ab1]⟩ := rfl
    exact ⟨_, semNear_unary_ok hsub none true, rfl⟩

end DAVerif
