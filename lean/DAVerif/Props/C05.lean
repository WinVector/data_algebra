import DAVerif.Proofs.MethodsScalar2
import DAVerif.Proofs.MethodsAggOrder
import DAVerif.Proofs.MethodsAggStat
import DAVerif.Proofs.MethodsAggWin
import DAVerif.Proofs.MethodsFormatters
import DAVerif.Generated.Tables
/-!
# C05 — Every catalogued method behaves as documented on every backend that claims it

Specification side: `Doc.docScalar / docAgg / docWin` (`Spec/DocSem.lean`), a transcription of the docstrings, `none` where
the documentation determines no value.  Backend side: `ThetaX` (what the Pandas executor computes) and `ThetaSqlX` (what
the generated SQL computes on SQLite), `Sem/ThetaC05.lean`, both tied to the real code by suite `k1_methods`; the SQL
formatters are regenerated from the code (`Generated/SqlFormatters.lean`) and proved equal to the hand-written SQL model.

Reading of the property (DESIGN Appendix B + §6): where the documentation determines a value, a backend that claims the
method must compute it; where it is silent about an argument in the method's domain (a null operand of a comparison, a tie
of `round` …) the backends that claim the method must still agree with each other – the places where they do not are listed
with a witness each (`C05_silent_*_necessary`: the known findings of this property); the documented destination differences
of C01 (integer `/`, `%`; sum / count … over a group without non-null value) are scope hypotheses.  A full-strength
statement that is false of the unchanged code stands in a comment next to the `…_partial` theorem that holds.
`scalar_documented`, `agg_documented`, `win_documented` analyse the specification's `match` once for both backends.
-/
namespace DAVerif
open DAVerif.Doc DAVerif.C05 DAVerif.C05A

/-- scope `S_int` (C01's documented destination difference "integer `/`"): `/` and `//` (rendered `FLOOR(a / b)`) are
claimed only when the operand columns are not stored as INTEGER -/
def S_int (ints : Bool) (op : String) : Prop := (op = "/" ∨ op = "//") → ints = false

/-- finding guard `G_mod` (known findings C05-sqlite-mod-casts-operands-to-integer, C05-sql-mod-sign-of-dividend; for
integer columns this is the documented destination difference "integer `%`"): SQLite's `%`, which also renders `mod` and
`remainder`, is the documented modulo on non-negative integer-valued operands only -/
def G_mod (op : String) (args : List ArgV) : Bool :=
  if op == "%" || op == "mod" || op == "remainder" then
    match args with
    | [.v (.num x), .v (.num y)] => decide (0 ≤ x) && decide (0 < y) && x.den == 1 && y.den == 1
    | _ => true
  else true

/-- scope `S_set`: `is_in` over the empty set (the SQL text `x IN ()` is not valid SQL; Pandas answers False) -/
def S_set (op : String) (args : List ArgV) : Prop := op = "is_in" → ∀ a, args ≠ [.v a, .l []]

theorem C05.unscoped {A B S₁ S₂ S₃ : Prop} (h : A ∧ B) : A ∧ (S₁ → S₂ → S₃ → B) := ⟨h.1, fun _ _ _ => h.2⟩

/-- Both backends at once, one case per clause of `docScalar`: the Pandas executor computes the documented value, and so
does the generated SQL within its scope.  The cases come in the order of the clauses of `docScalar`; once the clause has
fixed the shape of `args`, `rfl` and the `exact`s evaluate the models at that operator name. -/
theorem scalar_documented (ints : Bool) (op : String) (args : List ArgV) (v : Val) (h : docScalar op args = some v) :
    ThetaX.scalar op args = v ∧
    (S_int ints op → S_set op args → G_mod op args = true → ThetaSqlX.scalar ints op args = v) := by
  unfold docScalar at h
  split at h
  -- `+ * -`
  · exact unscoped (scalar_add h)
  · exact unscoped (scalar_mul h)
  · split at h <;> cases h <;> exact ⟨rfl, fun _ _ _ => rfl⟩
  -- `/ %/% //`
  · obtain ⟨x, y, rfl, hf⟩ := num2_some h
    have e := arith2_guard (· / ·) hf
    exact ⟨e, fun hi _ _ => by cases hi (.inl rfl); exact e⟩
  · obtain ⟨x, y, rfl, hf⟩ := num2_some h
    have e := arith2_guard (· / ·) hf
    exact ⟨e, fun _ _ _ => e⟩
  · obtain ⟨x, y, rfl, hf⟩ := num2_some h
    have e := arith2_guard (fun x y => ((x / y).floor : Int)) hf
    exact ⟨e, fun hi _ _ => by cases hi (.inr rfl); exact e⟩
  -- `% mod remainder`, `**`
  · obtain ⟨x, y, rfl, hf⟩ := num2_some h
    exact (modlike hf).imp_right fun e _ _ hm => e hm
  · obtain ⟨x, y, rfl, hf⟩ := num2_some h
    exact (modlike hf).imp_right fun e _ _ hm => e hm
  · obtain ⟨x, y, rfl, hf⟩ := num2_some h
    exact (modlike hf).imp_right fun e _ _ hm => e hm
  · exact unscoped (scalar_pow h)
  -- `== != < <= > >=`
  · obtain ⟨a, b, rfl, e⟩ := cmp_backends valEq_sameKind false h
    exact unscoped e
  · obtain ⟨a, b, rfl, e⟩ := cmp_backends (fun a b hk => congrArg (!·) (valEq_sameKind a b hk)) true h
    exact unscoped e
  · obtain ⟨a, b, rfl, e⟩ := cmp_backends lt_sameKind false h
    exact unscoped e
  · obtain ⟨a, b, rfl, e⟩ := cmp_backends (fun a b hk => congrArg (!·) (lt_sameKind b a (sameKind_symm hk))) false h
    exact unscoped e
  · obtain ⟨a, b, rfl, e⟩ := cmp_backends (fun a b hk => lt_sameKind b a (sameKind_symm hk)) false h
    exact unscoped e
  · obtain ⟨a, b, rfl, e⟩ := cmp_backends (fun a b hk => congrArg (!·) (lt_sameKind a b hk)) false h
    exact unscoped e
  -- `and or`, `sign abs floor ceil round around`
  · exact unscoped (scalar_and h)
  · exact unscoped (scalar_or h)
  · exact unscoped (scalar_sign h)
  · obtain ⟨x, rfl, hf⟩ := num1_some h
    cases hf; exact ⟨rfl, fun _ _ _ => rfl⟩
  · obtain ⟨x, rfl, hf⟩ := num1_some h
    cases hf; exact ⟨rfl, fun _ _ _ => rfl⟩
  · obtain ⟨x, rfl, hf⟩ := num1_some h
    cases hf; exact ⟨rfl, fun _ _ _ => rfl⟩
  · exact unscoped (scalar_round h)
  · exact ⟨pandas_around args v h, fun _ _ _ => sqlite_around ints args v h⟩
  -- `maximum minimum fmax fmin`
  · obtain ⟨a, b, rfl, e⟩ := propagate2_some h
    exact ⟨e, fun _ _ _ => e⟩
  · obtain ⟨a, b, rfl, e⟩ := propagate2_some h
    exact ⟨e, fun _ _ _ => e⟩
  · obtain ⟨a, b, rfl, e⟩ := ignore2_some h
    exact ⟨e, fun _ _ _ => e⟩
  · obtain ⟨a, b, rfl, e⟩ := ignore2_some h
    exact ⟨e, fun _ _ _ => e⟩
  -- `is_null is_nan is_inf is_bad`
  · split at h <;> cases h
    rw [← isNull_eq_beq]; exact ⟨rfl, fun _ _ _ => rfl⟩
  · obtain ⟨a, rfl, rfl⟩ := test1_some h
    exact ⟨rfl, fun _ _ _ => rfl⟩
  · obtain ⟨a, rfl, rfl⟩ := test1_some h
    exact ⟨rfl, fun _ _ _ => rfl⟩
  · obtain ⟨a, rfl, rfl⟩ := test1_some h
    exact ⟨rfl, fun _ _ _ => rfl⟩
  -- `if_else where coalesce is_in mapv`
  · split at h <;> cases h <;> exact ⟨rfl, fun _ _ _ => rfl⟩
  · split at h <;> cases h <;> exact ⟨rfl, fun _ _ _ => rfl⟩
  · split at h <;> cases h
    rw [← isNull_eq_beq]; exact ⟨rfl, fun _ _ _ => rfl⟩
  · exact (scalar_is_in h).imp_right fun e _ hs _ => e (hs rfl)
  · exact unscoped (scalar_mapv h)
  -- `concat trimstr as_int64 as_str`
  · split at h <;> cases h
    exact ⟨rfl, fun _ _ _ => rfl⟩
  · exact unscoped (scalar_trimstr h)
  · exact unscoped (scalar_as_int64 h)
  · split at h <;> cases h
    exact ⟨rfl, fun _ _ _ => rfl⟩
  · cases h

/-- **Pandas, every row-wise method of the provable classes, full strength**: whenever the documentation determines the
value of `op` on `args` (any operator name, any argument list), the Pandas executor's value is that value. -/
theorem C05_pandas_scalar (op : String) (args : List ArgV) (v : Val)
    (h : docScalar op args = some v) : ThetaX.scalar op args = v := (scalar_documented false op args v h).1

/- Full statement (false of the unchanged code, see the `…_necessary` theorems below):
     docScalar op args = some v → ThetaSqlX.scalar ints op args = v -/
/-- **SQLite, every row-wise method of the provable classes**: whenever the documentation determines the value, the
generated SQL computes it – under the documented difference `S_int`, the scope `S_set` and the finding guard `G_mod`. -/
theorem C05_sqlite_scalar_partial (ints : Bool) (op : String) (args : List ArgV) (v : Val)
    (h : docScalar op args = some v) (hint : S_int ints op) (hset : S_set op args) (hmod : G_mod op args = true) :
    ThetaSqlX.scalar ints op args = v := (scalar_documented ints op args v h).2 hint hset hmod

/-- corollary: where both claim a documented value, the two backends agree -/
theorem C05_backends_agree_documented (ints : Bool) (op : String) (args : List ArgV) (v : Val)
    (h : docScalar op args = some v) (hint : S_int ints op) (hset : S_set op args) (hmod : G_mod op args = true) :
    ThetaX.scalar op args = ThetaSqlX.scalar ints op args := by
  rw [C05_pandas_scalar op args v h, C05_sqlite_scalar_partial ints op args v h hint hset hmod]

/-! ### the excluded points are real (witnesses; each also runs on the real code as a corpus case) -/

/-- `G_mod` is necessary (fractions): `2.5 % 1` is documented 0.5, SQLite casts both operands to INTEGER and answers 0 -/
theorem C05_G_mod_fraction_necessary :
    docScalar "%" [.v (.num (5/2)), .v (.num 1)] = some (.num (1/2)) ∧
    ThetaSqlX.scalar false "%" [.v (.num (5/2)), .v (.num 1)] = .num 0 := by decide +kernel

/-- `G_mod` is necessary (signs): `-1 remainder 2` is documented 1 (sign of the divisor), SQLite answers -1 -/
theorem C05_G_mod_sign_necessary :
    docScalar "remainder" [.v (.num (-1)), .v (.num 2)] = some (.num 1) ∧
    ThetaSqlX.scalar false "remainder" [.v (.num (-1)), .v (.num 2)] = .num (-1) := by decide +kernel

/-- `S_int` is a real difference: over INTEGER columns `1 / 2` is 0 on SQLite (documented: integer `/`) -/
theorem C05_S_int_necessary :
    docScalar "/" [.v (.num 1), .v (.num 2)] = some (.num (1/2)) ∧
    ThetaSqlX.scalar true "/" [.v (.num 1), .v (.num 2)] = .num 0 := by decide +kernel

/-! ### arguments about which the documentation is silent: where the two backends agree, and where they do not -/

/-- a missing operand of `+ - * / %/% //`, `maximum`, `minimum`: both backends answer missing -/
theorem C05_silent_null_arithmetic_agree (op : String)
    (hop : op ∈ ["+", "-", "*", "/", "%/%", "//", "maximum", "minimum"]) (a b : Val)
    (ha : numOrNull a = true) (hb : numOrNull b = true) (hnull : a = .null ∨ b = .null) :
    ThetaX.scalar op [.v a, .v b] = .null ∧ ThetaSqlX.scalar false op [.v a, .v b] = .null := by
  -- all eight are `Theta.arith2` of some function in both models, and `arith2` propagates a missing operand
  obtain ⟨f, eX, eS⟩ : ∃ f, ThetaX.scalar op [.v a, .v b] = Theta.arith2 f a b ∧
      ThetaSqlX.scalar false op [.v a, .v b] = Theta.arith2 f a b := by
    simp only [List.mem_cons, List.mem_nil_iff, or_false] at hop
    rcases hop with rfl | rfl | rfl | rfl | rfl | rfl | rfl | rfl
    · exact ⟨fun x y => some (x + y), rfl, rfl⟩
    · exact ⟨fun x y => some (x - y), rfl, rfl⟩
    · exact ⟨fun x y => some (x * y), rfl, rfl⟩
    · exact ⟨fun x y => if y == 0 then none else some (x / y), rfl, rfl⟩
    · exact ⟨fun x y => if y == 0 then none else some (x / y), rfl, rfl⟩
    · exact ⟨Theta.floorDiv, rfl, rfl⟩
    · exact ⟨fun x y => some (if x < y then y else x), rfl, rfl⟩
    · exact ⟨fun x y => some (if y < x then y else x), rfl, rfl⟩
  rw [eX, eS, arith2_null f hnull]
  exact ⟨rfl, rfl⟩

/-- finding C05-null-operand-comparison-logic (N1): a comparison with a missing operand is False on Pandas (`!=`: True),
NULL in SQL -/
theorem C05_silent_null_comparison_necessary :
    ThetaX.scalar "==" [.v .null, .v (.num 1)] = .bool false ∧ ThetaSqlX.scalar false "==" [.v .null, .v (.num 1)] = .null ∧
    ThetaX.scalar "!=" [.v .null, .v (.num 1)] = .bool true ∧ ThetaSqlX.scalar false "!=" [.v .null, .v (.num 1)] = .null ∧
    ThetaX.scalar "<" [.v (.num 0), .v .null] = .bool false ∧ ThetaSqlX.scalar false "<" [.v (.num 0), .v .null] = .null ∧
    ThetaX.scalar "is_in" [.v .null, .l [.num 1]] = .bool false ∧ ThetaSqlX.scalar false "is_in" [.v .null, .l [.num 1]] = .null := by
  decide +kernel

/-- same finding, connectives: Pandas evaluates Python's `and` / `or` on the objects (`None and False` is `None`,
`None or False` is `False`), SQL is Kleene logic (`NULL AND FALSE` is `FALSE`, `NULL OR FALSE` is `NULL`) -/
theorem C05_silent_null_connective_necessary :
    ThetaX.scalar "and" [.v .null, .v (.bool false)] = .null ∧
    ThetaSqlX.scalar false "and" [.v .null, .v (.bool false)] = .bool false ∧
    ThetaX.scalar "or" [.v .null, .v (.bool false)] = .bool false ∧
    ThetaSqlX.scalar false "or" [.v .null, .v (.bool false)] = .null := by decide +kernel

/-- finding C05-round-half-rule (N3): on a tie numpy rounds to even, SQL `ROUND` away from zero -/
theorem C05_silent_round_tie_necessary :
    docScalar "round" [.v (.num (5/2))] = none ∧
    ThetaX.scalar "round" [.v (.num (5/2))] = .num 2 ∧ ThetaSqlX.scalar false "round" [.v (.num (5/2))] = .num 3 ∧
    ThetaX.scalar "around" [.v (.num (9/8)), .v (.num 2)] = .num (28/25) ∧
    ThetaSqlX.scalar false "around" [.v (.num (9/8)), .v (.num 2)] = .num (113/100) := by decide +kernel

/-- finding C05-pandas-concat-null-as-text (N4): a missing string is the text `nan` on Pandas, NULL in SQL -/
theorem C05_silent_concat_null_necessary :
    ThetaX.scalar "concat" [.v .null, .v (.str "z")] = .str "nanz" ∧
    ThetaSqlX.scalar false "concat" [.v .null, .v (.str "z")] = .null := by decide +kernel

/-- finding C05-pandas-power-null: `null ** 0` is 1 on Pandas (IEEE `pow`), NULL in SQL -/
theorem C05_silent_power_null_necessary :
    ThetaX.scalar "**" [.v .null, .v (.num 0)] = .num 1 ∧ ThetaSqlX.scalar false "**" [.v .null, .v (.num 0)] = .null := by
  decide +kernel

/-- the aggregates with theorems in this file (`max min median var nunique`: `modelledOps` below, theorems in
`Props/C05agg.lean`) -/
def provedAggOps : List String := ["sum", "count", "size", "_size", "mean", "all", "any", "any_value"]

/-- scope `S_group` (C01's documented destination difference): the group has a non-null value -/
def S_group (vs : List Val) : Prop := Doc.nonNull vs ≠ []

theorem nonempty_of_S_group {vs : List Val} (h : S_group vs) : vs ≠ [] := by
  intro e; subst e; exact h rfl

/-- scope (C01's documented destination difference, per operator): `SUM` and the repaired `all` need a non-missing item
in the group, the `CASE` sums `count size _size` and `any` need a row; the order statistics need nothing -/
def S_groupOp (op : String) (vs : List Val) : Prop :=
  ((op = "sum" ∨ op = "all") → Doc.nonNull vs ≠ []) ∧
  ((op = "count" ∨ op = "size" ∨ op = "_size" ∨ op = "any") → vs ≠ [])

theorem S_groupOp_of_S_group (op : String) {vs : List Val} (h : S_group vs) : S_groupOp op vs :=
  ⟨fun _ => h, fun _ => nonempty_of_S_group h⟩

theorem agg_documented (op : String) (vs : List Val) (v : Val) (h : docAgg op vs = some v) :
    ThetaX.agg op vs = v ∧ (S_groupOp op vs → ThetaSqlX.agg op vs = v) := by
  unfold docAgg at h
  split at h
  · exact (agg_sum h).imp_right fun e hg => e (hg.1 (.inl rfl))
  · exact (agg_count h).imp_right fun e hg => e (hg.2 (.inl rfl))
  · exact ⟨(agg_size h).1.1, fun hg => ((agg_size h).2 (hg.2 (.inr (.inl rfl)))).1⟩
  · exact ⟨(agg_size h).1.2, fun hg => ((agg_size h).2 (hg.2 (.inr (.inr (.inl rfl))))).2⟩
  · exact (agg_mean h).imp_right fun e _ => e
  · exact (agg_max h).imp_right fun e _ => e
  · exact (agg_min h).imp_right fun e _ => e
  · exact (agg_median h).imp_right fun e _ => e
  · exact (agg_var h).imp_right fun e _ => e
  · exact (agg_nunique h).imp_right fun e _ => e
  · exact (agg_all h).imp_right fun e hg => e (hg.1 (.inr rfl))
  · exact (agg_any h).imp_right fun e hg => e (hg.2 (.inr (.inr (.inr rfl))))
  · exact (agg_any_value h).imp_right fun e _ => e
  · cases h

/-- **Pandas aggregates, full strength** -/
theorem C05_pandas_agg (op : String) (hop : op ∈ provedAggOps) (vs : List Val) (v : Val)
    (h : docAgg op vs = some v) : ThetaX.agg op vs = v := (agg_documented op vs v h).1

/- Full statement (false: SUM, the CASE-sums and MIN/MAX of no value are NULL where the documentation says 0 / False):
     docAgg op vs = some v → ThetaSqlX.agg op vs = v -/
/-- **SQLite aggregates** under the documented difference `S_group` (`any_value` = `MAX`: `C05_any_value_sqlite` in
`Props/C05agg.lean`; `all` is the repaired formatter, fix C05-sql-all-ignores-null) -/
theorem C05_sqlite_agg_partial (op : String) (hop : op ∈ ["sum", "count", "size", "_size", "mean", "all", "any"])
    (vs : List Val) (v : Val) (h : docAgg op vs = some v) (hg : S_group vs) : ThetaSqlX.agg op vs = v :=
  (agg_documented op vs v h).2 (S_groupOp_of_S_group op hg)

/-- `S_group` is a real difference: the sum of a group of missing values is 0 in the documentation and on Pandas, NULL in SQL -/
theorem C05_S_group_necessary :
    docAgg "sum" [.null] = some (.num 0) ∧ ThetaX.agg "sum" [.null] = .num 0 ∧ ThetaSqlX.agg "sum" [.null] = .null := by
  decide +kernel

/-- the point at which fix C05-sql-all-ignores-null matters (before it, `CASE WHEN a THEN 1 ELSE 0 END` counted a
missing item as False): the documentation and Pandas ignore a missing item of `all`, and so does the SQL model of the
repaired formatter -/
theorem C05_all_null_item_documented :
    docAgg "all" [.bool true, .null] = some (.bool true) ∧ ThetaX.agg "all" [.bool true, .null] = .bool true ∧
    ThetaSqlX.agg "all" [.bool true, .null] = .bool true := by decide +kernel

def provedWinOpsPandas : List String := ["cumsum", "cumprod", "cummax", "cummin", "_row_number", "shift"]
def provedWinOpsSqlite : List String := ["cumsum", "cummax", "cummin", "_row_number", "shift"]

/-- both backend models at once, one case per clause of `docWin`; `cumcount` is the one name for which the Pandas
model does not compute the documented value (`C05_G_cumcount_necessary`).  The SQL side speaks of the model: which of
these names the catalogue claims for SQLite is said by the statements that use this (`provedWinOpsSqlite`,
`sqliteWinOps`). -/
theorem win_documented (op : String) (cargs vs : List Val) (pos : Nat) (v : Val)
    (h : docWin op cargs vs pos = some v) (hcc : op ≠ "cumcount") :
    ThetaX.win op cargs vs pos = v ∧ (S_groupOp op vs → ThetaSqlX.win op cargs vs pos = v) := by
  unfold docWin at h
  split at h
  · exact (cumulative_backends h).imp_right fun e _ => e
  · exact (cumulative_backends h).imp_right fun e _ => e
  · exact (cumulative_backends h).imp_right fun e _ => e
  · exact (cumulative_backends h).imp_right fun e _ => e
  · exact absurd rfl hcc
  · exact (win_row_number h).imp_right fun e _ => e
  · exact (win_shift h).imp_right fun e _ => e
  · have e := pandas_ffill cargs vs pos v h; exact ⟨e, fun _ => e⟩
  · have e := pandas_bfill cargs vs pos v h; exact ⟨e, fun _ => e⟩
  · have e := pandas_rank cargs vs pos v h; exact ⟨e, fun _ => e⟩
  · have e := pandas_first cargs vs pos v h; exact ⟨e, fun _ => e⟩
  · have e := pandas_last cargs vs pos v h; exact ⟨e, fun _ => e⟩
  · -- a group aggregate: every row of the partition gets the aggregate of the partition
    obtain ⟨-, hx, hs⟩ := win_is_agg op (docAgg_mem h) cargs vs pos
    rw [hx, hs]
    exact agg_documented op vs v h

/- Full statement over all window functions is false for `cumcount` (`C05_G_cumcount_necessary`). -/
/-- **Pandas window functions** -/
theorem C05_pandas_win_partial (op : String) (hop : op ∈ provedWinOpsPandas) (cargs vs : List Val) (pos : Nat) (v : Val)
    (h : docWin op cargs vs pos = some v) : ThetaX.win op cargs vs pos = v :=
  (win_documented op cargs vs pos v h fun e => absurd (e ▸ hop) (by decide +kernel)).1

/-- **SQLite window functions** (the catalogue does not claim `cumprod` for SQLite) -/
theorem C05_sqlite_win (op : String) (hop : op ∈ provedWinOpsSqlite) (cargs vs : List Val) (pos : Nat) (v : Val)
    (h : docWin op cargs vs pos = some v) : ThetaSqlX.win op cargs vs pos = v := by
  refine (win_documented op cargs vs pos v h fun e => absurd (e ▸ hop) (by decide +kernel)).2 ?_
  -- none of the five names is an aggregate: the scope is empty
  simp only [provedWinOpsSqlite, List.mem_cons, List.mem_nil_iff, or_false] at hop
  rcases hop with rfl | rfl | rfl | rfl | rfl <;>
    exact ⟨fun h => absurd h (by decide +kernel), fun h => absurd h (by decide +kernel)⟩

/-- finding C05-pandas-cumcount-is-row-index (guard `G_cumcount`: `op ≠ "cumcount"`): the docstring says "cumulative number
of non-NA cells" (1 for the first row of `[1]`), Pandas' `cumcount` numbers the rows from 0 -/
theorem C05_G_cumcount_necessary :
    docWin "cumcount" [] [.num 1] 0 = some (.num 1) ∧ ThetaX.win "cumcount" [] [.num 1] 0 = .num 0 := by decide +kernel

/-- finding C05-cumulative-window-null-row (D22): at a row whose argument is missing the documentation is silent, Pandas
answers missing, SQL carries the running value -/
theorem C05_silent_cumulative_null_necessary :
    docWin "cumsum" [] [.num 1, .null] 1 = none ∧
    ThetaX.win "cumsum" [] [.num 1, .null] 1 = .null ∧ ThetaSqlX.win "cumsum" [] [.num 1, .null] 1 = .num 1 := by
  decide +kernel

/-! ### the shared models `Theta` / `ThetaSql` against the completed ones (for the relational theorems C01–C03) -/

/-- the shared pandas interpretation is the completed one except for the operators `Sem/ThetaC05.lean` overrides -/
theorem C05_shared_pandas_partial (op : String)
    (hop : op ∉ ["and", "or", "**", "round", "remainder", "as_int64", "concat", "as_str"]) (args : List ArgV) :
    ThetaX.scalar op args = Theta.scalar op args := by
  unfold ThetaX.scalar
  split
  rotate_right
  · rfl
  all_goals exact absurd (by simp) hop

/-- … and it is not for those: `False and None` is `False` on the real executor (Python's `and` on objects) -/
theorem C05_shared_pandas_and_necessary :
    ThetaX.scalar "and" [.v (.bool false), .v .null] = .bool false ∧
    Theta.scalar "and" [.v (.bool false), .v .null] = .null := by decide +kernel

/-- the shared SQL interpretation is the completed one (REAL operand columns) except for `% mod remainder round as_int64
as_str` -/
theorem C05_shared_sqlite_partial (op : String)
    (hop : op ∉ ["%", "mod", "remainder", "round", "as_int64", "as_str"]) (args : List ArgV) :
    ThetaSqlX.scalar false op args = ThetaSql.scalar op args := by
  unfold ThetaSqlX.scalar
  split
  iterate 3 exact absurd (by simp) hop
  iterate 2 rfl     -- `/`, `//` over REAL columns
  iterate 3 exact absurd (by simp) hop
  rfl

/-- … and it is not for `%`: the shared model computes Python's modulo where SQLite casts to INTEGER -/
theorem C05_shared_sqlite_mod_necessary :
    ThetaSqlX.scalar false "%" [.v (.num (5/2)), .v (.num 1)] = .num 0 ∧
    ThetaSql.scalar "%" [.v (.num (5/2)), .v (.num 1)] = .num (1/2) := by decide +kernel

section Formatters
open DAVerif.Sql3

/-- `CASE WHEN a THEN x WHEN NOT a THEN y ELSE NULL END` is the SQL model of `if_else` (null on a null condition) -/
theorem C05_formatter_if_else (d : String) (hd : Dialect d) (c a b : Val) (hc : boolOrNull c = true) :
    evalSql3 (Gen.formatter d "if_else") (env [("a", c), ("x", a), ("y", b)]) = ThetaSql.scalar "if_else" [.v c, .v a, .v b] := by
  rw [formatter_eq hd (e := Gen.fmt_sqlite_if_else) rfl]
  show _ = (match c with | .bool true => a | .bool false => b | _ => .null)
  rcases boolOrNull_cases hc with rfl | rfl | rfl <;> rfl

theorem C05_formatter_where (d : String) (hd : Dialect d) (c a b : Val) (hc : boolOrNull c = true) :
    evalSql3 (Gen.formatter d "where") (env [("a", c), ("x", a), ("y", b)]) = ThetaSql.scalar "where" [.v c, .v a, .v b] := by
  rw [formatter_eq hd (e := Gen.fmt_sqlite_where) rfl]
  show _ = (match c with | .bool true => a | _ => b)
  rcases boolOrNull_cases hc with rfl | rfl | rfl <;> rfl

/-- `maximum` propagates NULL (the repaired D15: the bodies of `maximum` and `fmax` were exchanged) -/
theorem C05_formatter_maximum (d : String) (hd : Dialect d) (x y : Val) (hx : numOrNull x = true) (hy : numOrNull y = true) :
    evalSql3 (Gen.formatter d "maximum") (env [("x", x), ("y", y)]) = ThetaSql.scalar "maximum" [.v x, .v y] := by
  rw [formatter_eq hd (e := Gen.fmt_sqlite_maximum) rfl]
  show _ = Theta.arith2 (fun x y => some (if x < y then y else x)) x y
  rcases numOrNull_cases hx with rfl | ⟨x, rfl⟩ <;> rcases numOrNull_cases hy with rfl | ⟨y, rfl⟩
  iterate 3 rfl
  rw [fmt_max_closed]
  show _ = Val.num (if x < y then y else x)
  by_cases h : x < y <;> simp [h, truth, not3]

theorem C05_formatter_minimum (d : String) (hd : Dialect d) (x y : Val) (hx : numOrNull x = true) (hy : numOrNull y = true) :
    evalSql3 (Gen.formatter d "minimum") (env [("x", x), ("y", y)]) = ThetaSql.scalar "minimum" [.v x, .v y] := by
  rw [formatter_eq hd (e := Gen.fmt_sqlite_minimum) rfl]
  show _ = Theta.arith2 (fun x y => some (if y < x then y else x)) x y
  rcases numOrNull_cases hx with rfl | ⟨x, rfl⟩ <;> rcases numOrNull_cases hy with rfl | ⟨y, rfl⟩
  iterate 3 rfl
  rw [fmt_min_closed]
  show _ = Val.num (if y < x then y else x)
  by_cases h : y < x <;> simp [h, truth, not3]

/-- `fmax` ignores NULL -/
theorem C05_formatter_fmax (d : String) (hd : Dialect d) (x y : Val) (hx : numOrNull x = true) (hy : numOrNull y = true) :
    evalSql3 (Gen.formatter d "fmax") (env [("x", x), ("y", y)]) = ThetaSql.scalar "fmax" [.v x, .v y] := by
  rw [formatter_eq hd (e := Gen.fmt_sqlite_fmax) rfl]
  show _ = (if x.isNull then y else if y.isNull then x else Theta.arith2 (fun x y => some (if x < y then y else x)) x y)
  rcases numOrNull_cases hx with rfl | ⟨x, rfl⟩ <;> rcases numOrNull_cases hy with rfl | ⟨y, rfl⟩
  iterate 3 rfl
  rw [fmt_fmax_closed]
  show _ = Val.num (if x < y then y else x)
  by_cases h : x < y
  · simp [h, Rat.not_lt.mpr (Rat.le_of_lt h), truth, or3]
  · simp [h, truth, or3]

theorem C05_formatter_fmin (d : String) (hd : Dialect d) (x y : Val) (hx : numOrNull x = true) (hy : numOrNull y = true) :
    evalSql3 (Gen.formatter d "fmin") (env [("x", x), ("y", y)]) = ThetaSql.scalar "fmin" [.v x, .v y] := by
  rw [formatter_eq hd (e := Gen.fmt_sqlite_fmin) rfl]
  show _ = (if x.isNull then y else if y.isNull then x else Theta.arith2 (fun x y => some (if y < x then y else x)) x y)
  rcases numOrNull_cases hx with rfl | ⟨x, rfl⟩ <;> rcases numOrNull_cases hy with rfl | ⟨y, rfl⟩
  iterate 3 rfl
  rw [fmt_fmin_closed]
  show _ = Val.num (if y < x then y else x)
  by_cases h : y < x
  · simp [h, Rat.not_lt.mpr (Rat.le_of_lt h), truth, or3]
  · simp [h, truth, or3]

theorem C05_formatter_coalesce (d : String) (hd : Dialect d) (x y : Val) :
    evalSql3 (Gen.formatter d "coalesce") (env [("x", x), ("y", y)]) = ThetaSql.scalar "coalesce" [.v x, .v y] := by
  rw [formatter_eq hd (e := Gen.fmt_sqlite_coalesce) rfl]
  exact coalesce2 x y

theorem C05_formatter_is_null (d : String) (hd : Dialect d) (x : Val) :
    evalSql3 (Gen.formatter d "is_null") (env [("x", x)]) = ThetaSql.scalar "is_null" [.v x] := by
  rw [formatter_eq hd (e := Gen.fmt_sqlite_is_null) rfl]
  rfl

/-- `x IN (1, 3)`: NULL for a NULL `x` -/
theorem C05_formatter_is_in (d : String) (hd : Dialect d) (x : Val) (hx : numOrNull x = true) :
    evalSql3 (Gen.formatter d "is_in") (env [("x", x)]) = ThetaSql.scalar "is_in" [.v x, .l [.num 1, .num 3]] := by
  rw [formatter_eq hd (e := Gen.fmt_sqlite_is_in) rfl]
  exact in3_noNull x [.num 1, .num 3] rfl

/-- `CASE s WHEN 'a' THEN 1 WHEN 'b' THEN 2 ELSE 0 END` is the SQL model of `mapv` on a string or missing cell -/
theorem C05_formatter_mapv (d : String) (hd : Dialect d) (s : Val) (hs : ∀ q, s ≠ .num q) (hb : ∀ q, s ≠ .bool q) :
    evalSql3 (Gen.formatter d "mapv") (env [("s", s)]) =
      ThetaSql.scalar "mapv" [.v s, .d [(.str "a", .num 1), (.str "b", .num 2)], .v (.num 0)] := by
  rw [formatter_eq hd (e := Gen.fmt_sqlite_mapv) rfl]
  show _ = (([(Val.str "a", Val.num 1), (.str "b", .num 2)].find? (fun kv => Theta.valEq kv.1 s)).map (·.2)).getD (.num 0)
  cases s with
  | null => rfl
  | num q => exact absurd rfl (hs q)
  | bool q => exact absurd rfl (hb q)
  | str t =>
    show (match truth (cmp3 .eq (.str t) (.str "a")) with
         | some true => Val.num 1
         | _ => match truth (cmp3 .eq (.str t) (.str "b")) with | some true => .num 2 | _ => .num 0) = _
    by_cases ha : t = "a"
    · subst ha; rfl
    · by_cases hb' : t = "b"
      · subst hb'; rfl
      · have n1 : (Val.str "a" == Val.str t) = false := beq_eq_false_iff_ne.mpr (fun h => ha (Val.str.inj h).symm)
        have n2 : (Val.str "b" == Val.str t) = false := beq_eq_false_iff_ne.mpr (fun h => hb' (Val.str.inj h).symm)
        have m1 : (Val.str t == Val.str "a") = false := beq_eq_false_iff_ne.mpr (fun h => ha (Val.str.inj h))
        have m2 : (Val.str t == Val.str "b") = false := beq_eq_false_iff_ne.mpr (fun h => hb' (Val.str.inj h))
        simp [cmp3, cmpVal, eqv, numOf, truth, Val.isNull, Theta.valEq, Theta.num?, List.find?, n1, n2, m1, m2]

/-- the six comparisons, every pair of cells: three-valued (`"x" = "y"` …) -/
theorem C05_formatter_comparisons (d : String) (hd : Dialect d) (op : String)
    (hop : op ∈ ["==", "!=", "<", "<=", ">", ">="]) (x y : Val) :
    evalSql3 (Gen.formatter d op) (env [("x", x), ("y", y)]) = ThetaSql.scalar op [.v x, .v y] := by
  simp only [List.mem_cons, List.mem_nil_iff, or_false] at hop
  rcases hop with rfl | rfl | rfl | rfl | rfl | rfl
  · rw [formatter_eq hd (e := Gen.fmt_sqlite_eq) rfl]
    exact cmp3_eq .eq _ (fun a b => eqv_valEq a b) x y
  · rw [formatter_eq hd (e := Gen.fmt_sqlite_ne) rfl]
    exact cmp3_eq .ne _ (fun a b => congrArg (!·) (eqv_valEq a b)) x y
  · rw [formatter_eq hd (e := Gen.fmt_sqlite_lt) rfl]
    exact cmp3_eq .lt _ (fun _ _ => rfl) x y
  · rw [formatter_eq hd (e := Gen.fmt_sqlite_le) rfl]
    exact cmp3_eq .le _ (fun _ _ => rfl) x y
  · rw [formatter_eq hd (e := Gen.fmt_sqlite_gt) rfl]
    exact cmp3_eq .gt _ (fun _ _ => rfl) x y
  · rw [formatter_eq hd (e := Gen.fmt_sqlite_ge) rfl]
    exact cmp3_eq .ge _ (fun _ _ => rfl) x y

/-- `not a` is rendered `"a" = FALSE` -/
theorem C05_formatter_not (d : String) (hd : Dialect d) (a : Val) :
    evalSql3 (Gen.formatter d "not") (env [("a", a)]) = ThetaSql.scalar "==" [.v a, .v (.bool false)] := by
  rw [formatter_eq hd (e := Gen.fmt_sqlite_not) rfl]
  exact cmp3_eq .eq _ (fun a b => eqv_valEq a b) a (.bool false)

/-- `a AND b`, `a AND b AND c`, `a OR b`, `a OR b OR c` are Kleene's connectives -/
theorem C05_formatter_and (d : String) (hd : Dialect d) (a b : Val) (ha : boolOrNull a = true) (hb : boolOrNull b = true) :
    evalSql3 (Gen.formatter d "and") (env [("a", a), ("b", b)]) = ThetaSql.scalar "and" [.v a, .v b] := by
  obtain ⟨a, rfl⟩ := ob_of_boolOrNull ha
  obtain ⟨b, rfl⟩ := ob_of_boolOrNull hb
  rw [formatter_eq hd (e := Gen.fmt_sqlite_and) rfl]
  exact and3_pair a b

theorem C05_formatter_or (d : String) (hd : Dialect d) (a b : Val) (ha : boolOrNull a = true) (hb : boolOrNull b = true) :
    evalSql3 (Gen.formatter d "or") (env [("a", a), ("b", b)]) = ThetaSql.scalar "or" [.v a, .v b] := by
  obtain ⟨a, rfl⟩ := ob_of_boolOrNull ha
  obtain ⟨b, rfl⟩ := ob_of_boolOrNull hb
  rw [formatter_eq hd (e := Gen.fmt_sqlite_or) rfl]
  exact or3_pair a b

theorem C05_formatter_and3 (d : String) (hd : Dialect d) (a b c : Option Bool) :
    evalSql3 (Gen.formatter d "and3") (env [("a", ob a), ("b", ob b), ("c", ob c)]) =
      ThetaSql.scalar "and" [.v (ob a), .v (ob b), .v (ob c)] := by
  rw [formatter_eq hd (e := Gen.fmt_sqlite_and3) rfl]
  exact and3_triple a b c

theorem C05_formatter_or3 (d : String) (hd : Dialect d) (a b c : Option Bool) :
    evalSql3 (Gen.formatter d "or3") (env [("a", ob a), ("b", ob b), ("c", ob c)]) =
      ThetaSql.scalar "or" [.v (ob a), .v (ob b), .v (ob c)] := by
  rw [formatter_eq hd (e := Gen.fmt_sqlite_or3) rfl]
  exact or3_triple a b c

theorem S_int_trivial (op : String) : S_int false op := fun _ => rfl

/-- formatter and documentation, composed: on the documented domain the *generated* `if_else` text computes the docstring -/
theorem C05_formatter_if_else_doc (d : String) (hd : Dialect d) (c a b v : Val)
    (h : docScalar "if_else" [.v c, .v a, .v b] = some v) :
    evalSql3 (Gen.formatter d "if_else") (env [("a", c), ("x", a), ("y", b)]) = v := by
  have hc : boolOrNull c = true := by
    cases c with
    | null => rfl
    | bool _ => rfl
    | num q => exact absurd (show (none : Option Val) = some v from h) (by simp)
    | str s => exact absurd (show (none : Option Val) = some v from h) (by simp)
  rw [C05_formatter_if_else d hd c a b hc]
  exact C05_sqlite_scalar_partial false "if_else" _ v h (S_int_trivial _) (fun e => absurd e (by decide)) rfl

/-- … and `maximum` (documented null behaviour: propagate) -/
theorem C05_formatter_maximum_doc (d : String) (hd : Dialect d) (x y v : Val)
    (h : docScalar "maximum" [.v x, .v y] = some v) :
    evalSql3 (Gen.formatter d "maximum") (env [("x", x), ("y", y)]) = v := by
  have hk : numOrNull x = true ∧ numOrNull y = true := by
    cases x <;> cases y <;>
      first | exact ⟨rfl, rfl⟩ | exact absurd (show (none : Option Val) = some v from h) (by simp)
  rw [C05_formatter_maximum d hd x y hk.1 hk.2]
  exact C05_sqlite_scalar_partial false "maximum" _ v h (S_int_trivial _) (fun e => absurd e (by decide)) rfl

end Formatters

/-- operators with theorems above (row-wise: every clause of `docScalar`; aggregates and windows: the proved lists) -/
def provedOps : List String :=
  ["+", "*", "-", "/", "%/%", "//", "%", "mod", "remainder", "**", "==", "!=", "<", "<=", ">", ">=", "and", "or", "sign",
   "abs", "floor", "ceil", "round", "around", "maximum", "minimum", "fmax", "fmin", "is_null", "is_nan", "is_inf", "is_bad",
   "if_else", "where", "coalesce", "is_in", "mapv", "concat", "trimstr", "as_int64"]
  ++ provedAggOps ++ provedWinOpsPandas ++ ["cumcount"]

/-- operators that are modelled (`ThetaX` / `ThetaSqlX`, tied by `k1_methods`) and have no statement of their own in
this file (order statistics and fills); those are in `Props/C05agg.lean` (`C05_modelled_now_proved` there) -/
def modelledOps : List String :=
  ["max", "min", "median", "var", "nunique", "rank", "ffill", "bfill", "first", "last"]

/-- **every row of the regenerated method catalogue is accounted for**: theorems in this file (`provedOps`), theorems
in `Props/C05agg.lean` (`modelledOps`), or class 3
(`Doc.sampledOps`: transcendental, date/time, text of numbers, random, undocumented zero-argument functions).
A new catalogue row that nobody classified makes this fail when the table is regenerated. -/
theorem C05_catalog_covered :
    ∀ row ∈ Gen.catalog, (row.headD "") ∈ provedOps ∨ (row.headD "") ∈ modelledOps ∨ (row.headD "") ∈ Doc.sampledOps := by
  decide +kernel

/-- every operator of the provable classes named by the specification is in `provedOps` or in `modelledOps` -/
theorem C05_provable_covered : ∀ op ∈ Doc.provableOps, op ∈ provedOps ∨ op ∈ modelledOps := by decide +kernel

example : docScalar "maximum" [.v (.num 2), .v .null] = some .null := by decide +kernel
example : ThetaSqlX.scalar false "maximum" [.v (.num 2), .v .null] = .null :=
  C05_sqlite_scalar_partial false "maximum" _ _ (by decide +kernel) (S_int_trivial _) (fun e => absurd e (by decide)) rfl
example : docScalar "fmax" [.v (.num 2), .v .null] = some (.num 2) := by decide +kernel
example : docScalar "if_else" [.v .null, .v (.num 1), .v (.num 2)] = some .null := by decide +kernel
example : docScalar "where" [.v .null, .v (.num 1), .v (.num 2)] = some (.num 2) := by decide +kernel
example : docScalar "%" [.v (.num 7), .v (.num 3)] = some (.num 1) ∧ G_mod "%" [.v (.num 7), .v (.num 3)] = true := by
  decide +kernel
example : docScalar "around" [.v (.num (9/8)), .v (.num 1)] = some (.num (11/10)) := by decide +kernel
example : docScalar "+" [.v (.num 1), .v (.num 2), .v (.num (1/2))] = some (.num (7/2)) := by decide +kernel
example : docScalar "trimstr" [.v (.str "abcdef"), .v (.num 1), .v (.num 3)] = some (.str "bc") := by decide +kernel
example : docAgg "sum" [.num 1, .null, .num 3] = some (.num 4) ∧ S_group [.num 1, .null, .num 3] := by
  constructor
  · decide +kernel
  · intro h; revert h; decide +kernel
example : docWin "cumsum" [] [.num 1, .num 2, .num 3] 2 = some (.num 6) := by decide +kernel
example : docWin "shift" [.num 2] [.num 1, .num 2, .num 3] 2 = some (.num 1) := by decide +kernel
example : Sql3.evalSql3 (Gen.formatter "sqlite" "maximum") (env [("x", .num 2), ("y", .null)]) = .null :=
  C05_formatter_maximum "sqlite" (Or.inl rfl) _ _ rfl rfl

end DAVerif
