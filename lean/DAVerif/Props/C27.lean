import DAVerif.Proofs.RefSem
import DAVerif.Proofs.ThetaWin
import DAVerif.Proofs.BuilderBasics
import DAVerif.Sem.Theta
/-!
# C27  Windowed and ordered window functions are computed per ordered partition  (executor model)

Specification side (`Spec/Ref.lean`): `Ref.windowOf partition order reverse rows i` – the positions of the rows
of row `i`'s partition (equal cells in every partition column, null equal to null), stably sorted by
`Ref.windowLe` (lexicographic over the order columns, a column listed in `reverse` descending, nulls last) – and
`Ref.windowRef` – the window function applied to the argument values in that order and to the row's position.
Readable meanings of the window functions: `Ref.total`, `Ref.product`, `Ref.IsMax`, `Ref.IsMin`, `Ref.numbers`.

The `C27_…` theorems relate `sem` (both configurations, every `Θ`) to `windowRef`; the `win_…` lemmas say what the
*concrete* interpretation `Theta.win` (the transcription of what pandas computes, tied to `pandas_base.py` by suite
k4_sem) computes for each window function on an ordered partition, including the documented pandas behaviour at null
arguments (finding D22: SQL carries the running value there).
-/
namespace DAVerif
open RefSem

/-- **C27, the executor computes the reference.**  In the result of a windowed extend, for every row `i` and
every assignment `c = f(arg, consts…)`, the cell of row `i` in column `c` is `Ref.windowRef`: `f` applied to the
argument values of the rows of row `i`'s partition, in the declared window order (reversed columns descending),
and to the position of row `i` in that order.  No hypothesis on the data: rows that tie on every order column are
taken in input order on both sides.  (Assignment targets pairwise different, as the builder checks.) -/
theorem C27_sem_is_ref {Θ : Interp} {cfg : SemCfg} {env : Env} {q : Ops} {ops : Assign}
    {part od rv : List String} {t tq : Table} (h : sem Θ cfg env (.extend q ops part od rv true) = .ok t)
    (hq : sem Θ cfg env q = .ok tq) (hn : (ops.map (·.1)).Nodup) :
    ∀ i < tq.rows.length, ∀ kv ∈ ops,
      (t.rows.getD i []).get kv.1 =
        Ref.windowRef Θ (opName kv.2) (constArgs kv.2) (Ref.callArg kv.2) part od rv tq.rows i := by
  cases sem_extend_window_eq h hq
  intro i hi kv hkv
  exact semExtendWindow_get_ref Θ part od rv tq hn hi hkv
    (mem_appendNew.mpr (Or.inr (List.mem_map_of_mem hkv)))

/-- **The model's row comparison is the textbook window order** of the specification. -/
theorem C27_model_order_is_spec (order reverse : List String) (a b : Row) :
    rowLe order reverse a b = Ref.windowLe order reverse a b :=
  rowLe_eq_windowLe order reverse a b

/-- **C27, what the window is.**  The reference window of row `i` (a) consists of exactly the positions of the
rows of its partition, each once, row `i` among them; (b) is sorted: for a position standing before another, the
two rows agree on all order columns, or at the first order column where they differ the earlier row has the
smaller cell – the **larger** cell if that column is listed in `reverse` –, a null cell coming after every value
in both directions (`LexLe`, `CellBefore` of `Spec/Perm.lean`). -/
theorem C27_window_sorted (part od rv : List String) (rows : List Row) (i : Nat) (hi : i < rows.length) :
    (∀ j, j ∈ Ref.windowOf part od rv rows i ↔
      j < rows.length ∧ ∀ c ∈ part, (rows.getD j []).get c = (rows.getD i []).get c) ∧
    (Ref.windowOf part od rv rows i).Nodup ∧ i ∈ Ref.windowOf part od rv rows i ∧
    (Ref.windowOf part od rv rows i).Pairwise
      (fun j k => LexLe od rv (rows.getD j []) (rows.getD k [])) := by
  refine ⟨fun j => mem_windowOf, nodup_windowOf _ _ _ _ _, self_mem_windowOf hi, ?_⟩
  refine (sorted_windowOf part od rv rows i).imp ?_
  intro j k hjk
  rw [← rowLe_eq_windowLe] at hjk
  exact (rowLe_iff_lexLe od rv _ _).mp hjk

/-- **C27, a reversed column sorts descending.**  For one order column `c`: row `a` may stand before row `b` iff
their cells are equal, or `b`'s cell is null and `a`'s is not (nulls last in both directions), or both are values
and `a`'s is smaller – when `c` is listed in `reverse`: **larger** – than `b`'s. -/
theorem C27_reverse (c : String) (reverse : List String) (a b : Row) :
    rowLe [c] reverse a b = true ↔
      a.get c = b.get c ∨ ((a.get c).isNull = false ∧ (b.get c).isNull = true) ∨
      ((a.get c).isNull = false ∧ (b.get c).isNull = false ∧
        if c ∈ reverse then Val.lt (b.get c) (a.get c) = true else Val.lt (a.get c) (b.get c) = true) := by
  -- one order column: equal cells tie; between different cells `cellLe` is `CellBefore`
  simp only [rowLe, cellEq, beq_iff_eq]
  by_cases e : a.get c = b.get c
  · simp [e]
  · rw [if_neg e, cellLe_iff_cellBefore e, CellBefore]
    simp [e]

/-- the rows of the reference window are the partition of the row, sorted by the model's `sortRows` -/
theorem C27_window_rows (part od rv : List String) (rows : List Row) (i : Nat) :
    (Ref.windowOf part od rv rows i).map (fun j => rows.getD j []) =
      sortRows od rv (partRows part rows (rows.getD i [])) :=
  windowOf_rows_eq part od rv rows i

/-- **C27, total orders determine the window.**  When no two rows of one partition tie on the order columns
(`WinTotal`), the sequence of rows in the window of row `i` is the *only* arrangement of its partition that is
sorted by the declared order: any permutation `l` of the partition's rows that is sorted equals it.  Hence it does
not depend on the order of the input rows, nor on how ties would be broken. -/
theorem C27_total_order_window_unique {part od rv : List String} {rows : List Row} (htot : WinTotal part od rv rows)
    (i : Nat) (l : List Row) (hp : l.Perm (rows.filter (fun r => Ref.samePartition part r (rows.getD i []))))
    (hs : l.Pairwise (LexLe od rv)) :
    (Ref.windowOf part od rv rows i).map (fun j => rows.getD j []) = l := by
  rw [windowOf_rows_eq]
  have hpart : rows.filter (fun r => Ref.samePartition part r (rows.getD i [])) = partRows part rows (rows.getD i []) := by
    simp only [partRows]
    apply List.filter_congr
    intro r _
    exact (keyOf_beq_eq_samePartition part r _).symm
  rw [hpart] at hp
  exact sortRows_eq_of_sorted_perm (htot.partRows_total _) hp
    (hs.imp (fun {a b} hab => (rowLe_iff_lexLe od rv a b).mpr hab))

/-- **C27, total orders: every value is independent of the input row order.**  When the window order is total
within each partition, permuting the input rows permutes the result: each row gets the same values.
(The case `WinTotal` of `semExtendWindow_equiv`, `Proofs/Window.lean`.) -/
theorem C27_total_order_unique (Θ : Interp) (ops : Assign) (part od rv : List String) {t t' : Table} (h : t ≈ t')
    (oc : List String) (htot : WinTotal part od rv t.rows) :
    semExtendWindow Θ ops part od rv t oc ≈ semExtendWindow Θ ops part od rv t' oc :=
  semExtendWindow_equiv Θ ops part od rv h oc (Or.inl htot)

/-! ## What the concrete interpretation `Theta.win` computes on an ordered partition

`vs` = the argument values of the partition in window order, `i` = the position of the current row. -/

/-- `_row_number()`: the 1-based position in the window order -/
theorem win_row_number_spec (cargs vs : List Val) (i : Nat) : Theta.win "_row_number" cargs vs i = .num (i + 1) := by
  simp only [Theta.win]

/-- `cumcount()`: the 0-based position in the window order (pandas `GroupBy.cumcount`; SQL's `COUNT(x)` window is a
different function – the catalogue marks it) -/
theorem win_cumcount_spec (cargs vs : List Val) (i : Nat) : Theta.win "cumcount" cargs vs i = .num i := by
  simp only [Theta.win]

/-- `cumsum`, null argument: pandas yields null **at that row** (and skips the null in later rows' sums); SQL
carries the running value – finding D22 -/
theorem win_cumsum_null {cargs vs : List Val} {i : Nat} (h : vs.getD i .null = .null) :
    Theta.win "cumsum" cargs vs i = .null := cumulate_null h

/-- `cumsum`: at a non-null argument, the sum of the (non-null) numbers up to and including position `i` -/
theorem win_cumsum_spec {cargs vs : List Val} {i : Nat} (h : vs.getD i .null ≠ .null)
    (hne : Ref.numbers (vs.take (i + 1)) ≠ []) :
    Theta.win "cumsum" cargs vs i = .num (Ref.total (Ref.numbers (vs.take (i + 1)))) := by
  cases hx : Ref.numbers (vs.take (i + 1)) with
  | nil => exact absurd hx hne
  | cons x xs => exact (cumulate_cons h hx).trans (by rw [foldl_add_eq_total])

/-- `cumsum` on a partition of numbers without nulls: the sum of the first `i + 1` values -/
theorem win_cumsum_nonull (cargs : List Val) (qs : List Rat) {i : Nat} (hi : i < qs.length) :
    Theta.win "cumsum" cargs (qs.map Val.num) i = .num (Ref.total (qs.take (i + 1))) := by
  have hnum : ∀ l : List Rat, Ref.numbers (l.map Val.num) = l := by
    intro l; induction l with
    | nil => rfl
    | cons x xs ih => simp only [Ref.numbers, List.map_cons, List.filterMap_cons] at ih ⊢; rw [ih]
  have h1 : (qs.map Val.num).getD i .null ≠ .null := by
    rw [List.getD_eq_getElem?_getD, List.getElem?_map, List.getElem?_eq_getElem hi]
    simp
  have h2 : Ref.numbers ((qs.map Val.num).take (i + 1)) = qs.take (i + 1) := by
    rw [← List.map_take, hnum]
  rw [win_cumsum_spec h1 (by rw [h2]; cases qs with | nil => cases hi | cons => simp), h2]

theorem win_cumprod_null {cargs vs : List Val} {i : Nat} (h : vs.getD i .null = .null) :
    Theta.win "cumprod" cargs vs i = .null := by
  simp only [Theta.win]; exact cumulate_null h

/-- `cumprod`: at a non-null argument, the product of the (non-null) numbers up to and including position `i` -/
theorem win_cumprod_spec {cargs vs : List Val} {i : Nat} (h : vs.getD i .null ≠ .null)
    (hne : Ref.numbers (vs.take (i + 1)) ≠ []) :
    Theta.win "cumprod" cargs vs i = .num (Ref.product (Ref.numbers (vs.take (i + 1)))) := by
  cases hx : Ref.numbers (vs.take (i + 1)) with
  | nil => exact absurd hx hne
  | cons x xs => exact (cumulate_cons h hx).trans (by rw [foldl_mul_eq_product])

theorem win_cummax_null {cargs vs : List Val} {i : Nat} (h : vs.getD i .null = .null) :
    Theta.win "cummax" cargs vs i = .null := by
  simp only [Theta.win]; exact cumulate_null h

/-- `cummax`: at a non-null argument, the greatest of the (non-null) numbers up to and including position `i` -/
theorem win_cummax_spec {cargs vs : List Val} {i : Nat} (h : vs.getD i .null ≠ .null)
    (hne : Ref.numbers (vs.take (i + 1)) ≠ []) :
    ∃ m, Theta.win "cummax" cargs vs i = .num m ∧ Ref.IsMax m (Ref.numbers (vs.take (i + 1))) := by
  cases hx : Ref.numbers (vs.take (i + 1)) with
  | nil => exact absurd hx hne
  | cons x xs => exact ⟨_, cumulate_cons h hx, foldl_max_isMax xs x⟩

theorem win_cummin_null {cargs vs : List Val} {i : Nat} (h : vs.getD i .null = .null) :
    Theta.win "cummin" cargs vs i = .null := by
  simp only [Theta.win]; exact cumulate_null h

/-- `cummin`: at a non-null argument, the least of the (non-null) numbers up to and including position `i` -/
theorem win_cummin_spec {cargs vs : List Val} {i : Nat} (h : vs.getD i .null ≠ .null)
    (hne : Ref.numbers (vs.take (i + 1)) ≠ []) :
    ∃ m, Theta.win "cummin" cargs vs i = .num m ∧ Ref.IsMin m (Ref.numbers (vs.take (i + 1))) := by
  cases hx : Ref.numbers (vs.take (i + 1)) with
  | nil => exact absurd hx hne
  | cons x xs => exact ⟨_, cumulate_cons h hx, foldl_min_isMin xs x⟩

/-- `shift()`: the argument of the previous row in window order, null for the first row -/
theorem win_shift_default (vs : List Val) (i : Nat) :
    Theta.win "shift" [] vs i = if i = 0 then .null else vs.getD (i - 1) .null := by
  simp only [Theta.win]
  cases i <;> simp

/-- `shift(k)` for an integer `k`: the argument of the row `k` positions earlier in window order (later for
negative `k`); null when there is no such row -/
theorem win_shift_spec (k : Int) (vs : List Val) (i : Nat) :
    Theta.win "shift" [.num (k : Rat)] vs i =
      if (i : Int) - k < 0 then .null else vs.getD ((i : Int) - k).toNat .null := by
  have hd : ((k : Rat)).den = 1 := Rat.den_intCast k
  have hn : ((k : Rat)).num = k := Rat.num_intCast k
  show (if ((k : Rat).den == 1) = true then
      (if (i : Int) - (k : Rat).num < 0 then Val.null else vs.getD ((i : Int) - (k : Rat).num).toNat .null)
    else .null) = _
  rw [hd, hn]
  rfl

/-- `rank()` (pandas' default method `average`): null at a null argument -/
theorem win_rank_null {cargs vs : List Val} {i : Nat} (h : vs.getD i .null = .null) :
    Theta.win "rank" cargs vs i = .null := by
  simp only [Theta.win, Theta.rankAvg, h]

/-- `rank()`: at a non-null argument `v`, with `less` non-null values of the partition smaller than `v` and `eq`
equal to it, the average of the ranks `less + 1, …, less + eq` the equal values occupy:
`((less + 1) + (less + eq)) / 2` -/
theorem win_rank_spec {cargs vs : List Val} {i : Nat} {v : Val} (hv : vs.getD i .null = v) (h : v ≠ .null) :
    Theta.win "rank" cargs vs i =
      .num ((((vs.filter (fun w => !w.isNull && Val.lt w v)).length : Rat) + 1 +
        (((vs.filter (fun w => !w.isNull && Val.lt w v)).length : Rat) +
          ((vs.filter (fun w => !w.isNull && w == v)).length : Nat))) / 2) := by
  simp only [Theta.win, Theta.rankAvg, hv, Theta.nonNull, List.filter_filter]
  cases v with
  | null => exact absurd rfl h
  | _ => simp only [Bool.and_comm]

/-- `ffill()`: the last non-null argument at or before the row; null if there is none -/
theorem win_ffill_spec (cargs vs : List Val) (i : Nat) :
    Theta.win "ffill" cargs vs i = (((vs.take (i + 1)).filter (fun v => !v.isNull)).getLast?).getD .null := by
  simp only [Theta.win]; rfl

/-- `bfill()`: the first non-null argument at or after the row; null if there is none -/
theorem win_bfill_spec (cargs vs : List Val) (i : Nat) :
    Theta.win "bfill" cargs vs i = (((vs.drop i).filter (fun v => !v.isNull)).head?).getD .null := by
  simp only [Theta.win]; rfl

/-- `first()` / `last()` as window functions: the first / last **non-null** argument of the whole partition in
window order (pandas `GroupBy.first/last` skip nulls), the same for every row -/
theorem win_first_spec (cargs vs : List Val) (i : Nat) :
    Theta.win "first" cargs vs i = (vs.filter (fun v => !v.isNull)).headD .null := by
  unfold Theta.win Theta.agg; rfl
theorem win_last_spec (cargs vs : List Val) (i : Nat) :
    Theta.win "last" cargs vs i = (vs.filter (fun v => !v.isNull)).getLastD .null := by
  unfold Theta.win Theta.agg; rfl

/-- **group aggregates broadcast**: `sum mean min max count size nunique median var …` used as window functions
are the aggregate of the whole partition, the same for every row -/
theorem win_broadcast_spec (cargs vs : List Val) (i : Nat) :
    Theta.win "sum" cargs vs i = Theta.agg "sum" vs ∧ Theta.win "mean" cargs vs i = Theta.agg "mean" vs ∧
    Theta.win "min" cargs vs i = Theta.agg "min" vs ∧ Theta.win "max" cargs vs i = Theta.agg "max" vs ∧
    Theta.win "count" cargs vs i = Theta.agg "count" vs ∧ Theta.win "size" cargs vs i = Theta.agg "size" vs ∧
    Theta.win "_size" cargs vs i = Theta.agg "_size" vs ∧ Theta.win "nunique" cargs vs i = Theta.agg "nunique" vs ∧
    Theta.win "median" cargs vs i = Theta.agg "median" vs ∧ Theta.win "var" cargs vs i = Theta.agg "var" vs :=
  ⟨rfl, rfl, rfl, rfl, rfl, rfl, rfl, rfl, rfl, rfl⟩

/-- the sum aggregate is the total of the non-null numbers (0 when there are none) -/
theorem agg_sum_spec (vs : List Val) : Theta.agg "sum" vs = .num (Ref.total (Ref.numbers vs)) := by
  simp only [Theta.agg, Theta.sumR, nums_eq_numbers]
  cases h : Ref.numbers vs with
  | nil => rfl
  | cons x xs =>
    simp only [List.foldl_cons, Rat.zero_add, foldl_add_eq_total]

namespace C27Ex

def Θc : Interp := Theta.concrete (fun _ t => .ok t)

/-- `g, o, x`: two partitions (`a` and null), order column `o` -/
def rows : List Row :=
  [[("g", .str "a"), ("o", .num 2), ("x", .num 10)], [("g", .null), ("o", .num 1), ("x", .num 1)],
   [("g", .str "a"), ("o", .num 1), ("x", .num 20)], [("g", .null), ("o", .num 3), ("x", .null)],
   [("g", .str "a"), ("o", .num 3), ("x", .num 30)]]

example : WinTotal ["g"] ["o"] ["o"] rows := by decide +kernel

/-- ascending by `o`: the window of row 0 (partition `a`) is rows 2, 0, 4; descending: 4, 0, 2 -/
example : (Ref.windowOf ["g"] ["o"] [] rows 0).map (fun j => rows.getD j []) =
    [rows.getD 2 [], rows.getD 0 [], rows.getD 4 []] :=
  C27_total_order_window_unique (by decide +kernel) 0 _ (by decide +kernel)
    ((by decide +kernel : List.Pairwise (fun a b => rowLe ["o"] [] a b = true)
      [rows.getD 2 [], rows.getD 0 [], rows.getD 4 []]).imp (fun {a b} h => (rowLe_iff_lexLe _ _ a b).mp h))

/-- descending (`o` listed in `reverse`): the same partition in the opposite order -/
example : (Ref.windowOf ["g"] ["o"] ["o"] rows 0).map (fun j => rows.getD j []) =
    [rows.getD 4 [], rows.getD 0 [], rows.getD 2 []] :=
  C27_total_order_window_unique (by decide +kernel) 0 _ (by decide +kernel)
    ((by decide +kernel : List.Pairwise (fun a b => rowLe ["o"] ["o"] a b = true)
      [rows.getD 4 [], rows.getD 0 [], rows.getD 2 []]).imp (fun {a b} h => (rowLe_iff_lexLe _ _ a b).mp h))

/-- running sums over a partition with a null argument: null at the null, the null skipped afterwards -/
example : (List.range 3).map (Theta.win "cumsum" [] [.num 1, .null, .num 3]) = [.num 1, .null, .num 4] := by
  decide +kernel

example : Theta.win "cumsum" [] [.num 1, .null, .num 3] 2 = .num (Ref.total [1, 3]) :=
  win_cumsum_spec (by decide) (by decide)

def env : Env := [("d", ⟨["g", "o", "x"], rows⟩)]
def d : Ops := .table "d" ["g", "o", "x"]
/-- running sum of `x` per `g`, in descending order of `o` -/
def p : Ops := .extend d [("c", .app "cumsum" [.col "x"] false true)] ["g"] ["o"] ["o"] true

example (cfg : SemCfg) : ∃ t, sem Θc cfg env p = .ok t ∧ t.rows.length = 5 ∧ ∀ i < 5,
    (t.rows.getD i []).get "c" =
      Ref.windowRef Θc "cumsum" [] (Ref.callArg (.app "cumsum" [.col "x"] false true)) ["g"] ["o"] ["o"] rows i := by
  have h : sem Θc cfg env p = .ok (semExtendWindow Θc [("c", .app "cumsum" [.col "x"] false true)] ["g"] ["o"] ["o"]
      ⟨["g", "o", "x"], rows⟩ p.cols) := rfl
  refine ⟨_, h, length_semExtendWindow .., fun i hi => ?_⟩
  exact C27_sem_is_ref (tq := ⟨["g", "o", "x"], rows⟩) h rfl (by decide) i hi
    ("c", .app "cumsum" [.col "x"] false true) (List.mem_singleton.mpr rfl)

end C27Ex
end DAVerif
