import DAVerif.Proofs.BuilderReach
import DAVerif.Proofs.SemBasic
import DAVerif.Sem.Eval
/-!
# C26 — The builder rejects ill-formed steps when the pipeline is built

The specification (`Rules26.stepRules`, `Rules26.Rules`, `Rules26.verdict`, `Rules26.resultCols`) is in
`Spec/Rules.lean`: the documented construction rules as a predicate on the declared columns of the prefix and the
step, written without reference to `build`.  The model is `Ops/Builder.lean` (`build` = one builder call with all its
checks and simplifications).

Quantification: every pipeline obtainable from table descriptions by successful builder calls (`Reachable`),
every step (every argument value, well-formed or not), every second pipeline `b` of a join/concat.

The model is /repo after commit e8da488: `extend_parsed_` attempts the merge into a preceding extend node only when
the windowed situation of the step (its expressions, `partition_by`, `order_by`) is the node's `windowed_situation`.
Comparing `implies_windowed(new ops)` alone would merge `extend({n: _size()}, partition_by=1)` into a preceding plain
extend node (rejecting a rule-conforming step, or deferring the failure to evaluation); an example at the end of this
file shows that step accepted as a separate node.  Only the statements about the strict reading of "non-aggregating"
(finding `C26-nonaggregating-accepted`) carry a guard.
-/
namespace DAVerif
open Rules26

/-- The pipelines the builders can produce: table descriptions with at least one column and no column twice
(`ViewRepresentation.__init__` asserts both), closed under successful builder calls whose pipeline arguments are
reachable themselves. -/
inductive Reachable : Ops → Prop
  | table (name : String) (cs : List String) : cs ≠ [] → cs.Nodup → Reachable (.table name cs)
  | step {p : Ops} {s : Step} {q : Ops} :
      Reachable p → (∀ b ∈ stepArgs s, Reachable b) → build p s = .ok q → Reachable q

/-- Every reachable pipeline is structurally well formed (`WF`, `Proofs/BuilderWF.lean`): the facts the node
constructors establish hold at every node. -/
theorem C26_reachable_wf {p : Ops} (h : Reachable p) : WF p := by
  induction h with
  | table name cs hne hnd => exact ⟨hne, hnd⟩
  | step _ _ hb ihp ihb => exact build_wf ihp ihb hb

theorem stepArgs_eq_argOps (s : Step) : Rules26.stepArgs s = Step.argOps s := by
  cases s with
  | concat b _ _ _ => cases b <;> rfl
  | _ => rfl

/-- every pipeline a user can write (`Reachable`) satisfies the structural invariant `valid`
(`Proofs/Valid.lean`) from which all of C06 / C07 is derived -/
theorem Reachable.valid {p : Ops} (h : Reachable p) : p.valid = true := by
  induction h with
  | table n cs _ hn => exact nodupB_iff.mpr hn
  | step _ _ hb ih ihb =>
    exact valid_build ih (fun b hbm => ihb b (by rw [stepArgs_eq_argOps]; exact hbm)) hb

/-- Invariant: a reachable pipeline declares at least one column and no column twice. -/
theorem C26_reachable_cols {p : Ops} (h : Reachable p) : p.cols ≠ [] ∧ p.cols.Nodup :=
  ⟨(C26_reachable_wf h).cols_ne_nil, (C26_reachable_wf h).cols_nodup⟩

theorem Reachable.buildChain {start p' : Ops} {steps : List Step} (hstart : Reachable start)
    (hb : ∀ s ∈ steps, ∀ b ∈ Step.argOps s, Reachable b) (h : buildChain start steps = .ok p') :
    Reachable p' :=
  buildChain_preserves (A := fun s => ∀ b ∈ Step.argOps s, Reachable b)
    (fun hp ha hq => Reachable.step hp (fun b hbm => ha b (stepArgs_eq_argOps _ ▸ hbm)) hq) hstart hb h

/-- what calls without argument pipelines build from a table description is reachable (the form in which the
examples show a concrete pipeline reachable: the chain is evaluated) -/
theorem Reachable.of_calls (name : String) (cs : List String) (steps : List Step) {p : Ops} (hne : cs ≠ [])
    (hnd : cs.Nodup) (hargs : steps.all (fun s => (Step.argOps s).isEmpty) = true)
    (h : DAVerif.buildChain (.table name cs) steps = .ok p) : Reachable p :=
  Reachable.buildChain (.table name cs hne hnd)
    (fun s hs b hb => by rw [List.isEmpty_iff.mp (List.all_eq_true.mp hargs s hs)] at hb; cases hb) h

/-- **Main theorem.**  For every reachable prefix `p` and every step `s` (any arguments), the builder call
`build p s` – with the extend merge through `try_to_merge_ops`, the elimination of `order_rows` steps without
limit and the collapse of `select_columns` through select/drop nodes – succeeds **iff** every documented rule
holds for the declared columns of `p` (and, for join/concat, the columns and table descriptions of `b`).
Neither simplification rejects a rule-conforming step nor accepts a violating one. -/
theorem C26_accept_iff_rules {p : Ops} (hp : Reachable p) (s : Step) :
    (build p s).isOk = true ↔ Rules p.cols p.tables s := by
  have h := build_verdict p (Reachable.valid hp) s
  have h1 : (build p s).isOk = (outcome (build p s)).isOk := by
    cases build p s <;> rfl
  rw [h1, h, Rules, ← verdictOf_eq_ok, verdict]
  cases verdictOf (stepRules p.cols p.tables s) <;> simp [Except.isOk, Except.toBool]

/-- The Boolean rule checker decides acceptance. -/
theorem C26_accept_iff_rulesB {p : Ops} (hp : Reachable p) (s : Step) :
    (build p s).isOk = rulesB p.cols p.tables s := by
  rw [Bool.eq_iff_iff, C26_accept_iff_rules hp s]
  simp [Rules, rulesB, List.all_eq_true]

/-- Rejected when the step is added: a step that violates a documented rule never yields a pipeline
(there is no deferred check – `build` is the only place where the step is looked at). -/
theorem C26_reject_at_build {p : Ops} (hp : Reachable p) (s : Step)
    (hv : ¬ Rules p.cols p.tables s) : ∃ e, build p s = .error e := by
  have := (not_congr (C26_accept_iff_rules hp s)).mpr hv
  cases h : build p s with
  | error e => exact ⟨e, rfl⟩
  | ok q => rw [h] at this; exact absurd rfl this

/-- Which error: the class documented for the **first violated rule** in the order of `stepRules`
(e.g. an unknown column in an expression: `NameError`; a duplicate or unknown name in
`partition_by`/`order_by`/`reverse`/`group_by`: `AssertionError`; changing a partition/order/group column,
same-step use and produce, a non-simple window or aggregation expression, order/rename/concat violations:
`ValueError`; unknown columns in select/drop and all join-key violations: `KeyError`).
In particular `extend`/`project` never raise `KeyError` and a join never raises `NameError`. -/
theorem C26_reject_error_class {p : Ops} (hp : Reachable p) (s : Step) (e : Err) :
    build p s = .error e ↔
      ∃ r, (stepRules p.cols p.tables s).find? (fun r => !r.holds) = some r ∧ r.err = e := by
  have h := build_verdict p (Reachable.valid hp) s
  have h1 : build p s = .error e ↔ outcome (build p s) = .error e := by
    cases build p s <;> simp [outcome, Except.map]
  rw [h1, h]
  unfold verdict
  generalize stepRules p.cols p.tables s = rs
  induction rs with
  | nil => simp [verdictOf]
  | cons r rs ih =>
    simp only [verdictOf, List.find?_cons]
    cases hr : r.holds
    · simp only [Bool.false_eq_true, ↓reduceIte, Except.error.injEq, Bool.not_false, Option.some.injEq,
        exists_eq_left']
    · simpa using ih

/-- The same as one equation: the unit-valued outcome of the builder call is the documented verdict. -/
theorem C26_build_verdict {p : Ops} (hp : Reachable p) (s : Step) :
    (build p s).map (fun _ => ()) = verdict p.cols p.tables s :=
  build_verdict p (Reachable.valid hp) s

/-- On success of any step other than `extend`, the new pipeline's `column_names` is the documented list
(`resultCols`: project – group columns then new names; select – the selection in the given order; drop –
survivors in source order; rename/map – source order with the new names; join – a's columns then b's new ones,
or one side's own tuple when the sets coincide; concat – a's columns then the id column; convert – the record
map's produced columns). -/
theorem C26_build_cols {p : Ops} (hp : Reachable p) {s : Step} (hb : ∀ b ∈ stepArgs s, Reachable b)
    (hs : ∀ ops pa o r, s ≠ .extend ops pa o r) {q : Ops} (h : build p s = .ok q) :
    q.cols = resultCols p.cols s :=
  (build_ok_other (C26_reachable_wf hp) (fun b hbm => C26_reachable_wf (hb b hbm)) hs h).2

/-- On success of `extend` the new columns are the old columns and the new names (always, as a set and without
duplicates); they come in the documented order – old columns followed by the new names in the order given –
whenever all names of the step are new, or the prefix does not end in an extend node.  (When a merge re-assigns
a column that the previous extend step created, that column moves behind the other new columns:
`C26_extend_cols_order_witness`.) -/
theorem C26_build_cols_extend {p : Ops} (hp : Reachable p) {ops : Assign} {partition : PartArg}
    {order reverse : List String} {q : Ops} (h : build p (.extend ops partition order reverse) = .ok q) :
    q.cols.Perm (p.cols ++ (keys ops).filter (fun k => !p.cols.contains k)) ∧
    (((∀ k ∈ keys ops, k ∉ p.cols) ∨ (∀ src o a b c w, strip p ≠ .extend src o a b c w)) →
      q.cols = p.cols ++ (keys ops).filter (fun k => !p.cols.contains k)) :=
  (build_extend_ok (C26_reachable_wf hp) h).2

/-- The order caveat is real: `d(x).extend({a: x+1, b: x+2}).extend({a: x+3})` declares `x, b, a`
(the library does the same), not `x, a, b`. -/
theorem C26_extend_cols_order_witness :
    ∃ p s q, Reachable p ∧ build p s = .ok q ∧ q.cols = ["x", "b", "a"] ∧ resultCols p.cols s = ["x", "a", "b"] := by
  let t (n : Int) : Term := .app "+" [.col "x", .value (.int n)] true false
  refine ⟨.extend (.table "d" ["x"]) [("a", t 1), ("b", t 2)] [] [] [] false,
    .extend [("a", t 3)] .none [] [],
    .extend (.table "d" ["x"]) [("b", t 2), ("a", t 3)] [] [] [] false, ?_, by rfl, by decide +kernel, by decide +kernel⟩
  exact Reachable.step (p := .table "d" ["x"]) (s := .extend [("a", t 1), ("b", t 2)] .none [] [])
    (Reachable.table "d" ["x"] (by decide +kernel) (by decide +kernel)) (by intro b hb; simp [stepArgs] at hb) (by rfl)

/-- the environment has every table the pipeline mentions, with at least the declared columns -/
def EnvCovers (env : Env) (p : Ops) : Prop :=
  ∀ nc ∈ p.tables, ∃ t, env.lookup nc.1 = some t ∧ ∀ c ∈ nc.2, c ∈ t.cols

/-- the record-transform interpretation succeeds (C17's concern) and returns the columns it announces -/
def ConvertTotal (Θ : Interp) : Prop := ∀ rm t, ∃ t', Θ.convert rm t = .ok t' ∧ t'.cols = rm.produced

/-- Evaluation of a pipeline raises no rule error: for every interpretation `Θ` of the functions whose record
transforms succeed, both semantic configurations, and every environment that has the pipeline's tables with at
least their declared columns, `sem` returns a table – and that table has exactly the declared columns.
(No hypothesis on how the pipeline was built is needed: the model's evaluator has no checks beyond "table
present with its columns", which is the content of "nothing is deferred".) -/
theorem C26_eval_never_rule_error (Θ : Interp) (cfg : SemCfg) (env : Env) (p : Ops)
    (hc : ConvertTotal Θ) (he : EnvCovers env p) :
    ∃ t, sem Θ cfg env p = .ok t ∧ t.cols = p.cols := by
  induction p using Ops.sources_induction with
  | table name cs =>
    obtain ⟨t, hl, hs⟩ := he (name, cs) (List.mem_singleton.mpr rfl)
    exact ⟨t.selectCols cs, by rw [sem, hl]; exact if_pos (subset_iff.mpr hs), rfl⟩
  | un n s hs ih =>
    -- a node with one source: the step of `Sql.stepG` on the table of the source
    obtain ⟨ts, hts, hcs⟩ := ih (fun nc h => he nc (by cases n <;> cases hs <;> exact h))
    rw [Sql.sem_unary Θ cfg env hs, hts]
    cases n with
    | table | join | concat => cases hs
    | convert _ rm => cases hs; exact hc rm ts
    | extend _ _ _ _ _ w => cases hs; cases w <;> exact ⟨_, rfl, rfl⟩
    | project => cases hs; exact ⟨_, rfl, (semProject_wf ..).2⟩
    | selectRows | order => cases hs; exact ⟨_, rfl, hcs⟩
    | _ => cases hs; exact ⟨_, rfl, rfl⟩
  | bin n a b hs iha ihb =>
    obtain ⟨ta, hta, _⟩ := iha (fun nc h => he nc (by cases n <;> cases hs <;> exact List.mem_append_left _ h))
    obtain ⟨tb, htb, _⟩ := ihb (fun nc h => he nc (by cases n <;> cases hs <;> exact List.mem_append_right _ h))
    cases n <;> cases hs <;> exact ⟨_, by rw [sem, hta, htb]; rfl, rfl⟩

/-! ## Finding `C26-nonaggregating-accepted`: the rules the library enforces are weaker than the property text

The property names "a non-aggregating … window or project expression" as a violation.  The library's rule is
syntactic only (one function applied to at most one column): *which* function is not checked
(`# TODO: check op is in list of aggregators` in `ProjectNode.__init__`).  `Rules` above is the rule list the
library documents, so the equivalence holds for it; the stricter reading fails: -/

/-- the catalogued aggregation / window functions (`op_catalog.methods_table`, classes g, p, w, up) -/
def catalogAggregators : List String :=
  (Gen.catalog.filter (fun r => ["g", "p", "w", "up"].contains (r.getD 2 ""))).map (fun r => r.getD 0 "")

/-- the documented aggregation / window function names: the method catalogue's classes g, p, w, up and the name
classes of `expr_rep.py` -/
def aggregatorNames : List String := catalogAggregators ++ Gen.impliesWindowed ++ Gen.impliesOrdered

/-- strict reading of "non-aggregating": the function applied by every expression of a project, and of an extend in a
windowed situation, is a documented aggregation / window function (an operator such as `+` is not) -/
def aggNamesOk : Step → Bool
  | .project ops _ => ops.all (fun kv => match kv.2 with
      | .app op _ _ _ => aggregatorNames.contains op
      | _ => true)
  | .extend ops partition order _ => !windowedSituation ops partition order || ops.all (fun kv => match kv.2 with
      | .app op _ _ _ => aggregatorNames.contains op
      | _ => true)
  | _ => true

/-- guard `G_agg` of finding `C26-nonaggregating-accepted` -/
def G_agg (s : Step) : Prop := aggNamesOk s = true
instance (s : Step) : Decidable (G_agg s) := by unfold G_agg; exact inferInstance

/-- the property text's rule list: the documented rules plus "the expression aggregates" -/
def StrictRules (cols : List String) (tabs : List (String × List String)) (s : Step) : Prop :=
  Rules cols tabs s ∧ aggNamesOk s = true

/- The full statement under the strict reading (FALSE, see `C26_G_agg_necessary`):

theorem C26_accept_iff_strict_FULL_STATEMENT (p : Ops) (hp : Reachable p) (s : Step) :
    (build p s).isOk = true ↔ StrictRules p.cols p.tables s
-/

/-- Under the guard (the step applies documented aggregation / window functions only) acceptance is equivalent to
the strict rule list as well. -/
theorem C26_accept_iff_strict_partial {p : Ops} (hp : Reachable p) (s : Step) (hG : G_agg s) :
    (build p s).isOk = true ↔ StrictRules p.cols p.tables s := by
  rw [C26_accept_iff_rules hp s]
  exact ⟨fun h => ⟨h, hG⟩, fun h => h.1⟩

/-- The guard is needed: `project({n: x.abs()}, group_by=[g])` on `d(g, x)` is accepted although `abs` is no
aggregation (the real library accepts it too and fails at evaluation). -/
theorem C26_G_agg_necessary :
    ¬ ∀ (p : Ops) (s : Step), Reachable p → ((build p s).isOk = true ↔ StrictRules p.cols p.tables s) := by
  intro h
  have hr : Reachable (.table "d" ["g", "x"]) := Reachable.table _ _ (by decide +kernel) (by decide +kernel)
  have := (h _ (.project [("n", .app "abs" [.col "x"] false true)] ["g"]) hr).mp (by decide +kernel)
  exact absurd this.2 (by decide +kernel)

/-- A row-wise function (`abs`, catalogue class `e` only) is accepted as a project "aggregation" and as a window
function at build time – on the real library both pipelines then fail at evaluation (AttributeError /
ValueError from pandas), i.e. the violation is deferred. -/
theorem C26_nonaggregating_accepted :
    ¬ catalogAggregators.contains "abs" = true ∧
    (build (.table "d" ["g", "x"]) (.project [("n", .app "abs" [.col "x"] false true)] ["g"])).isOk = true ∧
    (build (.table "d" ["g", "x"])
      (.extend [("n", .app "abs" [.col "x"] false true)] (.cols ["g"]) [] [])).isOk = true := by
  refine ⟨by decide +kernel, by decide +kernel, by decide +kernel⟩

/-- a reachable three-step pipeline with an eliminated `order_rows` and a select/drop collapse -/
example : Reachable (.selectCols (.table "d" ["g", "x", "y"]) ["x"]) :=
  Reachable.of_calls "d" ["g", "x", "y"] [.dropCols ["y"], .order ["g"] [] none, .selectCols ["x"]]
    (by decide +kernel) (by decide +kernel) rfl rfl

/-- after that prefix (order_rows eliminated, select after drop) selecting the dropped column violates a rule and
is rejected with the documented class; selecting a surviving column obeys the rules and is accepted -/
example :
    let p : Ops := .order (.dropCols (.table "d" ["g", "x", "y"]) ["y"]) ["g"] [] none
    ¬ Rules p.cols p.tables (.selectCols ["y"]) ∧ build p (.selectCols ["y"]) = .error .keyError ∧
    Rules p.cols p.tables (.selectCols ["x"]) ∧ (build p (.selectCols ["x"])).isOk = true :=
  ⟨by decide +kernel, by rfl, by decide +kernel, by decide +kernel⟩

/-- a requested join check behind an eliminated `order_rows` is still made (fix D3): common non-key column `x`;
a concat with the same columns and a fresh id column obeys the rules and is accepted -/
example :
    let d : Ops := .table "d" ["g", "x"]
    let p : Ops := .order d ["g"] [] none
    ¬ Rules p.cols p.tables (.join d ["g"] ["g"] "inner" true) ∧
    build p (.join d ["g"] ["g"] "inner" true) = .error .keyError ∧
    Rules p.cols p.tables (.concat (some d) (some "src") "a" "b") ∧
    (build p (.concat (some d) (some "src") "a" "b")).isOk = true :=
  ⟨by decide +kernel, by rfl, by decide +kernel, by decide +kernel⟩

/-- an extend step that is merged into the previous extend node and obeys the rules -/
example :
    let t (n : Int) : Term := .app "+" [.col "x", .value (.int n)] true false
    let p : Ops := .extend (.table "d" ["x"]) [("a", t 1)] [] [] [] false
    let s : Step := .extend [("b", t 2)] .none [] []
    Rules p.cols p.tables s ∧
    build p s = .ok (.extend (.table "d" ["x"]) [("a", t 1), ("b", t 2)] [] [] [] false) :=
  ⟨by decide +kernel, by rfl⟩

/-- `d(x, y).extend({a: x + y}).extend({n: _size()}, partition_by=1)` obeys the rules and is accepted as a *separate*
windowed node, not merged into the plain extend node (/repo after e8da488) -/
example :
    let p : Ops := .extend (.table "d" ["x", "y"]) [("a", .app "+" [.col "x", .col "y"] true false)] [] [] [] false
    let s : Step := .extend [("n", .app "_size" [] false false)] .one [] []
    Rules p.cols p.tables s ∧ build p s = .ok (.extend p [("n", .app "_size" [] false false)] [] [] [] true) :=
  ⟨by decide +kernel, by rfl⟩

example : EnvCovers [("d", ⟨["g", "x", "z"], []⟩)] (.selectRows (.table "d" ["g", "x"]) (.col "x")) := by
  intro nc h
  simp only [Ops.tables, List.mem_singleton] at h
  subst h
  exact ⟨_, rfl, by decide +kernel⟩

end DAVerif
