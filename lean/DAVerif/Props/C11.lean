import DAVerif.Proofs.EqSem
import DAVerif.Proofs.EqBuild
/-!
# C11 — Pipelines that compare equal behave identically

Model of `==`: `Eq.eqOps` (Ops/Eq.lean: `ViewRepresentation.__eq__`, every `_equiv_nodes`, `is_equal`, `RecordMap.__eq__`
of /repo with the fixes D8 D9 D10 D28 and the three C11 fixes).  Specification side: `Term.erase` / `Ops.erase`
(Spec/Erase.lean) forget the one thing `==` ignores on purpose, the `method` flag of expressions; "structurally identical
up to ignored data" is `erase p = erase q`.

Side conditions, invariants of the Python representation (both are necessary in the model, where association lists can
have duplicate keys and abstract summaries can disagree; neither can be violated by real objects): `DictWF p` – the
assignments of each extend/project step have distinct keys (they are `dict`s; the builders reject duplicate keys);
`RecCoherent p q` – record maps with the same printed specifications need the same columns (`needed` is computed from the
specifications; the model's `RecMap` is an abstract summary).  The SQL half of the property: `Props/C11sql.lean`.
-/
namespace DAVerif.C11
open DAVerif

/-- `p == p` for every pipeline. -/
theorem C11_refl (p : Ops) (h : p.DictWF) : Eq.eqOps p p = true := (Eq.eqOps_iff_norm p p (.inl h)).2 rfl

/-- `(p == q) = (q == p)` for all pipelines (dict invariant on one of them suffices). -/
theorem C11_symm (p q : Ops) (h : p.DictWF ∨ q.DictWF) : Eq.eqOps p q = Eq.eqOps q p := by
  rw [Bool.eq_iff_iff, Eq.eqOps_iff_norm p q h, Eq.eqOps_iff_norm q p h.symm]
  exact eq_comm

/-- `p == q` and `q == r` imply `p == r`. -/
theorem C11_trans (p q r : Ops) (h : p.DictWF) (h1 : Eq.eqOps p q = true) (h2 : Eq.eqOps q r = true) :
    Eq.eqOps p r = true := by
  have e1 := (Eq.eqOps_iff_norm p q (.inl h)).1 h1
  have e2 := (Eq.eqOps_iff_norm q r (.inl ((Eq.dictWF_of_norm_eq e1).1 h))).1 h2
  exact (Eq.eqOps_iff_norm p r (.inl h)).2 (e1.trans e2)

/-- If `p == q` then `p` and `q` are the same tree once the `method` flags are forgotten. -/
theorem C11_sound_struct (p q : Ops) (h : p.DictWF ∨ q.DictWF) (hc : Ops.RecCoherent p q)
    (he : Eq.eqOps p q = true) : p.erase = q.erase := (Eq.eqOps_iff_erase p q h hc).1 he

/-- Conversely `==` is complete for that relation: trees that differ only in `method` flags compare equal
(`==` never separates two pipelines that are the same up to ignored data). -/
theorem C11_complete_struct (p q : Ops) (h : p.DictWF ∨ q.DictWF) (he : p.erase = q.erase) :
    Eq.eqOps p q = true := (Eq.eqOps_iff_norm p q h).2 (Eq.norm_eq_of_erase_eq he)

/-- The semantics does not look at the ignored data: `sem` factors through `erase`. -/
theorem C11_sem_erase (Θ : Interp) (cfg : SemCfg) (env : Env) (p : Ops) :
    sem Θ cfg env p.erase = sem Θ cfg env p := sem_erase Θ cfg env p

/-- The declared column names do not look at the ignored data either. -/
theorem C11_cols_erase (p : Ops) : p.erase.cols = p.cols := Ops.cols_erase p

/-- If `p == q` then `p` and `q` evaluate to the same outcome (table or error) for every interpretation of
the function symbols, in both semantic configurations (Pandas executor / reference), on every environment. -/
theorem C11_sound_sem (p q : Ops) (h : p.DictWF ∨ q.DictWF) (hc : Ops.RecCoherent p q) (he : Eq.eqOps p q = true) :
    ∀ (Θ : Interp) (cfg : SemCfg) (env : Env), sem Θ cfg env p = sem Θ cfg env q := by
  intro Θ cfg env
  rw [← sem_erase Θ cfg env p, ← sem_erase Θ cfg env q, C11_sound_struct p q h hc he]

/-- … and declare the same columns. -/
theorem C11_sound_cols (p q : Ops) (h : p.DictWF ∨ q.DictWF) (he : Eq.eqOps p q = true) : p.cols = q.cols :=
  Ops.cols_eq_of_norm_eq ((Eq.eqOps_iff_norm p q h).1 he)

/-! ## 3b. Pipelines made by the builders

`ReachableC11 p`: `p` is obtained from table descriptions by builder calls (`build`, Ops/Builder.lean; the `b`
arguments of joins and concats are built the same way).  For such pipelines the dict invariant is a theorem,
not a hypothesis: `parse_assignments_in_context` rejects duplicate keys and `try_to_merge_ops` keeps the keys of
a merged extend distinct. -/

/-- every pipeline the builders can produce has dict-like assignments -/
theorem C11_reachable_dictWF {p : Ops} (h : ReachableC11 p) : p.DictWF := by
  induction h with
  | table n cs => trivial
  | step _ _ hb ihp ihb => exact build_dictWF ihp ihb hb

/-- `p == p` for every pipeline the builders can produce -/
theorem C11_refl_reachable {p : Ops} (h : ReachableC11 p) : Eq.eqOps p p = true :=
  C11_refl p (C11_reachable_dictWF h)

/-- `(p == q) = (q == p)` as soon as one side was made by the builders -/
theorem C11_symm_reachable {p : Ops} (q : Ops) (h : ReachableC11 p) : Eq.eqOps p q = Eq.eqOps q p :=
  C11_symm p q (.inl (C11_reachable_dictWF h))

/-- equal pipelines, one of them made by the builders, evaluate to the same outcome everywhere -/
theorem C11_sound_sem_reachable {p : Ops} (q : Ops) (h : ReachableC11 p) (hc : Ops.RecCoherent p q)
    (he : Eq.eqOps p q = true) :
    ∀ (Θ : Interp) (cfg : SemCfg) (env : Env), sem Θ cfg env p = sem Θ cfg env q :=
  C11_sound_sem p q (.inl (C11_reachable_dictWF h)) hc he

private def tX : Ops := .table "d" ["x"]
private def F : Term := .app "f" [.col "x"] false true
private def G : Term := .app "g" [.col "x"] false true

/-- duplicate keys: `eqOps` is not reflexive on an association list that is not a dict -/
theorem C11_refl_dict_necessary : ¬ ∀ p : Ops, Eq.eqOps p p = true := by
  intro h
  exact absurd (h (.project tX [("a", F), ("a", G)] [])) (by decide +kernel)

/-- duplicate keys: `eqOps` is not symmetric on association lists that are not dicts -/
theorem C11_symm_dict_necessary : ¬ ∀ p q : Ops, Eq.eqOps p q = Eq.eqOps q p := by
  intro h
  exact absurd (h (.project tX [("a", G), ("a", G)] []) (.project tX [("a", F), ("a", G)] [])) (by decide +kernel)

private def Θs : Interp :=
  { scalar := fun _ _ => .null, agg := fun op _ => .str op, win := fun _ _ _ _ => .null,
    convert := fun rm t => .ok ⟨rm.needed, t.rows⟩ }

/-- duplicate keys: without `DictWF`, `==` does not imply equal results (the aggregation keeps the first entry of
a duplicated key, `ops[k]` reads the last) -/
theorem C11_sound_sem_dict_necessary :
    ¬ ∀ (p q : Ops), Ops.RecCoherent p q → Eq.eqOps p q = true →
      ∀ (Θ : Interp) (cfg : SemCfg) (env : Env), sem Θ cfg env p = sem Θ cfg env q := by
  intro h
  have := h (.project tX [("a", G), ("a", G)] []) (.project tX [("a", F), ("a", G)] [])
    (by intro r1 h1; simp [Ops.recmaps, tX] at h1) (by decide +kernel) Θs SemCfg.ref [("d", ⟨["x"], []⟩)]
  exact absurd this (by decide +kernel)

private def rm1 : RecMap := ⟨["x"], ["y"], "spec"⟩
private def rm2 : RecMap := ⟨["z"], ["y"], "spec"⟩

/-- record maps: without `RecCoherent`, `==` does not imply equal results, nor structural identity -/
theorem C11_sound_sem_rec_necessary :
    ¬ ∀ (p q : Ops), (p.DictWF ∨ q.DictWF) → Eq.eqOps p q = true →
      ∀ (Θ : Interp) (cfg : SemCfg) (env : Env), sem Θ cfg env p = sem Θ cfg env q := by
  intro h
  have := h (.convert tX rm1) (.convert tX rm2) (by simp [Ops.DictWF, tX]) (by decide +kernel) Θs SemCfg.ref
    [("d", ⟨["x"], []⟩)]
  exact absurd this (by decide +kernel)

/-! ## 5. List constants are compared by type and value (the shared `Term.isEqual`, Expr/Term.lean)

Comparing list constants with Python's `==` on the payloads (`[1] == [True] == [1.0]`) would make `==`
unsound for the semantics: the two pipelines below differ in a list constant only (`[1]` / `[True]`) and evaluate
differently under `Θin`.  `Ops.eqOps` (Ops/Compose.lean), which compares them through `Term.isEqual`, tells them
apart. -/
private def inT (l : Lit) : Ops :=
  .selectRows tX (.app "is_in" [.col "x", .list [l]] false true)

private def Θin : Interp :=
  { scalar := fun _ args => match args with
      | [.v x, .l ys] => .bool (ys.contains x)
      | _ => .null,
    agg := fun _ _ => .null, win := fun _ _ _ _ => .null, convert := fun _ t => .ok t }

theorem C11_list_constant_types_matter :
    Ops.eqOps (inT (.int 1)) (inT (.bool true)) = false ∧
    sem Θin SemCfg.ref [("d", ⟨["x"], [[("x", .num 1)]]⟩)] (inT (.int 1)) ≠
    sem Θin SemCfg.ref [("d", ⟨["x"], [[("x", .num 1)]]⟩)] (inT (.bool true)) := by decide +kernel

/-- so does `Eq.eqOps` -/
example : Eq.eqOps (inT (.int 1)) (inT (.bool true)) = false := by decide +kernel

private def d : Ops := .table "d" ["g", "x", "y"]
/-- `d.extend({'z': 'x.max()'}, partition_by=['g']).select_rows('z > 1').order_rows(['x'], limit=2)`,
once written with method calls and once with function calls -/
private def pipe (m : Bool) : Ops :=
  .order (.selectRows
    (.extend d [("z", .app "max" [.col "x"] false m)] ["g"] [] [] true)
    (.app ">" [.col "z", .value (.int 1)] true false)) ["x"] [] (some 2)

example : (pipe true).DictWF := by simp [pipe, d, Ops.DictWF]
example : Ops.RecCoherent (pipe true) (pipe false) := by intro r1 h1; simp [pipe, d, Ops.recmaps] at h1
example : Eq.eqOps (pipe true) (pipe false) = true :=
  C11_complete_struct _ _ (.inl (by simp [pipe, d, Ops.DictWF])) (by simp [pipe, d, Ops.erase, eraseAssign, Term.erase, Term.eraseList])
example : pipe true ≠ pipe false := by simp [pipe]
example : (pipe true).erase = (pipe false).erase :=
  C11_sound_struct _ _ (.inl (by simp [pipe, d, Ops.DictWF])) (by intro r1 h1; simp [pipe, d, Ops.recmaps] at h1)
    (C11_complete_struct _ _ (.inl (by simp [pipe, d, Ops.DictWF]))
      (by simp [pipe, d, Ops.erase, eraseAssign, Term.erase, Term.eraseList]))
/-- the pipeline is one the builders produce: `d.extend({'z': 'x + 1'}).order_rows(['x'], limit=2)` -/
example : ReachableC11 (.order (.extend d [("z", .app "+" [.col "x", .value (.int 1)] true false)] [] [] [] false)
    ["x"] [] (some 2)) :=
  .step (st := .order ["x"] [] (some 2))
    (p := .extend d [("z", .app "+" [.col "x", .value (.int 1)] true false)] [] [] [] false)
    (.step (st := .extend [("z", .app "+" [.col "x", .value (.int 1)] true false)] .none [] [])
      (p := d) (ReachableC11.table "d" ["g", "x", "y"]) (by simp [Step.arg]) (by rfl))
    (by simp [Step.arg]) (by rfl)
example : Eq.eqOps (pipe true) (.order (.selectRows
    (.extend d [("z", .app "max" [.col "x"] false true)] ["g"] [] [] true)
    (.app ">" [.col "z", .value (.int 1)] true false)) ["x"] [] (some 3)) = false := by
  decide +kernel
/-- a constant of another type is seen (D9) -/
example : Eq.termEq (.value (.int 1)) (.value (.flt 1)) = false := by decide +kernel

end DAVerif.C11
