import DAVerif.Proofs.RenameExt
import DAVerif.Proofs.SemBasic
import DAVerif.Proofs.RenameBuild
import DAVerif.Proofs.RenameSqlSem
import DAVerif.Proofs.RenameNear
import DAVerif.Proofs.WithText
import DAVerif.Proofs.RenameWith
import DAVerif.Sem.Theta
import DAVerif.Sql.ThetaSql
import DAVerif.Proofs.EvalRead
/-!
# C15  Results do not depend on how tables and columns are named

Specification side: `Spec/Rename.lean` (the action of a column renaming `ρc` and a table renaming `ρt` on expressions,
pipelines, builder steps, rows, tables, environments, NearSQL trees; the names involved `names p env`, `tabNames p env`; the
reserved names and the decidable guard `NoReserved`) and `Spec/WithText.lean` (the WITH form of a pipeline and its
text-level meaning).

Proved, for the models that the correspondence suites tie to the code: the executor model `sem`, the builders, `column_names`
and the SQL translation followed by the nested-form SQL semantics are equivariant under renamings, with no side condition on
the target names; the query names the SQL generator invents are the same for the pipeline and the renamed pipeline; the
model's meaning of the WITH form (`semWith`, no CTE elimination) is equivariant as well, the text-level meaning
(`semWithText`) coincides with it under the guard `CteNamesFree` and is not equivariant outside it.

What the models cannot exhibit, and is therefore *not* proved but searched for by the oracle on the real code and recorded as
known findings with the guard `NoReserved`: the scratch columns of the Pandas / Polars executors (D23: `sem` is the meaning
of the executor when no name collides; it has no scratch columns) and the capture of a user table by a generated
common-table-expression name in WITH form (D24: `semNear` keeps references to base tables and to common table expressions
apart, the SQL text does not).
-/
namespace DAVerif
open Function (Injective)
open DAVerif.Sql

/-- **C15, executors (full strength).**  For every interpretation `Θ` of the function symbols whose record transforms
are equivariant, both executor configurations (Pandas, reference), every pipeline `p`, every environment `env` and
every injective renaming of columns `ρc` and of tables `ρt` - whatever the target names are: evaluating the renamed
pipeline on the renamed inputs gives the same error, or the result of the original evaluation with its columns renamed
by `ρc` and nothing else changed (same rows in the same order, same cells). -/
theorem C15_sem_equivariant (Θ : Interp) (hΘ : Ren.ConvertEquivariant Θ) (cfg : SemCfg) {ρc : ColRen} {ρt : TabRen}
    (hc : Injective ρc) (ht : Injective ρt) (env : Env) (p : Ops) :
    sem Θ cfg (Env.rename ρc ρt env) (p.ren ρc ρt) = (sem Θ cfg env p).map (Table.rename ρc) :=
  Ren.sem_ren Θ hΘ cfg hc ht env p

/-- **C15, executors, renamings given on the names involved only.**  The same when `ρc` is only known to be injective
on the finitely many column names of `p` and `env` (`names p env`: every column occurrence in the pipeline, the
declared columns and the row keys of every input table) and `ρt` on their table names; record transforms return the
columns they declare (`ConvertOK`, as in C08). -/
theorem C15_sem_equivariant_on (Θ : Interp) (hΘ : Ren.ConvertEquivariant Θ) (hOK : ConvertOK Θ) (cfg : SemCfg)
    {ρc : ColRen} {ρt : TabRen} (env : Env) (p : Ops) (hc : InjOn ρc (names p env)) (ht : InjOn ρt (tabNames p env)) :
    sem Θ cfg (Env.rename ρc ρt env) (p.ren ρc ρt) = (sem Θ cfg env p).map (Table.rename ρc) :=
  Ren.sem_ren_on Θ hΘ cfg env p hc ht

/-- **C15, declared columns.**  `column_names` of the renamed pipeline are the renamed `column_names`. -/
theorem C15_cols_equivariant {ρc : ColRen} (hc : Injective ρc) (ρt : TabRen) (p : Ops) :
    (p.ren ρc ρt).cols = p.cols.map ρc :=
  Ren.cols_ren hc ρt p

/-- **C15, builders.**  Every builder call (with all its checks and simplifications: extend merging, elimination of
trivial `order_rows`, select collapse, …) on a renamed pipeline with renamed arguments raises the same error or
builds the renamed pipeline: names are only compared for equality and membership. -/
theorem C15_build_equivariant {ρc : ColRen} {ρt : TabRen} (hc : Injective ρc) (ht : Injective ρt) (p : Ops)
    (s : Step) : build (p.ren ρc ρt) (s.ren ρc ρt) = (build p s).map (Ops.ren ρc ρt) :=
  Ren.build_ren hc ht p s

/-- the same for a whole chain of builder calls -/
theorem C15_buildChain_equivariant {ρc : ColRen} {ρt : TabRen} (hc : Injective ρc) (ht : Injective ρt) (p : Ops)
    (steps : List Step) :
    buildChain (p.ren ρc ρt) (steps.map (Step.ren ρc ρt)) = (buildChain p steps).map (Ops.ren ρc ρt) :=
  Ren.buildChain_ren hc ht p steps

/-- **C15, generated SQL structure.**  For both dialect configurations: translating the renamed pipeline fails with
the same error or yields the NearSQL tree of the original pipeline with every column occurrence renamed by `ρc` and
every base table by `ρt` - and with **the same generated query names** (`extend_3`, `join_source_left_0`, …: they come
from the counter, which runs identically).  Stated modulo `ops_key` (a text that is only compared for equality by
CTE elimination and contains the printed pipeline). -/
theorem C15_near_structure_equivariant (cfg : SqlCfg) {ρc : ColRen} {ρt : TabRen} (hc : Injective ρc)
    (ht : Injective ρt) (p : Ops) :
    (toNearSql cfg (p.ren ρc ρt)).map Near.eraseKeys
      = (toNearSql cfg p).map (fun n => (n.rename ρc ρt).eraseKeys) :=
  Ren.toNearSql_ren cfg hc ht p

/-- **C15, SQL semantics of any NearSQL tree (nested form).**  No reserved-name guard: in nested form a reference to a
base table is resolved in the environment only, so a user table named like a generated query cannot be captured. -/
theorem C15_semSql_equivariant (Θ : Interp) (ec : EngineCfg) {ρc : ColRen} {ρt : TabRen} (hc : Injective ρc)
    (ht : Injective ρt) (env : Env) (q : Near) :
    semSql Θ ec (Env.rename ρc ρt env) (q.rename ρc ρt) = (semSql Θ ec env q).map (Table.rename ρc) :=
  Ren.semSql_ren Θ ec hc ht env q

/-- the SQL meaning of a pipeline: translate, then evaluate the nested query -/
def sqlMeaning (Θ : Interp) (ec : EngineCfg) (cfg : SqlCfg) (env : Env) (p : Ops) : Except Err Table :=
  toNearSql cfg p >>= semSql Θ ec env

/-- **C15, SQL backend (nested form, full strength).**  For every interpretation, engine configuration (NULL ordering)
and dialect configuration: generating SQL for the renamed pipeline and running it on the renamed tables gives the same
error or the renamed result - also when user tables or columns are named like the generator's own query names. -/
theorem C15_sql_sem_equivariant (Θ : Interp) (ec : EngineCfg) (cfg : SqlCfg) {ρc : ColRen} {ρt : TabRen}
    (hc : Injective ρc) (ht : Injective ρt) (env : Env) (p : Ops) :
    sqlMeaning Θ ec cfg (Env.rename ρc ρt env) (p.ren ρc ρt)
      = (sqlMeaning Θ ec cfg env p).map (Table.rename ρc) := by
  unfold sqlMeaning
  rcases Ren.map_eq_map_cases (Ren.toNearSql_ren cfg hc ht p) with ⟨e, h1, h2⟩ | ⟨n', n, h1, h2, h⟩
  · rw [h1, h2]; rfl
  · rw [h1, h2]
    exact (Ren.semSql_congr_eraseKeys Θ ec _ h).trans (Ren.semSql_ren Θ ec hc ht env n)

/-- the same for renamings that are injective on the names involved only: an equivariant backend puts no name into its
result that does not occur in the pipeline or its inputs (`Ren.equivariant_names`), so the result is renamed by `ρc` -/
theorem sqlMeaning_equivariant_on (Θ : Interp) (ec : EngineCfg) (cfg : SqlCfg) {ρc : ColRen} {ρt : TabRen}
    (env : Env) (p : Ops) (hc : InjOn ρc (names p env)) (ht : InjOn ρt (tabNames p env)) :
    sqlMeaning Θ ec cfg (Env.rename ρc ρt env) (p.ren ρc ρt) = (sqlMeaning Θ ec cfg env p).map (Table.rename ρc) :=
  Ren.equivariant_on (fun hc ht => C15_sql_sem_equivariant Θ ec cfg hc ht) env p hc ht

/-- the same for renamings that are injective on the names involved only: the result is renamed by an injective
renaming that agrees with `ρc` on all names involved -/
theorem C15_sql_sem_equivariant_on (Θ : Interp) (ec : EngineCfg) (cfg : SqlCfg) {ρc : ColRen} {ρt : TabRen}
    (env : Env) (p : Ops) (hc : InjOn ρc (names p env)) (ht : InjOn ρt (tabNames p env)) :
    ∃ ρc' : ColRen, Injective ρc' ∧ (∀ c ∈ names p env, ρc' c = ρc c) ∧
      sqlMeaning Θ ec cfg (Env.rename ρc ρt env) (p.ren ρc ρt)
        = (sqlMeaning Θ ec cfg env p).map (Table.rename ρc') := by
  obtain ⟨ρc', hc', e⟩ := Ren.exists_injective_ext hc
  exact ⟨ρc', hc', e, (sqlMeaning_equivariant_on Θ ec cfg env p hc ht).trans
    (Ren.equivariant_map_congr (fun hc ht => C15_sql_sem_equivariant Θ ec cfg hc ht) env p (fun c h => (e c h).symm))⟩

/-! ## The reserved names and the guard of the known findings D23 / D24

The full-strength statement of the property for the *real* executors and the real SQL text would be the theorems above
without any condition on the target names.  They hold of the models; the real Pandas / Polars executors write scratch
columns into the user's frame and the real WITH-form SQL text does not distinguish a base table from a common table
expression of the same name, so on the real code the property only holds under the guard

    NoReserved ρc ρt p env   (no renamed column is a scratch name, no renamed table a generated query name).

The guard is decidable and computed by the driver with this definition.  The violations outside the guard are
confirmed on the real code by the witnesses `corpus/C15/*.json` (known findings `D23-scratch-column-names`,
`D24-generated-cte-names`); they cannot be stated as `…_necessary` theorems about `sem` / `semSql`, precisely because
these models are equivariant (theorems above). -/

/-- one scratch name of each kind of DESIGN A.5 (fixed, suffixed, numbered, generated query name) is recognised, the
ordinary names `x` and `extend_x` are not -/
theorem C15_reserved_names_recognised :
    Reserved.isReservedCol "_data_table_temp_col" = true ∧ Reserved.isReservedCol "x_tmp_right_col" = true
    ∧ Reserved.isReservedCol "_da_extend_temp_v_column_12" = true ∧ Reserved.isReservedTable "extend_0" = true
    ∧ Reserved.isReservedCol "x" = false ∧ Reserved.isReservedTable "extend_x" = false := by
  decide +kernel

/-- the guard only looks at the names involved: renamings that agree on them have the same guard -/
theorem C15_NoReserved_congr {ρc ρc' : ColRen} {ρt ρt' : TabRen} (p : Ops) (env : Env)
    (ec : ∀ c ∈ names p env, ρc' c = ρc c) (et : ∀ n ∈ tabNames p env, ρt' n = ρt n) :
    NoReserved ρc' ρt' p env = NoReserved ρc ρt p env := by
  have all_congr : ∀ (l : List String) (f g : String → Bool), (∀ a ∈ l, f a = g a) → l.all f = l.all g := by
    intro l f g h
    induction l with
    | nil => rfl
    | cons a l ih =>
      simp only [List.all_cons, h a (List.mem_cons_self ..), ih (fun b hb => h b (List.mem_cons_of_mem _ hb))]
  unfold NoReserved
  rw [all_congr (names p env) _ _ (fun c hc => by rw [ec c hc]),
    all_congr (tabNames p env) _ _ (fun n hn => by rw [et n hn])]

/-! ## The WITH form and the generated query names (finding D24)

In WITH form the generated query names become names of common table expressions.  The model `semWith` keeps references
to base tables and to common table expressions apart and is as indifferent to names as the nested form; the SQL *text*
is not: `semWithText` (Spec/WithText.lean) resolves an identifier in a FROM clause to a common table expression of that
name first, as the engines do.  Under the guard "no base table is named like a common table expression of the query"
both meanings coincide (so everything proved about the model's SQL meaning transfers to the text); outside the guard
the text-level meaning is **not** equivariant: renaming the second input table of a join to `extend_1` makes the second
sub-query read the first one's rows.  This is finding D24 as the real library shows it
(`corpus/C15/d24_cte_captures_other_table.json`: silently wrong rows on SQLite). -/

/-- **C15, WITH form, under the guard.**  When no base table read by the WITH form of `p` is named like one of its
common table expressions (`CteNamesFree`, decidable; this is what `NoReservedTables` is for: the generator only invents
names of the reserved shapes - that implication is not proved here), the text-level meaning of the WITH query is the
model's. -/
theorem C15_with_text_partial (Θ : Interp) (ec : EngineCfg) (cfg : SqlCfg) (env : Env) (p : Ops)
    (h : ∀ ls, withFormOf cfg p = .ok ls → CteNamesFree ls.2 ls.1 = true) :
    withTextMeaning Θ ec cfg env p = withMeaning Θ ec cfg env p := by
  unfold withTextMeaning withMeaning
  cases hw : withFormOf cfg p with
  | error e => rfl
  | ok ls => exact Ren.semWithText_eq_semWith Θ ec env ls.2 ls.1 (h ls hw)

/-- **C15, WITH form, model.**  The model's meaning of the WITH form of a pipeline (no CTE elimination) is equivariant
under every injective renaming, like the nested form: the names of the common table expressions are the same on both
sides and never meet the table names. -/
theorem C15_with_equivariant (Θ : Interp) (ec : EngineCfg) (cfg : SqlCfg) {ρc : ColRen} {ρt : TabRen}
    (hc : Injective ρc) (ht : Injective ρt) (env : Env) (p : Ops) :
    withMeaning Θ ec cfg (Env.rename ρc ρt env) (p.ren ρc ρt)
      = (withMeaning Θ ec cfg env p).map (Table.rename ρc) :=
  Ren.withMeaning_ren Θ ec cfg hc ht env p

/-- **C15, WITH form, text level, under the guard (D24).**  When neither the original nor the renamed pipeline reads a
base table that is named like one of its common table expressions, the text-level meaning of the WITH query is
equivariant. -/
theorem C15_with_text_equivariant_partial (Θ : Interp) (ec : EngineCfg) (cfg : SqlCfg) {ρc : ColRen} {ρt : TabRen}
    (hc : Injective ρc) (ht : Injective ρt) (env : Env) (p : Ops)
    (hg : ∀ ls, withFormOf cfg p = .ok ls → CteNamesFree ls.2 ls.1 = true)
    (hg' : ∀ ls, withFormOf cfg (p.ren ρc ρt) = .ok ls → CteNamesFree ls.2 ls.1 = true) :
    withTextMeaning Θ ec cfg (Env.rename ρc ρt env) (p.ren ρc ρt)
      = (withTextMeaning Θ ec cfg env p).map (Table.rename ρc) := by
  rw [C15_with_text_partial Θ ec cfg _ _ hg', C15_with_text_partial Θ ec cfg _ _ hg]
  exact C15_with_equivariant Θ ec cfg hc ht env p

namespace D24
def d : Ops := .table "d" ["g", "x"]
/-- `d` extended by `q = x * 2`, joined on `g` with the table `tn` extended by `r = x * 3` -/
def p (tn : String) : Ops :=
  .join (.extend d [("q", .app "*" [.col "x", .value (.int 2)] true false)] [] [] [] false)
    (.selectCols (.extend (.table tn ["g", "x"]) [("r", .app "*" [.col "x", .value (.int 3)] true false)] [] [] [] false)
      ["g", "r"])
    ["g"] ["g"] .inner
def env : Env :=
  [("d", ⟨["g", "x"], [[("g", .num 1), ("x", .num 10)]]⟩), ("e", ⟨["g", "x"], [[("g", .num 1), ("x", .num 100)]]⟩)]
def ρt : TabRen := fun s => if s = "e" then "extend_1" else s

/-- the two common table expressions and the final query `to_with_form` produces for `p tn` -/
def s1 : Near := .unary "extend_1" (some [("g", .pass), ("x", .pass),
    ("q", .expr (.app "*" [.col "x", .value (.int 2)] true false) none)]) false (.table "d" ["g", "x"])
    (some ["g", "x"]) .none true (some [("g", ["g"]), ("x", ["x"]), ("q", ["x"])]) none
def s2 (tn : String) : Near := .unary "extend_2" (some [("g", .pass),
    ("r", .expr (.app "*" [.col "x", .value (.int 3)] true false) none)]) false (.table tn ["g", "x"])
    (some ["g", "x"]) .none true (some [("g", ["g"]), ("r", ["x"])]) none
def jterms : Terms := [("g", .coalesce true "g"), ("x", .qual true "x"), ("q", .qual true "q"), ("r", .qual false "r")]
def q0 (tn : String) : Near :=
  .join "natural_join_0" jterms s1 ["g", "x", "q"] "join_source_left_0" (s2 tn) ["g", "r"] "join_source_right_0"
    .inner ["g"] ["g"] none
def last0 : Near :=
  .join "natural_join_0" jterms (.cte "extend_1") ["g", "x", "q"] "join_source_left_0" (.cte "extend_2") ["g", "r"]
    "join_source_right_0" .inner ["g"] ["g"] none
def steps0 (tn : String) : List WithStep :=
  [⟨"extend_1", s1, some ["g", "x", "q"], false⟩, ⟨"extend_2", s2 tn, some ["g", "r"], false⟩]

theorem toWithForm_q0 (tn : String) : toWithForm none (q0 tn) = (last0, steps0 tn, none) := by
  simp [q0, s1, s2, last0, steps0, toWithForm, withStub, Near.isTable, Near.name, appendUnseen]

theorem near_orig : (toNearSql .sqlite (p "e")).map Near.eraseKeys = .ok (q0 "e") := by rfl
theorem near_ren : (toNearSql .sqlite ((p "e").ren id ρt)).map Near.eraseKeys = .ok (q0 "extend_1") := by rfl

theorem withForm_of_near {cfg : SqlCfg} {pp : Ops} {tn : String}
    (h : (toNearSql cfg pp).map Near.eraseKeys = .ok (q0 tn)) : withFormOf cfg pp = .ok (last0, steps0 tn) := by
  unfold withFormOf
  cases hq : toNearSql cfg pp with
  | error e => rw [hq] at h; cases h
  | ok q =>
    rw [hq] at h
    simp only [Except.map, Except.ok.injEq] at h ⊢
    rw [h, toWithForm_q0]

/-- the original names satisfy the guard, the renamed ones do not -/
example : CteNamesFree (steps0 "e") last0 = true := by decide +kernel
example : CteNamesFree (steps0 "extend_1") last0 = false := by decide +kernel
end D24

/-- **The guard is necessary (D24).**  With the text-level meaning of the WITH form, the pipeline `D24.p "e"` computes
`r = 300` from the table `e`; after renaming `e` to `extend_1` (an injective renaming of the tables, columns untouched)
it computes `r = 30`: the second sub-query reads the common table expression `extend_1` - the first sub-query -
instead of the user's table. -/
theorem C15_D24_guard_necessary :
    (withTextMeaning ThetaSql.concrete .sqlite .sqlite D24.env (D24.p "e")).toOption.map (·.column "r")
        = some [.num 300]
    ∧ (withTextMeaning ThetaSql.concrete .sqlite .sqlite (Env.rename id D24.ρt D24.env)
        ((D24.p "e").ren id D24.ρt)).toOption.map (·.column "r") = some [.num 30] := by
  unfold withTextMeaning
  rw [D24.withForm_of_near D24.near_orig, D24.withForm_of_near D24.near_ren]
  constructor <;> decide +kernel

/-- hence the text-level meaning is not equivariant, although the renaming is injective -/
theorem C15_with_text_not_equivariant :
    ¬ (withTextMeaning ThetaSql.concrete .sqlite .sqlite (Env.rename id D24.ρt D24.env) ((D24.p "e").ren id D24.ρt)
        = (withTextMeaning ThetaSql.concrete .sqlite .sqlite D24.env (D24.p "e")).map (Table.rename id)) := by
  intro h
  have h2 := C15_D24_guard_necessary
  rw [h] at h2
  obtain ⟨ha, hb⟩ := h2
  obtain ⟨t, hx, ha⟩ := exists_ok_of_map ha
  rw [hx] at hb
  have hcol : (Table.rename id t).column "r" = t.column "r" := by
    simp only [Table.column, Table.rename, Row.renameCols, List.map_map]
    apply List.map_congr_left
    intro r _
    exact Ren.Row.get_rename (f := id) (fun _ _ h => h) r "r"
  simp only [Except.map, Except.toOption, Option.map_some, hcol, ha, Option.some.injEq] at hb
  exact absurd hb (by decide)

namespace C15Ex

/-- the driver's concrete interpretation; a record transform just selects the columns it declares -/
def Θc : Interp := Theta.concrete (fun rm t => .ok (t.selectCols rm.produced))

theorem convert_equivariant : Ren.ConvertEquivariant Θc := by
  intro ρ hρ rm t
  simp only [Θc, Theta.concrete, RecMap.rename, Except.map, Ren.Table.selectCols_rename hρ]

theorem convert_ok : ConvertOK Θc := by
  intro rm t t' h
  simp only [Θc, Theta.concrete, Except.ok.injEq] at h
  subst h
  exact ⟨rfl, Table.wf_selectCols _ _⟩

def ra : Row := [("g", .num 1), ("o", .num 1), ("x", .num 10)]
def rb : Row := [("g", .num 1), ("o", .num 2), ("x", .num 20)]
def rc : Row := [("g", .num 2), ("o", .num 1), ("x", .null)]
def env : Env := [("d", ⟨["g", "o", "x"], [ra, rb, rc]⟩)]
def d : Ops := .table "d" ["g", "o", "x"]

/-- a running sum per group `g` in the order of `o`, joined with the group sizes -/
def p1 : Ops :=
  .join (.extend d [("c", .app "cumsum" [.col "x"] false true)] ["g"] ["o"] [] true)
    (.project d [("n", .app "size" [] false true)] ["g"]) ["g"] ["g"] .left

/-- a renaming onto names the system uses itself: the group column becomes the Pandas project scratch column, `x` takes
the old name of `g`, `o` becomes a join suffix name, `c` a Polars scratch name; the table becomes `extend_0` -/
def ρ : ColRen := fun s =>
  if s = "g" then "_data_table_temp_col" else if s = "x" then "g" else if s = "o" then "x_tmp_right_col"
  else if s = "c" then "_da_temp_one_column" else s
def ρt : TabRen := fun s => if s = "d" then "extend_0" else s

/-- the renaming is injective on the names involved (it is not injective globally) … -/
theorem ρ_injOn : InjOn ρ (names p1 env) := by decide +kernel
theorem ρt_injOn : InjOn ρt (tabNames p1 env) := by decide +kernel
example : ¬ Injective ρ := fun h => absurd (h (a₁ := "g") (a₂ := "_data_table_temp_col") (by decide)) (by decide)

/-- … and violates the guard of the known findings, while the identity satisfies it -/
example : NoReserved ρ ρt p1 env = false := by decide +kernel
example : NoReserved id id d [("d", ⟨["g"], []⟩)] = true := by decide +kernel
example : NoReservedTables ρt p1 env = false := by decide +kernel

example (cfg : SemCfg) :
    sem Θc cfg (Env.rename ρ ρt env) (p1.ren ρ ρt) = (sem Θc cfg env p1).map (Table.rename ρ) :=
  C15_sem_equivariant_on Θc convert_equivariant convert_ok cfg env p1 ρ_injOn ρt_injOn

example : ∃ t, sem Θc .pandas env p1 = .ok t ∧ t.cols = ["g", "o", "x", "c", "n"] ∧ t.rows.length = 3 :=
  ⟨_, rfl, by decide +kernel, by decide +kernel⟩
example : ∃ t, sem Θc .pandas (Env.rename ρ ρt env) (p1.ren ρ ρt) = .ok t ∧
    t.cols = ["_data_table_temp_col", "x_tmp_right_col", "g", "_da_temp_one_column", "n"] ∧ t.rows.length = 3 :=
  ⟨_, rfl, by decide +kernel, by decide +kernel⟩

/-- the SQL theorem applies to the same renaming (the renamed user table is called `extend_0`, a name of the shape of the
generated query names) -/
example : ∃ ρc', Injective ρc' ∧ (∀ c ∈ names p1 env, ρc' c = ρ c) ∧
    sqlMeaning ThetaSql.concrete .sqlite .sqlite (Env.rename ρ ρt env) (p1.ren ρ ρt)
      = (sqlMeaning ThetaSql.concrete .sqlite .sqlite env p1).map (Table.rename ρc') :=
  C15_sql_sem_equivariant_on ThetaSql.concrete .sqlite .sqlite env p1 ρ_injOn ρt_injOn

/-- the generated query names of `p1` -/
example : (toNearSql .sqlite p1).map Near.names
    = .ok ["natural_join_0", "extend_1", "project_3", "table_reference_2"] := by rfl

/-- a renaming that is injective everywhere: prefixing -/
theorem prefix_injective (pre : String) : Injective (fun s => pre ++ s) := by
  intro a b h
  have := congrArg String.toList h
  simp only [String.toList_append] at this
  exact String.toList_inj.mp (List.append_cancel_left this)

example (cfg : SemCfg) (e : Env) (p : Ops) :
    sem Θc cfg (Env.rename ("_da_" ++ ·) ("extend_" ++ ·) e) (p.ren ("_da_" ++ ·) ("extend_" ++ ·))
      = (sem Θc cfg e p).map (Table.rename ("_da_" ++ ·)) :=
  C15_sem_equivariant Θc convert_equivariant cfg (prefix_injective _) (prefix_injective _) e p

end C15Ex
end DAVerif
