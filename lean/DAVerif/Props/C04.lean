import DAVerif.Proofs.WithNames
import DAVerif.Proofs.WithScope
import DAVerif.Proofs.WithFix
import DAVerif.Proofs.WithKey
/-!
# C04 — SQL formatting and optimization options never change query results

Model: `Sql/NearSql.lean`, `Sql/ToNearSql.lean`, `Sql/Sem.lean`, `Sql/WithForm.lean` (`withStub` is the stub after fix N28:
the cache is consulted before the sub-query is converted) and `Sql/WithFormG.lean` (the WITH form with the cache key as a
parameter, the stub before fix N28, SQL's scoping of CTE names).  `use_with` on = off; `use_cte_elim` for every key function
that is semantically faithful on the query (`KeyFaith`: sub-queries with equal keys denote the same table).  Before fix N28
`to_with_form_stub` converted the sub-query first and discarded the converted steps on a cache hit while the cache kept the
entries registered during the conversion, so a later hit could name a CTE that was never emitted: faithfulness was not
enough (`C04_cte_elim_closed_necessary`), keys also had to be closed.

Elsewhere: that the keys `toNearSql` generates are faithful (`Props/C04key.lean`, semantically; the syntactic statement
`ShapeDet`, "equal keys ⇒ same sub-tree up to query names", is false of `toNearSql`: corpus/C04/n28_dangling_cte.json, so
`C04_key_faithful_of_shape` serves for single queries only); the extend merge (`Props/C04merge.lean`).  Not modelled: the
rendering options `annotate`, `initial_commas`, `sql_indent` (no token-level rendering model; C14's `C14_comment_inert`
shows that an annotation comment cannot change the token stream).
-/
namespace DAVerif
open DAVerif.Sql

def NearWF (q : Near) : Prop := q.names.Nodup ∧ q.noCte = true

/-- no database table the query reads is named like one of its generated query names (guard of finding D24) -/
def NoTableNamedLikeCte (q : Near) : Prop := ∀ n ∈ q.tables, n ∉ q.names

/-- `KeyFaithful q`: for every interpretation, engine and environment, any two bound sub-queries of `q` with the same
`cacheKey` denote the same table under `semNear`.  A property of the tree alone (all environments): it can be had
from `ShapeDet` (`C04_key_faithful_of_shape`).  For a translated pipeline, faithfulness is known at the environments in
the scope of C01 only; `Props/C04key.lean` therefore works with `KeyFaith Θ ec env cacheKey q` at one environment. -/
def KeyFaithful (q : Near) : Prop := ∀ Θ ec env, KeyFaith Θ ec env cacheKey q

/-- **The generated query names are pairwise different.**  `toNear` threads the counter monotonically, every step
name is `<prefix>_<i>` for an index taken from the counter exactly once (a join uses its index for the step name and
for the two aliases `join_source_left_<i>` / `join_source_right_<i>`, which are not query names). -/
theorem C04_names_unique (cfg : SqlCfg) (p : Ops) (q : Near) (h : toNearSql cfg p = .ok q) : q.names.Nodup := by
  obtain ⟨s', hrun⟩ := toNearSql_ok h
  exact (toNear_names cfg _ p none 0 q s' hrun).2.1.nodup

/-- every translated query is well formed -/
theorem C04_wf (cfg : SqlCfg) (p : Ops) (q : Near) (h : toNearSql cfg p = .ok q) : NearWF q := by
  obtain ⟨s', hrun⟩ := toNearSql_ok h
  exact ⟨C04_names_unique cfg p q h, (toNear_names cfg _ p none 0 q s' hrun).2.2⟩

/-- **The WITH form without cache evaluates to the nested query** (errors included): each emitted step is evaluated
with the columns and `force_sql` flag it was bound with, later references are CTE look-ups, and the names being
pairwise different every look-up finds its own entry. -/
theorem C04_with_form_sound (Θ : Interp) (ec : EngineCfg) (env : Env) (q : Near) (hq : NearWF q) :
    semWith Θ ec env (toWithForm none q).2.1 (toWithForm none q).1 = semSql Θ ec env q := by
  rw [(toWithFormG_cacheKey q).1 none]
  exact toWithFormG_sound Θ ec env cacheKey q none (Or.inl rfl) hq.2 hq.1

/-- **… also under SQL's scoping** (a table reference spelled like an earlier CTE denotes the CTE), provided no table
the query reads is named like a generated query name. -/
theorem C04_with_form_scoped_sound (Θ : Interp) (ec : EngineCfg) (env : Env) (q : Near) (hq : NearWF q)
    (hg : NoTableNamedLikeCte q) :
    semWithC Θ ec env (toWithForm none q).2.1 (toWithForm none q).1 = semSql Θ ec env q := by
  rw [← C04_with_form_sound Θ ec env q hq, (toWithFormG_cacheKey q).1 none]
  have ht := toWithFormG_tables cacheKey q none
  have hn := (toWithFormG_names cacheKey q hq.1 none).2
  exact semWithC_eq_semWith Θ ec env _ _ q.names (fun st hst => List.mem_of_mem_tail (hn st.name (mem_stepNames hst)))
    (fun st hst n hn' => hg n (ht.2 st hst n hn')) (fun n hn' => hg n (ht.1 n hn'))

namespace C04Ex
/-- an interpretation (the examples use no operator) -/
def Θ0 : Interp := ⟨fun _ _ => .null, fun _ _ => .null, fun _ _ _ _ => .null, fun _ t => .ok t⟩
def tD : Table := ⟨["x"], [[("x", .num 1)]]⟩
def tE : Table := ⟨["x"], [[("x", .num 2)]]⟩
def env2 : Env := [("d", tD), ("extend_0", tE)]
/-- `SELECT x FROM sub` -/
def idSel (name : String) (sub : Near) (key : Option String) : Near :=
  .unary name (some [("x", .pass)]) false sub (some ["x"]) .none false none key
/-- `(SELECT x FROM d) UNION ALL extend_0` with the first branch named `extend_0` (finding D24) -/
def qD24 : Near :=
  .union "concat_rows_1" ["x"] (idSel "extend_0" (.table "d" ["x"]) (some "k")) (.table "extend_0" ["x"]) ["x"] (some "u")
/-- `N0 ∪ (N ∪ M')`: `N0` and `N` have the key `K` and the same rows, `N` reads through `M`, and `M`, `M'` have the
key `KM` and the same rows -/
def qDang : Near :=
  .union "u1" ["x"] (idSel "n0" (.table "d" ["x"]) (some "K"))
    (.union "u2" ["x"] (idSel "n" (idSel "m" (.table "d" ["x"]) (some "KM")) (some "K"))
      (idSel "m2" (.table "d" ["x"]) (some "KM")) ["x"] (some "U2"))
    ["x"] (some "U1")
/-- two uses of the same sub-query (key `K`) -/
def qShare : Near :=
  .union "u" ["x"] (idSel "a" (.table "d" ["x"]) (some "K")) (idSel "b" (.table "d" ["x"]) (some "K")) ["x"] (some "U")
/-- the key function that reads the `ops_key` field only -/
def fieldKey : KeyFn := fun n _ => n.key.getD "None"

theorem qD24_wf : NearWF qD24 := ⟨by decide, rfl⟩
theorem qDang_wf : NearWF qDang := ⟨by decide, rfl⟩
theorem qShare_wf : NearWF qShare := ⟨by decide, rfl⟩

theorem qDang_desc : qDang.desc =
    [(idSel "n0" (.table "d" ["x"]) (some "K"), some ["x"], true),
     (.union "u2" ["x"] (idSel "n" (idSel "m" (.table "d" ["x"]) (some "KM")) (some "K"))
        (idSel "m2" (.table "d" ["x"]) (some "KM")) ["x"] (some "U2"), some ["x"], true),
     (idSel "n" (idSel "m" (.table "d" ["x"]) (some "KM")) (some "K"), some ["x"], true),
     (idSel "m" (.table "d" ["x"]) (some "KM"), some ["x"], false),
     (idSel "m2" (.table "d" ["x"]) (some "KM"), some ["x"], true)] := rfl

theorem qDang_den : ∀ x ∈ qDang.desc, den Θ0 .sqlite env2 x =
    if bkey fieldKey x = "U2" then .ok ⟨["x"], [[("x", .num 1)], [("x", .num 1)]]⟩
    else .ok ⟨["x"], [[("x", .num 1)]]⟩ := by
  intro x hx
  rw [qDang_desc] at hx
  simp only [List.mem_cons, List.not_mem_nil, or_false] at hx
  rcases hx with rfl | rfl | rfl | rfl | rfl <;> rfl

theorem qDang_faith : KeyFaith Θ0 .sqlite env2 fieldKey qDang := by
  intro x hx y hy he
  rw [qDang_den x hx, qDang_den y hy, he]

theorem qShare_desc : qShare.desc =
    [(idSel "a" (.table "d" ["x"]) (some "K"), some ["x"], true),
     (idSel "b" (.table "d" ["x"]) (some "K"), some ["x"], true)] := rfl

theorem qShare_ok : KeyOK Θ0 .sqlite env2 fieldKey qShare := by
  constructor
  · intro x hx y hy _
    rw [qShare_desc] at hx hy
    simp only [List.mem_cons, List.not_mem_nil, or_false] at hx hy
    rcases hx with rfl | rfl <;> rcases hy with rfl | rfl <;> rfl
  · intro x hx y _ _ m hm
    rw [qShare_desc] at hx
    simp only [List.mem_cons, List.not_mem_nil, or_false] at hx
    rcases hx with rfl | rfl <;> simp [idSel, Near.desc, Near.isTable] at hm

theorem qShare_faith : KeyFaith Θ0 .sqlite env2 fieldKey qShare := qShare_ok.faith
end C04Ex
open C04Ex

/-- **The guard of `C04_with_form_scoped_sound` is necessary (finding D24).**  A user table named like a generated
query name is captured by the CTE of that name: `(SELECT x FROM d) AS extend_0 … UNION ALL … FROM extend_0` returns
the rows of `d` twice instead of the rows of `d` and of the table `extend_0`. -/
theorem C04_with_form_scoped_necessary :
    ¬ ∀ (Θ : Interp) (ec : EngineCfg) (env : Env) (q : Near), NearWF q →
        semWithC Θ ec env (toWithForm none q).2.1 (toWithForm none q).1 = semSql Θ ec env q := by
  intro h
  have h0 := h Θ0 .sqlite env2 qD24 qD24_wf
  rw [(toWithFormG_cacheKey qD24).1 none] at h0
  have e1 : semWithC Θ0 .sqlite env2 (toWithFormG cacheKey none qD24).2.1 (toWithFormG cacheKey none qD24).1
      = .ok ⟨["x"], [[("x", .num 1)], [("x", .num 1)]]⟩ := rfl
  have e2 : semSql Θ0 .sqlite env2 qD24 = .ok ⟨["x"], [[("x", .num 1)], [("x", .num 2)]]⟩ := rfl
  rw [e1, e2] at h0
  have h1 : (⟨["x"], [[("x", .num 1)], [("x", .num 1)]]⟩ : Table) = ⟨["x"], [[("x", .num 1)], [("x", .num 2)]]⟩ :=
    Except.ok.inj h0
  exact absurd h1 (by decide)

/-- **CTE elimination is sound for every key function that is semantically faithful on the query** (`KeyFaith`: bound
sub-queries with equal keys denote the same table).  The real cache key (which contains Python set-iteration orders)
is one such function whenever equal real keys mean equal tables; nothing else about the key is used.  (The cache is
consulted before a sub-query is converted, so every cache entry belongs to an emitted step.) -/
theorem C04_cte_elim_sound_key (Θ : Interp) (ec : EngineCfg) (env : Env) (key : KeyFn) (q : Near) (hq : NearWF q)
    (hk : KeyFaith Θ ec env key q) :
    semWith Θ ec env (toWithFormG key (some []) q).2.1 (toWithFormG key (some []) q).1 = semSql Θ ec env q :=
  toWithFormG_sound Θ ec env key q (some []) (Or.inr ⟨rfl, hk⟩) hq.2 hq.1

/-- the WITH form without cache, for every key function (the key is not used) -/
theorem C04_with_form_sound_key (Θ : Interp) (ec : EngineCfg) (env : Env) (key : KeyFn) (q : Near) (hq : NearWF q) :
    semWith Θ ec env (toWithFormG key none q).2.1 (toWithFormG key none q).1 = semSql Θ ec env q :=
  toWithFormG_sound Θ ec env key q none (Or.inl rfl) hq.2 hq.1

/-- **CTE elimination of the model** (`toWithForm (some [])`, key `cacheKey`) **is sound on faithful queries.** -/
theorem C04_cte_elim_sound (Θ : Interp) (ec : EngineCfg) (env : Env) (q : Near) (hq : NearWF q) (hk : KeyFaithful q) :
    semWith Θ ec env (toWithForm (some []) q).2.1 (toWithForm (some []) q).1 = semSql Θ ec env q := by
  rw [(toWithFormG_cacheKey q).1 (some [])]
  exact C04_cte_elim_sound_key Θ ec env cacheKey q hq (hk Θ ec env)

/-- `to_sql` under `use_with` / `use_cte_elim` at one interpretation, engine and environment: the faithfulness of the
model's key is needed there only, and only when the cache is on -/
theorem semToSql_sound (Θ : Interp) (ec : EngineCfg) (env : Env) (q : Near) (hq : NearWF q)
    (useWith cteElim : Bool) (hk : cteElim = true → KeyFaith Θ ec env cacheKey q) :
    semToSql Θ ec env useWith cteElim q = semSql Θ ec env q := by
  unfold semToSql
  cases useWith with
  | false => rfl
  | true =>
    rw [if_pos rfl]
    generalize hc : (if cteElim = true then some [] else none : Option Cache) = c
    have hc' : c = none ∨ (c = some [] ∧ KeyFaith Θ ec env cacheKey q) := by
      cases cteElim with
      | false => exact Or.inl hc.symm
      | true => exact Or.inr ⟨hc.symm, hk rfl⟩
    rw [(toWithFormG_cacheKey q).1]
    show (if (toWithFormG cacheKey c q).2.1.isEmpty then _
      else semWith Θ ec env (toWithFormG cacheKey c q).2.1 (toWithFormG cacheKey c q).1) = _
    split
    · rfl
    · exact toWithFormG_sound Θ ec env cacheKey q c hc' hq.2 hq.1

/-- **`to_sql` under `use_with` / `use_cte_elim`** (`semToSql`, including the fall-back to the nested form when the
sequence is empty) **returns the result of the nested query.** -/
theorem C04_to_sql_options_sound (Θ : Interp) (ec : EngineCfg) (env : Env) (q : Near) (hq : NearWF q)
    (useWith cteElim : Bool) (hk : cteElim = true → KeyFaithful q) :
    semToSql Θ ec env useWith cteElim q = semSql Θ ec env q :=
  semToSql_sound Θ ec env q hq useWith cteElim fun h => hk h Θ ec env

/-- **Equal up to the numbering of query names ⇒ faithful.**  If equal cache keys imply "same sub-tree once the
query names are erased, bound with the same columns" then `KeyFaithful q`. -/
theorem C04_key_faithful_of_shape (q : Near) (h : ShapeDet q) : KeyFaithful q :=
  fun Θ ec env => (KeyOK_of_shape Θ ec env q h).faith

/-- query names are irrelevant to the SQL semantics -/
theorem C04_names_irrelevant (Θ : Interp) (ec : EngineCfg) (env : Env) (ctes : List (String × Table)) (q : Near)
    (cols : Option (List String)) (f : Bool) :
    semNear Θ ec env ctes q cols f = semNear Θ ec env ctes q.unname cols f :=
  semNear_unname Θ ec env ctes q cols f

/-- **The pre-fix code needed `closed` (finding N28): semantic faithfulness of the key was not enough.**  On a cache
hit the old `to_with_form_stub` discarded the steps of the sub-query it had just converted, but the cache kept the
entries registered during that conversion: in `N0 ∪ (N ∪ M')` the sub-query `N` (same key and rows as `N0`) registers
its source `M`, is then replaced by the CTE of `N0`, and `M'` (same key and rows as `M`) is replaced by a reference to
the CTE of `M` — which was never emitted: the WITH form fails although all equal-keyed sub-queries are equal. -/
theorem C04_cte_elim_closed_necessary :
    ¬ ∀ (Θ : Interp) (ec : EngineCfg) (env : Env) (key : KeyFn) (q : Near), NearWF q → KeyFaith Θ ec env key q →
        semWith Θ ec env (toWithFormOld key (some []) q).2.1 (toWithFormOld key (some []) q).1 = semSql Θ ec env q := by
  intro h
  have h0 := h Θ0 .sqlite env2 fieldKey qDang qDang_wf qDang_faith
  have e1 : semWith Θ0 .sqlite env2 (toWithFormOld fieldKey (some []) qDang).2.1 (toWithFormOld fieldKey (some []) qDang).1
      = .error .other := rfl
  have e2 : semSql Θ0 .sqlite env2 qDang = .ok ⟨["x"], [[("x", .num 1)], [("x", .num 1)], [("x", .num 1)]]⟩ := rfl
  rw [e1, e2] at h0
  cases h0

/-- **… and `closed` was enough**: the pre-fix code was sound for every key function that is faithful and closed on the
query (`KeyOK`: equal keys ⇒ same table, and the keys below are the same). -/
theorem C04_cte_elim_old_sound_key (Θ : Interp) (ec : EngineCfg) (env : Env) (key : KeyFn) (q : Near) (hq : NearWF q)
    (hk : KeyOK Θ ec env key q) :
    semWith Θ ec env (toWithFormOld key (some []) q).2.1 (toWithFormOld key (some []) q).1 = semSql Θ ec env q :=
  toWithFormOld_sound Θ ec env key q (some []) (Or.inr ⟨rfl, hk⟩) hq.2 hq.1

/-- a translated query: `d.select_rows(x)`; its hypotheses are those of the theorems above -/
example : ∃ q, toNearSql SqlCfg.generic (Ops.selectRows (Ops.table "d" ["x", "y"]) (.col "x")) = .ok q ∧
    q.names.length = 1 := ⟨_, rfl, rfl⟩

/-- the WITH form of `qShare` with the cache has ONE step: the second use hits the cache -/
example : ((toWithFormG fieldKey (some []) qShare).2.1.map (·.name)) = ["a"] := rfl
example : ((toWithFormG fieldKey none qShare).2.1.map (·.name)) = ["a", "b"] := rfl
example : semWith Θ0 .sqlite env2 (toWithFormG fieldKey (some []) qShare).2.1 (toWithFormG fieldKey (some []) qShare).1
    = semSql Θ0 .sqlite env2 qShare :=
  C04_cte_elim_sound_key Θ0 .sqlite env2 fieldKey qShare qShare_wf qShare_faith
example : semSql Θ0 .sqlite env2 qShare = .ok ⟨["x"], [[("x", .num 1)], [("x", .num 1)]]⟩ := rfl
example : NoTableNamedLikeCte qDang := by unfold NoTableNamedLikeCte; decide
/-- the code as it is emits every CTE it refers to on the counterexample of N28 -/
example : semWith Θ0 .sqlite env2 (toWithFormG fieldKey (some []) qDang).2.1 (toWithFormG fieldKey (some []) qDang).1
    = semSql Θ0 .sqlite env2 qDang :=
  C04_cte_elim_sound_key Θ0 .sqlite env2 fieldKey qDang qDang_wf qDang_faith
/-- the pre-fix code was sound on `qShare` (its key is closed there) -/
example : semWith Θ0 .sqlite env2 (toWithFormOld fieldKey (some []) qShare).2.1 (toWithFormOld fieldKey (some []) qShare).1
    = semSql Θ0 .sqlite env2 qShare :=
  C04_cte_elim_old_sound_key Θ0 .sqlite env2 fieldKey qShare qShare_wf qShare_ok

end DAVerif
