import DAVerif.Proofs.CDataCompose
/-!
# C17 — Record transforms are invertible and compose as documented

Model: `CData/Record.lean` (cdata.py + the Pandas pivot/unpivot); statement vocabulary (`≈ₜ`, `Spec.Good`, `KeyedRows`,
`CompleteBlocks`, `specBlocks`, `RecordMap.Good`, `Conforms`, `Interface`): `CData/RecordSpec.lean`.  Every theorem
quantifies over all control tables, key lists and tables satisfying the stated (decidable) hypotheses; results are stated
with the error branch visible (`= .ok …`), never through a totalised default.  `t ≈ₜ u` is "the same table up to row and
column order" (the code sorts its results, the inputs are arbitrary).
-/
namespace DAVerif.CData
open List

/-- **C17 (meaning of rows → blocks).** For a good specification and a row-record table keyed by the record
keys, `rowrecs_to_blocks` succeeds and returns – up to row/column order – the block form written independently
in `specBlocks`: one row per record and control-table row, carrying the record's keys, the control row's keys,
and under each value column the record's cell named by the control table. -/
theorem C17_rows_to_blocks_meaning (s : Spec) (g : s.Good) (t : Table) (ht : KeyedRows s t) :
    ∃ b, rowsToBlocks s t = .ok b ∧
      b ≈ₜ ⟨s.recordKeys ++ s.ctKeys ++ s.valueCols, specBlocks s t.rows⟩ := by
  obtain ⟨b, hb, h1, h2⟩ := rowsToBlocks_spec g ht.2 (isRows_self ht.1)
  refine ⟨b, hb, equiv_of_isBlocks h1 ⟨?_, Perm.refl _⟩ h2 (blockCols_perm g.facts g.ckNodup)⟩
  intro c hc
  exact (blockCols_perm g.facts g.ckNodup).symm.mem_iff.1 hc

/-- **C17 (meaning of blocks → rows).** For a good specification and a block-record table with complete
blocks, `blocks_to_rowrecs` succeeds; the result has the row-form columns, exactly one row per distinct record
key of the input, and the cell of record `κ` under content key `ct[i][vc]` is the cell found in the input row
with record key `κ` and control key `ct[i]`, under value column `vc`  (record key ↦ content key ↦ value). -/
theorem C17_blocks_to_rows_meaning (s : Spec) (g : s.Good) (t : Table) (ht : CompleteBlocks s t) :
    ∃ r, blocksToRows s t = .ok r ∧ r.cols.Perm s.rowColumns ∧
      (r.rows.map (keyOf s.recordKeys)).Perm (dedup (t.rows.map (keyOf s.recordKeys))) ∧
      ∀ row ∈ r.rows, ∀ x ∈ t.rows, keyOf s.recordKeys x = keyOf s.recordKeys row →
        ∀ cr ∈ s.ct.rows, keyOf s.ctKeys x = keyOf s.ctKeys cr →
          ∀ vc ∈ s.valueCols, look row (contentName cr vc) = look x vc := by
  obtain ⟨U, hU, hB⟩ := collapse_spec g ht
  obtain ⟨r, hr, h1, h2⟩ := blocksToRows_spec g hU hB
  exact ⟨r, hr, h2, rows_blocks_cells g.facts hU hB h1⟩

/-- **C17 (rows → blocks → rows).** For a strict (good) specification and a row-record table keyed by the
record keys, converting to blocks and back succeeds and returns the original table. -/
theorem C17_rows_blocks_inverse (s : Spec) (g : s.Good) (t : Table) (ht : KeyedRows s t) :
    ∃ b r, rowsToBlocks s t = .ok b ∧ blocksToRows s b = .ok r ∧ r ≈ₜ t := by
  obtain ⟨b, hb, h1, _⟩ := rowsToBlocks_spec g ht.2 (isRows_self ht.1)
  obtain ⟨r, hr, h3, h4⟩ := blocksToRows_spec g ht.2 h1
  exact ⟨b, r, hb, hr, equiv_of_isRows h3 (isRows_self ht.1) h4 ht.1⟩

/-- **C17 (blocks → rows → blocks).** For a strict (good) specification and a block-record table with complete
blocks, converting to rows and back succeeds and returns the original table. -/
theorem C17_blocks_rows_inverse (s : Spec) (g : s.Good) (t : Table) (ht : CompleteBlocks s t) :
    ∃ r b, blocksToRows s t = .ok r ∧ rowsToBlocks s r = .ok b ∧ b ≈ₜ t := by
  obtain ⟨U, hU, hB⟩ := collapse_spec g ht
  obtain ⟨r, hr, h1, _⟩ := blocksToRows_spec g hU hB
  obtain ⟨b, hb, h3, h4⟩ := rowsToBlocks_spec g hU h1
  exact ⟨r, b, hr, hb, equiv_of_isBlocks h3 hB h4 ht.1⟩

/-- **C17 (inverse()).** For a strict record map accepted by the constructor (between good specifications),
whenever `inverse()` returns a map `mi` (it raises when the outgoing side drops content keys), transforming a
conforming table with `m` and then with `mi` succeeds and returns the original table. -/
theorem C17_inverse_map (m mi : RecordMap) (gm : m.Good) (hinv : m.inverse = .ok mi) (t : Table)
    (ht : Conforms m t) :
    ∃ u v, m.transform t = .ok u ∧ mi.transform u = .ok v ∧ v ≈ₜ t := by
  obtain ⟨U, hU, hrep⟩ := conforms_rep gm ht
  obtain ⟨u, hu, hout⟩ := transform_spec gm hU hrep
  obtain ⟨rfl, gmi⟩ := inverse_spec gm hinv
  obtain ⟨v, hv, hvout⟩ := transform_spec gmi (hU.of_sameSet (flip_recordKeys gm).1 (flip_recordKeys gm).2) hout.1
  exact ⟨u, v, hu, hv, equiv_of_inRep hvout.1 hrep hvout.2 (conforms_cols ht)⟩

/-! ## 3. Composition

`compose` is modelled as repaired by `fixes/cdata-compose-row-forms.diff`.  On the unrepaired code the statement
below is false whenever either end of the composite is in row form (the composite's content keys are the example
cells "`<key> value`"): see `notes/C17_design.md` and the witness in `corpus/C17/`.

Hypotheses, all decidable: both maps are strict and accepted by the constructor between good specifications
(`RecordMap.Good`); `m₂` reads the form `m₁` writes (`Interface`: both row records, or `m₂.blocks_in` has the same
layout as `m₁.blocks_out` – same control keys, same control-table columns and rows up to order, record keys in
any order); `m₁`'s incoming control table is a parsed frame (`NormalIn`; the proof does not use it: the composite's
incoming specification is read back off the example up to layout, like the outgoing one); the table conforms to
`m₁`'s incoming side.  `compose` returning `None` (rows → blocks → rows) or raising (record keys differ, the composite would drop
content keys, name clashes) is outside the statement: there is no map to apply.

Not covered (sampled by the oracle only): an `m₂.blocks_in` that *renames* the content keys of `m₁.blocks_out`
(same layout, other names in the cells). -/

/-- **C17 (compose / `>>`).** Whenever `m₂.compose(m₁)` (= `m₁ >> m₂`) returns a map `m`, applying `m` to a
conforming table succeeds and gives the same table as applying `m₁` and then `m₂` (which both succeed). -/
theorem C17_compose (m₁ m₂ m : RecordMap) (g₁ : m₁.Good) (g₂ : m₂.Good) (hn : NormalIn m₁)
    (hi : Interface m₁ m₂) (hc : compose m₂ m₁ = .ok (some m)) (t : Table) (ht : Conforms m₁ t) :
    ∃ u v w, m₁.transform t = .ok u ∧ m₂.transform u = .ok v ∧ m.transform t = .ok w ∧ w ≈ₜ v :=
  compose_spec g₁ g₂ hi hc ht

section Examples

/-- control table  k | v | w  with rows (a, x, p), (b, y, q) -/
def exCt : Table := ⟨["k", "v", "w"],
  [[("k", .str "a"), ("v", .str "x"), ("w", .str "p")], [("k", .str "b"), ("v", .str "y"), ("w", .str "q")]]⟩
def exSpec : Spec := ⟨exCt, ["id"], ["k"], true⟩

/-- a second layout over the same content keys: one value column, four control rows, two key columns -/
def exCt2 : Table := ⟨["m", "n", "z"],
  [[("m", .num 1), ("n", .str "a"), ("z", .str "q")], [("m", .num 1), ("n", .str "b"), ("z", .str "x")],
   [("m", .num 2), ("n", .str "a"), ("z", .str "y")], [("m", .num 2), ("n", .str "b"), ("z", .str "p")]]⟩
def exSpec2 : Spec := ⟨exCt2, ["id"], ["m", "n"], true⟩

def exRows : Table := ⟨["x", "id", "y", "p", "q"],
  [[("x", .num 1), ("id", .num 7), ("y", .null), ("p", .str "s"), ("q", .num 2)],
   [("x", .num 3), ("id", .num 5), ("y", .num 4), ("p", .null), ("q", .num 2)]]⟩

def exBlocks : Table := ⟨["id", "k", "v", "w"],
  [[("id", .num 7), ("k", .str "b"), ("v", .null), ("w", .num 2)],
   [("id", .num 5), ("k", .str "a"), ("v", .num 3), ("w", .null)],
   [("id", .num 7), ("k", .str "a"), ("v", .num 1), ("w", .str "s")],
   [("id", .num 5), ("k", .str "b"), ("v", .num 4), ("w", .num 2)]]⟩

theorem exSpec_good : exSpec.Good := by decide +kernel
theorem exSpec2_good : exSpec2.Good := by decide +kernel

example : exSpec.Good := exSpec_good
example : exSpec2.Good := exSpec2_good
example : KeyedRows exSpec exRows := by decide +kernel
example : CompleteBlocks exSpec exBlocks := by decide +kernel

def exMap : RecordMap := ⟨some exSpec, some exSpec2, true⟩
def exMapBack : RecordMap := ⟨some exSpec2, none, true⟩

theorem exMap_good : exMap.Good :=
  ⟨by decide +kernel, rfl, exSpec_good.of_some, exSpec2_good.of_some⟩
theorem exMapBack_good : exMapBack.Good :=
  ⟨by decide +kernel, rfl, exSpec2_good.of_some, good_of_none⟩

example : exMap.inverse = .ok ⟨some exSpec2, some exSpec, true⟩ := by decide +kernel
example : Conforms exMap exBlocks := by decide +kernel
example : NormalIn exMap := by decide +kernel
example : Interface exMap exMapBack := by decide +kernel
/-- `compose` does return a map on this pair (blocks → blocks, then blocks → rows) -/
example : ∃ m, compose exMapBack exMap = .ok (some m) := by
  refine ⟨⟨some exSpec, none, true⟩, ?_⟩
  decide +kernel

end Examples

end DAVerif.CData
