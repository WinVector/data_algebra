import DAVerif.Proofs.SqlReach
import DAVerif.Proofs.WithKeyFaithSem
import DAVerif.Proofs.WithKeyFaithRender
import DAVerif.Props.C04
import DAVerif.Props.C01all
/-!
# C04, `C04_key_faithful` — the CTE-cache keys of a translated pipeline are faithful

The hypothesis `KeyFaith` of `Props/C04.lean`, for the keys `toNearSql` generates.  A cache key is
`ops_key ++ "_" ++ columns`, and `ops_key` contains the rendered text of a whole operator sub-pipeline (`renderOps`, the
model of `str(node)`).  Semantic route, not "same tree": every bound sub-query of a translated pipeline is a sound
translation (`Sql.Sound`) of the node its key names, for the columns it is bound with (`Proofs/WithKeyFaithTrans.lean`) –
also when the step was modified afterwards (`select_columns` / `drop_columns` re-order its terms), reached through a pruned
`extend` (translated for more columns), or merged with the extend above it (re-keyed, fix D25); equal key texts name the
same node and the same bound columns (the renderer is a prefix code, `Proofs/WithKeyFaithRender*.lean`).

Hypotheses: `Sql.Good cfg env p` (scope of C01); `BoundColsNonempty q` (a consumer that needs no column binds its source
with `[]`; two such sources with the same key may render different SELECT lists: necessary for `KeyFaith`, though stronger
than what that consumer reads); `RenderOK p` (no `=` in the new names of a rename / the old names of a `map_columns`: a
model artefact, the model renders a mapping entry as `quote (k ++ "=" ++ v)`, the code prints the `repr` of the dict);
`QuoteOK` (Lean's `String.quote` is a prefix code whose code words start with `"`: in Lean 4.33 it is defined through
opaque constants, the kernel cannot prove even `"a".quote ≠ "b".quote`; a hypothesis of the theorems, not an axiom; the
instance at the end does not use it).
-/
namespace DAVerif
open DAVerif.Sql DAVerif.C04K

/-- **Assumption about Lean's `String.quote`** (opaque to the kernel in Lean 4.33): it is a prefix code
(`QuoteCode`: from a text that starts with a quoted string, the string and the rest can be read off) and every quoted
string starts with `"` (`QuoteHead`). -/
def QuoteOK : Prop := QuoteCode ∧ QuoteHead

/-- the assumption is consistent: a function with both properties exists (`"` , then `x c` for every character `c`,
then `"`) – so the theorems below are not vacuous for the reason that `QuoteOK` could never hold of a function
`String → String` -/
theorem C04_quote_assumption_consistent : ∃ q : String → List Char,
    (∀ (a b : String) (r1 r2 : List Char), q a ++ r1 = q b ++ r2 → a = b ∧ r1 = r2) ∧ (∀ a, ∃ t, q a = '"' :: t) := by
  refine ⟨fun s => '"' :: (s.toList.flatMap (fun c => ['x', c]) ++ ['"']), fun a b r1 r2 h => ?_, fun a => ⟨_, rfl⟩⟩
  simp only [List.cons_append, List.append_assoc, List.cons.injEq, true_and, List.nil_append] at h
  obtain ⟨h1, h2⟩ := Code.flatMap_term_unique (enc := fun c => ['x', c]) (q := '"')
    (dec := fun | _ :: c :: X => some (c, X) | _ => none) (fun _ _ => rfl)
    (fun _ _ _ e => absurd (List.cons.inj e).1 (by decide)) _ _ _ _ h
  exact ⟨String.toList_inj.mp h1, h2⟩

def BoundColsNonempty (q : Near) : Prop := ∀ x ∈ q.desc, x.2.1 ≠ some []
instance (q : Near) : Decidable (BoundColsNonempty q) := by unfold BoundColsNonempty; exact inferInstance

/-- **Every bound sub-query of a translated pipeline is a sound translation of the operator node its `ops_key` names.**
For every pipeline in the scope of C01 and every bound sub-query `x = (near, columns, force_sql)` of its translation:
the `ops_key` of `near` is a key text `kind(<str(n)>[,<term keys>])` of an operator node `n` in scope, `n` evaluates to a
table `tp`, and `near` bound with any sub-list `u'` of `columns` (as sub-query or as forced SELECT) evaluates to a table
with the rows of `tp`, in order, on the columns `u'` (`Sql.Sound`). -/
theorem C04_bound_subquery_sound (Θ : Interp) (ec : EngineCfg) (env : Env) (cfg : SqlCfg) (p : Ops)
    (hg : Good cfg env p) (hr : RenderOK p) {q : Near} (h : toNearSql cfg p = .ok q) :
    ∀ x ∈ q.desc, ∃ (n : Ops) (k : String) (c pc : List String) (tp : Table),
      x.1.key = some k ∧ IsKeyOf n k ∧ RenderOK n ∧ x.2.1 = some c ∧
      semE ec Θ SemCfg.ref env n = .ok tp ∧ Sound Θ ec env x.1 c pc tp :=
  toNearSql_boundOK Θ ec env cfg hg hr h

/-- **The text of a cache key determines the operator node and the bound columns** (the renderer is a prefix code):
if `k1`, `k2` are key texts of the nodes `n1`, `n2` and `k1_<columns c1> = k2_<columns c2>` then `n1 = n2` and
`c1 = c2`. -/
theorem C04_key_text_determines_node (hq : QuoteOK) {n1 n2 : Ops} (h1 : RenderOK n1) (h2 : RenderOK n2)
    {k1 k2 : String} (hk1 : IsKeyOf n1 k1) (hk2 : IsKeyOf n2 k2) {c1 c2 : List String}
    (h : k1 ++ ("_" ++ renderStrs c1) = k2 ++ ("_" ++ renderStrs c2)) : n1 = n2 ∧ c1 = c2 :=
  cacheKey_cancel hq.1 hq.2 h1 h2 hk1 hk2 h

/-- the model's `str(node)` is injective on pipelines satisfying `RenderOK` -/
theorem C04_render_injective (hq : QuoteOK) {a b : Ops} (ha : RenderOK a) (hb : RenderOK b)
    (h : renderOps a = renderOps b) : a = b :=
  (renderOps_cancel hq.1 hq.2 ha hb (r1 := []) (r2 := []) (by rw [h])).1

/-- **The guard `RenderOK` is necessary for the model's renderer** (a model artefact, not a property of the code):
`rename_columns({'a=': 'b'})` and `rename_columns({'a': '=b'})` have the same rendered text. -/
theorem C04_render_collision :
    renderOps (.rename (.table "d" ["b", "=b"]) [("a=", "b")]) = renderOps (.rename (.table "d" ["b", "=b"]) [("a", "=b")]) ∧
    Ops.rename (.table "d" ["b", "=b"]) [("a=", "b")] ≠ Ops.rename (.table "d" ["b", "=b"]) [("a", "=b")] := by
  refine ⟨?_, ?_⟩
  · have : ("a=" ++ "=" ++ "b" : String) = "a" ++ "=" ++ "=b" := by decide
    simp only [renderOps, List.map_cons, List.map_nil, this]
  · intro h
    injection h with _ h
    injection h with h _
    injection h with h _
    exact absurd h (by decide)

/-- **C04_key_faithful.**  For every pipeline `p` in the scope of C01, every interpretation `Θ`, engine and environment:
in the query `toNearSql` produces, any two bound sub-queries with the same cache key (`ops_key` text plus bound column
list) denote the same table – provided no sub-query is bound with an empty column list. -/
theorem C04_key_faithful (hq : QuoteOK) (Θ : Interp) (ec : EngineCfg) (env : Env) (cfg : SqlCfg) (p : Ops)
    (hg : Good cfg env p) (hr : RenderOK p) {q : Near} (h : toNearSql cfg p = .ok q) (hne : BoundColsNonempty q) :
    KeyFaith Θ ec env cacheKey q :=
  keyFaith_of_boundOK (fun h1 h2 _ _ hk1 hk2 _ _ he => cacheKey_cancel hq.1 hq.2 h1 h2 hk1 hk2 he)
    (toNearSql_boundOK Θ ec env cfg hg hr h) hne

/-- **CTE elimination of a translated pipeline is sound**: the WITH form with the CTE cache evaluates to the nested
query.  Applied is `C04_cte_elim_sound_key` with `KeyFaith Θ ec env cacheKey q` from `C04_key_faithful`, at the given
`Θ ec env` only.  `C04_cte_elim_sound` does not apply: its hypothesis `KeyFaithful q` asks for `KeyFaith` at EVERY
environment, while `C04_key_faithful` needs `Good cfg env p`, a condition on `env`. -/
theorem C04_cte_elim_sound_translated (hq : QuoteOK) (Θ : Interp) (ec : EngineCfg) (env : Env) (cfg : SqlCfg) (p : Ops)
    (hg : Good cfg env p) (hr : RenderOK p) {q : Near} (h : toNearSql cfg p = .ok q) (hne : BoundColsNonempty q) :
    semWith Θ ec env (toWithForm (some []) q).2.1 (toWithForm (some []) q).1 = semSql Θ ec env q := by
  rw [(toWithFormG_cacheKey q).1 (some [])]
  exact C04_cte_elim_sound_key Θ ec env cacheKey q (C04_wf cfg p q h) (C04_key_faithful hq Θ ec env cfg p hg hr h hne)

/-- **`to_sql` under `use_with` / `use_cte_elim` returns the result of the nested query**, for every translated pipeline
in scope – no hypothesis on the keys is left (the guard on empty bindings is needed with `use_cte_elim` only).  Like
`C04_to_sql_options_sound` an instance of `semToSql_sound`, which asks for the faithfulness of the keys at the one
environment at hand (`KeyFaithful q`, all environments, is not to be had from a pipeline in scope on one `env`). -/
theorem C04_to_sql_options_sound_translated (hq : QuoteOK) (Θ : Interp) (ec : EngineCfg) (env : Env) (cfg : SqlCfg)
    (p : Ops) (hg : Good cfg env p) (hr : RenderOK p) {q : Near} (h : toNearSql cfg p = .ok q)
    (useWith cteElim : Bool) (hne : cteElim = true → BoundColsNonempty q) :
    semToSql Θ ec env useWith cteElim q = semSql Θ ec env q :=
  semToSql_sound Θ ec env q (C04_wf cfg p q h) useWith cteElim fun hc =>
    C04_key_faithful hq Θ ec env cfg p hg hr h (hne hc)

/-- **… and that result is the pipeline's table** (C01, stage A): under every combination of `use_with` /
`use_cte_elim` the SQL evaluates, has exactly the declared column set, and its rows restricted to the declared columns
are, in order, the rows of the table `p` denotes under the engine's row ordering. -/
theorem C04_to_sql_options_engine_order (hq : QuoteOK) (Θ : Interp) (ec : EngineCfg) (env : Env) (cfg : SqlCfg)
    (p : Ops) (hg : Good cfg env p) (hr : RenderOK p) {q : Near} (h : toNearSql cfg p = .ok q)
    (useWith cteElim : Bool) (hne : cteElim = true → BoundColsNonempty q) :
    ∃ T tp, semToSql Θ ec env useWith cteElim q = .ok T ∧ semE ec Θ SemCfg.ref env p = .ok tp ∧ tp.cols = p.cols ∧
      (∀ c, c ∈ T.cols ↔ c ∈ p.cols) ∧ T.rows.map (fun r => r.select p.cols) = tp.rows := by
  rw [C04_to_sql_options_sound_translated hq Θ ec env cfg p hg hr h useWith cteElim hne]
  exact C01_engine_order_all Θ ec env cfg p hg h

/-- **for pipelines built by the builders, on a dialect with native RIGHT / FULL joins** (the dialects with CTE
elimination): `Reachable p` replaces `WF`, `SqlWF` and `JoinWF` -/
theorem C04_to_sql_options_sound_reachable (hq : QuoteOK) (Θ : Interp) (ec : EngineCfg) (env : Env) (cfg : SqlCfg)
    (hgen : cfg.emulateRightFull = false) (p : Ops) (hreach : Reachable p) (hf : InFragJ p = true) (hmp : MapsOK p)
    (ht : JoinTypesSql p) (hl : LabelSidesPlain p) (he : EnvOK false env p) (hr : RenderOK p)
    {q : Near} (h : toNearSql cfg p = .ok q) (useWith cteElim : Bool) (hne : cteElim = true → BoundColsNonempty q) :
    semToSql Θ ec env useWith cteElim q = semSql Θ ec env q :=
  C04_to_sql_options_sound_translated hq Θ ec env cfg p
    (Good.of_generic hgen hf (C26_reachable_wf hreach) (C01_reachable_sqlwf hreach) hmp (C16_reachable_joinwf hreach) ht
      hl he) hr h useWith cteElim hne


namespace C04KEx
open C04Ex (Θ0)

def sizeT : Term := .app "_size" [] false false
def dU : Ops := .table "d" ["a", "g", "x"]
/-- `d.order_rows(['a'], limit=2)` -/
def oU : Ops := .order dU ["a"] [] (some 2)
/-- `O.extend({'z': 'x.cumsum()'}, partition_by=['g'], order_by=['a'])` -/
def wU : Ops := .extend oU [("z", .app "cumsum" [.col "x"] false true)] ["g"] ["a"] [] true
/-- `O.project({'n': '_size()'}).concat_rows(W.project({'n': '_size()'}))`: both projects need no column of their
source and bind it with `[]`; the second reaches `O` through the pruned extend `W`, which asks `O` for its partition and
order columns -/
def pU : Ops := .concat (.project oU [("n", sizeT)] []) (.project wU [("n", sizeT)] []) none "a" "b"
def envU : Env := [("d", ⟨["a", "g", "x"], [[("a", .num 1), ("g", .num 1), ("x", .num 1)]]⟩)]

def qU : Near := match toNearSql SqlCfg.generic pU with | .ok q => q | .error _ => .cte ""
theorem qU_ok : toNearSql SqlCfg.generic pU = .ok qU := rfl
/-- the two `order_rows` steps -/
def xU : Bound := qU.desc[1]'(by decide)
def yU : Bound := qU.desc[4]'(by decide)
theorem xU_mem : xU ∈ qU.desc := List.getElem_mem _
theorem yU_mem : yU ∈ qU.desc := List.getElem_mem _
example : xU.1.name = "order_rows_1" ∧ yU.1.name = "order_rows_4" ∧ xU.2.1 = some [] ∧ yU.2.1 = some [] := by decide
/-- same cache key: `order(<str(O)>)_[]` -/
theorem xyU_key : bkey cacheKey xU = bkey cacheKey yU := by
  have hx : xU.1.key = some ("order(" ++ renderOps oU ++ ")") := rfl
  have hy : yU.1.key = some ("order(" ++ renderOps oU ++ ")") := rfl
  simp only [bkey, cacheKey, hx, hy]
  rfl
def colsOf (e : Except Err Table) : List String := match e with | .ok t => t.cols | .error _ => []
/-- … different tables: `SELECT a …` and `SELECT a, g …` -/
theorem xU_den : colsOf (den Θ0 .postgres envU xU) = ["a"] := by decide +kernel
theorem yU_den : colsOf (den Θ0 .postgres envU yU) = ["a", "g"] := by decide +kernel

theorem wf_pU : WF pU := by decide +kernel
theorem good_pU : Good SqlCfg.generic envU pU :=
  ⟨rfl, wf_pU, by decide, by decide, by decide, by decide, by decide, by decide, by decide +kernel⟩
theorem renderOK_pU : RenderOK pU := by decide
end C04KEx

/-- **The guard `BoundColsNonempty` of `C04_key_faithful` is necessary.**  In the translation of
`O.project({'n': '_size()'}).concat_rows(O.extend({'z': 'x.cumsum()'}, partition_by=['g'], order_by=['a']).project({'n': '_size()'}))`
with `O = d.order_rows(['a'], limit=2)` the two `order_rows` steps have the same cache key (`order(<str(O)>)_[]`: the key
of an `order_rows` step has no term keys, both are bound with `[]`), but the first selects `a` and the second `a, g`
(the pruned extend asks for its partition and order columns): different tables.  Not a defect of the code: the
consumers read no column, only the number of rows, and the real SQL with CTE elimination (PostgreSQL dialect, run on
SQLite) returns `n = 2, 2` like the nested form; the statement `KeyFaith` (equal tables) is stronger than needed there. -/
theorem C04_key_faithful_nonempty_necessary :
    ¬ ∀ (Θ : Interp) (ec : EngineCfg) (env : Env) (cfg : SqlCfg) (p : Ops) (q : Near), Good cfg env p → RenderOK p →
        toNearSql cfg p = .ok q → KeyFaith Θ ec env cacheKey q := by
  intro h
  have h0 := h C04Ex.Θ0 .postgres C04KEx.envU SqlCfg.generic C04KEx.pU C04KEx.qU C04KEx.good_pU C04KEx.renderOK_pU
    C04KEx.qU_ok C04KEx.xU C04KEx.xU_mem C04KEx.yU C04KEx.yU_mem C04KEx.xyU_key
  have h1 := congrArg C04KEx.colsOf h0
  rw [C04KEx.xU_den, C04KEx.yU_den] at h1
  exact absurd h1 (by decide)

namespace C04KEx

def ΘE : Interp := Theta.concrete (fun _ _ => .error .other)
def dE : Ops := .table "d" ["k", "x"]
def sE : Ops := .selectRows dE (.app ">" [.col "x", .value (.int 1)] true false)
def eE : Ops := .extend sE [("z", .app "+" [.col "x", .value (.int 1)] true false)] [] [] [] false
/-- `E.concat_rows(E)` with `E = d.select_rows('x > 1').extend({'z': 'x + 1'})`: the sub-pipeline `E` is used twice -/
def pEx : Ops := .concat eE eE none "a" "b"
def envE : Env := [("d", ⟨["k", "x"], [[("k", .num 1), ("x", .num 1)], [("k", .num 2), ("x", .num 5)]]⟩)]

def qEx : Near := match toNearSql SqlCfg.generic pEx with | .ok q => q | .error _ => .cte ""
theorem qEx_ok : toNearSql SqlCfg.generic pEx = .ok qEx := rfl
/-- the translation of `d.select_rows('x > 1')` bound with `k, x`, as the step named `n0` -/
def stepS (n0 : String) : Near :=
  .unary n0 (some [("k", .pass), ("x", .pass)]) false (.table "d" ["k", "x"]) (some ["k", "x"])
    (.whereE (.app ">" [.col "x", .value (.int 1)] true false)) false none (keyOfNode "select" sE ["k", "x"])
/-- the translation of `E`, as the step named `n1` over `stepS n0` -/
def stepE (n1 n0 : String) : Near :=
  .unary n1 (some [("k", .pass), ("x", .pass), ("z", .expr (.app "+" [.col "x", .value (.int 1)] true false) none)])
    false (stepS n0) (some ["k", "x"]) .none true (some [("k", ["k"]), ("x", ["x"]), ("z", ["x"])])
    (keyOfNode "extend" eE ["k", "x", "z"])

/-- the translated tree: the two uses of `E` differ in the query names only -/
theorem qEx_eq : qEx = .union "concat_rows_4" ["k", "x", "z"] (stepE "extend_1" "select_rows_0")
    (stepE "extend_3" "select_rows_2") ["k", "x", "z"] (keyOfNode "concat" pEx ["k", "x", "z"]) := rfl
example : qEx.names = ["concat_rows_4", "extend_1", "select_rows_0", "extend_3", "select_rows_2"] := by
  rw [qEx_eq]; rfl
theorem qEx_desc : qEx.desc =
    [(stepE "extend_1" "select_rows_0", some ["k", "x", "z"], true), (stepS "select_rows_0", some ["k", "x"], false),
     (stepE "extend_3" "select_rows_2", some ["k", "x", "z"], true), (stepS "select_rows_2", some ["k", "x"], false)] := by
  rw [qEx_eq]; rfl

/-- **the keys**: the two uses of `E` have the same cache key, and so have the two uses of its source -/
example : bkey cacheKey (qEx.desc[0]'(by decide)) = bkey cacheKey (qEx.desc[2]'(by decide)) := by
  simp only [qEx_desc]; rfl
example : bkey cacheKey (qEx.desc[1]'(by decide)) = bkey cacheKey (qEx.desc[3]'(by decide)) := by
  simp only [qEx_desc]; rfl
example : (qEx.desc[0]'(by decide)).1.key = keyOfNode "extend" eE ["k", "x", "z"] ∧
    (qEx.desc[1]'(by decide)).1.key = keyOfNode "select" sE ["k", "x"] := by
  simp only [qEx_desc]; exact ⟨rfl, rfl⟩

theorem wf_pEx : WF pEx := by decide +kernel
theorem good_pEx : Good SqlCfg.generic envE pEx :=
  ⟨rfl, wf_pEx, by decide, by decide, by decide, by decide, by decide, by decide, by decide +kernel⟩
theorem renderOK_pEx : RenderOK pEx := by decide
theorem nonempty_qEx : BoundColsNonempty qEx := by decide

example (hq : QuoteOK) (useWith cteElim : Bool) :
    semToSql ΘE .postgres envE useWith cteElim qEx = semSql ΘE .postgres envE qEx :=
  C04_to_sql_options_sound_translated hq ΘE .postgres envE SqlCfg.generic pEx good_pEx renderOK_pEx qEx_ok useWith
    cteElim (fun _ => nonempty_qEx)
example : ∃ T, semSql ΘE .postgres envE qEx = .ok T ∧
    T.rows = [[("k", .num 2), ("x", .num 5), ("z", .num 6)], [("k", .num 2), ("x", .num 5), ("z", .num 6)]] :=
  ⟨_, rfl, by decide +kernel⟩

/-! **the unconditional instance** (no assumption on `String.quote`): sub-queries of different kinds have keys that
start with different words, sub-queries of the same kind are the same tree up to query names -/

def headC (s : String) : Option Char := s.toList.head?
theorem headC_append {a : String} {c : Char} (h : headC a = some c) (b : String) : headC (a ++ b) = some c := by
  unfold headC at h ⊢
  rw [String.toList_append]
  cases ha : a.toList with
  | nil => rw [ha] at h; cases h
  | cons x t => rw [ha] at h; simpa using h

theorem headC_cacheKey {near : Near} {kind : String} {n : Ops} {ks : List String} {c : Char}
    (hk : near.key = keyOfNode kind n ks) (hc : headC kind = some c) (cols : Option (List String)) :
    headC (cacheKey near cols) = some c := by
  simp only [cacheKey, hk, keyOfNode]
  exact headC_append (headC_append (headC_append (headC_append (headC_append (headC_append hc _) _) _) _) _) _

theorem shapeDet_qEx : ShapeDet qEx := by
  have ne : ∀ {a b : Near} {ca cb : Option (List String)} {ks ks' : List String}, a.key = keyOfNode "extend" eE ks →
      b.key = keyOfNode "select" sE ks' → cacheKey a ca ≠ cacheKey b cb := by
    intro a b ca cb ks ks' ha hb he
    have h := congrArg headC he
    rw [headC_cacheKey ha (c := 'e') (by decide), headC_cacheKey hb (c := 's') (by decide)] at h
    cases h
  refine ShapeDet.of_pairwise ?_
  rw [qEx_desc]
  simp only [List.pairwise_cons, List.mem_cons, List.not_mem_nil, or_false, forall_eq_or_imp, forall_eq,
    List.Pairwise.nil, and_true, false_imp_iff, implies_true]
  exact ⟨⟨fun he => absurd he (ne rfl rfl), fun _ => rfl, fun he => absurd he (ne rfl rfl)⟩,
    ⟨fun he => absurd he.symm (ne rfl rfl), fun _ => rfl⟩, fun he => absurd he (ne rfl rfl)⟩

theorem qEx_wf : NearWF qEx := C04_wf _ _ _ qEx_ok
theorem qEx_faithful : KeyFaithful qEx := C04_key_faithful_of_shape qEx shapeDet_qEx

end C04KEx

/-- **The unconditional instance of `C04_to_sql_options_sound`** for the translation of `E.concat_rows(E)`,
`E = d.select_rows('x > 1').extend({'z': 'x + 1'})`: for every interpretation, engine and environment, every combination
of `use_with` / `use_cte_elim` returns the result of the nested query (its `KeyFaithful` is proved, without any assumption
on `String.quote`). -/
theorem C04_options_sound_shared_instance (Θ : Interp) (ec : EngineCfg) (env : Env) (useWith cteElim : Bool) :
    semToSql Θ ec env useWith cteElim C04KEx.qEx = semSql Θ ec env C04KEx.qEx :=
  C04_to_sql_options_sound Θ ec env C04KEx.qEx C04KEx.qEx_wf useWith cteElim (fun _ => C04KEx.qEx_faithful)

end DAVerif
