import DAVerif.Proofs.PolarsJoin
import DAVerif.Proofs.EvalRead
/-!
# C03 — the Polars executor agrees with Pandas whenever it returns a result

Property: for every pipeline and input on which the Polars executor returns without raising, the result has the same
columns and the same multiset of rows as the Pandas executor's (compared as in C01); an unsupported method or step may
raise, but must never silently return a different table.  Models: `semPl` (`Sem/Polars.lean`: `polars_model.py` step by
step over the ASSUMED Polars primitives of `Prim/Polars.lean`, parametric in `Pl.Cfg` = code as found / after the small
fixes) and `sem … SemCfg.pandas`; specification side `Spec/Polars.lean` (`≈ₚₗ`, the guards).

The unguarded statement is false of the code (each `…_necessary` theorem is a counterexample, `corpus/C03/`).  Proved:
the statement under `Scope` (the scope of C01/C18 and sane join key specifications over scratch-name free columns) and
`Guards` (none of the known deviations occurs).  With the four fixes (`Pl.Cfg.fixed`) the guards D20, D21, D27, N6, N12 are
vacuous (`C03_fixed_guards`); D18, N1, the empty ungrouped project and first/last remain.
-/
namespace DAVerif
open Pl

/-- **Agreement of the two interpretations outside the listed deviations.**  `Θpl` interprets the function
symbols as Polars computes them, `Θ` as numpy / Pandas do; they may differ only where a guard says so
(`Pl.scalarViol`, `Pl.aggViol` non-empty).  `win` is only asked of window functions that Polars can call for some
number `n` of arguments (`Pl.implStatus false n op = .ok`; `Θ.win` does not see the arity, the step lemma uses the arity
of the term).  Proved for the concrete interpretations in `C03_thetaPl_agrees`. -/
structure PlAgree (cfg : Pl.Cfg) (Θpl Θ : Interp) : Prop where
  scalar : ∀ op args, Pl.scalarViol cfg op args = [] → Θpl.scalar op args = Θ.scalar op args
  agg : ∀ op vs, Pl.aggViol cfg op vs = [] → Θpl.agg op vs = Θ.agg op vs
  win : ∀ op n cargs vs pos, Pl.implStatus false n op = .ok → Pl.aggViol cfg op vs = [] →
    Θpl.win op cargs vs pos = Θ.win op cargs vs pos
  convert : ∀ rm t, Θpl.convert rm t = Θ.convert rm t

/-- **Scope** of the comparison (the scope of C01 / C18, plus the static shape of joins), on the intermediate
tables of the Pandas executor: window orders are total within each partition (or the window functions are order
free), a limit does not cut through a tie, aggregates of a `project` are order free, and every join has a sane key
specification over scratch-name free columns (`JoinOK`). -/
def Scope (Θpl Θ : Interp) (env : Env) : Ops → Prop
  | .table _ _ => True
  | .extend src ops partition order reverse windowed =>
      Scope Θpl Θ env src ∧
      (windowed = true → ∀ t, sem Θ SemCfg.pandas env src = .ok t →
        WinOK Θ ops partition order reverse t.rows ∧ WinOK Θpl ops partition order reverse t.rows)
  | .project src ops _ => Scope Θpl Θ env src ∧ ∀ kv ∈ ops, AggOrderFree Θpl (opName kv.2)
  | .order src cs reverse limit =>
      Scope Θpl Θ env src ∧
      (∀ n, limit = some n → ∀ t, sem Θ SemCfg.pandas env src = .ok t → LimitOK cs reverse n t.rows)
  | .selectRows src _ | .selectCols src _ | .dropCols src _ | .rename src _ | .mapCols src _ _
  | .convert src _ => Scope Θpl Θ env src
  | n@(.join a b onA onB _) => Scope Θpl Θ env a ∧ Scope Θpl Θ env b ∧ JoinOK onA onB a.cols b.cols n.cols
  | .concat a b _ _ _ => Scope Θpl Θ env a ∧ Scope Θpl Θ env b

/-! The step lemmas: the Polars step on `t` against the Pandas step on an equivalent `t'`; the windowed `extend`,
`order_rows` and the join are `pl_extend_window_sound`, `pl_order_sound` (`Proofs/Polars.lean`) and `pl_join_sound`
(`Proofs/PolarsJoin.lean`: the step computes the reference join; the guard of D18 makes the Pandas join that join). -/

/-- plain `extend`: `with_columns` on `t` vs the Pandas step on `t'` -/
theorem pl_extend_plain_sound {cfg : Pl.Cfg} {Θpl Θ : Interp} (hA : PlAgree cfg Θpl Θ) (ops : Assign) {t t' : Table}
    (h : t ≈ t') (oc : List String) (hv : Pl.extendPlainViol cfg Θ ops t' = []) :
    Pl.withColumns Θpl ops t oc ≈ semExtendPlain Θ ops t' oc := by
  rw [← semExtendPlain_agree hA.scalar ops t' oc hv]
  exact semExtendPlain_equiv Θpl ops h oc

/-- `select_rows`: `filter` on `t` vs the Pandas step on `t'` -/
theorem pl_select_rows_sound {cfg : Pl.Cfg} {Θpl Θ : Interp} (hA : PlAgree cfg Θpl Θ) (e : Term) {t t' : Table}
    (h : t ≈ t') (hv : Pl.selectRowsViol cfg Θ e t' = []) : Pl.filter Θpl e t ≈ semSelectRows Θ e t' := by
  rw [← semSelectRows_agree hA.scalar e t' hv]
  exact semSelectRows_equiv Θpl e h

/-- `project`: `group_by(...).agg(...)` (null-key group kept, all-null row for an empty ungrouped input) on `t` vs
the Pandas step on `t'` -/
theorem pl_project_sound {cfg : Pl.Cfg} {Θpl Θ : Interp} (hA : PlAgree cfg Θpl Θ) (ops : Assign) (g : List String)
    {t t' : Table} (h : t ≈ t') (oc : List String) (hF : ∀ kv ∈ ops, AggOrderFree Θpl (opName kv.2))
    (hv : Pl.projectViol cfg Θ ops g t' = []) : semProjectPl Θpl ops g t oc ≈ semProject Θ ops g t' oc := by
  rw [← semProjectPl_agree hA.agg ops g t' oc hv]
  exact semProjectPl_equiv Θpl ops g h oc hF

/-- inner and left joins (`how != "right"` branch with coalesced key columns): `pl_join_sound` read at these join types
(`hjt` only names the case, the proof does not use it) -/
theorem pl_join_inner_left_sound {cfg : Pl.Cfg} {jt : JoinType} {onA onB : List String} {ta tb : Table}
    {oc all : List String} {t : Table} (hjt : jt = .inner ∨ jt = .left)
    (hwa : ta.WF) (hwb : tb.WF) (J : JoinOK onA onB ta.cols tb.cols oc) (hall : ∀ c ∈ oc, c ∈ all)
    (hg : Pl.joinViol cfg jt onA onB ta tb = []) (h : semJoinPl cfg jt onA onB ta tb oc = .ok t) :
    t ≈ (semJoin SemCfg.pandas jt onA onB ta tb all).selectCols oc :=
  pl_join_sound hwa hwb J hall hg h

/-- full join: `pl_join_sound` read at these join types (`hjt` only names the case).  Polars does not coalesce the
keys; the `fullJoinKeys` part of the guard `hg` holds after fix D20, or when every right row has a partner -/
theorem pl_join_full_sound {cfg : Pl.Cfg} {jt : JoinType} {onA onB : List String} {ta tb : Table}
    {oc all : List String} {t : Table} (hjt : jt = .full ∨ jt = .outer)
    (hwa : ta.WF) (hwb : tb.WF) (J : JoinOK onA onB ta.cols tb.cols oc) (hall : ∀ c ∈ oc, c ∈ all)
    (hg : Pl.joinViol cfg jt onA onB ta tb = []) (h : semJoinPl cfg jt onA onB ta tb oc = .ok t) :
    t ≈ (semJoin SemCfg.pandas jt onA onB ta tb all).selectCols oc :=
  pl_join_sound hwa hwb J hall hg h

/-- `concat_rows`: `pl.concat(how="vertical")` -/
theorem pl_concat_sound (idc : Option String) (an bn : String) {ta ta' tb tb' : Table} (ha : ta ≈ ta')
    (hb : tb ≈ tb') (oc : List String) :
    Pl.concatVertical idc an bn ta tb oc ≈ semConcat idc an bn ta' tb' oc := semConcat_equiv idc an bn ha hb oc

/-- **C03 (strong form).**  For every variant `cfg` of `polars_model.py`, every pair of interpretations that agree
outside the listed deviations, every pipeline `p` and environment `env`: if the Polars executor model returns a
table `t` for `p`, the pipeline is in scope on `env` and none of the known deviations occurs (`Pl.Guards`, judged on
the intermediate tables of the Pandas executor), then the Pandas executor model also returns a table `t'`, with the
same columns **in the same order** and the same multiset of rows (`t ≈ t'`).  Proof: induction over `p`, showing
`PlRefines (semPl … p) (sem … p)` with the step lemma of each `_*_step` under `PlRefines.bind`.  A raise of the Polars
model (`.error`) satisfies the statement vacuously: the property accepts it. -/
theorem C03_polars_sound_strong (cfg : Pl.Cfg) (Θpl Θ : Interp) (hA : PlAgree cfg Θpl Θ) (hC : ConvertOK Θ)
    (hCp : ConvertPermInvariant Θ) (env : Env) (p : Ops) :
    ∀ t, semPl cfg Θpl env p = .ok t → Scope Θpl Θ env p → Pl.Guards cfg Θ env p →
      ∃ t', sem Θ SemCfg.pandas env p = .ok t' ∧ t ≈ t' := by
  suffices h : Scope Θpl Θ env p → Pl.Guards cfg Θ env p →
      PlRefines (semPl cfg Θpl env p) (sem Θ SemCfg.pandas env p) from fun t ht hS hG => h hS hG t ht
  induction p with
  | table name cs => exact fun _ _ t h => ⟨t, h, Table.Equiv.refl t⟩
  | extend src ops part od rv w ih =>
    intro hS hG
    replace hG := List.append_eq_nil_iff.mp hG
    cases w with
    | true =>
      refine (ih hS.1 hG.1).bind fun ts ts' heq hts' => .raiseIf fun hr => .ok ?_
      rw [hts'] at hG
      have hnr : ∀ kv ∈ ops, aggRaises false kv.2 = false := fun kv hkv =>
        Bool.eq_false_iff.mpr fun hh => hr (List.any_eq_true.mpr ⟨kv, hkv, hh⟩)
      exact pl_extend_window_sound hA.win ops part od rv heq _ (hS.2 rfl ts' hts').2 (hS.2 rfl ts' hts').1 hnr hG.2
    | false =>
      refine (ih hS.1 hG.1).bind fun ts ts' heq hts' => .raiseIf fun _ => .ok ?_
      rw [hts'] at hG
      exact pl_extend_plain_sound hA ops heq _ hG.2
  | project src ops g ih =>
    intro hS hG
    replace hG := List.append_eq_nil_iff.mp hG
    refine (ih hS.1 hG.1).bind fun ts ts' heq hts' => .raiseIf fun _ => .ok ?_
    rw [hts'] at hG
    exact pl_project_sound hA ops g heq _ hS.2 hG.2
  | selectRows src e ih =>
    intro hS hG
    replace hG := List.append_eq_nil_iff.mp hG
    refine (ih hS hG.1).bind fun ts ts' heq hts' => .raiseIf fun _ => .ok ?_
    rw [hts'] at hG
    exact pl_select_rows_sound hA e heq hG.2
  | selectCols src cs ih =>
    intro hS hG
    exact (ih hS hG).bind fun _ _ heq _ => .ok (heq.selectCols cs)
  | dropCols src dels ih =>
    intro hS hG
    exact (ih hS hG).bind fun _ _ heq _ => .ok (heq.selectCols _)
  | order src cs rv lim ih =>
    intro hS hG
    replace hG := List.append_eq_nil_iff.mp hG
    refine (ih hS.1 hG.1).bind fun ts ts' heq hts' => .ok ?_
    rw [hts'] at hG
    exact pl_order_sound cs rv lim heq (fun n hn => hS.2 n hn ts' hts') hG.2
  | rename src m ih =>
    intro hS hG
    exact (ih hS hG).bind fun _ _ heq _ => .ok (semRename_equiv heq _ _)
  | mapCols src m dels ih =>
    intro hS hG
    exact (ih hS hG).bind fun _ _ heq _ => .ok (semMapCols_equiv heq _ dels _)
  | join a b oa ob jt iha ihb =>
    intro hS hG
    obtain ⟨hGab, hG⟩ := List.append_eq_nil_iff.mp hG
    obtain ⟨hGa, hGb⟩ := List.append_eq_nil_iff.mp hGab
    refine (iha hS.1 hGa).bind fun ta ta' heqa hta' => (ihb hS.2.1 hGb).bind fun tb tb' heqb htb' t h => ?_
    rw [hta', htb'] at hG
    obtain ⟨hca, hwa'⟩ := sem_cols_wf Θ hC SemCfg.pandas env a ta' hta'
    obtain ⟨hcb, hwb'⟩ := sem_cols_wf Θ hC SemCfg.pandas env b tb' htb'
    have J : JoinOK oa ob ta.cols tb.cols (Ops.join a b oa ob jt).cols := by
      rw [heqa.1, heqb.1, hca, hcb]; exact hS.2.2
    have hg : Pl.joinViol cfg jt oa ob ta tb = [] := (joinViol_perm heqa.2 heqb.2).trans hG
    exact ⟨_, rfl, (pl_join_sound (heqa.symm.wf hwa') (heqb.symm.wf hwb') J (pl_join_cols_sub a b oa ob jt) hg h).trans
      ((semJoin_equiv SemCfg.pandas jt oa ob heqa heqb _).selectCols _)⟩
  | concat a b idc an bn iha ihb =>
    intro hS hG
    replace hG := List.append_eq_nil_iff.mp hG
    exact (iha hS.1 hG.1).bind fun _ _ heqa _ => (ihb hS.2 hG.2).bind fun _ _ heqb _ =>
      .ok (pl_concat_sound idc an bn heqa heqb _)
  | convert src rm ih =>
    intro hS hG
    refine (ih hS hG).bind fun ts ts' heq _ t h => ?_
    have := hCp rm ts ts' heq
    rw [← hA.convert, h] at this
    cases hc : Θ.convert rm ts' with
    | error e => rw [hc] at this; exact this.elim
    | ok t' => rw [hc] at this; exact ⟨t', rfl, this⟩

theorem Table.Equiv.toEquivPl {t t' : Table} (h : t ≈ t') : t ≈ₚₗ t' :=
  ⟨List.Perm.of_eq h.1, h.2.map _⟩

/-- **C03 (partial).**  For every variant `cfg` of `polars_model.py` (as found / fixed), every pair of
interpretations that agree outside the listed deviations (`PlAgree`), every pipeline `p` and environment `env`: if
the Polars executor model returns a table `t`, the pipeline is in scope on `env` and none of the known deviations
occurs (`Guards`), then the Pandas executor model returns a table with the same columns and the same multiset of
rows (`≈ₚₗ`: up to row order and column order; in fact even the column order agrees, `C03_polars_sound_strong`). -/
theorem C03_polars_sound_partial (cfg : Pl.Cfg) (Θpl Θ : Interp) (hA : PlAgree cfg Θpl Θ) (hC : ConvertOK Θ)
    (hCp : ConvertPermInvariant Θ) (env : Env) (p : Ops) (t : Table)
    (h : semPl cfg Θpl env p = .ok t) (hS : Scope Θpl Θ env p) (hG : Pl.Guards cfg Θ env p) :
    ∃ t', sem Θ SemCfg.pandas env p = .ok t' ∧ t ≈ₚₗ t' := by
  obtain ⟨t', h1, h2⟩ := C03_polars_sound_strong cfg Θpl Θ hA hC hCp env p t h hS hG
  exact ⟨t', h1, h2.toEquivPl⟩

/-- **C03, row order after a final `order_rows`.**  If the pipeline ends in `order_rows(cs, reverse, limit)`, its
source is in scope and free of deviations, the order is total on the rows that reach it (no two different rows tie
on `cs`) and (before fix D21) no order cell is null, then both executors return the *same list of rows*. -/
theorem C03_final_order (cfg : Pl.Cfg) (Θpl Θ : Interp) (hA : PlAgree cfg Θpl Θ) (hC : ConvertOK Θ)
    (hCp : ConvertPermInvariant Θ) (env : Env) (q : Ops) (cs rv : List String) (lim : Option Nat) (t : Table)
    (h : semPl cfg Θpl env (.order q cs rv lim) = .ok t) (hS : Scope Θpl Θ env q) (hG : Pl.Guards cfg Θ env q)
    (hF : Pl.finalOrderViol cfg Θ env (.order q cs rv lim) = [])
    (hT : ∀ tq, sem Θ SemCfg.pandas env q = .ok tq → TotalOn cs rv tq.rows) :
    sem Θ SemCfg.pandas env (.order q cs rv lim) = .ok t := by
  rw [semPl] at h
  obtain ⟨tq, htq, h2⟩ := bind_eq_ok.mp h
  obtain ⟨tq', htq', heq⟩ := C03_polars_sound_strong cfg Θpl Θ hA hC hCp env q tq htq hS hG
  cases h2
  rw [Pl.finalOrderViol, htq'] at hF
  have hs : Pl.SameOrderOn cfg.nullsLast cs tq'.rows := Pl.sameOrderOn_of_no_null fun hn => by
    simpa [hn] using pl_ite_nil_eq hF
  rw [sem, htq']
  exact congrArg Except.ok ((semOrder_total_eq cs rv lim heq ((hT tq' htq').perm heq.2.symm)).symm.trans
    (Pl.sortHead_eq (hs.perm heq.2.symm) rv lim).symm)

/-! ### steps that raise (a raise is accepted by the property; stated so that the raise table is part of the theorems) -/

/-- a CROSS join never returns on Polars 1.44 (`join(..., left_on=[], right_on=[], how="cross")` is rejected) -/
theorem C03_cross_raises (cfg : Pl.Cfg) (Θ : Interp) (env : Env) (a b : Ops) (onA onB : List String) (t : Table) :
    semPl cfg Θ env (.join a b onA onB .cross) ≠ .ok t := by
  intro h
  obtain ⟨_, _, h2⟩ := bind_eq_ok.mp h
  obtain ⟨_, _, h3⟩ := bind_eq_ok.mp h2
  cases h3

/-- the window functions whose Polars method was removed (`cumsum cummax cummin cumprod cumcount`, and the zero
argument counters `_row_number _count`) never return -/
theorem C03_removed_api_raises (cfg : Pl.Cfg) (Θ : Interp) (env : Env) (src : Ops) (k op : String) (args : List Term)
    (i m : Bool) (part od rv : List String) (t : Table)
    (hop : (op ∈ ["cumsum", "cummax", "cummin", "cumprod", "cumcount"] ∧ args.length = 1) ∨
           (op ∈ ["_row_number", "_count", "row_number", "count", "cumcount"] ∧ args.length = 0)) :
    semPl cfg Θ env (.extend src [(k, .app op args i m)] part od rv true) ≠ .ok t := by
  -- read off the raise table of `Prim/Polars.lean`
  have hr : Pl.implStatus false args.length op ≠ .ok := by
    rcases hop with ⟨ho, hl⟩ | ⟨ho, hl⟩
    · exact hl ▸ (by decide +kernel : ∀ o ∈ ["cumsum", "cummax", "cummin", "cumprod", "cumcount"],
        Pl.implStatus false 1 o ≠ .ok) op ho
    · exact hl ▸ (by decide +kernel : ∀ o ∈ ["_row_number", "_count", "row_number", "count", "cumcount"],
        Pl.implStatus false 0 o ≠ .ok) op ho
  exact semPl_extend_window_raises
    (by simpa only [List.any_cons, List.any_nil, Bool.or_false, aggRaises, bne_iff_ne] using hr) t

/-- **The concrete Polars interpretation agrees with the concrete Pandas interpretation outside the listed
deviations** (`ThetaPl` is `Theta` except on the argument constellations of `Prim/Polars.lean`; that it is what
Polars computes is the business of the correspondence suite `k6_polars`). -/
theorem C03_thetaPl_agrees (cfg : Pl.Cfg) (conv : RecMap → Table → Except Err Table) :
    PlAgree cfg (ThetaPl.concrete cfg conv) (Theta.concrete conv) :=
  ⟨thetaPl_scalar_agree cfg, thetaPl_agg_agree cfg,
   fun op _ cargs vs pos _ h => thetaPl_win_agree cfg op cargs vs pos h, fun _ _ => rfl⟩

/-- **C03 for the interpretations the driver runs** (`k6_polars` compares `semPl cfg (ThetaPl.concrete cfg ·)` with
the real Polars executor, `k4_sem` compares `sem (Theta.concrete ·) SemCfg.pandas` with the real Pandas executor). -/
theorem C03_polars_sound_concrete (cfg : Pl.Cfg) (conv : RecMap → Table → Except Err Table)
    (hC : ConvertOK (Theta.concrete conv)) (hCp : ConvertPermInvariant (Theta.concrete conv))
    (env : Env) (p : Ops) (t : Table)
    (h : semPl cfg (ThetaPl.concrete cfg conv) env p = .ok t)
    (hS : Scope (ThetaPl.concrete cfg conv) (Theta.concrete conv) env p)
    (hG : Pl.Guards cfg (Theta.concrete conv) env p) :
    ∃ t', sem (Theta.concrete conv) SemCfg.pandas env p = .ok t' ∧ t ≈ₚₗ t' :=
  C03_polars_sound_partial cfg _ _ (C03_thetaPl_agrees cfg conv) hC hCp env p t h hS hG

/-- **After the four fixes** (`Pl.Cfg.fixed`) the guards of D20, D21, D27, N6 and N12 can no longer be violated: what
remains are D18 (null join keys, a Pandas behaviour), N1 (three-valued logic), the empty ungrouped project,
`first`/`last` over a leading/trailing null, and the scope condition on `any_value`. -/
theorem C03_fixed_guards (Θ : Interp) (env : Env) (p : Ops) :
    (∀ g ∈ Pl.violations Pl.Cfg.fixed Θ env p, Pl.Remaining g) ∧ Pl.finalOrderViol Pl.Cfg.fixed Θ env p = [] := by
  constructor
  · induction p with
    | table _ _ => nofun
    | extend src ops part od rv w ih =>
      refine List.forall_mem_append.mpr ⟨ih, pl_onInput_forall fun t => ?_⟩
      cases w
      · exact extendPlainViol_fixed Θ ops t
      · exact extendWindowViol_fixed ops part od rv t
    | project src ops grp ih =>
      exact List.forall_mem_append.mpr ⟨ih, pl_onInput_forall (projectViol_fixed Θ ops grp)⟩
    | selectRows src e ih =>
      exact List.forall_mem_append.mpr ⟨ih, pl_onInput_forall (selectRowsViol_fixed Θ e)⟩
    | order src cs rv lim ih =>
      refine List.forall_mem_append.mpr ⟨ih, pl_onInput_forall fun t g hg => ?_⟩
      simp [Pl.orderViol, Pl.Cfg.fixed] at hg
    | selectCols src _ ih | dropCols src _ ih | rename src _ ih | mapCols src _ _ ih | convert src _ ih => exact ih
    | join a b oa ob jt iha ihb =>
      exact List.forall_mem_append.mpr ⟨List.forall_mem_append.mpr ⟨iha, ihb⟩,
        pl_onInput_forall fun ta => pl_onInput_forall (joinViol_fixed jt oa ob ta)⟩
    | concat a b _ _ _ iha ihb => exact List.forall_mem_append.mpr ⟨iha, ihb⟩
  · cases p <;> simp only [Pl.finalOrderViol]
    rename_i src cs rv lim
    cases sem Θ SemCfg.pandas env src <;> simp [Pl.onInput, Pl.Cfg.fixed]

/-! ## Non-vacuity and necessity of every guard

Each witness is a (pipeline, environment) on which the *unguarded* statement fails in the model: both executors
return, the tables differ, and exactly the named guard is violated (for `first` / `last` the guard is evaluated on the
values of the window, see `C03_firstLast_necessary`).  The same cases are `corpus/C03/*.json`; the
harness confirms on every run that the real Polars and Pandas executors behave as the model says. -/
namespace C03Ex

/-- the driver's interpretations, with record transforms switched off -/
def noConv : RecMap → Table → Except Err Table := fun _ _ => .error .other
def Θc : Interp := Theta.concrete noConv
def Θp (cfg : Pl.Cfg) : Interp := ThetaPl.concrete cfg noConv

theorem convOK : ConvertOK Θc := fun _ _ _ h => by cases h
theorem convPerm : ConvertPermInvariant Θc := fun _ _ _ _ => rfl

def N (q : Int) : Val := .num q
def S (s : String) : Val := .str s
def m1 (op c : String) : Term := .app op [.col c] false true

/-- the unguarded claim on one case -/
def Unguarded (cfg : Pl.Cfg) (env : Env) (p : Ops) : Prop :=
  ∀ t, semPl cfg (Θp cfg) env p = .ok t → ∃ t', sem Θc SemCfg.pandas env p = .ok t' ∧ t ≈ₚₗ t'

theorem EquivPl.trans_equiv {t t' t'' : Table} (h : t ≈ₚₗ t') (h' : t' ≈ t'') : t ≈ₚₗ t'' :=
  ⟨h.1.trans (List.Perm.of_eq h'.1), h.2.trans (h'.2.map _)⟩

theorem not_unguarded' {cfg : Pl.Cfg} {env : Env} {p : Ops} {tpl tpd : Table}
    (h1 : semPl cfg (Θp cfg) env p = .ok tpl) (h2 : ∃ t', sem Θc SemCfg.pandas env p = .ok t' ∧ t' ≈ tpd)
    (h3 : ¬ tpl ≈ₚₗ tpd) : ¬ Unguarded cfg env p := by
  intro h
  obtain ⟨t', ht', he⟩ := h tpl h1
  obtain ⟨t2, ht2, he2⟩ := h2
  rw [ht2] at ht'
  cases ht'
  exact h3 (EquivPl.trans_equiv he he2)

theorem not_unguarded {cfg : Pl.Cfg} {env : Env} {p : Ops} {tpl tpd : Table}
    (h1 : semPl cfg (Θp cfg) env p = .ok tpl) (h2 : sem Θc SemCfg.pandas env p = .ok tpd) (h3 : ¬ tpl ≈ₚₗ tpd) :
    ¬ Unguarded cfg env p :=
  not_unguarded' h1 ⟨tpd, h2, Table.Equiv.refl tpd⟩ h3

/-- the shape of most witnesses: both executors return, the tables differ, and exactly the guards `gs` are violated -/
theorem witness {cfg : Pl.Cfg} {env : Env} {p : Ops} {gs : List Pl.GuardId} (tpl tpd : Table)
    (h : semPl cfg (Θp cfg) env p = .ok tpl ∧ sem Θc SemCfg.pandas env p = .ok tpd ∧ ¬ tpl ≈ₚₗ tpd ∧
      Pl.violations cfg Θc env p = gs) :
    ¬ Unguarded cfg env p ∧ Pl.violations cfg Θc env p = gs :=
  ⟨not_unguarded h.1 h.2.1 h.2.2.1, h.2.2.2⟩

def exEnv : Env :=
  [("d", ⟨["g", "x"], [[("g", S "a"), ("x", N 1)], [("g", S "b"), ("x", .null)], [("g", S "a"), ("x", N 3)]]⟩),
   ("e", ⟨["g", "v"], [[("g", S "a"), ("v", N 10)], [("g", .null), ("v", .null)], [("g", S "a"), ("v", N 30)]]⟩)]
/-- `d.extend({'y': 'x.coalesce(0)'})` -/
def exA : Ops := .extend (.table "d" ["g", "x"]) [("y", .app "coalesce" [.col "x", .value (.int 0)] false true)] [] [] [] false
/-- `e.project({'n': '_size()'}, group_by=['g'])` (the null key forms a group on both executors) -/
def exB : Ops := .project (.table "e" ["g", "v"]) [("n", .app "_size" [] false true)] ["g"]
/-- `A.natural_join(B, on=['g'], jointype='left').order_rows(['y'], limit=2)` -/
def exP : Ops := .order (.join exA exB ["g"] ["g"] .left) ["y"] [] (some 2)

theorem size_orderFree (cfg : Pl.Cfg) : AggOrderFree (Θp cfg) "_size" := by
  have key : ∀ vs, (Θp cfg).agg "_size" vs = .num vs.length := fun _ => rfl
  intro vs vs' h
  rw [key, key, h.length_eq]

theorem exJoinOK : JoinOK ["g"] ["g"] exA.cols exB.cols (Ops.join exA exB ["g"] ["g"] .left).cols := by
  refine ⟨by decide +kernel, by decide +kernel, rfl, by decide +kernel, by decide +kernel, ?_, by decide +kernel,
    by decide +kernel⟩
  intro o ho
  cases (by simpa using ho : o = "g")
  decide +kernel

def exJoined : Table :=
  ⟨["g", "x", "y", "n"],
   [[("g", S "a"), ("x", N 1), ("y", N 1), ("n", N 2)], [("g", S "a"), ("x", N 3), ("y", N 3), ("n", N 2)],
    [("g", S "b"), ("x", .null), ("y", N 0), ("n", .null)]]⟩

theorem exJoin_pd : sem Θc SemCfg.pandas exEnv (.join exA exB ["g"] ["g"] .left) = .ok exJoined := by
  decide +kernel
theorem exJoin_pl_orig : semPl Pl.Cfg.orig (Θp Pl.Cfg.orig) exEnv (.join exA exB ["g"] ["g"] .left) = .ok exJoined := by
  decide +kernel
theorem exJoin_pl_fixed : semPl Pl.Cfg.fixed (Θp Pl.Cfg.fixed) exEnv (.join exA exB ["g"] ["g"] .left) = .ok exJoined := by
  decide +kernel

theorem exScope (cfg : Pl.Cfg) : Scope (Θp cfg) Θc exEnv exP := by
  refine ⟨⟨⟨trivial, fun h => by cases h⟩, ⟨trivial, ?_⟩, exJoinOK⟩, ?_⟩
  · intro kv hkv
    cases List.mem_singleton.mp hkv
    exact size_orderFree cfg
  · intro n _ t ht
    rw [exJoin_pd] at ht
    cases ht
    exact Or.inl (by decide +kernel)

theorem exGuards_orig : Pl.Guards Pl.Cfg.orig Θc exEnv exP := by decide +kernel
theorem exGuards_fixed : Pl.Guards Pl.Cfg.fixed Θc exEnv exP := by decide +kernel

theorem exMain (cfg : Pl.Cfg) (hj : semPl cfg (Θp cfg) exEnv (.join exA exB ["g"] ["g"] .left) = .ok exJoined)
    (hg : Pl.Guards cfg Θc exEnv exP) :
    ∃ t t', semPl cfg (Θp cfg) exEnv exP = .ok t ∧ sem Θc SemCfg.pandas exEnv exP = .ok t' ∧
      t ≈ₚₗ t' ∧ t'.rows.length = 2 := by
  have h1 : semPl cfg (Θp cfg) exEnv exP = .ok (Pl.sortHead cfg.nullsLast ["y"] [] (some 2) exJoined) := by
    rw [exP, semPl, hj]; rfl
  obtain ⟨t', h2, h3⟩ := C03_polars_sound_concrete cfg noConv convOK convPerm exEnv exP _ h1 (exScope cfg) hg
  refine ⟨_, t', h1, h2, h3, ?_⟩
  replace h2 : sem Θc SemCfg.pandas exEnv exP = .ok t' := h2
  rw [exP, sem, exJoin_pd] at h2
  cases h2
  -- the first two of three sorted rows
  simp only [semOrder, List.length_take, DAVerif.sortRows, List.length_mergeSort]
  rfl

example : ∃ t t', semPl Pl.Cfg.orig (Θp Pl.Cfg.orig) exEnv exP = .ok t ∧ sem Θc SemCfg.pandas exEnv exP = .ok t' ∧
    t ≈ₚₗ t' ∧ t'.rows.length = 2 := exMain _ exJoin_pl_orig exGuards_orig

example : ∃ t t', semPl Pl.Cfg.fixed (Θp Pl.Cfg.fixed) exEnv exP = .ok t ∧ sem Θc SemCfg.pandas exEnv exP = .ok t' ∧
    t ≈ₚₗ t' ∧ t'.rows.length = 2 := exMain _ exJoin_pl_fixed exGuards_fixed

/-! ### D27 `maximum` / `minimum` ignore nulls (code before the fix) -/
def d27env : Env := [("d", ⟨["j", "k"], [[("j", N 1), ("k", .null)]]⟩)]
def d27 : Ops := .extend (.table "d" ["j", "k"]) [("m", .app "minimum" [.col "j", .col "k"] false true)] [] [] [] false

/-- `j.minimum(k)` with `k` null: Polars 1, Pandas null; the only guard violated is `maxNull` -/
theorem _root_.DAVerif.C03_D27_necessary :
    ¬ Unguarded Pl.Cfg.orig d27env d27 ∧ Pl.violations Pl.Cfg.orig Θc d27env d27 = [.maxNull] :=
  witness ⟨["j", "k", "m"], [[("j", N 1), ("k", .null), ("m", N 1)]]⟩
    ⟨["j", "k", "m"], [[("j", N 1), ("k", .null), ("m", .null)]]⟩ (by decide +kernel)

/-- after the fix the same case is inside the guards and both executors agree -/
example : Pl.Guards Pl.Cfg.fixed Θc d27env d27 ∧
    semPl Pl.Cfg.fixed (Θp Pl.Cfg.fixed) d27env d27 = sem Θc SemCfg.pandas d27env d27 := by decide +kernel

/-! ### D20 full join without key coalescing (before the fix) -/
def d20env : Env := [("d", ⟨["k", "a"], [[("k", N 1), ("a", N 1)]]⟩), ("e", ⟨["k", "b"], [[("k", N 2), ("b", N 2)]]⟩)]
def d20 : Ops := .join (.table "d" ["k", "a"]) (.table "e" ["k", "b"]) ["k"] ["k"] .full

/-- `d(k=1) FULL JOIN e(k=2)`: the right-only row has `k = null` on Polars, `k = 2` on Pandas -/
theorem _root_.DAVerif.C03_D20_necessary :
    ¬ Unguarded Pl.Cfg.orig d20env d20 ∧ Pl.violations Pl.Cfg.orig Θc d20env d20 = [.fullJoinKeys] :=
  witness ⟨["k", "a", "b"], [[("k", N 1), ("a", N 1), ("b", .null)], [("k", .null), ("a", .null), ("b", N 2)]]⟩
    ⟨["k", "a", "b"], [[("k", N 1), ("a", N 1), ("b", .null)], [("k", N 2), ("a", .null), ("b", N 2)]]⟩
    (by decide +kernel)

example : Pl.Guards Pl.Cfg.fixed Θc d20env d20 ∧
    semPl Pl.Cfg.fixed (Θp Pl.Cfg.fixed) d20env d20 = sem Θc SemCfg.pandas d20env d20 := by decide +kernel

/-! ### D21 null placement of `order_rows` (before the fix): with a limit, and the final row order -/
def rn : Row := [("k", .null), ("i", N 2)]
def r1 : Row := [("k", N 1), ("i", N 1)]
def d21env : Env := [("d", ⟨["k", "i"], [rn, r1]⟩)]
def d21 : Ops := .order (.table "d" ["k", "i"]) ["k"] [] (some 1)
def d21f : Ops := .order (.table "d" ["k", "i"]) ["k"] [] none

/-- `mergeSort` does not reduce in the kernel: the two sorts are identified by sortedness -/
theorem d21_sort_pl : Pl.sortRows false ["k"] [] [rn, r1] = [rn, r1] := Pl.sortRows_of_sorted (by decide +kernel)
theorem d21_sort_pd : DAVerif.sortRows ["k"] [] [rn, r1] = [r1, rn] :=
  sortRows_eq_of_sorted_perm (by decide +kernel) (List.Perm.swap ..) (by decide +kernel)

theorem d21_pl (lim : Option Nat) : semPl Pl.Cfg.orig (Θp Pl.Cfg.orig) d21env (.order (.table "d" ["k", "i"]) ["k"] [] lim)
    = .ok ⟨["k", "i"], match lim with | none => [rn, r1] | some n => [rn, r1].take n⟩ := by
  rw [semPl, show semPl Pl.Cfg.orig (Θp Pl.Cfg.orig) d21env (.table "d" ["k", "i"]) = .ok ⟨["k", "i"], [rn, r1]⟩
    by decide +kernel]
  show Except.ok (Pl.sortHead false ["k"] [] lim ⟨["k", "i"], [rn, r1]⟩) = _
  simp only [Pl.sortHead, d21_sort_pl]
  cases lim <;> rfl

theorem d21_pd (lim : Option Nat) : sem Θc SemCfg.pandas d21env (.order (.table "d" ["k", "i"]) ["k"] [] lim)
    = .ok ⟨["k", "i"], match lim with | none => [r1, rn] | some n => [r1, rn].take n⟩ := by
  rw [sem, show sem Θc SemCfg.pandas d21env (.table "d" ["k", "i"]) = .ok ⟨["k", "i"], [rn, r1]⟩ by decide +kernel]
  show Except.ok (semOrder ["k"] [] lim ⟨["k", "i"], [rn, r1]⟩) = _
  simp only [semOrder, d21_sort_pd]
  cases lim <;> rfl

/-- `order_rows(['k'], limit=1)` with one null `k`: Polars keeps the null row (nulls first), Pandas the other -/
theorem _root_.DAVerif.C03_D21_necessary :
    ¬ Unguarded Pl.Cfg.orig d21env d21 ∧ Pl.violations Pl.Cfg.orig Θc d21env d21 = [.orderNullLimit] :=
  ⟨not_unguarded (d21_pl (some 1)) (d21_pd (some 1)) (by decide +kernel), by decide +kernel⟩

/-- without a limit the multisets agree (no guard of the multiset claim is violated) but the row *order* of the
final `order_rows` differs: the extra guard of `C03_final_order` is necessary -/
theorem _root_.DAVerif.C03_D21_final_necessary :
    Pl.Guards Pl.Cfg.orig Θc d21env d21f ∧ Pl.finalOrderViol Pl.Cfg.orig Θc d21env d21f = [.orderNullFinal] ∧
    (∃ t t', semPl Pl.Cfg.orig (Θp Pl.Cfg.orig) d21env d21f = .ok t ∧ sem Θc SemCfg.pandas d21env d21f = .ok t' ∧
      t ≈ₚₗ t' ∧ t.rows ≠ t'.rows) :=
  ⟨by decide +kernel, by decide +kernel, _, _, d21_pl none, d21_pd none, by decide +kernel, by decide +kernel⟩

/-! ### N1 three-valued logic -/
def n1env : Env := [("d", ⟨["x"], [[("x", .null)], [("x", N 2)]]⟩)]
def n1 : Ops := .extend (.table "d" ["x"]) [("c", .app ">" [.col "x", .value (.int 1)] true false)] [] [] [] false

/-- `x > 1` with `x` null: Polars null, Pandas `False` (also after the fixes) -/
theorem _root_.DAVerif.C03_N1_necessary :
    ¬ Unguarded Pl.Cfg.fixed n1env n1 ∧ Pl.violations Pl.Cfg.fixed Θc n1env n1 = [.nullCompare] :=
  witness ⟨["x", "c"], [[("x", .null), ("c", .null)], [("x", N 2), ("c", .bool true)]]⟩
    ⟨["x", "c"], [[("x", .null), ("c", .bool false)], [("x", N 2), ("c", .bool true)]]⟩ (by decide +kernel)

/-! ### N6 `nunique` counts null (before the fix) -/
def n6env : Env := [("d", ⟨["g", "x"], [[("g", S "a"), ("x", .null)], [("g", S "a"), ("x", N 1)]]⟩)]
def n6 : Ops := .project (.table "d" ["g", "x"]) [("n", m1 "nunique" "x")] ["g"]

theorem _root_.DAVerif.C03_N6_necessary :
    ¬ Unguarded Pl.Cfg.orig n6env n6 ∧ Pl.violations Pl.Cfg.orig Θc n6env n6 = [.nuniqueNull] :=
  witness ⟨["g", "n"], [[("g", S "a"), ("n", N 2)]]⟩
    ⟨["g", "n"], [[("g", S "a"), ("n", N 1)]]⟩ (by decide +kernel)

/-! ### N12 null placement of the window order (before the fix) -/
def wn : Row := [("o", .null), ("x", N 1)]
def w1 : Row := [("o", N 1), ("x", N 2)]
def n12env : Env := [("d", ⟨["o", "x"], [wn, w1]⟩)]
def n12ops : Assign := [("s", .app "shift" [.col "x", .value (.int 1)] false true)]
def n12 : Ops := .extend (.table "d" ["o", "x"]) n12ops [] ["o"] [] true

theorem n12_pl : semPl Pl.Cfg.orig (Θp Pl.Cfg.orig) n12env n12 =
    .ok ⟨["o", "x", "s"], [[("o", .null), ("x", N 1), ("s", .null)], [("o", N 1), ("x", N 2), ("s", N 1)]]⟩ := by
  rw [n12, semPl_extend_window_of_ok (t := ⟨["o", "x"], [wn, w1]⟩) (by decide +kernel) (by decide +kernel),
    semExtendWindowPl_of_sorted _ _ _ _ _ _ _ (by decide +kernel)]
  decide +kernel

/-- Pandas sorts the window as `[w1, wn]` (nulls last) -/
theorem n12_pd : ∃ t', sem Θc SemCfg.pandas n12env n12 = .ok t' ∧ t' ≈
    ⟨["o", "x", "s"], [[("o", N 1), ("x", N 2), ("s", .null)], [("o", .null), ("x", N 1), ("s", N 2)]]⟩ := by
  refine ⟨_, Pl.sem_extend_window_of_ok (t := ⟨["o", "x"], [wn, w1]⟩) (by decide +kernel), ?_⟩
  have he : (⟨["o", "x"], [wn, w1]⟩ : Table) ≈ ⟨["o", "x"], [w1, wn]⟩ := ⟨rfl, List.Perm.swap ..⟩
  refine (semExtendWindow_equiv Θc n12ops [] ["o"] [] he _ (Or.inl (by decide +kernel))).trans ?_
  rw [semExtendWindow_of_sorted _ _ _ _ _ _ _ (by decide +kernel)]
  exact Table.Equiv.of_eq (by decide +kernel)

theorem _root_.DAVerif.C03_N12_necessary :
    ¬ Unguarded Pl.Cfg.orig n12env n12 ∧ Pl.violations Pl.Cfg.orig Θc n12env n12 = [.windowOrderNull] :=
  ⟨not_unguarded' n12_pl n12_pd (by decide +kernel), by decide +kernel⟩

/-! ### ungrouped project over an empty input -/
def epenv : Env := [("d", ⟨["x"], []⟩)]
def ep : Ops := .project (.table "d" ["x"]) [("s", m1 "sum" "x")] []

/-- `project({'s': 'x.sum()'})` over an empty table: Polars one all-null row, Pandas `0` (a difference C01's text
accepts for `sum`/`count`; the guard also covers `nunique`, `any`, `all`, where it is a plain deviation) -/
theorem _root_.DAVerif.C03_emptyProject_necessary :
    ¬ Unguarded Pl.Cfg.fixed epenv ep ∧ Pl.violations Pl.Cfg.fixed Θc epenv ep = [.emptyProject] :=
  witness ⟨["s"], [[("s", .null)]]⟩
    ⟨["s"], [[("s", N 0)]]⟩ (by decide +kernel)

/-! ### `first` / `last` keep a null -/
def f1 : Row := [("g", S "a"), ("o", N 1), ("x", .null)]
def f2 : Row := [("g", S "a"), ("o", N 2), ("x", N 5)]
def flenv : Env := [("d", ⟨["g", "o", "x"], [f1, f2]⟩)]
def flops : Assign := [("f", m1 "first" "x")]
def fl : Ops := .extend (.table "d" ["g", "o", "x"]) flops ["g"] ["o"] [] true

theorem fl_pl : semPl Pl.Cfg.fixed (Θp Pl.Cfg.fixed) flenv fl =
    .ok ⟨["g", "o", "x", "f"], [[("g", S "a"), ("o", N 1), ("x", .null), ("f", .null)],
                                [("g", S "a"), ("o", N 2), ("x", N 5), ("f", .null)]]⟩ := by
  rw [fl, semPl_extend_window_of_ok (t := ⟨["g", "o", "x"], [f1, f2]⟩) (by decide +kernel) (by decide +kernel),
    semExtendWindowPl_of_sorted _ _ _ _ _ _ _ (by decide +kernel)]
  decide +kernel

theorem fl_pd : sem Θc SemCfg.pandas flenv fl =
    .ok ⟨["g", "o", "x", "f"], [[("g", S "a"), ("o", N 1), ("x", .null), ("f", N 5)],
                                [("g", S "a"), ("o", N 2), ("x", N 5), ("f", N 5)]]⟩ := by
  rw [fl, Pl.sem_extend_window_of_ok (t := ⟨["g", "o", "x"], [f1, f2]⟩) (by decide +kernel),
    semExtendWindow_of_sorted _ _ _ _ _ _ _ (by decide +kernel)]
  decide +kernel

/-- `x.first()` over a window whose first cell is null: Polars null, Pandas the first non-null value; the window's
values `[null, 5]` are exactly what the guard `firstLastNull` describes.  Unlike the other witnesses the second conjunct
is the guard on the window's values, not `Pl.violations … fl = [.firstLastNull]`: `Pl.violations` reads these values
through `Pl.windowOf`, i.e. through `sortRows` (a `mergeSort`, which the kernel does not evaluate: see `d21_sort_pl`),
and `firstDev` needs them. -/
theorem _root_.DAVerif.C03_firstLast_necessary :
    ¬ Unguarded Pl.Cfg.fixed flenv fl ∧ Pl.aggViol Pl.Cfg.fixed "first" [.null, N 5] = [.firstLastNull] :=
  ⟨not_unguarded fl_pl fl_pd (by decide +kernel), by decide +kernel⟩

/-! ### D18 null join keys (Pandas matches them, Polars does not) -/
def d18env : Env := [("d", ⟨["x", "v"], [[("x", .null), ("v", N 1)]]⟩)]
def d18 : Ops := .join (.table "d" ["x", "v"]) (.table "d" ["x", "v"]) ["x"] ["x"] .inner

theorem _root_.DAVerif.C03_D18_necessary :
    ¬ Unguarded Pl.Cfg.fixed d18env d18 ∧ Pl.violations Pl.Cfg.fixed Θc d18env d18 = [.nullKeys] :=
  witness ⟨["x", "v"], []⟩
    ⟨["x", "v"], [[("x", .null), ("v", N 1)]]⟩ (by decide +kernel)

/-! ### scope: `any_value` over values that are not constant -/
def avenv : Env := [("d", ⟨["g", "x"], [[("g", S "a"), ("x", N 2)], [("g", S "a"), ("x", N 1)]]⟩)]
def av : Ops := .project (.table "d" ["g", "x"]) [("v", m1 "any_value" "x")] ["g"]

theorem _root_.DAVerif.C03_anyValue_scope_necessary :
    ¬ Unguarded Pl.Cfg.fixed avenv av ∧ Pl.violations Pl.Cfg.fixed Θc avenv av = [.anyValueNonConst] :=
  witness ⟨["g", "v"], [[("g", S "a"), ("v", N 1)]]⟩
    ⟨["g", "v"], [[("g", S "a"), ("v", N 2)]]⟩ (by decide +kernel)

end C03Ex

end DAVerif
