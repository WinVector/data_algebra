import DAVerif.Proofs.SqlReach
import DAVerif.Proofs.SolRankSql
import DAVerif.Proofs.SolRepSql
import DAVerif.Proofs.SolLocfSql
import DAVerif.Proofs.SolSqlWitness
import DAVerif.Props.C21
/-!
# C21, SQL side — the helpers of `solutions.py` compute on SQLite what their documentation promises

`Props/C21.lean` is about the Pandas executor model (`sem`); this file is about the SQL the same pipelines are
translated to: `toNearSql cfg p = .ok q` (the model of `ops.to_sql(db_model)`, `Sql/ToNearSql.lean`) and
`semSql Θ ec env q` (the model of running the query, `Sql/Sem.lean`; `ec` = where the engine sorts NULL).  Every
statement holds for every dialect configuration `cfg` and both NULL placements `ec`; the `…_sqlite…` corollaries
instantiate `cfg := SqlCfg.sqlite`, `ec := EngineCfg.sqlite`, `Θ := thetaSqlSol`.

The translation theorems speak about one interpretation `Θ` on both sides, the theorems of `Props/C21.lean` about
`Theta.concrete`; so what the pipelines denote is proved for every interpretation that satisfies the few laws a helper
needs (`RankSem`, `LocfSem`, `PowerSem` / `LtSem`), and the laws are proved for the SQLite-side interpretations
(`C21_sql_interp_instances`).

The specification takes the row comparison as a parameter (the engines differ in where they sort missing values, the
documentation does not say).  On SQL that is `sqlRowLe ec` (SQLite: NULL first).
* Full statements (`C21_rank_to_average_sql`, `C21_locf_sql_partial`): the SQL computes `rankSpec` / `locfSpec` for the
  engine's own comparison, missing order keys and ties included.  They need stage A of the translation proof only
  (`semSql q` = `semE ec Θ SemCfg.ref env p`, no hypothesis on data) and what the pipelines denote under `semG le` for
  every total lexicographic preorder `le` (`CmpLex`).
* `last_observed_carried_forward` keeps the guard `G_part`, no `partition_by` cell is missing (finding
  `C21-locf-null-partition`): the helper joins on `partition_by ++ [rank]`, NULL keys never match in SQL, so the rows of
  a partition whose key is missing are left unfilled (`C21_locf_partition_null_necessary`).
* Same table as on Pandas (`…_pandas_order…`): under `G_order`, no `order_by` cell is missing, which is necessary
  (`C21_rank_order_null_necessary`, `C21_locf_order_null_necessary`: SQLite sorts NULL first; the real library on
  sqlite3 behaves like the model).  On null-free order keys the engine's comparison is the Pandas comparison
  (`sqlRowLe_eq_rowLe`), and the specifications read the comparison on the rows of the table only.
* `def_multi_column_map`: `convert_records` is outside every SQL fragment that has a translation theorem and
  `Sql/ToNearSql.lean` does not model its translation (`C21_multi_column_map_outside_sql`): nothing is proved about its
  SQL; it stays covered by the sampled suites only.
-/
namespace DAVerif
open DAVerif.Solutions DAVerif.Spec21 DAVerif.Sol DAVerif.Sql DAVerif.Sol21Sql
open DAVerif.Sol21Sql.Cmp (CmpLex cmpLex_rowLe cmpLex_sql)

theorem Table.EqS.equivS {t t' : Table} (h : t.EqS t') : t.EquivS t' := ⟨h.1, h.2 ▸ List.Perm.refl _⟩

/-- The laws the SQL-side theorems ask of an interpretation hold for the Pandas-side interpretation
`Theta.concrete cv` and for the two SQLite-side interpretations (`ThetaSql.concrete`; `thetaSqlSol` = the same with the
stand-ins for `log` / `as_int64` / `concat` that `replicate_rows_query` needs). -/
theorem C21_sql_interp_instances (cv : RecMap → Table → Except Err Table) :
    (RankSem (Theta.concrete cv) ∧ RankSem ThetaSql.concrete ∧ RankSem thetaSqlSol) ∧
    (LocfSem (Theta.concrete cv) ∧ LocfSem ThetaSql.concrete ∧ LocfSem thetaSqlSol) :=
  ⟨⟨rankSem_concrete cv, rankSem_sql, rankSem_sqlSol⟩, ⟨locfSem_concrete cv, locfSem_sql, locfSem_sqlSol⟩⟩

/-- **`to_sql` of the pipeline of `rank_to_average` does not fail** (every dialect configuration). -/
theorem C21_rank_to_average_to_sql_total (env : Env) (cfg : SqlCfg) {name : String} {cols orderBy : List String}
    {partitionBy : Option (List String)} {rankCol tbCol : String} {p : Ops} {t0 : Table}
    (hbuild : rankToAverage (.table name cols) orderBy partitionBy rankCol tbCol = .ok p)
    (henv : env.lookup name = some t0) (hsub : subset cols t0.cols = true) : ∃ q, toNearSql cfg p = .ok q := by
  have hr := rank_reachable hbuild
  obtain ⟨rfl, _⟩ := C21_rank_to_average_tree hbuild
  exact C01_to_sql_total ThetaSql.concrete EngineCfg.sqlite env cfg _ (rank_frag ..) (C26_reachable_wf hr)
    (C01_reachable_sqlwf hr) (rank_maps ..) (rank_envOK _ _ _ _ henv hsub)

/-- **The `semG` form: `rank_to_average` for every row comparison.**  For every comparison `le` that is a total
lexicographic preorder on the order columns (`CmpLex`: the Pandas comparison `rowLe`, the engines' `sqlRowLe ec`), every
interpretation with `RankSem`, both configurations: the pipeline evaluated with `le` in its window orderings (`semG le`)
yields the input rows in input order, each with the mean position of its tie group in the order `le order_by []`.
(`C21_rank_to_average` is the instance `le := rowLe`, `semG rowLe = sem`.) -/
theorem C21_rank_to_average_cmp (le : RowCmp) (hle : CmpLex le) (Θ : Interp) (hΘ : RankSem Θ) (cfg : SemCfg) (env : Env)
    {name : String} {cols orderBy : List String} {partitionBy : Option (List String)} {rankCol tbCol : String}
    {p : Ops} {t0 : Table}
    (hbuild : rankToAverage (.table name cols) orderBy partitionBy rankCol tbCol = .ok p)
    (henv : env.lookup name = some t0) (hsub : subset cols t0.cols = true) :
    semG le Θ cfg env p = .ok (rankSpec (le orderBy []) (partitionBy.getD []) rankCol (t0.selectCols cols)) := by
  obtain ⟨rfl, hok⟩ := C21_rank_to_average_tree hbuild
  exact Cmp.semG_rankTree hle hΘ cfg env (.table name cols) (t0.selectCols cols) hok (Cmp.semG_table henv hsub)
    (Table.wf_selectCols _ _)

/-- **The Pandas-side theorem for every interpretation with `RankSem`** (`C21_rank_to_average` is the instance
`Theta.concrete cv`): both configurations of `sem`. -/
theorem C21_rank_to_average_interp (Θ : Interp) (hΘ : RankSem Θ) (cfg : SemCfg) (env : Env)
    {name : String} {cols orderBy : List String} {partitionBy : Option (List String)} {rankCol tbCol : String}
    {p : Ops} {t0 : Table}
    (hbuild : rankToAverage (.table name cols) orderBy partitionBy rankCol tbCol = .ok p)
    (henv : env.lookup name = some t0) (hsub : subset cols t0.cols = true) :
    sem Θ cfg env p = .ok (rankSpec (rowLe orderBy []) (partitionBy.getD []) rankCol (t0.selectCols cols)) := by
  rw [← semG_rowLe]
  exact C21_rank_to_average_cmp rowLe cmpLex_rowLe Θ hΘ cfg env hbuild henv hsub

/-- **rank_to_average on SQL computes the mean position of each row's tie group – full statement.**  For every table
description, every parameter choice the helper accepts, every environment holding the table (any data: ties, partitions,
missing partition keys, **missing order keys**), every interpretation with `RankSem`, both NULL placements, every
dialect configuration: the query `to_sql` produces evaluates; its result has the column set `table columns + rank
column`; and, read through that column list, its rows are **exactly, in input order**, the input rows each extended by
`tieGroupMeanRank` of its tie group **in the engine's order of `order_by`** (`sqlRowLe ec`: ascending, NULL first on
SQLite, last on PostgreSQL). -/
theorem C21_rank_to_average_sql (Θ : Interp) (hΘ : RankSem Θ) (ec : EngineCfg) (env : Env) (cfg : SqlCfg)
    {name : String} {cols orderBy : List String} {partitionBy : Option (List String)} {rankCol tbCol : String}
    {p : Ops} {t0 : Table} {q : Near}
    (hbuild : rankToAverage (.table name cols) orderBy partitionBy rankCol tbCol = .ok p)
    (henv : env.lookup name = some t0) (hsub : subset cols t0.cols = true) (hq : toNearSql cfg p = .ok q) :
    ∃ T, semSql Θ ec env q = .ok T ∧
      T.EqS (rankSpec (sqlRowLe ec orderBy []) (partitionBy.getD []) rankCol (t0.selectCols cols)) := by
  -- stage A of the translation (no hypothesis on data), then `C21_rank_to_average_cmp` at the engine's comparison
  have hr := rank_reachable hbuild
  obtain ⟨rfl, _⟩ := C21_rank_to_average_tree hbuild
  obtain ⟨T, tp, h1, h2, h3, h4, h5⟩ := C01_translation_engine_order_merges Θ ec env cfg _ (rank_frag ..)
    (C26_reachable_wf hr) (C01_reachable_sqlwf hr) (rank_maps ..) (rank_envOK _ _ _ _ henv hsub) hq
  have h2' : semG (sqlRowLe ec) Θ SemCfg.ref env _ = .ok tp := h2
  rw [C21_rank_to_average_cmp _ (cmpLex_sql ec) Θ hΘ SemCfg.ref env hbuild henv hsub] at h2'
  cases h2'
  refine ⟨T, h1, fun c => by rw [h4 c, ← h3], ?_⟩
  show T.rows.map (fun r => r.select (cols ++ [rankCol])) = _
  rw [show cols ++ [rankCol] = _ from h3, h5]

/-- the SQLite instance of the full statement, up to row and column order: `SqlCfg.sqlite` (extend merges on), SQLite's
NULL placement, the SQLite-side interpretation of the function symbols; with `C21_rank_to_average_to_sql_total` the query
exists -/
theorem C21_rank_to_average_sqlite (env : Env)
    {name : String} {cols orderBy : List String} {partitionBy : Option (List String)} {rankCol tbCol : String}
    {p : Ops} {t0 : Table}
    (hbuild : rankToAverage (.table name cols) orderBy partitionBy rankCol tbCol = .ok p)
    (henv : env.lookup name = some t0) (hsub : subset cols t0.cols = true) :
    ∃ q T, toNearSql SqlCfg.sqlite p = .ok q ∧ semSql thetaSqlSol EngineCfg.sqlite env q = .ok T ∧
      T.EquivS (rankSpec (sqlRowLe EngineCfg.sqlite orderBy []) (partitionBy.getD []) rankCol (t0.selectCols cols)) := by
  obtain ⟨q, hq⟩ := C21_rank_to_average_to_sql_total env SqlCfg.sqlite hbuild henv hsub
  obtain ⟨T, h1, h2⟩ := C21_rank_to_average_sql thetaSqlSol rankSem_sqlSol EngineCfg.sqlite env SqlCfg.sqlite
    hbuild henv hsub hq
  exact ⟨q, T, hq, h1, h2.equivS⟩

/-- **The SQL result is the table the Pandas-side theorem names** (guard `G_order`: no `order_by`
cell of the input table is missing).  For every table description, every parameter choice the helper accepts, every
environment holding the table, every interpretation with `RankSem`, both NULL placements, every dialect configuration:
the query `to_sql` produces evaluates; its result has the column set `table columns + rank column`; and, read through
that column list, its rows are **exactly, in input order**, the input rows each extended by `tieGroupMeanRank` of its
tie group (ties of `order_by`, partitions, missing partition keys all included).

(On null-free order keys the engine's comparison is the Pandas comparison; `C21_rank_order_null_necessary`: the guard
is needed for *this* comparison.  The statement without guard is `C21_rank_to_average_sql`.) -/
theorem C21_rank_to_average_sql_pandas_order (Θ : Interp) (hΘ : RankSem Θ) (ec : EngineCfg) (env : Env) (cfg : SqlCfg)
    {name : String} {cols orderBy : List String} {partitionBy : Option (List String)} {rankCol tbCol : String}
    {p : Ops} {t0 : Table} {q : Near}
    (hbuild : rankToAverage (.table name cols) orderBy partitionBy rankCol tbCol = .ok p)
    (henv : env.lookup name = some t0) (hsub : subset cols t0.cols = true)
    (G_order : NullFreeOn orderBy t0.rows) (hq : toNearSql cfg p = .ok q) :
    ∃ T, semSql Θ ec env q = .ok T ∧
      T.EqS (rankSpec (rowLe orderBy []) (partitionBy.getD []) rankCol (t0.selectCols cols)) := by
  obtain ⟨T, h1, h2⟩ := C21_rank_to_average_sql Θ hΘ ec env cfg hbuild henv hsub hq
  have G := nullFreeOn_selectCols (C21_rank_to_average_tree hbuild).2.order_sub G_order
  rw [rankSpec_congr _ _ _ fun a ha b hb => sqlRowLe_eq_rowLe ec (G a ha) (G b hb)] at h2
  exact ⟨T, h1, h2⟩

/-- the SQLite instance: the SQLite dialect configuration (extend merges on), SQLite's NULL placement, the
SQLite-side interpretation of the function symbols; up to row and column order -/
theorem C21_rank_to_average_sqlite_pandas_order (env : Env)
    {name : String} {cols orderBy : List String} {partitionBy : Option (List String)} {rankCol tbCol : String}
    {p : Ops} {t0 : Table} {q : Near}
    (hbuild : rankToAverage (.table name cols) orderBy partitionBy rankCol tbCol = .ok p)
    (henv : env.lookup name = some t0) (hsub : subset cols t0.cols = true)
    (G_order : NullFreeOn orderBy t0.rows) (hq : toNearSql SqlCfg.sqlite p = .ok q) :
    ∃ T, semSql thetaSqlSol EngineCfg.sqlite env q = .ok T ∧
      T.EquivS (rankSpec (rowLe orderBy []) (partitionBy.getD []) rankCol (t0.selectCols cols)) := by
  obtain ⟨T, h1, h2⟩ := C21_rank_to_average_sql_pandas_order thetaSqlSol rankSem_sqlSol EngineCfg.sqlite env SqlCfg.sqlite
    hbuild henv hsub G_order hq
  exact ⟨T, h1, h2.equivS⟩

/-- **The `semG` form: `last_observed_carried_forward` for every row comparison** (Pandas join configuration; every
`CmpLex` comparison, every interpretation with `LocfSem`).  The tie-breaking numbers `tb` are only claimed to exist here
(they are `Cmp.rk1G le (partition_by + order_by)` of the input rows, the helper's `_row_number()`); that they are pairwise
different and increase along `partition_by + order_by` is `Cmp.rk1_inj` / `Cmp.rk1_lt`, stated with the result in `C21_locf`
and `C21_locf_sql_partial`.  At `le := rowLe`,
`Θ := Theta.concrete cv` the evaluation and permutation conjuncts are those of `C21_locf` (`semG rowLe = sem`). -/
theorem C21_locf_cmp (le : RowCmp) (hle : CmpLex le) (Θ : Interp) (hΘ : LocfSem Θ) (env : Env)
    {name : String} {cols orderBy : List String} {partitionBy : Option (List String)}
    {valueCol useCol rankCol tbCol : String} {p : Ops} {t0 : Table}
    (hbuild : lastObservedCarriedForward (.table name cols) orderBy partitionBy valueCol useCol rankCol tbCol = .ok p)
    (hob : ∀ c ∈ orderBy, c ∈ cols) (hpb : ∀ c ∈ partitionBy.getD [], c ∈ cols)
    (henv : env.lookup name = some t0) (hsub : subset cols t0.cols = true) :
    ∃ (tb : Nat → Nat) (t : Table), semG le Θ SemCfg.pandas env p = .ok t ∧ t.cols = cols ∧
      t.rows.Perm (locfSpec (le orderBy []) tb (partitionBy.getD []) valueCol (t0.selectCols cols).rows) := by
  obtain ⟨rfl, hok⟩ := C21_locf_tree hbuild
  obtain ⟨rows, h, hp⟩ := Cmp.sem_locfTree hle ⟨hok, hob, hpb⟩ hΘ (Ev.table henv hsub) (Table.wf_selectCols _ _)
  exact ⟨_, _, h.sem, rfl, hp⟩

/-- **The Pandas-side statement for every interpretation with `LocfSem`** (Pandas configuration of `sem`):
`C21_locf_cmp` at `le := rowLe`.  At `Θ := Theta.concrete cv` it is `C21_locf` without the two conjuncts about `tb`
(pairwise different, increasing along `partition_by + order_by`). -/
theorem C21_locf_interp (Θ : Interp) (hΘ : LocfSem Θ) (env : Env)
    {name : String} {cols orderBy : List String} {partitionBy : Option (List String)}
    {valueCol useCol rankCol tbCol : String} {p : Ops} {t0 : Table}
    (hbuild : lastObservedCarriedForward (.table name cols) orderBy partitionBy valueCol useCol rankCol tbCol = .ok p)
    (hob : ∀ c ∈ orderBy, c ∈ cols) (hpb : ∀ c ∈ partitionBy.getD [], c ∈ cols)
    (henv : env.lookup name = some t0) (hsub : subset cols t0.cols = true) :
    ∃ (tb : Nat → Nat) (t : Table), sem Θ SemCfg.pandas env p = .ok t ∧ t.cols = cols ∧
      t.rows.Perm (locfSpec (rowLe orderBy []) tb (partitionBy.getD []) valueCol (t0.selectCols cols).rows) := by
  obtain ⟨tb, t, h1, h2, h3⟩ := C21_locf_cmp rowLe cmpLex_rowLe Θ hΘ env hbuild hob hpb henv hsub
  exact ⟨tb, t, semG_rowLe Θ _ env p ▸ h1, h2, h3⟩

/-- **last_observed_carried_forward on SQL fills each missing value with the latest earlier non-missing value of its
partition – every order key** (guard `G_part`: no `partition_by` cell of the input table is missing; finding
`C21-locf-null-partition`, `C21_locf_partition_null_necessary`).  For every table description, every accepted parameter
choice with `order_by` / `partition_by` naming table columns, every environment holding the table (ties and **missing
order keys** included), every interpretation with `LocfSem`, both NULL placements, every dialect configuration: there
are tie-breaking numbers `tb` – pairwise different, increasing along `partition_by + order_by` in the engine's order –
such that the query `to_sql` produces evaluates to a table with the table's column set whose rows are, up to row order,
`locfSpec` **for the engine's order of `order_by`** (`sqlRowLe ec`): own value if present, otherwise the value of the
latest strictly earlier row of the partition, in the order (`order_by`, `tb`), whose value is present; missing if there
is none. -/
theorem C21_locf_sql_partial (Θ : Interp) (hΘ : LocfSem Θ) (ec : EngineCfg) (env : Env) (cfg : SqlCfg)
    {name : String} {cols orderBy : List String} {partitionBy : Option (List String)}
    {valueCol useCol rankCol tbCol : String} {p : Ops} {t0 : Table} {q : Near}
    (hbuild : lastObservedCarriedForward (.table name cols) orderBy partitionBy valueCol useCol rankCol tbCol = .ok p)
    (hob : ∀ c ∈ orderBy, c ∈ cols) (hpb : ∀ c ∈ partitionBy.getD [], c ∈ cols)
    (henv : env.lookup name = some t0) (hsub : subset cols t0.cols = true)
    (G_part : NullFreeOn (partitionBy.getD []) t0.rows) (hq : toNearSql cfg p = .ok q) :
    ∃ (tb : Nat → Nat) (T : Table),
      (∀ j k, j < (t0.selectCols cols).rows.length → k < (t0.selectCols cols).rows.length → tb j = tb k → j = k) ∧
      (∀ j k, j < (t0.selectCols cols).rows.length → k < (t0.selectCols cols).rows.length →
        strictlyBefore (sqlRowLe ec (partitionBy.getD [] ++ orderBy) []) ((t0.selectCols cols).rows.getD j [])
          ((t0.selectCols cols).rows.getD k []) = true → tb j < tb k) ∧
      semSql Θ ec env q = .ok T ∧
      T.EquivS ⟨cols, locfSpec (sqlRowLe ec orderBy []) tb (partitionBy.getD []) valueCol
        (t0.selectCols cols).rows⟩ := by
  -- stage A of the translation gives the reference configuration; under `G_part` it is the Pandas configuration
  -- (`semG_locfTree_ref`), whose table `Cmp.sem_locfTree` names
  have hr := locf_reachable hbuild
  obtain ⟨rfl, hok⟩ := C21_locf_tree hbuild
  have hc : LocfCtx cols orderBy (partitionBy.getD []) valueCol useCol rankCol tbCol := ⟨hok, hob, hpb⟩
  have hg := locf_good cfg hr henv hsub
  obtain ⟨T, tp, h1, h2, _, h4, h5⟩ := joins_engine_order_merges Θ ec env cfg _ hg (locf_noConcat ..) hq
  have h2' : semG (sqlRowLe ec) Θ SemCfg.ref env _ = .ok tp := h2
  rw [Cmp.semG_locfTree_ref (cmpLex_sql ec) hc hΘ (Ev.table henv hsub) (Ev.table henv hsub)
    (nullFreeOn_selectCols hpb G_part)] at h2'
  obtain ⟨rows, hev, hperm⟩ := Cmp.sem_locfTree (cmpLex_sql ec) hc hΘ (Ev.table henv hsub) (Table.wf_selectCols _ _)
  rw [hev.sem] at h2'
  cases h2'
  rw [hev.cols] at h4 h5
  have h5 : T.rows.map (fun r => r.select cols) = rows := h5
  refine ⟨_, T, fun j k hj hk h => Cmp.rk1_inj _ hj hk h, fun j k hj hk h => ?_, h1, h4, h5 ▸ hperm⟩
  simp only [strictlyBefore, Bool.and_eq_true, Bool.not_eq_true'] at h
  exact Cmp.rk1_lt _ (cmpLex_sql ec) hj hk h.2

/-- the SQLite instance, without the two conjuncts about `tb` -/
theorem C21_locf_sqlite_partial (env : Env)
    {name : String} {cols orderBy : List String} {partitionBy : Option (List String)}
    {valueCol useCol rankCol tbCol : String} {p : Ops} {t0 : Table} {q : Near}
    (hbuild : lastObservedCarriedForward (.table name cols) orderBy partitionBy valueCol useCol rankCol tbCol = .ok p)
    (hob : ∀ c ∈ orderBy, c ∈ cols) (hpb : ∀ c ∈ partitionBy.getD [], c ∈ cols)
    (henv : env.lookup name = some t0) (hsub : subset cols t0.cols = true)
    (G_part : NullFreeOn (partitionBy.getD []) t0.rows) (hq : toNearSql SqlCfg.sqlite p = .ok q) :
    ∃ (tb : Nat → Nat) (T : Table), semSql thetaSqlSol EngineCfg.sqlite env q = .ok T ∧
      T.EquivS ⟨cols, locfSpec (sqlRowLe EngineCfg.sqlite orderBy []) tb (partitionBy.getD []) valueCol
        (t0.selectCols cols).rows⟩ := by
  obtain ⟨tb, T, _, _, h1, h2⟩ := C21_locf_sql_partial thetaSqlSol locfSem_sqlSol EngineCfg.sqlite env SqlCfg.sqlite
    hbuild hob hpb henv hsub G_part hq
  exact ⟨tb, T, h1, h2⟩

/-- **The SQL result is the table the Pandas-side theorem names** (guards `G_part`, `G_order`: no `partition_by` and
no `order_by` cell of the input table is missing; `C21_locf_order_null_necessary`: `G_order` is needed for the Pandas
comparison `rowLe`; the statement without it, for the engine's comparison, is `C21_locf_sql_partial`).  For every table
description, every accepted parameter choice with `order_by` / `partition_by` naming table columns, every environment holding the table, every interpretation with `LocfSem`, both NULL placements, every dialect
configuration: there are tie-breaking numbers `tb` – pairwise different, increasing along `partition_by + order_by` –
such that the query `to_sql` produces evaluates to a table with the table's column set whose rows are, up to row order,
`locfSpec` (own value if present, otherwise the value of the latest strictly earlier row of the partition, in the order
(`order_by`, `tb`), whose value is present; missing if there is none). -/
theorem C21_locf_sql_pandas_order_partial (Θ : Interp) (hΘ : LocfSem Θ) (ec : EngineCfg) (env : Env) (cfg : SqlCfg)
    {name : String} {cols orderBy : List String} {partitionBy : Option (List String)}
    {valueCol useCol rankCol tbCol : String} {p : Ops} {t0 : Table} {q : Near}
    (hbuild : lastObservedCarriedForward (.table name cols) orderBy partitionBy valueCol useCol rankCol tbCol = .ok p)
    (hob : ∀ c ∈ orderBy, c ∈ cols) (hpb : ∀ c ∈ partitionBy.getD [], c ∈ cols)
    (henv : env.lookup name = some t0) (hsub : subset cols t0.cols = true)
    (G_part : NullFreeOn (partitionBy.getD []) t0.rows) (G_order : NullFreeOn orderBy t0.rows)
    (hq : toNearSql cfg p = .ok q) :
    ∃ (tb : Nat → Nat) (T : Table),
      (∀ j k, j < (t0.selectCols cols).rows.length → k < (t0.selectCols cols).rows.length → tb j = tb k → j = k) ∧
      (∀ j k, j < (t0.selectCols cols).rows.length → k < (t0.selectCols cols).rows.length →
        strictlyBefore (rowLe (partitionBy.getD [] ++ orderBy) []) ((t0.selectCols cols).rows.getD j [])
          ((t0.selectCols cols).rows.getD k []) = true → tb j < tb k) ∧
      semSql Θ ec env q = .ok T ∧
      T.EquivS ⟨cols, locfSpec (rowLe orderBy []) tb (partitionBy.getD []) valueCol (t0.selectCols cols).rows⟩ := by
  obtain ⟨tb, T, hinj, hmono, h1, h2⟩ := C21_locf_sql_partial Θ hΘ ec env cfg hbuild hob hpb henv hsub G_part hq
  have Go : NullFreeOn orderBy (t0.selectCols cols).rows := nullFreeOn_selectCols hob G_order
  have Gp : NullFreeOn (partitionBy.getD [] ++ orderBy) (t0.selectCols cols).rows :=
    nullFreeOn_append (nullFreeOn_selectCols hpb G_part) Go
  refine ⟨tb, T, hinj, fun j k hj hk h => hmono j k hj hk ?_, h1, ?_⟩
  · rwa [strictlyBefore, sqlRowLe_eq_rowLe ec (Gp _ (getD_mem hj)) (Gp _ (getD_mem hk)),
      sqlRowLe_eq_rowLe ec (Gp _ (getD_mem hk)) (Gp _ (getD_mem hj))]
  · rwa [locfSpec_congr tb _ _ _ fun a ha b hb => sqlRowLe_eq_rowLe ec (Go a ha) (Go b hb)] at h2

/-- the SQLite instance, without the two conjuncts about `tb` -/
theorem C21_locf_sqlite_pandas_order_partial (env : Env)
    {name : String} {cols orderBy : List String} {partitionBy : Option (List String)}
    {valueCol useCol rankCol tbCol : String} {p : Ops} {t0 : Table} {q : Near}
    (hbuild : lastObservedCarriedForward (.table name cols) orderBy partitionBy valueCol useCol rankCol tbCol = .ok p)
    (hob : ∀ c ∈ orderBy, c ∈ cols) (hpb : ∀ c ∈ partitionBy.getD [], c ∈ cols)
    (henv : env.lookup name = some t0) (hsub : subset cols t0.cols = true)
    (G_part : NullFreeOn (partitionBy.getD []) t0.rows) (G_order : NullFreeOn orderBy t0.rows)
    (hq : toNearSql SqlCfg.sqlite p = .ok q) :
    ∃ (tb : Nat → Nat) (T : Table), semSql thetaSqlSol EngineCfg.sqlite env q = .ok T ∧
      T.EquivS ⟨cols, locfSpec (rowLe orderBy []) tb (partitionBy.getD []) valueCol (t0.selectCols cols).rows⟩ := by
  obtain ⟨tb, T, _, _, h1, h2⟩ := C21_locf_sql_pandas_order_partial thetaSqlSol locfSem_sqlSol EngineCfg.sqlite env SqlCfg.sqlite
    hbuild hob hpb henv hsub G_part G_order hq
  exact ⟨tb, T, h1, h2⟩

/-- **replicate_rows_query on SQL emits every row `count` times, numbered `0 … count-1`** – under the hypotheses of
the Pandas-side theorem `C21_replicate_partial` (`hlog`: the engine's `ceil(log(c)/log(2))` is the exact `⌈log₂ c⌉` on
`1 … max_count`; `PowerSem`, `LtSem`; counts in `1 … max_count`; the returned count frame stored under
`join_temp_name`).  Every dialect configuration, both NULL placements: the query `to_sql` produces evaluates; its result
has the columns `table columns + seq column`; read through that column list its rows are **exactly, in order**, those
of `replicateSpec`.  (The pipeline has no window and no `order_rows`: no guard on missing values is needed.) -/
theorem C21_replicate_sql_partial (Θ : Interp) (ec : EngineCfg) (env : Env) (cfg : SqlCfg) (powerOf : Nat → Nat)
    {name joinTemp countCol seqCol : String} {cols : List String} {maxCount : Nat} {p : Ops} {frame t0 : Table}
    {q : Near}
    (hlog : ∀ c, 1 ≤ c → c ≤ maxCount → powerOf c = clog2 c)
    (hpow : PowerSem Θ countCol powerOf maxCount) (hlt : LtSem Θ) (hcols : cols.Nodup)
    (hbuild : replicateRowsQuery powerOf (.table name cols) countCol seqCol joinTemp maxCount = .ok (p, frame))
    (henv : env.lookup name = some t0) (hsub : subset cols t0.cols = true)
    (hjt : env.lookup joinTemp = some frame)
    (hcounts : ∀ r ∈ t0.rows, ∃ c : Nat, r.get countCol = Val.num (c : Nat) ∧ 1 ≤ c ∧ c ≤ maxCount)
    (hq : toNearSql cfg p = .ok q) :
    ∃ T, semSql Θ ec env q = .ok T ∧ T.EqS (replicateSpec countCol seqCol (t0.selectCols cols)) := by
  have hr := rep_reachable hcols hbuild
  obtain ⟨_, rfl, rfl, hok, hmax⟩ := C21_replicate_tree hbuild
  have hok : RepOK cols countCol seqCol := hok
  obtain ⟨T, t, h1, h2, _, h4⟩ := translation_exact_joins_merges Θ ec env cfg _
    (rep_good cfg hr henv hsub hjt rfl) (rep_noConcat ..) (rep_ordersNullFree ..) hq
  rw [sem_repTree SemCfg.ref env name joinTemp t0 hok hcols hlt hpow hlog hmax henv hsub hjt hcounts] at h2
  cases h2
  exact ⟨T, h1, h4⟩

/-- the SQLite instance: `thetaSqlSol` evaluates the power expression with the exact `⌈log₂⌉`
(`C21_replicate_interp_instances`), so `hlog` holds for `powerOf := clog2` -/
theorem C21_replicate_sqlite_partial (env : Env)
    {name joinTemp countCol seqCol : String} {cols : List String} {maxCount : Nat} {p : Ops} {frame t0 : Table}
    {q : Near} (hcols : cols.Nodup)
    (hbuild : replicateRowsQuery clog2 (.table name cols) countCol seqCol joinTemp maxCount = .ok (p, frame))
    (henv : env.lookup name = some t0) (hsub : subset cols t0.cols = true)
    (hjt : env.lookup joinTemp = some frame)
    (hcounts : ∀ r ∈ t0.rows, ∃ c : Nat, r.get countCol = Val.num (c : Nat) ∧ 1 ≤ c ∧ c ≤ maxCount)
    (hq : toNearSql SqlCfg.sqlite p = .ok q) :
    ∃ T, semSql thetaSqlSol EngineCfg.sqlite env q = .ok T ∧
      T.EquivS (replicateSpec countCol seqCol (t0.selectCols cols)) := by
  obtain ⟨T, h1, h2⟩ := C21_replicate_sql_partial thetaSqlSol EngineCfg.sqlite env SqlCfg.sqlite clog2
    (fun _ _ _ => rfl) (thetaSqlSol_powerSem countCol maxCount) thetaSqlSol_ltSem hcols hbuild henv hsub hjt hcounts hq
  exact ⟨T, h1, h2.equivS⟩

/-- **`def_multi_column_map` is outside the SQL fragments.**  The pipeline it builds contains `convert_records`
(twice): it is not in `InFragJ`, the largest fragment with a translation theorem.  (`Sql/ToNearSql.lean` has no
translation of `convert_records` either – see the example below –, while the real library renders it as raw query
steps: nothing is claimed about the SQL of this helper.) -/
theorem C21_multi_column_map_outside_sql (d m : Ops) (keys cmap : List String) (nk vk mk : String) (cv : Option Lit)
    (back : Option (List String)) : InFragJ (mcmTree d m keys cmap nk vk mk cv back) = false := by
  cases back <;> rfl

/-! ## the guards are necessary: concrete counterexamples (confirmed on the real library with sqlite3)

What the SQL returns on the witnesses is computed through stage A of the translation proof (`Sol21Sql.sql_eval`,
`Proofs/SolSqlWitness.lean`) and the kernel-evaluable evaluator of `Proofs/SqlEvalI.lean`. -/

namespace C21SqlEx

/-- one present and one missing order key -/
def tN : Table := ⟨["x"], [[("x", .num 1)], [("x", .null)]]⟩
def envN : Env := [("d", tN)]

/-- a partition whose key is missing: `(NULL, 1, 5), (NULL, 2, –)`, and a partition `a` -/
def tP : Table :=
  ⟨["g", "o", "v"], [[("g", .null), ("o", .num 1), ("v", .num 5)], [("g", .null), ("o", .num 2), ("v", .null)],
    [("g", .str "a"), ("o", .num 1), ("v", .num 1)]]⟩
def envP : Env := [("d", tP)]

/-- a missing order key on the row that carries the value -/
def tO : Table := ⟨["o", "v"], [[("o", .null), ("v", .num 5)], [("o", .num 1), ("v", .null)]]⟩
def envO : Env := [("d", tO)]

def pN : Ops := rankTree (.table "d" ["x"]) ["x"] [] "rk" "rank_tie_breaker"
def pP : Ops := locfTree (.table "d" ["g", "o", "v"]) ["o"] ["g"] "v" "locf_to_use" "locf_non_null_rank" "locf_tiebreaker"
def pO : Ops := locfTree (.table "d" ["o", "v"]) ["o"] [] "v" "locf_to_use" "locf_non_null_rank" "locf_tiebreaker"

theorem pN_built : rankToAverage (.table "d" ["x"]) ["x"] none "rk" = .ok pN := rankToAverage_of_isOk (by decide +kernel)

theorem pP_built : lastObservedCarriedForward (.table "d" ["g", "o", "v"]) ["o"] (some ["g"]) "v" = .ok pP :=
  C21Ex.locf_built

theorem pO_built : lastObservedCarriedForward (.table "d" ["o", "v"]) ["o"] none "v" = .ok pO :=
  locf_of_isOk (by decide +kernel)

theorem not_equivS {T t' : Table} {L : List Row} (hT : T.rows.map (fun r => r.select t'.cols) = L)
    (hn : ¬ L.Perm t'.rows) : ¬ T.EquivS t' :=
  fun h => hn (hT ▸ h.2)

theorem pP_sql : ∃ q, toNearSql SqlCfg.sqlite pP = .ok q := exists_ok_of_isOk (by decide +kernel)

theorem pO_sql : ∃ q, toNearSql SqlCfg.sqlite pO = .ok q := exists_ok_of_isOk (by decide +kernel)

end C21SqlEx

open C21SqlEx in
/-- **`G_order` is necessary for `rank_to_average`.**  `x = [1, NULL]`, `order_by = [x]`: every other hypothesis of
`C21_rank_to_average_sql_pandas_order` holds; the SQL (SQLite configuration, SQLite's NULL placement) returns the ranks
`2, 1` – NULL sorts first –, the specification with the Pandas comparison names `1, 2`: the two tables differ even as
multisets of rows.  With the engine's own comparison `sqlRowLe EngineCfg.sqlite` the specification names exactly the
SQL result (the full statement, on this witness).  Real library on sqlite3: `rk = 2.0` for `x = 1`, `1.0` for NULL;
on Pandas `1.0`, `2.0`. -/
theorem C21_rank_order_null_necessary :
    ∃ p q T, rankToAverage (.table "d" ["x"]) ["x"] none "rk" = .ok p ∧
      envN.lookup "d" = some tN ∧ subset ["x"] tN.cols = true ∧ ¬ NullFreeOn ["x"] tN.rows ∧
      toNearSql SqlCfg.sqlite p = .ok q ∧ semSql thetaSqlSol EngineCfg.sqlite envN q = .ok T ∧
      T.rows.map (fun r => r.select ["x", "rk"])
        = [[("x", .num 1), ("rk", .num 2)], [("x", .null), ("rk", .num 1)]] ∧
      (rankSpec (rowLe ["x"] []) [] "rk" (tN.selectCols ["x"])).rows
        = [[("x", .num 1), ("rk", .num 1)], [("x", .null), ("rk", .num 2)]] ∧
      ¬ T.EquivS (rankSpec (rowLe ["x"] []) [] "rk" (tN.selectCols ["x"])) ∧
      T.EqS (rankSpec (sqlRowLe EngineCfg.sqlite ["x"] []) [] "rk" (tN.selectCols ["x"])) := by
  have henv : envN.lookup "d" = some tN := rfl
  have hsub : subset ["x"] tN.cols = true := rfl
  obtain ⟨q, hq⟩ := C21_rank_to_average_to_sql_total envN SqlCfg.sqlite pN_built henv hsub
  obtain ⟨T, h1, h2, h3⟩ := sql_eval (Θ := thetaSqlSol) (ec := EngineCfg.sqlite)
    (tp := ⟨["x", "rk"], [[("x", .num 1), ("rk", .num 2)], [("x", .null), ("rk", .num 1)]]⟩)
    (rank_good SqlCfg.sqlite (rank_reachable pN_built) henv hsub) (rank_noConcat ..) hq
    (by decide +kernel)
  have h3' : T.rows.map (fun r => r.select ["x", "rk"]) = _ := h3
  refine ⟨pN, q, T, pN_built, henv, hsub, by decide, hq, h1, h3', by decide +kernel,
    not_equivS h3' (by decide +kernel), h2, ?_⟩
  show T.rows.map (fun r => r.select ["x", "rk"]) = _
  rw [h3']
  decide +kernel

open C21SqlEx in
/-- **`G_part` is necessary for `last_observed_carried_forward`** (finding `C21-locf-null-partition`).  Rows
`(g, o, v) = (NULL, 1, 5), (NULL, 2, –), (a, 1, 1)`, `partition_by = [g]`, `order_by = [o]`: no order key is missing,
the SQL evaluates, and the second row keeps its missing value – the join on `g` never matches a NULL key – while the
specification (whatever the tie-breaking numbers: there is no tie; with the Pandas comparison and with SQLite's own –
no order key is missing, they agree) fills it with `5`.  Real library: sqlite3 returns `5, NaN, 1`; Pandas `5, 5, 1`. -/
theorem C21_locf_partition_null_necessary :
    ∃ p q T, lastObservedCarriedForward (.table "d" ["g", "o", "v"]) ["o"] (some ["g"]) "v" = .ok p ∧
      envP.lookup "d" = some tP ∧ subset ["g", "o", "v"] tP.cols = true ∧
      NullFreeOn ["o"] tP.rows ∧ ¬ NullFreeOn ["g"] tP.rows ∧
      toNearSql SqlCfg.sqlite p = .ok q ∧ semSql thetaSqlSol EngineCfg.sqlite envP q = .ok T ∧
      T.rows.map (fun r => r.select ["g", "o", "v"])
        = [[("g", .str "a"), ("o", .num 1), ("v", .num 1)], [("g", .null), ("o", .num 1), ("v", .num 5)],
           [("g", .null), ("o", .num 2), ("v", .null)]] ∧
      ∀ tb : Nat → Nat,
        locfSpec (rowLe ["o"] []) tb ["g"] "v" (tP.selectCols ["g", "o", "v"]).rows
          = [[("g", .null), ("o", .num 1), ("v", .num 5)], [("g", .null), ("o", .num 2), ("v", .num 5)],
             [("g", .str "a"), ("o", .num 1), ("v", .num 1)]] ∧
        ¬ T.EquivS ⟨["g", "o", "v"], locfSpec (rowLe ["o"] []) tb ["g"] "v" (tP.selectCols ["g", "o", "v"]).rows⟩ ∧
        ¬ T.EquivS ⟨["g", "o", "v"],
            locfSpec (sqlRowLe EngineCfg.sqlite ["o"] []) tb ["g"] "v" (tP.selectCols ["g", "o", "v"]).rows⟩ := by
  have henv : envP.lookup "d" = some tP := rfl
  have hsub : subset ["g", "o", "v"] tP.cols = true := rfl
  obtain ⟨q, hq⟩ := pP_sql
  obtain ⟨T, h1, _, h3⟩ := sql_eval (Θ := thetaSqlSol) (ec := EngineCfg.sqlite)
    (tp := ⟨["g", "o", "v"], [[("g", .str "a"), ("o", .num 1), ("v", .num 1)],
      [("g", .null), ("o", .num 1), ("v", .num 5)], [("g", .null), ("o", .num 2), ("v", .null)]]⟩)
    (locf_good SqlCfg.sqlite (locf_reachable pP_built) henv hsub) (locf_noConcat ..) hq
    (by decide +kernel)
  have h3' : T.rows.map (fun r => r.select ["g", "o", "v"]) = _ := h3
  refine ⟨pP, q, T, pP_built, henv, hsub, by decide, by decide, hq, h1, h3', ?_⟩
  intro tb
  have hspec : locfSpec (rowLe ["o"] []) tb ["g"] "v" (tP.selectCols ["g", "o", "v"]).rows
      = [[("g", .null), ("o", .num 1), ("v", .num 5)], [("g", .null), ("o", .num 2), ("v", .num 5)],
         [("g", .str "a"), ("o", .num 1), ("v", .num 1)]] := rfl
  have hspec' : locfSpec (sqlRowLe EngineCfg.sqlite ["o"] []) tb ["g"] "v" (tP.selectCols ["g", "o", "v"]).rows
      = [[("g", .null), ("o", .num 1), ("v", .num 5)], [("g", .null), ("o", .num 2), ("v", .num 5)],
         [("g", .str "a"), ("o", .num 1), ("v", .num 1)]] := rfl
  exact ⟨hspec, not_equivS h3' (hspec ▸ by decide +kernel), not_equivS h3' (hspec' ▸ by decide +kernel)⟩

open C21SqlEx in
/-- **`G_order` is necessary for `last_observed_carried_forward`.**  Rows `(o, v) = (NULL, 5), (1, –)`, no partition:
with the Pandas comparison the row with the missing order key comes last, so `(1, –)` has no earlier value and the
specification leaves it missing; SQLite sorts NULL first and the SQL fills it with `5`.  Real library: sqlite3 returns
`5, 5`; Pandas `5, NaN`. -/
theorem C21_locf_order_null_necessary :
    ∃ p q T, lastObservedCarriedForward (.table "d" ["o", "v"]) ["o"] none "v" = .ok p ∧
      envO.lookup "d" = some tO ∧ subset ["o", "v"] tO.cols = true ∧
      NullFreeOn [] tO.rows ∧ ¬ NullFreeOn ["o"] tO.rows ∧
      toNearSql SqlCfg.sqlite p = .ok q ∧ semSql thetaSqlSol EngineCfg.sqlite envO q = .ok T ∧
      T.rows.map (fun r => r.select ["o", "v"]) = [[("o", .null), ("v", .num 5)], [("o", .num 1), ("v", .num 5)]] ∧
      ∀ tb : Nat → Nat,
        locfSpec (rowLe ["o"] []) tb [] "v" (tO.selectCols ["o", "v"]).rows
          = [[("o", .null), ("v", .num 5)], [("o", .num 1), ("v", .null)]] ∧
        ¬ T.EquivS ⟨["o", "v"], locfSpec (rowLe ["o"] []) tb [] "v" (tO.selectCols ["o", "v"]).rows⟩ := by
  have henv : envO.lookup "d" = some tO := rfl
  have hsub : subset ["o", "v"] tO.cols = true := rfl
  obtain ⟨q, hq⟩ := pO_sql
  obtain ⟨T, h1, _, h3⟩ := sql_eval (Θ := thetaSqlSol) (ec := EngineCfg.sqlite)
    (tp := ⟨["o", "v"], [[("o", .null), ("v", .num 5)], [("o", .num 1), ("v", .num 5)]]⟩)
    (locf_good SqlCfg.sqlite (locf_reachable pO_built) henv hsub) (locf_noConcat ..) hq
    (by decide +kernel)
  have h3' : T.rows.map (fun r => r.select ["o", "v"]) = _ := h3
  refine ⟨pO, q, T, pO_built, henv, hsub, by decide, by decide, hq, h1, h3', ?_⟩
  intro tb
  have hspec : locfSpec (rowLe ["o"] []) tb [] "v" (tO.selectCols ["o", "v"]).rows
      = [[("o", .null), ("v", .num 5)], [("o", .num 1), ("v", .null)]] := rfl
  exact ⟨hspec, not_equivS h3' (hspec ▸ by decide +kernel)⟩

namespace C21SqlEx
open C21Ex

/-- rank_to_average on the documentation's example with ties and two partitions (`C21Ex.tRank`): no order key is
missing, and the ranks of the specification are `1.5, 1.5, 3` and `1` (`C21Ex`) -/
example : ∃ q T, toNearSql SqlCfg.sqlite pRank = .ok q ∧ semSql thetaSqlSol EngineCfg.sqlite envRank q = .ok T ∧
    T.EquivS (rankSpec (rowLe ["x"] []) ["g"] "rk" (tRank.selectCols ["g", "x"])) ∧
    T.rows.map (fun r => (r.select ["g", "x", "rk"]).get "rk") = [.num (3/2), .num (3/2), .num 3, .num 1] := by
  have henv : envRank.lookup "d" = some tRank := by decide +kernel
  have hsub : subset ["g", "x"] tRank.cols = true := by decide +kernel
  obtain ⟨q, hq⟩ := C21_rank_to_average_to_sql_total envRank SqlCfg.sqlite pRank_built henv hsub
  obtain ⟨T, h1, h2⟩ := C21_rank_to_average_sql_pandas_order thetaSqlSol rankSem_sqlSol EngineCfg.sqlite envRank
    SqlCfg.sqlite pRank_built henv hsub (by decide) hq
  refine ⟨q, T, hq, h1, h2.equivS, ?_⟩
  have h5 : T.rows.map (fun r => r.select ["g", "x", "rk"])
      = (rankSpec (rowLe ["x"] []) ["g"] "rk" (tRank.selectCols ["g", "x"])).rows := h2.2
  have h6 : T.rows.map (fun r => (r.select ["g", "x", "rk"]).get "rk")
      = (rankSpec (rowLe ["x"] []) ["g"] "rk" (tRank.selectCols ["g", "x"])).rows.map (fun r => r.get "rk") := by
    rw [← h5, List.map_map]
    rfl
  rw [h6]
  decide +kernel

/-- the full statement on the witness with a missing order key (`x = [1, NULL]`): the theorem applies without any
guard, and the specification for SQLite's order names the ranks `2, 1` -/
example : ∃ q T, toNearSql SqlCfg.sqlite pN = .ok q ∧ semSql thetaSqlSol EngineCfg.sqlite envN q = .ok T ∧
    T.EquivS (rankSpec (sqlRowLe EngineCfg.sqlite ["x"] []) [] "rk" (tN.selectCols ["x"])) := by
  obtain ⟨q, T, h1, h2, h3⟩ := C21_rank_to_average_sqlite envN pN_built rfl rfl
  simp only [Option.getD_none] at h3
  exact ⟨q, T, h1, h2, h3⟩

example : (rankSpec (sqlRowLe EngineCfg.sqlite ["x"] []) [] "rk" (tN.selectCols ["x"])).rows.map (fun r => r.get "rk")
    = [.num 2, .num 1] := by decide +kernel

/-- the full statement of `last_observed_carried_forward` on the witness with a missing order key
(`(o, v) = (NULL, 5), (1, –)`, no partition: `G_part` holds trivially): in SQLite's order the row with the missing key
comes first and its value is carried forward -/
example : ∃ q tb T, toNearSql SqlCfg.sqlite pO = .ok q ∧ semSql thetaSqlSol EngineCfg.sqlite envO q = .ok T ∧
    T.EquivS ⟨["o", "v"], locfSpec (sqlRowLe EngineCfg.sqlite ["o"] []) tb [] "v" (tO.selectCols ["o", "v"]).rows⟩ := by
  obtain ⟨q, hq⟩ := pO_sql
  obtain ⟨tb, T, h1, h2⟩ := C21_locf_sqlite_partial envO pO_built (by decide) (by decide) rfl rfl (by decide) hq
  exact ⟨q, tb, T, hq, h1, h2⟩

example : ∀ tb : Nat → Nat,
    (locfSpec (sqlRowLe EngineCfg.sqlite ["o"] []) tb [] "v" (tO.selectCols ["o", "v"]).rows).map (fun r => r.get "v")
      = [.num 5, .num 5] := fun _ => rfl

/-- the three extends of `rank_to_average` are not merged (each reads what the previous one computes): three queries -/
example : (toNearSql SqlCfg.sqlite pRank).toOption.map Near.names = some ["extend_2", "extend_1", "extend_0"] := by
  decide +kernel

/-- last_observed_carried_forward on `C21Ex.tLocf` (two partitions; no missing partition or order key) -/
example : ∃ p q tb T, lastObservedCarriedForward (.table "d" ["g", "o", "v"]) ["o"] (some ["g"]) "v" = .ok p ∧
    toNearSql SqlCfg.sqlite p = .ok q ∧ semSql thetaSqlSol EngineCfg.sqlite envLocf q = .ok T ∧
    T.EquivS ⟨["g", "o", "v"], locfSpec (rowLe ["o"] []) tb ["g"] "v" (tLocf.selectCols ["g", "o", "v"]).rows⟩ := by
  obtain ⟨q, hq⟩ := pP_sql
  have henv : envLocf.lookup "d" = some tLocf := by decide +kernel
  have hsub : subset ["g", "o", "v"] tLocf.cols = true := by decide +kernel
  obtain ⟨tb, T, h1, h2⟩ := C21_locf_sqlite_pandas_order_partial envLocf pP_built (by decide) (by decide) henv hsub (by decide)
    (by decide) hq
  exact ⟨pP, q, tb, T, pP_built, hq, h1, h2⟩

/-- the marking steps 1 and 2 are merged by the translation (`_row_number()` does not read the flag), step 3 is not:
the SQL of `d_marked` has two extend queries, not three -/
example : (toNearSql SqlCfg.sqlite (locfMarked (.table "d" ["g", "o", "v"]) ["o"] ["g"] "v" "locf_to_use"
    "locf_non_null_rank" "locf_tiebreaker")).toOption.map Near.names = some ["extend_1", "extend_0"] := by
  decide +kernel

/-- what the SQL returns on `C21Ex.tLocf`: `5, 5` and `7, 7` carried forward, the leading missing value stays (rows
without an earlier value leave the LEFT join last) -/
example : ∃ q T, toNearSql SqlCfg.sqlite pP = .ok q ∧ semSql thetaSqlSol EngineCfg.sqlite envLocf q = .ok T ∧
    T.rows.map (fun r => r.select ["g", "o", "v"])
      = [[("g", .str "a"), ("o", .num 2), ("v", .num 5)], [("g", .str "a"), ("o", .num 3), ("v", .num 5)],
         [("g", .str "b"), ("o", .num 1), ("v", .num 7)], [("g", .str "b"), ("o", .num 2), ("v", .num 7)],
         [("g", .str "a"), ("o", .num 1), ("v", .null)]] := by
  obtain ⟨q, hq⟩ := pP_sql
  have henv : envLocf.lookup "d" = some tLocf := by decide +kernel
  have hsub : subset ["g", "o", "v"] tLocf.cols = true := by decide +kernel
  obtain ⟨T, h1, _, h3⟩ := sql_eval (Θ := thetaSqlSol) (ec := EngineCfg.sqlite)
    (tp := ⟨["g", "o", "v"], [[("g", .str "a"), ("o", .num 2), ("v", .num 5)],
      [("g", .str "a"), ("o", .num 3), ("v", .num 5)], [("g", .str "b"), ("o", .num 1), ("v", .num 7)],
      [("g", .str "b"), ("o", .num 2), ("v", .num 7)], [("g", .str "a"), ("o", .num 1), ("v", .null)]]⟩)
    (locf_good SqlCfg.sqlite (locf_reachable pP_built) henv hsub) (locf_noConcat ..) hq
    (by decide +kernel)
  exact ⟨q, T, hq, h1, h3⟩

example : ∃ p frame q T, replicateRowsQuery clog2 (.table "d" ["k", "n"]) "n" "i" "jt" 4 = .ok (p, frame) ∧
    toNearSql SqlCfg.sqlite p = .ok q ∧ semSql thetaSqlSol EngineCfg.sqlite envRep q = .ok T ∧
    T.EquivS (replicateSpec "n" "i" (tRep.selectCols ["k", "n"])) := by
  obtain ⟨⟨p, frame⟩, hb⟩ := rep_built
  obtain ⟨_, hp, hfr, _, _⟩ := C21_replicate_tree hb
  obtain ⟨q, hq⟩ := exists_ok_of_isOk (x := toNearSql SqlCfg.sqlite (repTree (.table "d" ["k", "n"]) "n" "i" "jt"))
    (by decide +kernel)
  rw [← hp] at hq
  obtain ⟨T, h1, h2⟩ := C21_replicate_sqlite_partial envRep (t0 := tRep) (by decide) hb rfl rfl
    (by rw [hfr]; rfl) tRep_counts hq
  exact ⟨p, frame, q, T, hb, hq, h1, h2⟩

example : (replicateSpec "n" "i" (tRep.selectCols ["k", "n"])).rows.map (fun r => (r.get "k", r.get "i"))
    = [(.str "a", .num 0), (.str "b", .num 0), (.str "b", .num 1), (.str "b", .num 2),
       (.str "c", .num 0), (.str "c", .num 1), (.str "c", .num 2), (.str "c", .num 3)] := by decide +kernel

example : (toNearSql SqlCfg.sqlite (mcmTree (.table "d" ["id", "a", "b"])
    (.table "m" ["column_name", "column_value", "mapped_value"]) ["id"] ["a", "b"] "column_name" "column_value"
    "mapped_value" (some (.int 0)) none)).isOk = false := by decide +kernel

end C21SqlEx

end DAVerif
