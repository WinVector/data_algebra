import DAVerif.Proofs.UsedTop
import DAVerif.Proofs.UsedDag
import DAVerif.Proofs.UsedReach
import DAVerif.Sem.Theta
import DAVerif.Sem.WindowTies
/-!
# C10 — Columns not reported as used never influence a pipeline's result

Model: `Ops.usedFromSources`, `Ops.columnsUsedAux`, `Ops.columnsUsed` (`Ops/Compose.lean`, transcribing
`columns_used_from_sources` / `columns_used_implementation_` / `columns_used` of `view_representations.py`);
`Ops/UsedDag.lean` for shared node objects (`columnsUsedShared`, the per-object accumulation records); specification side
`Spec/Used.lean`.  The pipeline-level statements are first proved for any `Run` (a traversal that may enlarge a node's
request before asking its sources), of which both reports are instances.

Hypotheses: `ConvertOK Θ`, `ConvertLocal Θ` (the abstract record transform returns its declared columns and reads only
its needed columns; every other function symbol of `Θ` is arbitrary); `UsedWF p` (a windowed extend does not assign its
partition/order columns and rename / map_columns mappings are invertible on their source columns: checked by the
constructors); `p.cols.Nodup` only for the step from "agree on every column" to equality of the result tables.

D30 (known finding `C10-window-tie-break`): `sem` sorts a window by the `order_by` columns only (stable); with the
executor's sort key of `Sem/WindowTies.lean` (partition, order and the value columns of every op of the step) an unreported
column decides the tie-break of a kept cumulative op when rows tie on `order_by` inside a partition
(`C10_window_tie_break_necessary`).  The theorems hold for the model without a totality hypothesis; they speak about the
implementation where `sem` is validated against it (suite K4), i.e. for window orders that are total within each partition.
A second executor-level finding, `C10-all-null-type-check` (the run-time type check of joins looks at unreported common
columns), is outside the model, which has no dtypes.
-/
namespace DAVerif
namespace C10
open Ops

/-! ## 1. node level: `columns_used_from_sources` is sound for every node kind

Restriction form: evaluating the node on the source table, or on the source table restricted to the columns
`usedFromSources` asks for, gives results with the same projection onto the requested columns `u`
(`u ⊆ column_names` of the node, which `columns_used_implementation_` checks before it asks). -/

theorem used_extend_subset_source (s : Ops) (ops : Assign) (part od rv : List String) (w : Bool) (u : List String) :
    ∀ c ∈ (usedFromSources (Ops.extend s ops part od rv w) u).headD [], c ∈ s.cols := by
  obtain ⟨v, hv, hvs, _⟩ := used_extend s ops part od rv w u
  rw [hv]; exact hvs

theorem node_used_sound_extend_plain (Θ : Interp) (s : Ops) (ops : Assign) (part od rv : List String)
    (t : Table) (ht : t.cols = s.cols) (hwf : t.WF) (u : List String)
    (hu : subset u (Ops.extend s ops part od rv false).cols = true) :
    (semExtendPlain Θ ops t (Ops.extend s ops part od rv false).cols).selectCols u =
    (semExtendPlain Θ ops (t.selectCols ((usedFromSources (Ops.extend s ops part od rv false) u).headD []))
      (Ops.extend s ops part od rv false).cols).selectCols u := by
  rw [selectCols_eq_iff]
  have hsub := subset_iff.mp hu
  obtain ⟨W, hW, hkeep, hexpr, -⟩ := extend_request (RowsAgree_selectCols _ t)
    (hwf.null_outside (ht ▸ fun _ h => h))
    ((Table.wf_selectCols t _).null_outside (used_extend_subset_source s ops part od rv false u))
  exact semExtendPlain_congr Θ ops hW (fun c hc => ⟨hsub c hc, hsub c hc⟩) hkeep hexpr

/-- **extend, windowed** (the constructor guarantees that no op assigns a partition or order column). -/
theorem node_used_sound_extend_window (Θ : Interp) (s : Ops) (ops : Assign) (part od rv : List String)
    (hdis : disjoint (ops.map (·.1)) (part ++ od) = true)
    (t : Table) (ht : t.cols = s.cols) (hwf : t.WF) (u : List String)
    (hu : subset u (Ops.extend s ops part od rv true).cols = true) :
    (semExtendWindow Θ ops part od rv t (Ops.extend s ops part od rv true).cols).selectCols u =
    (semExtendWindow Θ ops part od rv
      (t.selectCols ((usedFromSources (Ops.extend s ops part od rv true) u).headD []))
      (Ops.extend s ops part od rv true).cols).selectCols u := by
  rw [selectCols_eq_iff]
  have hsub := subset_iff.mp hu
  obtain ⟨W, hW, hkeep, hexpr, hpo⟩ := extend_request (RowsAgree_selectCols _ t)
    (hwf.null_outside (ht ▸ fun _ h => h))
    ((Table.wf_selectCols t _).null_outside (used_extend_subset_source s ops part od rv true u))
  exact semExtendWindow_congr Θ ops part od rv hW (fun c hc => ⟨hsub c hc, hsub c hc⟩)
    (fun c hc => hpo hdis c (List.mem_append_left _ hc)) (fun c hc => hpo hdis c (List.mem_append_right _ hc))
    hkeep hexpr

theorem node_used_sound_project (Θ : Interp) (s : Ops) (ops : Assign) (g : List String) (t : Table)
    (u : List String) (hu : subset u (Ops.project s ops g).cols = true) :
    (semProject Θ ops g t (Ops.project s ops g).cols).selectCols u =
    (semProject Θ ops g (t.selectCols ((usedFromSources (Ops.project s ops g) u).headD []))
      (Ops.project s ops g).cols).selectCols u := by
  rw [selectCols_eq_iff]
  have hsub := subset_iff.mp hu
  simp only [usedFromSources, List.headD_cons]
  refine semProject_congr Θ ops g (RowsAgree_selectCols _ t) (fun c hc => ⟨hsub c hc, hsub c hc⟩)
    (fun c hc => mem_unionL.mpr (.inl hc)) ?_
  intro kv hkv hk c hc
  exact mem_unionL.mpr (.inr (mem_colsUsedOps.mpr ⟨kv, List.mem_filter.mpr ⟨hkv, by simpa using hk⟩, hc⟩))

theorem node_used_sound_select_rows (Θ : Interp) (s : Ops) (e : Term) (t : Table) (u : List String)
    (hu : subset u (Ops.selectRows s e).cols = true) :
    (semSelectRows Θ e t).selectCols u =
    (semSelectRows Θ e (t.selectCols ((usedFromSources (Ops.selectRows s e) u).headD []))).selectCols u := by
  rw [selectCols_eq_iff]
  have hsub := subset_iff.mp hu
  simp only [usedFromSources, List.headD_cons]
  exact semSelectRows_congr Θ e (RowsAgree_selectCols _ t)
    (fun c hc => mem_unionL.mpr (.inr (List.mem_eraseDups.mpr hc)))
    (fun c hc => mem_unionL.mpr (.inl (mem_filter_contains.mpr ⟨hsub c hc, hc⟩)))

theorem node_used_sound_order (s : Ops) (cs rv : List String) (lim : Option Nat) (t : Table) (u : List String)
    (hu : subset u (Ops.order s cs rv lim).cols = true) :
    (semOrder cs rv lim t).selectCols u =
    (semOrder cs rv lim (t.selectCols ((usedFromSources (Ops.order s cs rv lim) u).headD []))).selectCols u := by
  rw [selectCols_eq_iff]
  have hsub := subset_iff.mp hu
  simp only [usedFromSources, List.headD_cons]
  exact semOrder_congr cs rv lim (RowsAgree_selectCols _ t) (fun c hc => mem_unionL.mpr (.inr hc))
    (fun c hc => mem_unionL.mpr (.inl (mem_filter_contains.mpr ⟨hsub c hc, hc⟩)))

theorem node_used_sound_select_columns (s : Ops) (cs : List String) (t : Table) (u : List String)
    (hu : subset u (Ops.selectCols s cs).cols = true) :
    (t.selectCols cs).selectCols u =
    ((t.selectCols ((usedFromSources (Ops.selectCols s cs) u).headD [])).selectCols cs).selectCols u := by
  rw [selectCols_eq_iff]
  have hsub := subset_iff.mp hu
  simp only [usedFromSources, List.headD_cons]
  exact select_congr (RowsAgree_selectCols _ t)
    (fun c hc => ⟨hsub c hc, hsub c hc, mem_filter_contains.mpr ⟨hsub c hc, hc⟩⟩)

theorem node_used_sound_drop_columns (s : Ops) (ds : List String) (t : Table) (u : List String)
    (hu : subset u (Ops.dropCols s ds).cols = true) :
    (t.selectCols (Ops.dropCols s ds).cols).selectCols u =
    ((t.selectCols ((usedFromSources (Ops.dropCols s ds) u).headD [])).selectCols
      (Ops.dropCols s ds).cols).selectCols u := by
  rw [selectCols_eq_iff]
  have hsub := subset_iff.mp hu
  simp only [usedFromSources, List.headD_cons]
  refine select_congr (RowsAgree_selectCols _ t) (fun c hc => ⟨hsub c hc, hsub c hc, ?_⟩)
  have := hsub c hc
  simp only [Ops.cols] at this
  exact mem_filter_not_contains.mpr ⟨hc, (mem_filter_not_contains.mp this).2⟩

/-- **rename_columns** (mapping invertible on the source columns, as the constructor checks). -/
theorem node_used_sound_rename (s : Ops) (m : List (String × String))
    (hinv : ∀ k ∈ s.cols, renBack m (renFwd m k) = k)
    (t : Table) (ht : t.cols = s.cols) (hwf : t.WF) (u : List String)
    (hu : subset u (Ops.rename s m).cols = true)
    (hv : ∀ c ∈ (usedFromSources (Ops.rename s m) u).headD [], c ∈ s.cols) :
    RowsAgree u (t.rows.map (·.rename (renFwd m)))
      ((t.selectCols ((usedFromSources (Ops.rename s m) u).headD [])).rows.map (·.rename (renFwd m))) := by
  have hsub : ∀ c ∈ u, c ∈ s.cols.map (renFwd m) := subset_iff.mp hu
  exact rename_congr (renFwd m) (renBack m) (sc := s.cols) (RowsAgree_selectCols _ t)
    (hwf.keys_in (ht ▸ fun _ h => h)) ((Table.wf_selectCols t _).keys_in hv) hinv
    fun c hc => ⟨hsub c hc, List.mem_eraseDups.mpr (List.mem_map.mpr ⟨c, hc, rfl⟩)⟩

theorem node_used_sound_map_columns (s : Ops) (m : List (String × String)) (ds : List String)
    (hinv : ∀ k ∈ s.cols, k ∉ ds → renFwd m (renBack m k) = k)
    (t : Table) (ht : t.cols = s.cols) (hwf : t.WF) (u : List String)
    (hu : subset u (Ops.mapCols s m ds).cols = true)
    (hv : ∀ c ∈ (usedFromSources (Ops.mapCols s m ds) u).headD [], c ∈ s.cols) :
    RowsAgree u (t.rows.map (fun r => (r.drop ds).rename (renBack m)))
      ((t.selectCols ((usedFromSources (Ops.mapCols s m ds) u).headD [])).rows.map
        (fun r => (r.drop ds).rename (renBack m))) := by
  have hsub : ∀ c ∈ u, c ∈ (s.cols.filter (fun c => !ds.contains c)).map (renBack m) := subset_iff.mp hu
  exact mapCols_congr (renBack m) (renFwd m) ds (sc := s.cols) (RowsAgree_selectCols _ t)
    (hwf.keys_in (ht ▸ fun _ h => h)) ((Table.wf_selectCols t _).keys_in hv) hinv
    fun c hc => ⟨hsub c hc, mem_unionL.mpr (.inl (List.mem_eraseDups.mpr (List.mem_map.mpr ⟨c, hc, rfl⟩)))⟩

theorem node_used_sound_join (cfg : SemCfg) (a b : Ops) (oa ob : List String) (jt : JoinType)
    (ta tb : Table) (hta : ta.cols = a.cols) (htb : tb.cols = b.cols) (hwa : ta.WF) (hwb : tb.WF)
    (u : List String) (hu : subset u (Ops.join a b oa ob jt).cols = true) :
    ((semJoin cfg jt oa ob ta tb (appendNew a.cols b.cols)).selectCols (Ops.join a b oa ob jt).cols).selectCols u =
    ((semJoin cfg jt oa ob
        (ta.selectCols ((usedFromSources (Ops.join a b oa ob jt) u).headD []))
        (tb.selectCols (((usedFromSources (Ops.join a b oa ob jt) u).drop 1).headD []))
        (appendNew a.cols b.cols)).selectCols (Ops.join a b oa ob jt).cols).selectCols u := by
  rw [selectCols_eq_iff]
  have hsub := subset_iff.mp hu
  refine select_congr (w := u) ?_ (fun c hc => ⟨hsub c hc, hsub c hc, hc⟩)
  refine join_request cfg jt (RowsAgree_selectCols _ ta) (RowsAgree_selectCols _ tb)
    hwa (Table.wf_selectCols ta _) hwb (Table.wf_selectCols tb _)
    (hta ▸ fun _ h => h) (fun c hc => (List.mem_filter.mp hc).1)
    (htb ▸ fun _ h => h) (fun c hc => (List.mem_filter.mp hc).1) ?_
  intro c hc
  have h1 := mem_appendNew.mpr ((mem_join_cols a b oa ob jt c).mp (hsub c hc))
  exact ⟨h1, h1⟩

theorem node_used_sound_concat (a b : Ops) (idc : Option String) (an bn : String)
    (ta tb : Table) (hta : ta.cols = a.cols) (htb : tb.cols = b.cols) (hwa : ta.WF) (hwb : tb.WF)
    (u : List String) (hu : subset u (Ops.concat a b idc an bn).cols = true) :
    (semConcat idc an bn ta tb (Ops.concat a b idc an bn).cols).selectCols u =
    (semConcat idc an bn
        (ta.selectCols ((usedFromSources (Ops.concat a b idc an bn) u).headD []))
        (tb.selectCols (((usedFromSources (Ops.concat a b idc an bn) u).drop 1).headD []))
        (Ops.concat a b idc an bn).cols).selectCols u := by
  rw [selectCols_eq_iff]
  have hsub := subset_iff.mp hu
  exact concat_request idc an bn (RowsAgree_selectCols _ ta) (RowsAgree_selectCols _ tb)
    (hwa.null_outside (hta ▸ fun _ h => h))
    ((Table.wf_selectCols ta _).null_outside fun c hc => (List.mem_filter.mp hc).1)
    (hwb.null_outside (htb ▸ fun _ h => h))
    ((Table.wf_selectCols tb _).null_outside fun c hc => (List.mem_filter.mp hc).1)
    fun c hc => ⟨hsub c hc, hsub c hc, hsub c hc⟩

/-- **convert_records**: the request is the record map's needed columns, whatever is asked of the result; sound
exactly when the transform reads only those (`ConvertLocal`). -/
theorem node_used_sound_convert (Θ : Interp) (hloc : ConvertLocal Θ) (s : Ops) (rm : RecMap) (t : Table)
    (u : List String) :
    Θ.convert rm t = Θ.convert rm (t.selectCols ((usedFromSources (Ops.convert s rm) u).headD [])) := by
  simp only [usedFromSources, List.headD_cons]
  exact hloc rm _ _ (RowsAgree_selectCols _ t)

/-! ## 2. `columns_used` is sound

The core statements are about any report `U` produced by a *run* (`Run`, `Proofs/UsedSem.lean`): a traversal that
may enlarge a node's request before asking its sources.  Two instances: `Ops.columnsUsed` (tree-shaped pipelines:
every node object used once) and `Ops.columnsUsedShared` (shared node objects, whose records accumulate – the
report is then neither a subset nor a superset of the tree report, because an extend asked for none of its products
requests *all* source columns). -/

/-- agreement form, for any run -/
theorem C10_run_agree (Θ : Interp) (hok : ConvertOK Θ) (hloc : ConvertLocal Θ) (cfg : SemCfg)
    (p : Ops) (hwf : UsedWF p) (U : Used) (hU : Run p p.cols (initUsed p) U) (env env' : Env)
    (henv : EnvAgree U env env') :
    ResAgree p.cols (sem Θ cfg env p) (sem Θ cfg env' p) := by
  have hscan := scan_of_envAgree Θ cfg henv p.tables (fun k cs hk => run_has_entry hU hk)
  have := (sem_narrow_agree Θ hok hloc cfg (fun _ cs => cs) (fun _ _ _ h => h) env env' p hwf p.cols _ U hU hscan).2
  rwa [narrowWith_id] at this

/-- equality form, for any run -/
theorem C10_run_sound (Θ : Interp) (hok : ConvertOK Θ) (hloc : ConvertLocal Θ) (cfg : SemCfg)
    (p : Ops) (hwf : UsedWF p) (hnd : p.cols.Nodup) (U : Used) (hU : Run p p.cols (initUsed p) U) (env env' : Env)
    (henv : EnvAgree U env env') :
    sem Θ cfg env p = sem Θ cfg env' p := by
  have h := C10_run_agree Θ hok hloc cfg p hwf U hU env env' henv
  cases e : sem Θ cfg env p <;> cases e' : sem Θ cfg env' p <;> simp only [e, e', ResAgree] at h
  · rw [h]
  · rename_i t t'
    obtain ⟨hc, hw⟩ := sem_cols_wf Θ hok cfg env p t e
    obtain ⟨hc', hw'⟩ := sem_cols_wf Θ hok cfg env' p t' e'
    rw [table_eq_of_agree (hc.trans hc'.symm) hw hw' (hc ▸ hnd) (hc ▸ h)]

/-- **Agreement form.**  If `columns_used` reports `U` and two environments differ at most in the values of columns
`U` does not list (same tables, same columns, same number of rows in the same order, agreement on the listed
columns), then the pipeline has the same outcome on both: the same error, or results whose rows agree, in order, on
every result column.  Holds for every interpretation `Θ` of the function symbols and both semantic configurations. -/
theorem C10_columns_used_agree (Θ : Interp) (hok : ConvertOK Θ) (hloc : ConvertLocal Θ) (cfg : SemCfg)
    (p : Ops) (hwf : UsedWF p) (U : Used) (hU : columnsUsed p = .ok U) (env env' : Env)
    (henv : EnvAgree U env env') :
    ResAgree p.cols (sem Θ cfg env p) (sem Θ cfg env' p) :=
  C10_run_agree Θ hok hloc cfg p hwf U (run_of_columnsUsed hU) env env' henv

/-- **C10, first half.**  Under the same hypotheses, for a pipeline with duplicate-free result columns, the two
evaluations are *equal* (same error, or the same table: same columns, same rows in the same order). -/
theorem C10_columns_used_sound (Θ : Interp) (hok : ConvertOK Θ) (hloc : ConvertLocal Θ) (cfg : SemCfg)
    (p : Ops) (hwf : UsedWF p) (hnd : p.cols.Nodup) (U : Used) (hU : columnsUsed p = .ok U) (env env' : Env)
    (henv : EnvAgree U env env') :
    sem Θ cfg env p = sem Θ cfg env' p :=
  C10_run_sound Θ hok hloc cfg p hwf hnd U (run_of_columnsUsed hU) env env' henv

/-- **C10, first half, pipelines with shared node objects.**  The same for the report computed with per-object
accumulation records (`columnsUsedShared`; `ids` gives the object identities, one object having one column set). -/
theorem C10_columns_used_shared_sound (Θ : Interp) (hok : ConvertOK Θ) (hloc : ConvertLocal Θ) (cfg : SemCfg)
    (p : Ops) (ids : IdTree) (hids : idsConsistent p ids = true) (hwf : UsedWF p) (hnd : p.cols.Nodup) (U : Used)
    (hU : columnsUsedShared p ids = .ok U) (env env' : Env) (henv : EnvAgree U env env') :
    sem Θ cfg env p = sem Θ cfg env' p :=
  C10_run_sound Θ hok hloc cfg p hwf hnd U (run_of_shared hids hU) env env' henv

/-- narrowing form, for any run -/
theorem C10_run_narrow (Θ : Interp) (hok : ConvertOK Θ) (hloc : ConvertLocal Θ) (cfg : SemCfg)
    (p : Ops) (hwf : UsedWF p) (U : Used) (hU : Run p p.cols (initUsed p) U) (env : Env) (hconf : Conforms p env) :
    ResAgree p.cols (sem Θ cfg env p) (sem Θ cfg (restrictEnv U env) (narrow U p)) ∧
      ∀ c, c ∈ (narrow U p).cols ↔ c ∈ p.cols := by
  have hscan := scan_of_restrict Θ cfg U env p.tables hconf
  have hV : ∀ k cs c, c ∈ narrowCols U k cs → c ∈ cs := fun k cs c h => (List.mem_filter.mp h).1
  obtain ⟨hA, hB⟩ := sem_narrow_agree Θ hok hloc cfg (narrowCols U) hV env (restrictEnv U env) p hwf p.cols _ U hU hscan
  exact ⟨hB, fun c => ⟨narrow_cols_subset _ hV p c, hA c⟩⟩

/-- **C10, second half.**  If `columns_used` reports `U` and the inputs conform to the table descriptions, then the
pipeline whose table descriptions keep only the reported columns, evaluated on the inputs restricted to the reported
columns, has the same outcome as the original on the original inputs: the same error, or rows that agree, in
order, on every result column; and it declares the same *set* of result columns.  (The *order* of the declared
columns can differ, see `C10_narrow_column_order_witness`; result tables are therefore compared column by column,
not as lists.) -/
theorem C10_narrow_sound (Θ : Interp) (hok : ConvertOK Θ) (hloc : ConvertLocal Θ) (cfg : SemCfg)
    (p : Ops) (hwf : UsedWF p) (U : Used) (hU : columnsUsed p = .ok U) (env : Env) (hconf : Conforms p env) :
    ResAgree p.cols (sem Θ cfg env p) (sem Θ cfg (restrictEnv U env) (narrow U p)) ∧
      ∀ c, c ∈ (narrow U p).cols ↔ c ∈ p.cols :=
  C10_run_narrow Θ hok hloc cfg p hwf U (run_of_columnsUsed hU) env hconf

/-- the same for the report computed on shared node objects -/
theorem C10_narrow_shared_sound (Θ : Interp) (hok : ConvertOK Θ) (hloc : ConvertLocal Θ) (cfg : SemCfg)
    (p : Ops) (ids : IdTree) (hids : idsConsistent p ids = true) (hwf : UsedWF p) (U : Used)
    (hU : columnsUsedShared p ids = .ok U) (env : Env) (hconf : Conforms p env) :
    ResAgree p.cols (sem Θ cfg env p) (sem Θ cfg (restrictEnv U env) (narrow U p)) ∧
      ∀ c, c ∈ (narrow U p).cols ↔ c ∈ p.cols :=
  C10_run_narrow Θ hok hloc cfg p hwf U (run_of_shared hids hU) env hconf

/-- the narrowed pipeline succeeds whenever the original does (and then returns the same number of rows) -/
theorem C10_narrow_ok (Θ : Interp) (hok : ConvertOK Θ) (hloc : ConvertLocal Θ) (cfg : SemCfg)
    (p : Ops) (hwf : UsedWF p) (U : Used) (hU : columnsUsed p = .ok U) (env : Env) (hconf : Conforms p env)
    (t : Table) (ht : sem Θ cfg env p = .ok t) :
    ∃ t', sem Θ cfg (restrictEnv U env) (narrow U p) = .ok t' ∧ RowsAgree p.cols t.rows t'.rows := by
  have h := (C10_narrow_sound Θ hok hloc cfg p hwf U hU env hconf).1
  rw [ht] at h
  cases e : sem Θ cfg (restrictEnv U env) (narrow U p) <;> simp only [e, ResAgree] at h
  exact ⟨_, rfl, h⟩

/-- **Built pipelines are well-formed.**  Every pipeline obtained from table descriptions (distinct column names) by
builder calls (`build`, with pipeline arguments built the same way and dict arguments without repeated keys)
satisfies `UsedWF` and has duplicate-free result columns. -/
theorem C10_reachable_wf (p : Ops) (h : ReachableU p) : UsedWF p ∧ p.cols.Nodup :=
  ⟨h.allOK.usedWF p, h.allOK.cols_nodup p⟩

/-- **`columns_used` never raises on a built pipeline** (the `ValueError("asked for unknown columns")` branch of
`columns_used_implementation_` is unreachable: every request lies inside the source's columns). -/
theorem C10_columns_used_total (p : Ops) (h : ReachableU p) : ∃ U, columnsUsed p = .ok U :=
  h.allOK.columnsUsed_ok

/-- **C10 for built pipelines**, structural hypotheses discharged: there is a report, and any two environments that
agree on it give the same result. -/
theorem C10_reachable_sound (Θ : Interp) (hok : ConvertOK Θ) (hloc : ConvertLocal Θ) (cfg : SemCfg)
    (p : Ops) (h : ReachableU p) :
    ∃ U, columnsUsed p = .ok U ∧ ∀ env env', EnvAgree U env env' → sem Θ cfg env p = sem Θ cfg env' p := by
  obtain ⟨U, hU⟩ := C10_columns_used_total p h
  obtain ⟨hwf, hnd⟩ := C10_reachable_wf p h
  exact ⟨U, hU, fun env env' he => C10_columns_used_sound Θ hok hloc cfg p hwf hnd U hU env env' he⟩

section examples

/-- a concrete interpretation (the driver's scalar/aggregate/window functions; record transforms always fail) -/
def Θc : Interp := Theta.concrete (fun _ _ => .error .other)

-- with this `convert` the two laws hold trivially (no transform succeeds); the examples below contain no
-- `convert_records` node
example : ConvertOK Θc := fun _ _ _ h => by cases h
example : ConvertLocal Θc := fun _ _ _ _ => rfl

private def cum (c : String) : Term := .app "cumsum" [.col c] false true

/-- the D30 pipeline: `d(o,x,w).extend({'z':'w.cumsum()','y':'x.cumsum()'}, order_by=['o']).select_columns(['y'])` -/
def pW : Ops :=
  .selectCols (.extend (.table "d" ["o", "x", "w"]) [("z", cum "w"), ("y", cum "x")] [] ["o"] [] true) ["y"]

private def row3 (o x w : Int) : Row := [("o", .num o), ("x", .num x), ("w", .num w)]
def tA : Table := ⟨["o", "x", "w"], [row3 1 1 1, row3 1 10 2, row3 1 100 3]⟩
def tB : Table := ⟨["o", "x", "w"], [row3 1 1 3, row3 1 10 2, row3 1 100 1]⟩

/-- `columns_used` reports `{d: {o, x}}` for it (as the real library does) -/
theorem columnsUsed_pW : columnsUsed pW = .ok [("d", ["o", "x"])] := by rfl
example : columnsUsed pW = .ok [("d", ["o", "x"])] := columnsUsed_pW
example : UsedWF pW := ⟨trivial, fun _ => by decide⟩
example : pW.cols.Nodup := by decide +kernel

example : ReachableU pW :=
  .step (s := .selectCols ["y"])
    (.step (s := .extend [("z", cum "w"), ("y", cum "x")] .none ["o"] [])
      (.table "d" ["o", "x", "w"] (by decide)) trivial (by rfl))
    trivial (by rfl)

/-- the two inputs differ only in the unreported column `w` -/
theorem tA_tB_agree : RowsAgree ["o", "x"] tA.rows tB.rows :=
  rowsAgree_iff_map_select.mpr (by decide +kernel)

theorem envA_envB_agree : EnvAgree [("d", ["o", "x"])] [("d", tA)] [("d", tB)] := by
  intro k cs h
  cases List.mem_singleton.mp h
  exact ⟨rfl, tA_tB_agree⟩

example (Θ : Interp) (hok : ConvertOK Θ) (hloc : ConvertLocal Θ) (cfg : SemCfg) :
    sem Θ cfg [("d", tA)] pW = sem Θ cfg [("d", tB)] pW :=
  C10_columns_used_sound Θ hok hloc cfg pW ⟨trivial, fun _ => by decide⟩ (by decide) _ columnsUsed_pW _ _ envA_envB_agree

/-- a pipeline that uses one node object twice: `S = d(h,i,k).extend({'v':'h+1'})`,
`S.natural_join(S.select_columns(['i']).rename_columns({'i2':'i'}), on=[('i','i2')]).select_columns(['v','i2'])` -/
def pS : Ops :=
  let S : Ops := .extend (.table "d" ["h", "i", "k"]) [("v", .app "+" [.col "h", .value (.int 1)] true false)] [] [] [] false
  .selectCols (.join S (.rename (.selectCols S ["i"]) [("i2", "i")]) ["i"] ["i2"] .inner) ["v", "i2"]
/-- its object identities: `S` is object 1 at both positions -/
def pSids : IdTree := .un 5 (.bin 0 (.un 1 (.leaf 9)) (.un 2 (.un 3 (.un 1 (.leaf 9)))))

/-- on the tree the second use of `S` is asked for `i` only – none of its products – and requests every source
column; with the shared record `{v, i}` it requests `{h, i}`: the shared report is *smaller* -/
example : columnsUsed pS = .ok [("d", ["h", "i", "k"])] := by rfl
example : idsConsistent pS pSids = true := by decide +kernel
example : columnsUsedShared pS pSids = .ok [("d", ["h", "i"])] := by rfl

/-- a join / extend / drop pipeline for the narrowing theorem:
`a(x,y).natural_join(b(y,x,z), on=['x'], jointype='inner').extend({'w':'x+1'}).drop_columns(['z'])` -/
def pJ : Ops :=
  .dropCols (.extend (.join (.table "a" ["x", "y"]) (.table "b" ["y", "x", "z"]) ["x"] ["x"] .inner)
     [("w", .app "+" [.col "x", .value (.int 1)] true false)] [] [] [] false) ["z"]

theorem columnsUsed_pJ : columnsUsed pJ = .ok [("a", ["x", "y"]), ("b", ["y", "x"])] := by rfl
example : columnsUsed pJ = .ok [("a", ["x", "y"]), ("b", ["y", "x"])] := columnsUsed_pJ
example : UsedWF pJ := ⟨⟨trivial, trivial⟩, fun h => by cases h⟩
example : Conforms pJ [("a", ⟨["x", "y"], [[("x", .num 1), ("y", .num 2)]]⟩),
    ("b", ⟨["y", "x", "z"], [[("y", .num 5), ("x", .num 1), ("z", .num 9)]]⟩)] := by
  intro k cs h
  simp only [pJ, Ops.tables, List.cons_append, List.nil_append, List.mem_cons, Prod.mk.injEq, List.not_mem_nil,
    or_false] at h
  rcases h with ⟨rfl, rfl⟩ | ⟨rfl, rfl⟩
  · exact ⟨_, rfl, by decide⟩
  · exact ⟨_, rfl, by decide⟩

/-- **The order of the declared columns is not preserved by narrowing.**  With `z` unreported, the narrowed join
sees `b(y,x)`, whose column set equals `a`'s, and re-uses `a`'s column tuple `(x, y)`; the original join re-used
`b`'s `(y, x, z)`.  Hence `C10_narrow_sound` compares results column by column. -/
theorem C10_narrow_column_order_witness :
    ∃ U, columnsUsed pJ = .ok U ∧ pJ.cols = ["y", "x", "w"] ∧ (narrow U pJ).cols = ["x", "y", "w"] :=
  ⟨_, columnsUsed_pJ, by decide +kernel, by decide +kernel⟩

end examples

/-- guard of the finding: inside every partition no two rows tie on the `order_by` columns -/
def WindowOrderTotal (partition order : List String) (t : Table) : Bool :=
  t.rows.zipIdx.all (fun a => t.rows.zipIdx.all (fun b =>
    a.2 == b.2 || keyOf a.1 partition != keyOf b.1 partition || keyOf a.1 order != keyOf b.1 order))

/-- the witness violates the guard (all three rows tie on `o`) -/
example : WindowOrderTotal [] ["o"] tA = false := by decide +kernel

/-- **The guard is necessary for the executor's sort key.**  With the sort key of `pandas_base._extend_step`
(`semExtendWindowTies`: partition, order and *the value columns of every op*), the node-level statement fails on the
D30 witness: the two source tables agree on the reported columns `{o, x}` and differ only in `w`, yet the kept
running sum `y` differs ((1, 11, 111) against (111, 110, 100), exactly what the real library returns). -/
theorem C10_window_tie_break_necessary :
    RowsAgree ["o", "x"] tA.rows tB.rows ∧
    (semExtendWindowTies Θc [("z", cum "w"), ("y", cum "x")] [] ["o"] [] tA ["o", "x", "w", "z", "y"]).selectCols ["y"]
      ≠ (semExtendWindowTies Θc [("z", cum "w"), ("y", cum "x")] [] ["o"] [] tB ["o", "x", "w", "z", "y"]).selectCols ["y"] :=
  ⟨tA_tB_agree, by decide +kernel⟩

/-- the model's `semExtendWindow` (order columns only, stable) does satisfy it on the same witness – an instance of
the node lemma behind `node_used_sound_extend_window` – which is why the finding is invisible to `sem` -/
example :
    RowsAgree ["y"]
      (semExtendWindow Θc [("z", cum "w"), ("y", cum "x")] [] ["o"] [] tA ["o", "x", "w", "z", "y"]).rows
      (semExtendWindow Θc [("z", cum "w"), ("y", cum "x")] [] ["o"] [] tB ["o", "x", "w", "z", "y"]).rows := by
  refine semExtendWindow_congr Θc _ [] ["o"] [] (w := ["o", "x"]) tA_tB_agree ?_ ?_ ?_ ?_ ?_
  · intro c hc; simp only [List.mem_singleton] at hc; subst hc; simp
  · intro c hc; cases hc
  · intro c hc; simp only [List.mem_singleton] at hc; subst hc; simp
  · intro c hc hk; simp only [List.mem_singleton] at hc; subst hc; simp at hk
  · intro kv hkv hk c hc
    simp only [List.mem_cons, List.not_mem_nil, or_false] at hkv hk
    rcases hkv with rfl | rfl
    · simp at hk
    · simp only [cum, Term.colsRaw, Term.colsRawList, List.append_nil, List.mem_singleton] at hc
      subst hc; simp

end C10
end DAVerif
