import DAVerif.Proofs.PrintSem
import DAVerif.Proofs.PrintSemScope
import DAVerif.Proofs.PrintSemRMain
import DAVerif.Props.C06
import DAVerif.Props.C12
/-!
# C12, semantic half WITHOUT the guard `noRemerge`

Outside the guard of `Props/C12.lean` the rebuilt tree differs (finding `C12-extend-remerge`, N26: an `extend` that was not
merged when `p` was built is merged when the text is evaluated).  Here, for every `Reachable p`: evaluating the printed text
is `replace_leaves({})` of the pipeline, it succeeds, and the rebuilt pipeline has the same results – the same rows in the
same order with the columns possibly in another order (`≈ʳ`, `Spec/ColOrder.lean`; `C12_rebuild_sem_all_rows`, no scope
hypothesis, for `Θ` whose record transforms read and write columns by name, `ConvertColInvariant`), or up to the order of
rows and columns (`≈ᶜ`; `C12_rebuild_sem_all`, under the laws C06 / C07 use and in C18's scope for `p`, directly from C07's
`replaceLeaves_sem`).

Where the scope of `C12_rebuild_sem_all` comes from.  Not from the elimination of limit-less `order_rows` (a reachable `p`
has none below its top, `C12.NF`, and the rebuild skips none): it is the invariant of the induction.  With `≈ᶜ` the rebuilt
source of a node is only known to evaluate to the original source's result *up to row order*, so the node above it must be
insensitive to the row order of its input – C18's scope condition for that node.  `C12_rebuild_sem_all_rows` uses the
sharper invariant `≈ʳ`, which the re-merge satisfies and every operator respects unconditionally (`applyNode_congrR`,
`Proofs/ApplyCongr.lean`).  Under the laws of `C12_rebuild_sem_all` alone the scope cannot be dropped
(`C12_rebuild_sem_scope_necessary`): `ConvertInvariant` lets a record transform answer a re-ordering of the *columns* of its
input with a re-ordering of the *rows* of its output, the re-merge changes the column order, and an `order_rows` with a limit
that cuts a tie then keeps another row – a fact about the laws, not about the library; `ConvertColInvariant` excludes it.
-/
namespace DAVerif.C12
open DAVerif Rules26 DAVerif.C12S

/-- **Evaluating the printed text of a reachable pipeline is `replace_leaves({})`** (`Ops.replaceLeaves []`, C07's
model: every node is rebuilt through its builder on the rebuilt sources): the same pipeline, or the same error. -/
theorem C12_rebuild_is_replaceLeaves {p : Ops} (h : Reachable p) :
    rebuild (toCalls p) = Ops.replaceLeaves [] p :=
  rebuild_eq_replace p (C12_reachable_nf h) h.valid

/-- **Totality, no guard.**  The printed text of every reachable pipeline evaluates: no builder call of the text is
rejected (each is applied to a rebuilt source that declares the same columns up to order and carries the same
table descriptions as the node's own source). -/
theorem C12_rebuild_total {p : Ops} (h : Reachable p) : ∃ q, rebuild (toCalls p) = .ok q := by
  rw [C12_rebuild_is_replaceLeaves h]
  exact replaceId_total p h.valid

/-- whatever a printed text evaluates to is a pipeline the builders can produce -/
theorem C12_rebuild_reachable (pr : Printed) : ∀ q, rebuild pr = .ok q → Reachable q := by
  induction pr with
  | table n cs =>
    intro q hq
    simp only [rebuild, mkTable, ok?_bind_ok, pure_ok] at hq
    obtain ⟨h1, h2, rfl⟩ := hq
    exact Reachable.table n cs (by intro e; subst e; simp at h1) (nodupB_iff.mp h2)
  | call r c ih =>
    intro q hq
    simp only [rebuild] at hq
    obtain ⟨p0, h0, hb⟩ := bind_eq_ok.mp hq
    refine Reachable.step (ih p0 h0) ?_ hb
    intro b hb'
    cases c <;> simp [Call.toStep, stepArgs] at hb'
  | join r b _ _ ihr ihb | concat r b _ _ _ ihr ihb =>
    intro q hq
    simp only [rebuild] at hq
    obtain ⟨a, ha, hq⟩ := bind_eq_ok.mp hq
    obtain ⟨b', hb', hq⟩ := bind_eq_ok.mp hq
    refine Reachable.step (ihr a ha) ?_ hq
    intro x hx
    simp only [stepArgs, List.mem_singleton] at hx
    rw [hx]
    exact ihb b' hb'

/-- **Structure, no guard.**  What the printed text of a reachable pipeline `p` evaluates to is again a reachable
pipeline, over exactly the table descriptions of `p` (same order), declaring the columns of `p` up to order. -/
theorem C12_rebuild_struct {p q : Ops} (h : Reachable p) (hr : rebuild (toCalls p) = .ok q) :
    Reachable q ∧ q.tables = p.tables ∧ q.cols.Perm p.cols := by
  refine ⟨C12_rebuild_reachable _ q hr, ?_⟩
  rw [C12_rebuild_is_replaceLeaves h] at hr
  exact (replaceId_struct p h.valid q hr).2

/-- **C12 (results), no guard.**  For every reachable pipeline `p`, every interpretation `Θ` of the function symbols
whose record transforms return their declared columns (`ConvertOK`) and respect `≈ᶜ` (`ConvertInvariant`), both backend
configurations and every environment in C18's scope for `p`: if the printed text evaluates to `q` (it does:
`C12_rebuild_total`), then evaluating `q` fails with the same error as evaluating `p`, or gives the same table up to
the order of rows and of columns – whether or not `q` is the same tree as `p`. -/
theorem C12_rebuild_sem_all (Θ : Interp) (cfg : SemCfg) (env : Env) (hΘ : ConvertOK Θ) (hC : ConvertInvariant Θ)
    {p q : Ops} (h : Reachable p) (hA : AggsOrderFree Θ p) (hW : WindowsTotal Θ cfg env p)
    (hr : rebuild (toCalls p) = .ok q) :
    ResEquivC (sem Θ cfg env q) (sem Θ cfg env p) := by
  rw [C12_rebuild_is_replaceLeaves h] at hr
  refine (replaceLeaves_sem (Θ := Θ) (cfg := cfg) (env := env) (m := []) (env' := env) hΘ hC p h.valid ?_ hA hW
    q hr).2
  intro kc _
  show (match lookupLast ([] : List (String × Ops)) kc.1 with
    | some r => r.valid = true ∧ r.cols.Perm kc.2 ∧ ∃ t, sem Θ cfg env r = .ok t ∧ env.lookup kc.1 = some t
    | none => env.lookup kc.1 = env.lookup kc.1)
  rfl

/-- **C12 without the guard, assembled**: the printed text of a reachable pipeline evaluates, to a reachable
pipeline with the same table descriptions and the same columns up to order, which has the same results (up to row
and column order) as the original for every `Θ`, configuration and environment in scope. -/
theorem C12_rebuild_all {p : Ops} (h : Reachable p) :
    ∃ q, rebuild (toCalls p) = .ok q ∧ Reachable q ∧ q.tables = p.tables ∧ q.cols.Perm p.cols ∧
      ∀ (Θ : Interp) (cfg : SemCfg) (env : Env), ConvertOK Θ → ConvertInvariant Θ → AggsOrderFree Θ p →
        WindowsTotal Θ cfg env p → ResEquivC (sem Θ cfg env q) (sem Θ cfg env p) := by
  obtain ⟨q, hq⟩ := C12_rebuild_total h
  obtain ⟨h1, h2, h3⟩ := C12_rebuild_struct h hq
  exact ⟨q, hq, h1, h2, h3, fun Θ cfg env hΘ hC hA hW => C12_rebuild_sem_all Θ cfg env hΘ hC h hA hW hq⟩

namespace C12semEx
open C06Ex

def envN26 : Env :=
  [("d", ⟨["x", "y"], [[("x", .num 1), ("y", .num 5)], [("x", .num 2), ("y", .num 3)]]⟩)]

/-- the witness is outside the guard and its text evaluates to a different tree … -/
example : noRemerge witnessN26 = false ∧ rebuild (toCalls witnessN26) = .ok witnessN26Rebuilt ∧
    witnessN26Rebuilt ≠ witnessN26 :=
  ⟨by decide, witnessN26_rebuild, by simp [witnessN26Rebuilt, witnessN26]⟩

theorem n26_aggs : AggsOrderFree Θc witnessN26 := by
  simp only [witnessN26, AggsOrderFree]

theorem n26_windows (cfg : SemCfg) : WindowsTotal Θc cfg envN26 witnessN26 := by
  simp only [witnessN26, WindowsTotal]
  exact ⟨⟨trivial, fun h => by cases h⟩, fun h => by cases h⟩

example : ResEquivC (sem Θc .pandas envN26 witnessN26Rebuilt) (sem Θc .pandas envN26 witnessN26) :=
  C12_rebuild_sem_all Θc .pandas envN26 convertOK convertInv witnessN26_reachable n26_aggs (n26_windows _)
    witnessN26_rebuild

example : ∃ t, sem Θc .pandas envN26 witnessN26 = .ok t ∧ t.cols = ["x", "y", "n4", "r"] ∧ t.rows.length = 2 :=
  ⟨_, rfl, by decide, by decide⟩

/-- `e.natural_join(b=d.extend({'n4': 'x'}).extend({'r': 'y + n4'}).extend({'r': 'y'}), on=['x'], jointype='inner')` -/
def pJoin : Ops := .join (.table "e" ["x", "z"]) witnessN26 ["x"] ["x"] .inner

/-- what its text evaluates to: the same join over the merged `b` -/
def pJoinRebuilt : Ops := .join (.table "e" ["x", "z"]) witnessN26Rebuilt ["x"] ["x"] .inner

theorem build_join_inner (b : Ops) (hc : tablesConsistent [("e", ["x", "z"])] b.tables = true)
    (hx : subset ["x"] b.cols = true) :
    build (.table "e" ["x", "z"]) (.join b ["x"] ["x"] "INNER" false)
      = .ok (.join (.table "e" ["x", "z"]) b ["x"] ["x"] .inner) := by
  have hp : JoinType.parse "INNER" = some .inner := by decide +kernel
  show joinB _ _ _ _ _ _ = _
  rw [joinB_eq]
  simp only [mkJoin, hp, strip, Ops.tables, Ops.cols, hc, hx]
  rfl

theorem pJoin_reachable : Reachable pJoin :=
  Reachable.step (p := .table "e" ["x", "z"]) (s := .join witnessN26 ["x"] ["x"] "INNER" false)
    (Reachable.table _ _ (by decide) (by decide))
    (by intro b hb; simp only [stepArgs, List.mem_singleton] at hb; rw [hb]; exact witnessN26_reachable)
    (build_join_inner witnessN26 (by decide) (by decide))

theorem pJoin_rebuild : rebuild (toCalls pJoin) = .ok pJoinRebuilt := by
  have h1 : rebuild (toCalls (.table "e" ["x", "z"])) = .ok (.table "e" ["x", "z"]) := rfl
  simp only [pJoin, toCalls, rebuild] at h1 ⊢
  rw [h1, ok_bind]
  rw [witnessN26_rebuild, ok_bind]
  exact build_join_inner witnessN26Rebuilt (by decide) (by decide)

def envJoin : Env :=
  ("e", ⟨["x", "z"], [[("x", .num 2), ("z", .num 7)], [("x", .num 9), ("z", .num 8)]]⟩) :: envN26

example : noRemerge pJoin = false ∧ pJoinRebuilt ≠ pJoin :=
  ⟨by decide, by simp [pJoinRebuilt, pJoin, witnessN26Rebuilt, witnessN26]⟩

example : ResEquivC (sem Θc .pandas envJoin pJoinRebuilt) (sem Θc .pandas envJoin pJoin) :=
  C12_rebuild_sem_all Θc .pandas envJoin convertOK convertInv pJoin_reachable
    (by simp only [pJoin, witnessN26, AggsOrderFree]; exact ⟨trivial, trivial⟩)
    (by
      simp only [pJoin, witnessN26, WindowsTotal]
      exact ⟨trivial, ⟨trivial, fun h => by cases h⟩, fun h => by cases h⟩)
    pJoin_rebuild

example : ∃ t, sem Θc .pandas envJoin pJoin = .ok t ∧ t.cols = ["x", "z", "y", "n4", "r"] ∧ t.rows.length = 1 :=
  ⟨_, rfl, by decide, by decide⟩

end C12semEx

namespace C12semScope

def d : Ops := .table "d" ["x", "y"]
def rm : RecMap := ⟨["x"], ["k", "v"], "rm"⟩

/-- `d.extend({'a': 'x', 'b': 'y'}).extend({'a': 'b + 1'}).extend({'a': 'y'}).convert_records(rm)
.order_rows(['k'], limit=1)` -/
def steps : List Step :=
  [.extend [("a", .col "x"), ("b", .col "y")] .none [] [],
   .extend [("a", .app "+" [.col "b", .value (.int 1)] true false)] .none [] [],
   .extend [("a", .col "y")] .none [] [],
   .convert (some rm),
   .order ["k"] [] (some 1)]

/-- what the builders leave: the third `extend` was merged into the second, which then sits un-merged on the first
(the N26 pattern, here with a column, `a`, assigned by both remaining nodes) -/
def pAdv : Ops :=
  .order (.convert (.extend (.extend d [("a", .col "x"), ("b", .col "y")] [] [] [] false)
    [("a", .col "y")] [] [] [] false) rm) ["k"] [] (some 1)

/-- what the printed text evaluates to: the two `extend` calls are merged, `b` comes before `a` -/
def qAdv : Ops :=
  .order (.convert (.extend d [("b", .col "y"), ("a", .col "y")] [] [] [] false) rm) ["k"] [] (some 1)

/-- what the three `extend` steps leave: nodes `{'a': 'x', 'b': 'y'}` and `{'a': 'y'}`, columns `x, y, a, b` -/
def pExt : Ops :=
  .extend (.extend d [("a", .col "x"), ("b", .col "y")] [] [] [] false) [("a", .col "y")] [] [] [] false

/-- what their printed text evaluates to: one merged node, columns `x, y, b, a` -/
def qExt : Ops := .extend d [("b", .col "y"), ("a", .col "y")] [] [] [] false

theorem pExt_built : buildChain d (steps.take 3) = .ok pExt := by rfl

theorem pExt_reachable : Reachable pExt :=
  Reachable.of_calls "d" ["x", "y"] (steps.take 3) (by decide) (by decide) rfl pExt_built

theorem pExt_rebuild : rebuild (toCalls pExt) = .ok qExt := by rfl

theorem pAdv_built : buildChain d steps = .ok pAdv := by
  have h : steps = (steps.take 3 ++ [.convert (some rm)]) ++ [.order ["k"] [] (some 1)] := rfl
  rw [h, buildChain_snoc, buildChain_snoc, pExt_built]
  rfl

theorem pAdv_reachable : Reachable pAdv :=
  Reachable.of_calls "d" ["x", "y"] steps (by decide) (by decide) rfl pAdv_built

theorem pAdv_rebuild : rebuild (toCalls pAdv) = .ok qAdv := by
  show ((rebuild (toCalls pExt) >>= fun p => build p (.convert (some rm))) >>= fun p =>
    build p (.order ["k"] [] (some 1))) = _
  rw [pExt_rebuild]
  rfl

/-- the declared columns of the two `extend` tops differ in order: `x, y, a, b` and `x, y, b, a` -/
example : (Ops.extend (.extend d [("a", .col "x"), ("b", .col "y")] [] [] [] false)
      [("a", .col "y")] [] [] [] false).cols = ["x", "y", "a", "b"] ∧
    (Ops.extend d [("b", .col "y"), ("a", .col "y")] [] [] [] false).cols = ["x", "y", "b", "a"] :=
  ⟨by decide, by decide⟩

def envAdv : Env := [("d", ⟨["x", "y"], [[("x", .num 1), ("y", .num 5)], [("x", .num 2), ("y", .num 3)]]⟩)]

/-- the two rows the transform emits tie on `k`: in either order they are already sorted -/
theorem adv_sorted12 : sortRows ["k"] [] [advRow ["k", "v"] 1, advRow ["k", "v"] 2]
    = [advRow ["k", "v"] 1, advRow ["k", "v"] 2] := sortRows_of_sorted (by decide)
theorem adv_sorted21 : sortRows ["k"] [] [advRow ["k", "v"] 2, advRow ["k", "v"] 1]
    = [advRow ["k", "v"] 2, advRow ["k", "v"] 1] := sortRows_of_sorted (by decide)

theorem sem_pAdv : sem Θadv .pandas envAdv pAdv = .ok ⟨["k", "v"], [advRow ["k", "v"] 1]⟩ := by
  have h : sem Θadv .pandas envAdv pAdv = .ok (semOrder ["k"] [] (some 1)
      ⟨["k", "v"], [advRow ["k", "v"] 1, advRow ["k", "v"] 2]⟩) := rfl
  rw [h, semOrder, adv_sorted12]
  rfl

theorem sem_qAdv : sem Θadv .pandas envAdv qAdv = .ok ⟨["k", "v"], [advRow ["k", "v"] 2]⟩ := by
  have h : sem Θadv .pandas envAdv qAdv = .ok (semOrder ["k"] [] (some 1)
      ⟨["k", "v"], [advRow ["k", "v"] 2, advRow ["k", "v"] 1]⟩) := rfl
  rw [h, semOrder, adv_sorted21]
  rfl

end C12semScope

open C12semScope in
/-- **The rebuilt pipeline can declare its columns in another order** (so `C12_rebuild_struct` cannot state
`q.cols = p.cols`, and `C12_rebuild_sem_all` cannot state equality of the column lists): the reachable pipeline
`d.extend({'a': 'x', 'b': 'y'}).extend({'a': 'b + 1'}).extend({'a': 'y'})` – nodes `{'a': 'x', 'b': 'y'}` and
`{'a': 'y'}`, columns `x, y, a, b` – prints two `extend` calls that are merged when evaluated into the node
`{'b': 'y', 'a': 'y'}`, columns `x, y, b, a`.  The real library does the same (`column_names` and the columns of the
resulting data frame come in the other order): part of finding `C12-extend-remerge`. -/
theorem C12_rebuild_column_order_not_preserved :
    ¬ ∀ p q : Ops, Reachable p → rebuild (toCalls p) = .ok q → q.cols = p.cols := by
  intro h
  exact absurd (h pExt qExt pExt_reachable pExt_rebuild) (by decide)

open C12semScope in
/-- **Under the stated laws of `Θ` the scope hypothesis of `C12_rebuild_sem_all` cannot be dropped.**  The
interpretation `Θadv` (`Proofs/PrintSemScope.lean`) satisfies `ConvertOK` and `ConvertInvariant`, but its record
transform lists two output rows that tie on `k` in an order that depends on the *column order* of its input.  The
reachable pipeline `pAdv` (the N26 pattern with a column assigned twice) is rebuilt with its two `extend` nodes
merged, which permutes the declared columns `a, b`; the transform then emits its rows in the other order and
`order_rows(['k'], limit=1)` – a limit that cuts through a tie, outside C18's scope – keeps the other row.

This is a statement about the *laws* the theorems assume of record transforms (they constrain the output only up
to row order), not about the library: for an interpretation whose record transforms keep the row order when the
columns of the input are permuted (`ConvertColInvariant`), the rebuilt pipeline returns the same rows in the same
order on every input, no scope needed (`C12_rebuild_sem_all_rows`). -/
theorem C12_rebuild_sem_scope_necessary :
    ¬ ∀ (Θ : Interp) (cfg : SemCfg) (env : Env) (p q : Ops), ConvertOK Θ → ConvertInvariant Θ → Reachable p →
        rebuild (toCalls p) = .ok q → ResEquivC (sem Θ cfg env q) (sem Θ cfg env p) := by
  intro h
  have h0 := h Θadv .pandas envAdv pAdv qAdv Θadv_convertOK Θadv_convertInv pAdv_reachable pAdv_rebuild
  rw [sem_pAdv, sem_qAdv] at h0
  have hp : [advRow ["k", "v"] 2].Perm ([advRow ["k", "v"] 1].map (fun r => r.select ["k", "v"])) := h0.2.2.2.2
  have := List.singleton_perm_singleton.mp hp
  exact absurd this (by decide)

/-- the limit of `pAdv` is indeed outside C18's scope on this input (so `C12_rebuild_sem_all` does not apply): the
two rows tie on `k`, the cut falls between them -/
example : ¬ WindowsTotal Θadv .pandas C12semScope.envAdv C12semScope.pAdv := by
  intro h
  have h1 : LimitOK ["k"] [] 1 [advRow ["k", "v"] 1, advRow ["k", "v"] 2] := h.2 1 rfl _ rfl
  exact not_limitOK_tie (by decide) (by decide) (by decide) h1

/-- what the rebuild of a valid normal-form pipeline returns is in normal form (it is reachable) -/
theorem rebuildNF : RebuildNF := by
  intro p q hnf hv hq
  have hr : rebuild (toCalls p) = .ok q := by rw [rebuild_eq_replace p hnf hv]; exact hq
  exact C12_reachable_nf (C12_rebuild_reachable _ q hr)

/-- **C12 (results), no guard, no scope.**  For every reachable pipeline `p`, every interpretation `Θ` whose record
transforms return their declared columns (`ConvertOK`) and read and write columns by name
(`ConvertColInvariant`: permuting the columns of the input permutes the columns of the output and nothing else),
both configurations and **every** environment: if the printed text evaluates to `q`, then evaluating `q` fails with
the same error as evaluating `p`, or gives **the same rows in the same order**, the columns possibly listed in
another order (`≈ʳ`).  Window functions with ties, order dependent aggregates and limits that cut through a tie are
covered: the re-merge of `extend` nodes – the only thing the rebuild changes – keeps rows and row order. -/
theorem C12_rebuild_sem_all_rows (Θ : Interp) (cfg : SemCfg) (env : Env) (hΘ : ConvertOK Θ)
    (hR : ConvertColInvariant Θ) {p q : Ops} (h : Reachable p) (hr : rebuild (toCalls p) = .ok q) :
    ResEquivR (sem Θ cfg env q) (sem Θ cfg env p) := by
  rw [C12_rebuild_is_replaceLeaves h] at hr
  exact replaceId_semR hΘ hR rebuildNF p (C12_reachable_nf h) h.valid q hr

/-- … in particular the same table up to the order of rows and columns (the framework's comparison rule), with no
scope hypothesis, for interpretations with the column law -/
theorem C12_rebuild_sem_all_noscope (Θ : Interp) (cfg : SemCfg) (env : Env) (hΘ : ConvertOK Θ)
    (hR : ConvertColInvariant Θ) {p q : Ops} (h : Reachable p) (hr : rebuild (toCalls p) = .ok q) :
    ResEquivC (sem Θ cfg env q) (sem Θ cfg env p) :=
  (C12_rebuild_sem_all_rows Θ cfg env hΘ hR h hr).toC

/-- **C12 without guard and scope, assembled.** -/
theorem C12_rebuild_all_rows {p : Ops} (h : Reachable p) :
    ∃ q, rebuild (toCalls p) = .ok q ∧ Reachable q ∧ q.tables = p.tables ∧ q.cols.Perm p.cols ∧
      ∀ (Θ : Interp) (cfg : SemCfg) (env : Env), ConvertOK Θ → ConvertColInvariant Θ →
        ResEquivR (sem Θ cfg env q) (sem Θ cfg env p) := by
  obtain ⟨q, hq⟩ := C12_rebuild_total h
  obtain ⟨h1, h2, h3⟩ := C12_rebuild_struct h hq
  exact ⟨q, hq, h1, h2, h3, fun Θ cfg env hΘ hR => C12_rebuild_sem_all_rows Θ cfg env hΘ hR h hq⟩

/-- the adversarial interpretation of `C12_rebuild_sem_scope_necessary` is excluded by the column law (as it must be) -/
theorem Θadv_not_colInvariant : ¬ ConvertColInvariant Θadv := by
  intro hR
  have h0 := C12_rebuild_sem_all_rows Θadv .pandas C12semScope.envAdv Θadv_convertOK hR
    C12semScope.pAdv_reachable C12semScope.pAdv_rebuild
  rw [C12semScope.sem_pAdv, C12semScope.sem_qAdv] at h0
  have := List.singleton_perm_singleton.mp (List.Perm.of_eq h0.rows_eq)
  exact absurd this (by decide)

namespace C12semRows
open C06Ex

theorem convertColInv : ConvertColInvariant Θc := by
  intro rm t t' hn _
  show ResEquivR (conv rm t) (conv rm t')
  simp only [conv, nodupB_iff.mpr hn, if_true]
  exact Table.EquivR.refl (fun _ hr => by cases hr) hn

/-- `d.extend({'a': 'x', 'b': 'y'}).extend({'a': 'b + 1'}).extend({'a': 'y'}).order_rows(['y'], limit=1)`:
outside the guard (the two remaining `extend` nodes re-merge, with another column order) … -/
def pLim : Ops :=
  .order (.extend (.extend C12semScope.d [("a", .col "x"), ("b", .col "y")] [] [] [] false) [("a", .col "y")] [] [] [] false)
    ["y"] [] (some 1)

def qLim : Ops := .order (.extend C12semScope.d [("b", .col "y"), ("a", .col "y")] [] [] [] false) ["y"] [] (some 1)

theorem pLim_reachable : Reachable pLim :=
  Reachable.step C12semScope.pExt_reachable (by intro b hb; cases hb)
    (by rfl : build C12semScope.pExt (.order ["y"] [] (some 1)) = .ok pLim)

theorem pLim_rebuild : rebuild (toCalls pLim) = .ok qLim := by
  show (rebuild (toCalls C12semScope.pExt) >>= fun p => build p (.order ["y"] [] (some 1))) = _
  rw [C12semScope.pExt_rebuild]
  rfl

/-- both rows tie on `y` -/
def envTie : Env := [("d", ⟨["x", "y"], [[("x", .num 1), ("y", .num 5)], [("x", .num 2), ("y", .num 5)]]⟩)]

def rowP (x : Rat) : Row := [("x", .num x), ("y", .num 5), ("a", .num 5), ("b", .num 5)]
def rowQ (x : Rat) : Row := [("x", .num x), ("y", .num 5), ("b", .num 5), ("a", .num 5)]

/-- … and outside C18's scope on this input (the limit cuts through a tie), so `C12_rebuild_sem_all` does not
apply … -/
example : ¬ WindowsTotal Θc .pandas envTie pLim := by
  intro h
  have h1 : LimitOK ["y"] [] 1 [rowP 1, rowP 2] := h.2 1 rfl _ rfl
  exact not_limitOK_tie (by decide) (by decide) (by decide) h1

example : ResEquivR (sem Θc .pandas envTie qLim) (sem Θc .pandas envTie pLim) :=
  C12_rebuild_sem_all_rows Θc .pandas envTie convertOK convertColInv pLim_reachable pLim_rebuild

/-- … namely the first one (`x = 1`), with the columns `a, b` in the other order. -/
example : sem Θc .pandas envTie pLim = .ok ⟨["x", "y", "a", "b"], [rowP 1]⟩ ∧
    sem Θc .pandas envTie qLim = .ok ⟨["x", "y", "b", "a"], [rowQ 1]⟩ := by
  have sP : sortRows ["y"] [] [rowP 1, rowP 2] = [rowP 1, rowP 2] := sortRows_of_sorted (by decide)
  have sQ : sortRows ["y"] [] [rowQ 1, rowQ 2] = [rowQ 1, rowQ 2] := sortRows_of_sorted (by decide)
  have hP : sem Θc .pandas envTie pLim = .ok (semOrder ["y"] [] (some 1) ⟨["x", "y", "a", "b"], [rowP 1, rowP 2]⟩) :=
    rfl
  have hQ : sem Θc .pandas envTie qLim = .ok (semOrder ["y"] [] (some 1) ⟨["x", "y", "b", "a"], [rowQ 1, rowQ 2]⟩) :=
    rfl
  rw [hP, hQ, semOrder, semOrder, sP, sQ]
  exact ⟨rfl, rfl⟩

example : ResEquivR (sem Θc .pandas C12semEx.envJoin C12semEx.pJoinRebuilt)
    (sem Θc .pandas C12semEx.envJoin C12semEx.pJoin) :=
  C12_rebuild_sem_all_rows Θc .pandas _ convertOK convertColInv C12semEx.pJoin_reachable C12semEx.pJoin_rebuild

end C12semRows

end DAVerif.C12
