import DAVerif.Proofs.SqlReach
import DAVerif.Proofs.SqlNested
import DAVerif.Props.C01all
import DAVerif.Props.C16full
/-!
# C01 / C02 / C16 — SQLite's emulated RIGHT and FULL joins anywhere in the pipeline, up to row order

`Props/C01joins.lean` and `Props/C16full.lean` treat the emulated joins (RIGHT = LEFT join of the swapped sources; FULL =
key union ⟕ left ⟕ right) at the root only, because the emulation lists the rows in another order than the reference join
and every step above it then works on a permuted table.  Here they may sit anywhere, also inside the emulation pipeline of
a FULL join; every dialect configuration.  Statement: same column set, same multiset of rows as `sem Θ SemCfg.ref`.

Scope: structural `Sql.SqlE.GoodE env p` (`Sql.Good` without `JoinsNative`, with `JoinKeysLen`: both key lists of a join have
the same length, asserted by `NaturalJoinNode.__init__`); data `Sql.SqlE.ScopeE Θ env cfg p`: C18's `AggsOrderFree`,
`WindowsTotal` (above an emulated join a window / a limit sees the rows in another order than the reference: exactly the
conditions under which that does not matter), C01's `SqlScope`, and D19 `FullKeysNullFree` (wherever the dialect emulates a
FULL join no join key of either side is null; necessary: `C16_nested_fullkeys_necessary`).

Not proved: the unconditional forms of C08 / C09 for nested emulated joins (the table the induction produces is related
to the reference semantics only inside the data-side scope), and a stage-A statement against `semE ec` (the operators above
a permuted table are not functions of `semE`'s table).
-/
namespace DAVerif
open DAVerif.Sql DAVerif.Sql.SqlE

/-- **C01_translation_sound_nested.**  Every dialect configuration `cfg` (extend merges on or off; RIGHT / FULL joins
native or emulated), one interpretation `Θ` on both sides, both engines' NULL placement.  For every pipeline `p` of the
fragment with joins and `concat_rows` in scope (`GoodE`: any SQL join type **anywhere**; `ScopeE`: C18's and C01's data
scope and null-free keys at emulated FULL joins): if `to_sql` produces the query `q`, then `q` evaluates, the reference
semantics evaluates, and the two tables have the **same column set and the same multiset of rows**. -/
theorem C01_translation_sound_nested (Θ : Interp) (ec : EngineCfg) (env : Env) (cfg : SqlCfg) (p : Ops)
    (hg : GoodE env p) (hs : ScopeE Θ env cfg p) {q : Near} (h : toNearSql cfg p = .ok q) :
    ∃ T t, semSql Θ ec env q = .ok T ∧ sem Θ SemCfg.ref env p = .ok t ∧ t.cols = p.cols ∧ T.EquivS t := by
  obtain ⟨st', hrun⟩ := toNearSql_ok h
  obtain ⟨T, t, h1, h2, h3, h4, _⟩ := nested_root Θ ec env cfg p hg hs hrun
  exact ⟨T, t, h1, h2, h3, h4⟩

/-- **SQLite, all five SQL join types anywhere in the pipeline** (`cfg.emulateRightFull = true`, extend merges on or
off), hypotheses spelled out.  INNER, LEFT, CROSS are rendered natively, RIGHT as the swapped LEFT join (no guard on the
data: any null pattern of the keys), FULL through `_emit_full_join_as_complex` (guard
`FullKeysNullFree`, finding D19). -/
theorem C01_translation_sound_sqlite_five_joins (Θ : Interp) (ec : EngineCfg) (env : Env) (cfg : SqlCfg)
    (_hemu : cfg.emulateRightFull = true) (p : Ops)
    (hf : InFragJ p = true) (hwf : WF p) (hsq : SqlWF p) (hmp : MapsOK p) (hj : JoinWF p) (ht : JoinTypesSql p)
    (hk : JoinKeysLen p) (hl : LabelSidesPlain p) (he : EnvOK false env p)
    (hA : AggsOrderFree Θ p) (hW : WindowsTotal Θ SemCfg.ref env p) (hS : SqlScope Θ SemCfg.ref env p)
    (hF : FullKeysNullFree Θ env cfg p) {q : Near} (h : toNearSql cfg p = .ok q) :
    ∃ T t, semSql Θ ec env q = .ok T ∧ sem Θ SemCfg.ref env p = .ok t ∧ t.cols = p.cols ∧ T.EquivS t :=
  C01_translation_sound_nested Θ ec env cfg p ⟨hf, hwf, hsq, hmp, hj, ht, hk, hl, he⟩ ⟨hA, hW, hS, hF⟩ h

/-- **For pipelines built by the builders**: `Reachable p` replaces `WF`, `SqlWF`, `JoinWF` and `JoinKeysLen`
(`C26_reachable_wf`, `C01_reachable_sqlwf`, `C16_reachable_joinwf`, `Sql.SqlE.reachable_joinKeysLen`). -/
theorem C01_translation_sound_nested_reachable (Θ : Interp) (ec : EngineCfg) (env : Env) (cfg : SqlCfg) (p : Ops)
    (hr : Reachable p) (hf : InFragJ p = true) (hmp : MapsOK p) (ht : JoinTypesSql p) (hl : LabelSidesPlain p)
    (he : EnvOK false env p) (hs : ScopeE Θ env cfg p) {q : Near} (h : toNearSql cfg p = .ok q) :
    ∃ T t, semSql Θ ec env q = .ok T ∧ sem Θ SemCfg.ref env p = .ok t ∧ t.cols = p.cols ∧ T.EquivS t :=
  C01_translation_sound_nested Θ ec env cfg p
    ⟨hf, C26_reachable_wf hr, C01_reachable_sqlwf hr, hmp, C16_reachable_joinwf hr, ht, reachable_joinKeysLen hr, hl, he⟩
    hs h

/-- **RIGHT joins anywhere**: `C01_translation_sound_nested` with the data scope spelled out.  For a pipeline without
FULL join `fullKeysNullFree_of_noFull` discharges `hnofull`: no guard beyond the scope of C01/C18 is left. -/
theorem C01_translation_sound_sqlite_right_anywhere (Θ : Interp) (ec : EngineCfg) (env : Env) (cfg : SqlCfg) (p : Ops)
    (hg : GoodE env p) (hnofull : FullKeysNullFree Θ env cfg p)
    (hA : AggsOrderFree Θ p) (hW : WindowsTotal Θ SemCfg.ref env p) (hS : SqlScope Θ SemCfg.ref env p)
    {q : Near} (h : toNearSql cfg p = .ok q) :
    ∃ T t, semSql Θ ec env q = .ok T ∧ sem Θ SemCfg.ref env p = .ok t ∧ t.cols = p.cols ∧ T.EquivS t :=
  C01_translation_sound_nested Θ ec env cfg p hg ⟨hA, hW, hS, hnofull⟩ h

/-- no FULL join in the pipeline; then the guard `FullKeysNullFree` holds (`fullKeysNullFree_of_noFull`) -/
def noFullb : Ops → Bool
  | .table _ _ => true
  | .extend s _ _ _ _ _ | .project s _ _ | .selectRows s _ | .selectCols s _ | .dropCols s _
  | .order s _ _ _ | .rename s _ | .mapCols s _ _ | .convert s _ => noFullb s
  | .join a b _ _ jt => noFullb a && noFullb b && jt != .full
  | .concat a b _ _ _ => noFullb a && noFullb b

theorem fullKeysNullFree_of_noFull (Θ : Interp) (env : Env) (cfg : SqlCfg) (p : Ops) (h : noFullb p = true) :
    FullKeysNullFree Θ env cfg p := by
  induction p with
  | table => trivial
  | join a b oa ob jt iha ihb =>
    simp only [noFullb, Bool.and_eq_true, bne_iff_ne, ne_eq] at h
    exact ⟨iha h.1.1, ihb h.1.2, fun _ e => absurd e h.2⟩
  | concat a b i an bn iha ihb =>
    simp only [noFullb, Bool.and_eq_true] at h
    exact ⟨iha h.1, ihb h.2⟩
  | _ => rename_i ih; exact ih h

/-- **C08 with emulated joins anywhere**: the SQL result has exactly the declared column set (within the scope of the
main theorem). -/
theorem C08_sql_cols_nested (Θ : Interp) (ec : EngineCfg) (env : Env) (cfg : SqlCfg) (p : Ops)
    (hg : GoodE env p) (hs : ScopeE Θ env cfg p) {q : Near} (h : toNearSql cfg p = .ok q) :
    ∃ T, semSql Θ ec env q = .ok T ∧ ∀ c, c ∈ T.cols ↔ c ∈ p.cols := by
  obtain ⟨T, t, h1, _, h3, h4⟩ := C01_translation_sound_nested Θ ec env cfg p hg hs h
  exact ⟨T, h1, fun c => by rw [← h3]; exact h4.1 c⟩

/-- **C09 with emulated joins anywhere**: as many rows as the reference table (within the scope of the main theorem). -/
theorem C09_sql_row_count_nested (Θ : Interp) (ec : EngineCfg) (env : Env) (cfg : SqlCfg) (p : Ops)
    (hg : GoodE env p) (hs : ScopeE Θ env cfg p) {q : Near} (h : toNearSql cfg p = .ok q) :
    ∃ T t, semSql Θ ec env q = .ok T ∧ sem Θ SemCfg.ref env p = .ok t ∧ T.rows.length = t.rows.length := by
  obtain ⟨T, t, h1, h2, _, h4⟩ := C01_translation_sound_nested Θ ec env cfg p hg hs h
  refine ⟨T, t, h1, h2, ?_⟩
  have := h4.2.length_eq
  simpa using this

/-- **C04 with emulated joins anywhere**: the translation result satisfies the invariant of mergeable steps. -/
theorem C04_merge_invariant_nested (Θ : Interp) (ec : EngineCfg) (env : Env) (cfg : SqlCfg) (p : Ops)
    (hg : GoodE env p) (hs : ScopeE Θ env cfg p) {q : Near} (h : toNearSql cfg p = .ok q) : MergeInv q := by
  obtain ⟨st', hrun⟩ := toNearSql_ok h
  obtain ⟨_, _, _, _, _, _, hM⟩ := nested_root Θ ec env cfg p hg hs hrun
  exact hM

/-- **C01_final_order_nested.**  A pipeline that ends in `order_rows` over a source in scope (emulated joins anywhere in
the source): if the final order is total on the rows that reach it and its order columns contain no null, the SQL
result has the reference rows **as a list** (same rows, same order), limit or not. -/
theorem C01_final_order_nested (Θ : Interp) (ec : EngineCfg) (env : Env) (cfg : SqlCfg) (src : Ops)
    (cs rv : List String) (lim : Option Nat) (hg : GoodE env (.order src cs rv lim)) (hs : ScopeE Θ env cfg src)
    {ts : Table} (hts : sem Θ SemCfg.ref env src = .ok ts) (hnull : NullFreeOn cs ts.rows)
    (htot : TotalOn cs rv ts.rows) {q : Near} (h : toNearSql cfg (.order src cs rv lim) = .ok q) :
    ∃ T t, semSql Θ ec env q = .ok T ∧ sem Θ SemCfg.ref env (.order src cs rv lim) = .ok t ∧
      (∀ c, c ∈ T.cols ↔ c ∈ src.cols) ∧ T.rows.map (fun r => r.select src.cols) = t.rows := by
  obtain ⟨st', hrun⟩ := toNearSql_ok h
  have hfuel : 6 * (Ops.order src cs rv lim).size + 6 = (6 * (Ops.order src cs rv lim).size + 5) + 1 := rfl
  rw [hfuel] at hrun
  obtain ⟨T, t1, t2, t3⟩ := nested_root_final_order Θ ec env cfg src cs rv lim hg hs hts hnull htot hrun
  refine ⟨T, semOrder cs rv lim ts, t1, ?_, t2, t3⟩
  simp only [sem, hts]
  rfl

open C16FullEx in
/-- **C16_nested_fullkeys_necessary.**  `A.natural_join(B, on=['k'], jointype='full')` with a null key on each side
(the witness of `C16_sqlite_full_nullkeys_necessary`): every hypothesis of `C01_translation_sound_nested` but
`FullKeysNullFree` holds – the structural scope, order-free aggregates, total windows, `SqlScope` –, the translation
succeeds and the query evaluates, but its rows are **not** the rows of the reference FULL join, not even as a multiset
(two rows against three). -/
theorem C16_nested_fullkeys_necessary :
    GoodE envF pF ∧ AggsOrderFree C18Ex.Θc pF ∧ WindowsTotal C18Ex.Θc SemCfg.ref envF pF ∧
    SqlScope C18Ex.Θc SemCfg.ref envF pF ∧ ¬ FullKeysNullFree C18Ex.Θc envF cfgS pF ∧
    ∃ q T t, toNearSql cfgS pF = .ok q ∧ semSql C18Ex.Θc EngineCfg.sqlite envF q = .ok T ∧
      sem C18Ex.Θc SemCfg.ref envF pF = .ok t ∧ ¬ T.EquivS t := by
  obtain ⟨hga, hgb, _, q, T, t, h1, h2, h3, h4, h5, h6⟩ := C16_sqlite_full_nullkeys_necessary
  refine ⟨GoodE.of_checks ⟨hga.wf, hgb.wf⟩ ?_ (by decide),
    ⟨trivial, trivial⟩, ⟨trivial, trivial⟩, ⟨trivial, trivial⟩, ?_, q, T, t, h1, h2, h3, ?_⟩
  · intro nc hnc
    simp only [pF, tA, tB, Ops.tables, List.cons_append, List.nil_append, List.mem_cons, List.not_mem_nil,
      or_false] at hnc
    rcases hnc with rfl | rfl
    · exact hga.env _ (by simp [tA, Ops.tables])
    · exact hgb.env _ (by simp [tB, Ops.tables])
  · intro hF
    have := (hF.2.2 rfl rfl).1 ⟨["k", "x"], [a1, a2]⟩ rfl
    exact absurd (this a1 (by simp) "k" (by simp)) (by decide)
  · intro hE
    have hc : t.cols = pF.cols :=
      (semG_cols_wf_fragJ rowLe C18Ex.Θc SemCfg.ref envF pF rfl t (by rw [semG_rowLe]; exact h3)).1
    apply h6
    rw [← hc]
    exact hE.2

namespace C16NestedEx
open C18Ex (Θc)

/-- SQLite with and without extend merges -/
def cfgST : SqlCfg := ⟨true, true⟩
def cfgSF : SqlCfg := ⟨false, true⟩

def envM : Env :=
  [("A", ⟨["k", "x"], [[("k", .num 2), ("x", .num 20)], [("k", .num 1), ("x", .num 10)], [("k", .num 1), ("x", .num 11)]]⟩),
   ("B", ⟨["k", "y"], [[("k", .num 1), ("y", .num 5)], [("k", .num 3), ("y", .num 7)], [("k", .num 2), ("y", .num 6)]]⟩),
   ("C", ⟨["k", "z"], [[("k", .num 1), ("z", .num 100)], [("k", .num 3), ("z", .num 300)]]⟩),
   ("B2", ⟨["k", "y"], [[("k", .num 1), ("y", .num 5)], [("k", .num 2), ("y", .num 6)]]⟩)]
def tA : Ops := .table "A" ["k", "x"]
def tB : Ops := .table "B" ["k", "y"]
def tC : Ops := .table "C" ["k", "z"]
def tB2 : Ops := .table "B2" ["k", "y"]
def yPlus1 : Term := .app "+" [.col "y", .value (.int 1)] true false

theorem wfB2 : WF tB2 := by decide


/-- `A.natural_join(B, on=['k'], jointype='right').extend({'w': 'y + 1'})` -/
def pR : Ops := .extend (.join tA tB ["k"] ["k"] .right) [("w", yPlus1)] [] [] [] false

theorem goodE_pR : GoodE envM pR :=
  GoodE.of_checks (by decide +kernel) (by decide +kernel) (by decide +kernel)

theorem scopeE_pR (cfg : SqlCfg) : ScopeE Θc envM cfg pR :=
  ⟨⟨trivial, trivial⟩, ⟨⟨trivial, trivial⟩, fun h => by cases h⟩, ⟨⟨trivial, trivial⟩, fun h => by cases h⟩,
    ⟨trivial, trivial, fun _ h => by cases h⟩⟩

/-- the SQL (swapped LEFT join below the extend step) lists the rows right-row-major, the reference left-row-major:
the two results differ as lists … -/
example : ∃ q T t, toNearSql cfgST pR = .ok q ∧ semSql Θc EngineCfg.sqlite envM q = .ok T ∧
    sem Θc SemCfg.ref envM pR = .ok t ∧
    T.rows = [[("k", .num 1), ("x", .num 10), ("y", .num 5), ("w", .num 6)],
      [("k", .num 1), ("x", .num 11), ("y", .num 5), ("w", .num 6)],
      [("k", .num 2), ("x", .num 20), ("y", .num 6), ("w", .num 7)],
      [("k", .num 3), ("x", .null), ("y", .num 7), ("w", .num 8)]] ∧
    t.rows = [[("k", .num 2), ("x", .num 20), ("y", .num 6), ("w", .num 7)],
      [("k", .num 1), ("x", .num 10), ("y", .num 5), ("w", .num 6)],
      [("k", .num 1), ("x", .num 11), ("y", .num 5), ("w", .num 6)],
      [("k", .num 3), ("x", .null), ("y", .num 7), ("w", .num 8)]] :=
  ⟨_, _, _, rfl, rfl, rfl, by decide +kernel, by decide +kernel⟩

example (ec : EngineCfg) (cfg : SqlCfg) {q : Near} (h : toNearSql cfg pR = .ok q) :
    ∃ T t, semSql Θc ec envM q = .ok T ∧ sem Θc SemCfg.ref envM pR = .ok t ∧ t.cols = pR.cols ∧ T.EquivS t :=
  C01_translation_sound_nested Θc ec envM cfg pR goodE_pR (scopeE_pR cfg) h

/-- `A.natural_join(B, on=['k'], jointype='right').extend({'c': '_.size()'}, partition_by=['k'])`: the window function
sees its partitions in another row order than in the reference; `size` is order free -/
def pW : Ops := .extend (.join tA tB ["k"] ["k"] .right) [("c", C04Ex.sizeW)] ["k"] [] [] true

theorem goodE_pW : GoodE envM pW :=
  GoodE.of_checks (by decide +kernel) (by decide +kernel) (by decide +kernel)

theorem scopeE_pW (cfg : SqlCfg) : ScopeE Θc envM cfg pW :=
  ⟨⟨trivial, trivial⟩,
    ⟨⟨trivial, trivial⟩, fun _ t _ => Or.inr (fun kv hkv => by
      simp only [List.mem_singleton] at hkv
      subst hkv
      exact C18Ex.size_win_orderFree)⟩,
    ⟨⟨trivial, trivial⟩, fun _ t _ => Or.inl (fun _ _ _ hc => by cases hc)⟩,
    ⟨trivial, trivial, fun _ h => by cases h⟩⟩

example (ec : EngineCfg) (cfg : SqlCfg) {q : Near} (h : toNearSql cfg pW = .ok q) :
    ∃ T t, semSql Θc ec envM q = .ok T ∧ sem Θc SemCfg.ref envM pW = .ok t ∧ t.cols = pW.cols ∧ T.EquivS t :=
  C01_translation_sound_nested Θc ec envM cfg pW goodE_pW (scopeE_pW cfg) h

/-- with extend merges the window step is a new step over the (never mergeable) join step: two queries -/
example : ∃ q, toNearSql cfgST pW = .ok q ∧ q.names = ["extend_1", "natural_join_0"] := ⟨_, rfl, by decide⟩

/-- `A.natural_join(B, on=['k'], jointype='right').natural_join(C, on=['k'], jointype='full').extend({'w': 'y + 1'})`:
the FULL join is emulated by a pipeline that contains the (emulated) RIGHT join twice – once for the key projection,
once as the left input of the first LEFT join -/
def pRF : Ops :=
  .extend (.join (.join tA tB ["k"] ["k"] .right) tC ["k"] ["k"] .full) [("w", yPlus1)] [] [] [] false

theorem goodE_pRF : GoodE envM pRF :=
  GoodE.of_checks (by decide +kernel) (by decide +kernel) (by decide +kernel)

/-- the table of the inner RIGHT join: no null key -/
theorem sem_inner : sem Θc SemCfg.ref envM (.join tA tB ["k"] ["k"] .right) = .ok ⟨["k", "x", "y"],
    [[("k", .num 2), ("x", .num 20), ("y", .num 6)], [("k", .num 1), ("x", .num 10), ("y", .num 5)],
     [("k", .num 1), ("x", .num 11), ("y", .num 5)], [("k", .num 3), ("x", .null), ("y", .num 7)]]⟩ := by
  decide +kernel

theorem scopeE_pRF (cfg : SqlCfg) : ScopeE Θc envM cfg pRF := by
  refine ⟨⟨⟨trivial, trivial⟩, trivial⟩, ⟨⟨⟨trivial, trivial⟩, trivial⟩, fun h => by cases h⟩,
    ⟨⟨⟨trivial, trivial⟩, trivial⟩, fun h => by cases h⟩, ⟨trivial, trivial, fun _ h => by cases h⟩, trivial, ?_⟩
  intro _ _
  refine ⟨?_, ?_⟩
  · intro ta hta
    rw [sem_inner] at hta
    cases hta
    decide
  · intro tb htb
    have : sem Θc SemCfg.ref envM tC = .ok ⟨["k", "z"], [[("k", .num 1), ("z", .num 100)],
        [("k", .num 3), ("z", .num 300)]]⟩ := rfl
    rw [this] at htb
    cases htb
    decide

/-- twelve queries: the emulation pipeline of the FULL join with the swapped LEFT join inside it, twice -/
example : (toNearSql cfgST pRF).toOption.map (fun q => q.names.length) = some 12 := by decide +kernel

example : (toNearSql cfgST pRF >>= semSql Θc EngineCfg.sqlite envM).toOption.map (·.rows) =
    some [[("k", .num 1), ("x", .num 10), ("y", .num 5), ("z", .num 100), ("w", .num 6)],
      [("k", .num 1), ("x", .num 11), ("y", .num 5), ("z", .num 100), ("w", .num 6)],
      [("k", .num 3), ("x", .null), ("y", .num 7), ("z", .num 300), ("w", .num 8)],
      [("k", .num 2), ("x", .num 20), ("y", .num 6), ("z", .null), ("w", .num 7)]] := by decide +kernel

example (ec : EngineCfg) (cfg : SqlCfg) {q : Near} (h : toNearSql cfg pRF = .ok q) :
    ∃ T t, semSql Θc ec envM q = .ok T ∧ sem Θc SemCfg.ref envM pRF = .ok t ∧ t.cols = pRF.cols ∧ T.EquivS t :=
  C01_translation_sound_nested Θc ec envM cfg pRF goodE_pRF (scopeE_pRF cfg) h

/-- `A.natural_join(B2, on=['k'], jointype='right').order_rows(['k', 'x'])` -/
def pO : Ops := .order (.join tA tB2 ["k"] ["k"] .right) ["k", "x"] [] none

theorem sem_pO_src : sem Θc SemCfg.ref envM (.join tA tB2 ["k"] ["k"] .right) = .ok ⟨["k", "x", "y"],
    [[("k", .num 2), ("x", .num 20), ("y", .num 6)], [("k", .num 1), ("x", .num 10), ("y", .num 5)],
     [("k", .num 1), ("x", .num 11), ("y", .num 5)]]⟩ := by decide +kernel

example (ec : EngineCfg) (cfg : SqlCfg) {q : Near} (h : toNearSql cfg pO = .ok q) :
    ∃ T t, semSql Θc ec envM q = .ok T ∧ sem Θc SemCfg.ref envM pO = .ok t ∧
      (∀ c, c ∈ T.cols ↔ c ∈ (Ops.join tA tB2 ["k"] ["k"] .right).cols) ∧
      T.rows.map (fun r => r.select (Ops.join tA tB2 ["k"] ["k"] .right).cols) = t.rows :=
  C01_final_order_nested Θc ec envM cfg (.join tA tB2 ["k"] ["k"] .right) ["k", "x"] [] none
    (GoodE.of_checks (by decide +kernel) (by decide +kernel) (by decide +kernel))
    ⟨⟨trivial, trivial⟩, ⟨trivial, trivial⟩, ⟨trivial, trivial⟩, ⟨trivial, trivial, fun _ h => by cases h⟩⟩
    sem_pO_src (by decide +kernel) (by decide +kernel) h

/-- the SQL of the join alone lists `k = 1` first (right-row-major), the reference `k = 2` (`sem_pO_src`) -/
example : (toNearSql cfgST (.join tA tB2 ["k"] ["k"] .right) >>= semSql Θc EngineCfg.sqlite envM).toOption.map (·.rows) =
    some [[("k", .num 1), ("y", .num 5), ("x", .num 10)], [("k", .num 1), ("y", .num 5), ("x", .num 11)],
      [("k", .num 2), ("y", .num 6), ("x", .num 20)]] := by decide +kernel

end C16NestedEx

end DAVerif
