import DAVerif.Proofs.DataSpace
/-!
# C20 — Data spaces behave like a keyed store of tables

Model: `Space/DataSpace.lean`.  Here: the specification (`Spec.*`: a keyed store, its steps and runs, written independently of
the model), the abstraction functions `Mem.abs` / `DB.abs`, the invariant and scope predicates of `DBSpace`, and what the step
relation `Does` of `Proofs/DataSpace.lean` means for the keyed store (`Does.refines`, `Does.preserves`, `Does.auto_fresh`:
once, for both spaces).  Every theorem quantifies over all key / table / description / pipeline types, all evaluators
`evalOps`, all states and all histories.  The model is of the code with `fixes/dataspace-auto-key-skips-taken-names.diff`
applied (D11); `TmpInjective P` ("`da_temp_<a>` = `da_temp_<b>` only if a = b") is the only hypothesis about the parameters
and is proved for the real name function (`daTemp_injective`).
-/
namespace DAVerif.Space

variable {κ τ δ ω : Type} [DecidableEq κ]

namespace Spec

/-- what a caller can observe of one operation: it raised, or it returned this -/
inductive SOut (κ τ δ : Type) where
  | err | unit | descr (k : κ) (d : δ) | table (t : τ) | keys (ks : List κ)
  deriving DecidableEq

/-- Storing table `v` (description `d`) under the key argument `key` with `allow_overwrite = b`:
* a `str` key: refused (error, store unchanged) iff overwriting is not allowed and the key is bound;
  otherwise the key is (re)bound to `v` and a description named `key` is returned;
* `None`: the table is bound to SOME key that was not bound before, which is returned;
* anything else: error, store unchanged. -/
def write (m : κ → Option τ) (key : KeyArg κ) (b : Bool) (v : τ) (d : δ)
    (out : SOut κ τ δ) (m' : κ → Option τ) : Prop :=
  match key with
  | .str k => if b = false ∧ m k ≠ none then out = .err ∧ m' = m
              else out = .descr k d ∧ m' = upd m k (some v)
  | .auto => ∃ k, m k = none ∧ out = .descr k d ∧ m' = upd m k (some v)
  | .bad => out = .err ∧ m' = m

/-- One operation of the keyed store: which outcomes `out` and next stores `m'` are allowed from `m`.
A failed operation leaves the store unchanged.  `execute` stores the pipeline's value *on the current
contents* `m`. -/
def step (P : Params κ τ δ ω) (m : κ → Option τ) :
    Op κ τ ω → SOut κ τ δ → (κ → Option τ) → Prop
  | .insert key value ow, out, m' =>
    match value, ow with
    | some v, some b => write m key b v (P.descOf v) out m'
    | _, _ => out = .err ∧ m' = m                      -- not a table / not a bool
  | .execute ops key ow, out, m' =>
    match ow with
    | some b =>
      match P.evalOps ops m with
      | .ok v => write m key b v (P.descOf v) out m'
      | .error _ => out = .err ∧ m' = m
    | none => out = .err ∧ m' = m
  | .remove key, out, m' =>
    match key with
    | some k => if m k ≠ none then out = .unit ∧ m' = upd m k none else out = .err ∧ m' = m
    | none => out = .err ∧ m' = m
  | .describe key, out, m' =>
    match key with
    | some k => (match m k with
                 | some v => out = .descr k (P.descOf v) ∧ m' = m
                 | none => out = .err ∧ m' = m)
    | none => out = .err ∧ m' = m
  | .retrieve key, out, m' =>
    match key with
    | some k => (match m k with
                 | some v => out = .table v ∧ m' = m
                 | none => out = .err ∧ m' = m)
    | none => out = .err ∧ m' = m
  | .keys, out, m' => ∃ ks, out = .keys ks ∧ (∀ k, k ∈ ks ↔ m k ≠ none) ∧ m' = m

/-- a history of the keyed store with its observed outcomes -/
inductive Run (P : Params κ τ δ ω) :
    (κ → Option τ) → List (Op κ τ ω) → List (SOut κ τ δ) → (κ → Option τ) → Prop
  | nil (m) : Run P m [] [] m
  | cons {m m1 m2 op out h outs} : step P m op out m1 → Run P m1 h outs m2 → Run P m (op :: h) (out :: outs) m2

def empty : κ → Option τ := fun _ => none

end Spec

open Spec

/-- the observable part of an implementation outcome (the error class is compared by the correspondence
suite, the specification only says *that* the operation raises) -/
def outAbs : Except Err (Out κ τ δ) → SOut κ τ δ
  | .error _ => .err
  | .ok .unit => .unit
  | .ok (.descr k d) => .descr k d
  | .ok (.table t) => .table t
  | .ok (.keys ks) => .keys ks

/-- abstraction of a DataModelSpace state: `data_map` read as a map -/
def Mem.abs (s : Mem.State κ τ) : κ → Option τ := AL.lookup s.map

/-- abstraction of a DBSpace state: the database tables the space knows (`description_map`) -/
def DB.abs (s : DB.State κ τ δ) : κ → Option τ := fun k => if AL.has s.descr k then AL.lookup s.db k else none

/-- Invariant of DBSpace (`C20_db_inv`): every described key names a table of the database and carries that
table's description; every key eligible for auto-drop is a described key; the auto-drop set (a Python `set`, here a
list) has no repeats – `close` drops each of its keys once and would raise KeyError on a second occurrence. -/
structure DB.Inv (P : Params κ τ δ ω) (s : DB.State κ τ δ) : Prop where
  descr_in_db : ∀ k d, AL.lookup s.descr k = some d → ∃ v, AL.lookup s.db k = some v ∧ d = P.descOf v
  auto_sub : ∀ k, k ∈ s.autoDrop → AL.has s.descr k = true
  auto_nodup : s.autoDrop.Nodup

/-- scope: the space owns its database – every table of the database is a key of the space (true for a space
created on an empty database and used only through the space) -/
def DB.Owned (s : DB.State κ τ δ) : Prop := ∀ k, AL.has s.db k = true → AL.has s.descr k = true

/-- every described key is eligible for auto-drop (true when `model_table(eligible_for_auto_drop=False)` is
never called by the user) -/
def DB.AutoAll (s : DB.State κ τ δ) : Prop := ∀ k, AL.has s.descr k = true → k ∈ s.autoDrop

/-- the operation is a write under the explicit key `k` with `allow_overwrite=False` -/
def Op.IsNoOverwriteAt : Op κ τ ω → κ → Prop
  | .insert (.str k') _ (some false), k => k' = k
  | .execute _ (.str k') (some false), k => k' = k
  | _, _ => False

/-- the operation is a write with `allow_overwrite=False` (any key argument) -/
def Op.IsNoOverwrite : Op κ τ ω → Prop
  | .insert _ _ (some false) => True
  | .execute _ _ (some false) => True
  | _ => False

/-- the operation is a write with `key=None` -/
def Op.IsAuto : Op κ τ ω → Prop
  | .insert .auto _ _ => True
  | .execute _ .auto _ => True
  | _ => False

omit [DecidableEq κ] in
theorem Op.isNoOverwriteAt_inv {op : Op κ τ ω} {k : κ} (h : op.IsNoOverwriteAt k) :
    (∃ value, op = .insert (.str k) value (some false)) ∨ (∃ ops, op = .execute ops (.str k) (some false)) := by
  unfold Op.IsNoOverwriteAt at h
  split at h
  · cases h; exact Or.inl ⟨_, rfl⟩
  · cases h; exact Or.inr ⟨_, rfl⟩
  · cases h

omit [DecidableEq κ] in
theorem Op.isAuto_inv {op : Op κ τ ω} (h : op.IsAuto) :
    (∃ value ow, op = .insert .auto value ow) ∨ (∃ ops ow, op = .execute ops .auto ow) := by
  unfold Op.IsAuto at h
  split at h
  · exact Or.inl ⟨_, _, rfl⟩
  · exact Or.inr ⟨_, _, rfl⟩
  · cases h

theorem Spec.step_insert_err (P : Params κ τ δ ω) {m : κ → Option τ} {key : KeyArg κ} {value : Option τ}
    {ow : Option Bool}
    (h : key = .bad ∨ ow = none ∨ value = none ∨ ∃ k, key = .str k ∧ ow = some false ∧ m k ≠ none) :
    Spec.step P m (.insert key value ow) .err m := by
  rcases h with rfl | rfl | rfl | ⟨k, rfl, rfl, hk⟩
  · cases value <;> cases ow <;> exact ⟨rfl, rfl⟩
  · cases value <;> exact ⟨rfl, rfl⟩
  · exact ⟨rfl, rfl⟩
  · cases value
    · exact ⟨rfl, rfl⟩
    · exact (if_pos ⟨rfl, hk⟩).mpr ⟨rfl, rfl⟩

theorem Spec.step_execute (P : Params κ τ δ ω) (m : κ → Option τ) (ops : ω) (key : KeyArg κ) (b : Bool)
    (out : SOut κ τ δ) (m' : κ → Option τ) :
    Spec.step P m (.execute ops key (some b)) out m' =
      match P.evalOps ops m with
      | .ok v => Spec.write m key b v (P.descOf v) out m'
      | .error _ => out = .err ∧ m' = m := rfl

theorem Spec.step_describe (P : Params κ τ δ ω) (m : κ → Option τ) (k : κ) (out : SOut κ τ δ) (m' : κ → Option τ) :
    Spec.step P m (.describe (some k)) out m' =
      match m k with
      | some v => out = .descr k (P.descOf v) ∧ m' = m
      | none => out = .err ∧ m' = m := rfl

theorem Spec.step_retrieve (P : Params κ τ δ ω) (m : κ → Option τ) (k : κ) (out : SOut κ τ δ) (m' : κ → Option τ) :
    Spec.step P m (.retrieve (some k)) out m' =
      match m k with
      | some v => out = .table v ∧ m' = m
      | none => out = .err ∧ m' = m := rfl

theorem Spec.step_execute_err (P : Params κ τ δ ω) {m : κ → Option τ} {ops : ω} {key : KeyArg κ}
    {ow : Option Bool}
    (h : key = .bad ∨ ow = none ∨ (∃ e, P.evalOps ops m = .error e) ∨
      ∃ k, key = .str k ∧ ow = some false ∧ m k ≠ none) :
    Spec.step P m (.execute ops key ow) .err m := by
  cases ow with
  | none => exact ⟨rfl, rfl⟩
  | some b =>
    rw [Spec.step_execute]
    cases he : P.evalOps ops m with
    | error e => exact ⟨rfl, rfl⟩
    | ok v =>
      rcases h with rfl | h | ⟨e, h⟩ | ⟨k, rfl, hb, hk⟩
      · exact ⟨rfl, rfl⟩
      · cases h
      · rw [he] at h; cases h
      · cases hb; exact (if_pos ⟨rfl, hk⟩).mpr ⟨rfl, rfl⟩

theorem Spec.write_ok {m : κ → Option τ} {key : KeyArg κ} {a k : κ} {b : Bool} (hk : key.pick a = some k)
    (ha : m a = none) (hb : b = false → m k = none) (v : τ) (d : δ) :
    Spec.write m key b v d (.descr k d) (Spec.upd m k (some v)) := by
  rcases KeyArg.pick_cases hk with rfl | ⟨rfl, rfl⟩
  · exact (if_neg fun e => e.2 (hb e.1)).mpr ⟨rfl, rfl⟩
  · exact ⟨k, ha, rfl, rfl⟩

omit [DecidableEq κ] in
theorem Spec.refused_key {m : κ → Option τ} {key : KeyArg κ} {a k : κ} {ow : Option Bool} (hk : key.pick a = some k)
    (ha : m a = none) (hb : ow = some false) (hbound : m k ≠ none) :
    ∃ k, key = .str k ∧ ow = some false ∧ m k ≠ none := by
  rcases KeyArg.pick_cases hk with rfl | ⟨rfl, rfl⟩
  · exact ⟨k, rfl, hb, hbound⟩
  · exact absurd ha hbound

/-- In a coherent view in which the automatic name is free, every reply and next view that `Does` lists is a step of the
keyed store on the tables. -/
theorem Does.refines {P : Params κ τ δ ω} {a : κ} {w w' : View κ τ δ} {op : Op κ τ ω}
    {out : Except Err (Out κ τ δ)} (hc : w.Coherent P) (ha : w.desc a = none) (h : Does P a w op out w') :
    Spec.step P w.tab op (outAbs out) w'.tab := by
  have ha' := hc.tab_eq_none ha
  cases h with
  | insert_err hr =>
    exact Spec.step_insert_err P (hr.imp_right (Or.imp_right (Or.imp_right fun ⟨k, hk, hb, hh⟩ =>
      Spec.refused_key hk ha' hb (hc.tab_ne_none hh))))
  | insert_ok hk hb => exact Spec.write_ok hk ha' (fun e => hc.tab_eq_none (hb e)) _ _
  | execute_err hr =>
    refine Spec.step_execute_err P (hr.imp_right (Or.imp_right (Or.imp_right ?_)))
    rintro ⟨k, hk, ⟨hb, hh⟩ | ⟨hu, ht⟩⟩
    · exact Spec.refused_key hk ha' hb (hc.tab_ne_none (Or.inl hh))
    · exact absurd (hc.tab_eq_none hu) ht
  | execute_ok hk hb he =>
    rw [Spec.step_execute, he]
    exact Spec.write_ok hk ha' (fun e => hc.tab_eq_none (hb e)) _ _
  | @remove_err key _ hn =>
    cases key with
    | none => exact ⟨rfl, rfl⟩
    | some k => exact (if_neg (Classical.not_not.mpr (hc.tab_eq_none (hn k rfl)))).mpr ⟨rfl, rfl⟩
  | remove_ok hk => exact (if_pos (hc.tab_ne_none (Or.inl hk))).mpr ⟨rfl, rfl⟩
  | @describe_err key _ hn =>
    cases key with
    | none => exact ⟨rfl, rfl⟩
    | some k => rw [Spec.step_describe, hc.tab_eq_none (hn k rfl)]; exact ⟨rfl, rfl⟩
  | @describe_ok k d hd =>
    rw [hc k] at hd
    obtain ⟨v, hv, rfl⟩ := Option.map_eq_some_iff.mp hd
    rw [Spec.step_describe, hv]; exact ⟨rfl, rfl⟩
  | @retrieve_err key _ hn =>
    cases key with
    | none => exact ⟨rfl, rfl⟩
    | some k => rw [Spec.step_retrieve, (hn k rfl).elim hc.tab_eq_none id]; exact ⟨rfl, rfl⟩
  | retrieve_ok _ hv => rw [Spec.step_retrieve, hv]; exact ⟨rfl, rfl⟩
  | keys hks =>
    exact ⟨_, rfl, fun k => (hks k).trans ⟨fun h => hc.tab_ne_none (Or.inl h), fun h e => h (hc.tab_eq_none e)⟩, rfl⟩

theorem Does.preserves {P : Params κ τ δ ω} {a : κ} {w w' : View κ τ δ} {op : Op κ τ ω}
    {out : Except Err (Out κ τ δ)} (h : Does P a w op out w') (hop : op.IsNoOverwrite) {k : κ}
    (hk : w.abs k ≠ none) : w'.abs k = w.abs k := by
  cases h with
  | @insert_ok _ _ _ b _ hb => cases b with
    | false => exact View.abs_set_other (hb rfl) _ _ hk
    | true => exact hop.elim
  | @execute_ok _ _ _ _ b _ hb => cases b with
    | false => exact View.abs_set_other (hb rfl) _ _ hk
    | true => exact hop.elim
  | remove_ok => exact hop.elim
  | _ => rfl

theorem Does.auto_fresh {P : Params κ τ δ ω} {a : κ} {w w' : View κ τ δ} {op : Op κ τ ω}
    {o : Out κ τ δ} (ha : w.desc a = none) (h : Does P a w op (.ok o) w') (hop : op.IsAuto) :
    ∃ k d, o = .descr k d ∧ w.abs k = none ∧ w'.abs k ≠ none ∧ ∀ k', w.abs k' ≠ none → w'.abs k' = w.abs k' := by
  have stored : ∀ (v : τ) (d : δ), ∃ k d', Out.descr (τ := τ) a d = .descr k d' ∧ w.abs k = none ∧
      (w.set a v d).abs k ≠ none ∧ ∀ k', w.abs k' ≠ none → (w.set a v d).abs k' = w.abs k' :=
    fun v d => ⟨a, d, rfl, View.abs_of_unknown ha, by rw [View.abs_set_self]; nofun,
      fun _ => View.abs_set_other ha v d⟩
  rcases Op.isAuto_inv hop with ⟨value, ow, rfl⟩ | ⟨ops, ow, rfl⟩
  · cases h with
    | insert_ok hk _ => cases hk; exact stored _ _
  · cases h with
    | execute_ok hk _ _ => cases hk; exact stored _ _

theorem Mem.abs_eq_view (P : Params κ τ δ ω) (s : Mem.State κ τ) : Mem.abs s = (Mem.view P s).abs := by
  funext k
  show AL.lookup s.map k = if ((AL.lookup s.map k).map P.descOf).isSome then AL.lookup s.map k else none
  cases AL.lookup s.map k <;> rfl

/-- **C20 (in-memory space, one step, from every state).**  Each operation of `DataModelSpace` is an
operation of the keyed store: the outcome and the next contents are ones the specification allows. -/
theorem C20_mem_step_refines (P : Params κ τ δ ω) (hinj : TmpInjective P) (s : Mem.State κ τ)
    (op : Op κ τ ω) :
    Spec.step P (Mem.abs s) op (outAbs (Mem.step P s op).1) (Mem.abs (Mem.step P s op).2) :=
  (Mem.step_does P s op).refines (fun _ => rfl) (Mem.auto_unknown P hinj s)

/-- **C20 (in-memory space, every history).**  For every history from every state, the outcomes of
`DataModelSpace` and its final contents are a run of the keyed store from the abstraction of the start state
(in particular from the empty space `Mem.init`, whose abstraction binds no key). -/
theorem C20_refines_mem (P : Params κ τ δ ω) (hinj : TmpInjective P) (h : List (Op κ τ ω))
    (s : Mem.State κ τ) :
    Spec.Run P (Mem.abs s) h ((Mem.run P s h).1.map outAbs) (Mem.abs (Mem.run P s h).2) := by
  induction h generalizing s with
  | nil => exact Spec.Run.nil _
  | cons op h ih =>
    simp only [Mem.run, List.map_cons]
    exact Spec.Run.cons (C20_mem_step_refines P hinj s op) (ih _)

section DBInv
variable (P : Params κ τ δ ω)

/-- a predicate on DBSpace states that only looks at the stores and survives removal and storing -/
structure DB.Stable (I : DB.State κ τ δ → Prop) : Prop where
  same : ∀ {s s'}, DB.SameStore s s' → I s → I s'
  removeKey : ∀ {s} (_ : I s) (k : κ), I (DB.removeKey s k)
  stored : ∀ {s2 s' k v}, DB.Stored P s2 s' k v → I s2 → I s'

theorem DB.Moves.preserves {I : DB.State κ τ δ → Prop} (hI : DB.Stable P I) {s s' : DB.State κ τ δ}
    (h : DB.Moves P s s') : I s → I s' := by
  induction h with
  | same hs => exact hI.same hs
  | removeKey s k => exact (hI.removeKey · k)
  | stored hst => exact hI.stored hst
  | trans _ _ ih1 ih2 => exact ih2 ∘ ih1

theorem DB.stable_step {I : DB.State κ τ δ → Prop} (hI : DB.Stable P I) (s : DB.State κ τ δ)
    (op : Op κ τ ω) (h : I s) : I (DB.step P s op).2 :=
  (DB.step_moves P s op).preserves P hI h

theorem DB.stable_run {I : DB.State κ τ δ → Prop} (hI : DB.Stable P I) (h : List (Op κ τ ω))
    (s : DB.State κ τ δ) (hs : I s) : I (DB.run P s h).2 := by
  induction h generalizing s with
  | nil => exact hs
  | cons op h ih => exact ih _ (DB.stable_step P hI s op hs)

theorem DB.Stable.and {I J : DB.State κ τ δ → Prop} (hI : DB.Stable P I) (hJ : DB.Stable P J) :
    DB.Stable P fun s => I s ∧ J s :=
  ⟨fun h => .imp (hI.same h) (hJ.same h), fun h k => ⟨hI.removeKey h.1 k, hJ.removeKey h.2 k⟩,
    fun h => .imp (hI.stored h) (hJ.stored h)⟩

theorem DB.Stable.congr {I J : DB.State κ τ δ → Prop} (h : ∀ s, I s ↔ J s) (hI : DB.Stable P I) : DB.Stable P J :=
  funext (fun s => propext (h s)) ▸ hI

def DB.entry (s : DB.State κ τ δ) (k : κ) : Option δ × Option τ × Bool :=
  (AL.lookup s.descr k, AL.lookup s.db k, decide (k ∈ s.autoDrop))

theorem DB.entry_removeKey (s : DB.State κ τ δ) (k k' : κ) :
    DB.entry (DB.removeKey s k) k' = if k' = k then (none, none, false) else DB.entry s k' := by
  unfold DB.entry
  rw [DB.removeKey_descr, DB.removeKey_db, decide_eq_decide.mpr (DB.removeKey_auto s k k')]
  split
  · rw [decide_eq_false fun h => h.2 ‹_›]
  · rw [decide_eq_decide.mpr (and_iff_left ‹_›)]

theorem DB.Stored.entry {s s' : DB.State κ τ δ} {k : κ} {v : τ} (h : DB.Stored P s s' k v) (k' : κ) :
    DB.entry s' k' = if k' = k then (some (P.descOf v), some v, true) else DB.entry s k' := by
  unfold DB.entry
  rw [h.descr, AL.lookup_set, h.db, h.auto, decide_eq_decide.mpr (mem_setAdd _ k k')]
  split
  · rw [decide_eq_true (Or.inl ‹_›)]
  · rw [decide_eq_decide.mpr (or_iff_right ‹_›)]

/-- Every clause of the invariants looks at one entry, and an operation leaves an entry as it was, or absent, or
freshly stored: a clause that holds of an absent and of a freshly stored entry survives every operation. -/
theorem DB.stable_entries (Q : Option δ × Option τ × Bool → Prop) (h0 : Q (none, none, false))
    (h1 : ∀ v, Q (some (P.descOf v), some v, true)) : DB.Stable P fun s => ∀ k, Q (DB.entry s k) where
  same h hs k := by unfold DB.entry; rw [h.1, h.2.1, h.2.2]; exact hs k
  removeKey hs k k' := by
    rw [DB.entry_removeKey]; split
    · exact h0
    · exact hs k'
  stored h hs k' := by
    rw [h.entry]; split
    · exact h1 _
    · exact hs k'

theorem DB.stable_nodup : DB.Stable P fun s : DB.State κ τ δ => s.autoDrop.Nodup where
  same h hs := h.2.1 ▸ hs
  removeKey hs _ := hs.filter _
  stored {s _ k _} h hs := by
    rw [h.auto]; unfold DB.setAdd
    split
    · exact hs
    · exact List.nodup_append.mpr ⟨hs, by simp, fun a ha b hb => by
        cases List.mem_singleton.mp hb; rintro rfl; exact ‹¬ _ ∈ s.autoDrop› ha⟩

theorem DB.stable_inv : DB.Stable P (DB.Inv P) :=
  ((DB.stable_entries P
      (fun x => (∀ d, x.1 = some d → ∃ v, x.2.1 = some v ∧ d = P.descOf v) ∧ (x.2.2 = true → x.1.isSome = true))
      ⟨nofun, nofun⟩ fun v => ⟨fun _ e => ⟨v, rfl, (Option.some.inj e).symm⟩, fun _ => rfl⟩).and P
    (DB.stable_nodup P)).congr P fun _ =>
    ⟨fun ⟨h, n⟩ => ⟨fun k => (h k).1, fun k hk => (h k).2 (decide_eq_true hk), n⟩,
      fun hi => ⟨fun k => ⟨hi.descr_in_db k, fun hk => hi.auto_sub k (of_decide_eq_true hk)⟩, hi.auto_nodup⟩⟩

theorem DB.stable_owned : DB.Stable P (DB.Owned (κ := κ) (τ := τ) (δ := δ)) :=
  DB.stable_entries P (fun x => x.2.1.isSome = true → x.1.isSome = true) id fun _ _ => rfl

theorem DB.stable_autoAll : DB.Stable P (DB.AutoAll (κ := κ) (τ := τ) (δ := δ)) :=
  (DB.stable_entries P (fun x => x.1.isSome = true → x.2.2 = true) nofun fun _ _ => rfl).congr P fun _ =>
    forall_congr' fun _ => imp_congr_right fun _ => decide_eq_true_iff

/-- **C20 (database space, invariant, one step from every state).**  Every operation of `DBSpace` – also a
failing one, also the `execute` that fails after dropping the old table – preserves: every described key names
a database table with that description, every auto-drop key is described and listed once (`Inv`); the database holds no
table the space does not know (`Owned`); every described key is eligible for auto-drop (`AutoAll`).
No hypothesis on the parameters, no guard. -/
theorem C20_db_inv_step (s : DB.State κ τ δ) (op : Op κ τ ω) :
    (DB.Inv P s → DB.Inv P (DB.step P s op).2) ∧
    (DB.Owned s → DB.Owned (DB.step P s op).2) ∧
    (DB.AutoAll s → DB.AutoAll (DB.step P s op).2) :=
  ⟨DB.stable_step P (DB.stable_inv P) s op, DB.stable_step P (DB.stable_owned P) s op,
   DB.stable_step P (DB.stable_autoAll P) s op⟩

/-- **C20 (database space, invariant, every history).**  After every history on a space created over a
database with arbitrary pre-existing tables `db0`, `Inv` and `AutoAll` hold; created over an empty database,
`Owned` holds as well (described keys = database tables). -/
theorem C20_db_inv (h : List (Op κ τ ω)) (db0 : List (κ × τ)) :
    DB.Inv P (DB.run P (DB.init db0) h).2 ∧ DB.AutoAll (DB.run P (DB.init db0) h).2 ∧
    (db0 = [] → DB.Owned (DB.run P (DB.init db0) h).2) := by
  refine ⟨DB.stable_run P (DB.stable_inv P) h _ ⟨?_, ?_, ?_⟩, DB.stable_run P (DB.stable_autoAll P) h _ ?_, ?_⟩
  · intro k d hk; simp [DB.init] at hk
  · intro k hk; simp [DB.init] at hk
  · simp [DB.init]
  · intro k hk; simp [DB.init, AL.has] at hk
  · rintro rfl
    exact DB.stable_run P (DB.stable_owned P) h _ (by intro k hk; simp [DB.init, AL.has] at hk)

end DBInv

section DBRefines
variable (P : Params κ τ δ ω)

theorem DB.abs_eq {s : DB.State κ τ δ} (ho : DB.Owned s) : DB.abs s = AL.lookup s.db := by
  funext k
  unfold DB.abs
  by_cases h : AL.has s.descr k = true
  · rw [if_pos h]
  · rw [if_neg h]
    cases hl : AL.lookup s.db k with
    | none => rfl
    | some v => exact absurd (ho k (by simp [AL.has, hl])) h

theorem DB.coherent {s : DB.State κ τ δ} (hi : DB.Inv P s) (ho : DB.Owned s) : (DB.view s).Coherent P := by
  intro k
  show AL.lookup s.descr k = (AL.lookup s.db k).map P.descOf
  cases hd : AL.lookup s.descr k with
  | some d =>
    obtain ⟨v, hv, rfl⟩ := hi.descr_in_db k d hd
    rw [hv]; rfl
  | none =>
    have hn : ¬ AL.has s.db k = true := fun h => by
      have := ho k h
      rw [AL.has, hd] at this
      cases this
    rw [AL.lookup_of_not_has hn]; rfl

/-- the keyed store does not see that the old table was dropped before a query ran that gives the same value without
it -/
theorem Spec.step_execute_dropped {m m' : κ → Option τ} {ops : ω} {k : κ} {v : τ} {out : SOut κ τ δ}
    (h1 : P.evalOps ops m = .ok v) (h2 : P.evalOps ops (Spec.upd m k none) = .ok v)
    (h : Spec.step P (Spec.upd m k none) (.execute ops (.str k) (some true)) out m') :
    Spec.step P m (.execute ops (.str k) (some true)) out m' := by
  rw [Spec.step_execute, h2] at h
  rw [Spec.step_execute, h1]
  dsimp only [Spec.write] at h ⊢
  rw [if_neg fun e => Bool.noConfusion e.1] at h ⊢
  rwa [Spec.upd_upd] at h

/-
Full-strength statement (what C20 claims for the database space), NOT provable for the code as it is:

  theorem C20_refines_db (hinj : TmpInjective P) (h : List (Op κ τ ω)) :
      Spec.Run P Spec.empty h ((DB.run P (DB.init []) h).1.map outAbs) (DB.abs (DB.run P (DB.init []) h).2)

It fails at `execute(ops, key=k, allow_overwrite=True)` on an existing key `k` whose query reads table `k` or
fails: `DBSpace.execute` drops the old table first (known finding C20-db-execute-overwrite-drops-first,
`C20_G_dbexec_necessary` below).  `DB.guardExec` is the decidable guard excluding exactly those steps.
-/

/-- **C20 (database space, one step, partial).**  From every state satisfying the invariant in which the
space owns its database, every operation that satisfies the finding guard `guardExec` is an operation of the
keyed store: outcome and next contents are ones the specification allows. -/
theorem C20_db_step_refines_partial [DecidableEq τ] (hinj : TmpInjective P) (s : DB.State κ τ δ)
    (hi : DB.Inv P s) (ho : DB.Owned s) (op : Op κ τ ω) (hg : DB.guardExec P s op = true) :
    Spec.step P (DB.abs s) op (outAbs (DB.step P s op).1) (DB.abs (DB.step P s op).2) := by
  have ho' : DB.Owned (DB.step P s op).2 := (C20_db_inv_step P s op).2.1 ho
  rw [DB.abs_eq ho, DB.abs_eq ho']
  have hc := DB.coherent P hi ho
  by_cases hd : DB.Drops P s op
  · -- an overwriting `execute`: the guard says the query gives the same value without the old table
    obtain ⟨ops, key, k, s1, rfl, hk, hh, hs, e, hnd⟩ := DB.step_of_drops P hd
    rcases KeyArg.pick_cases hk with rfl | ⟨_, rfl⟩
    · obtain ⟨v, hw, hv⟩ := DB.guardExec_overwrite P hh hg
      rw [lookup_dropTable_fn] at hv
      have h := (DB.step_does P _ _ hnd).1.refines (DB.view_removeKey hs k ▸ hc.del k) (DB.auto_unknown P hinj _)
      rw [DB.view_removeKey hs k] at h
      rw [e]
      exact Spec.step_execute_dropped P hw hv h
    · rw [DB.auto_not_has P hinj] at hh; cases hh
  · exact (DB.step_does P s op hd).1.refines hc (DB.auto_unknown P hinj s)

/-- the finding guard holds at every step of the history -/
def DB.GuardedRun [DecidableEq τ] (s : DB.State κ τ δ) : List (Op κ τ ω) → Prop
  | [] => True
  | op :: h => DB.guardExec P s op = true ∧ DB.GuardedRun (DB.step P s op).2 h

/-- **C20 (database space, every history, partial).**  For every history all of whose steps satisfy the
finding guard, started in any state that satisfies the invariant and owns its database (in particular a new
space on an empty database), the outcomes and the final contents of `DBSpace` are a run of the keyed store. -/
theorem C20_refines_db_partial [DecidableEq τ] (hinj : TmpInjective P) (h : List (Op κ τ ω))
    (s : DB.State κ τ δ) (hi : DB.Inv P s) (ho : DB.Owned s) (hg : DB.GuardedRun P s h) :
    Spec.Run P (DB.abs s) h ((DB.run P s h).1.map outAbs) (DB.abs (DB.run P s h).2) := by
  induction h generalizing s with
  | nil => exact Spec.Run.nil _
  | cons op h ih =>
    simp only [DB.run, List.map_cons]
    have hinv := C20_db_inv_step P s op
    exact Spec.Run.cons (C20_db_step_refines_partial P hinj s hi ho op hg.1)
      (ih _ (hinv.1 hi) (hinv.2.1 ho) hg.2)

end DBRefines

section Safety
variable (P : Params κ τ δ ω)

/-- **C20 (no overwrite, in-memory).**  A write under an explicit key that is bound, with
`allow_overwrite=False`, raises (AssertionError) and leaves the whole state – contents and counter – unchanged. -/
theorem C20_no_overwrite_mem (s : Mem.State κ τ) (op : Op κ τ ω) (k : κ) (hop : op.IsNoOverwriteAt k)
    (hk : Mem.abs s k ≠ none) :
    (Mem.step P s op).1 = .error .AssertionError ∧ (Mem.step P s op).2 = s := by
  have hh : AL.has s.map k = true := (has_iff_ne_none _ _).mpr hk
  rcases Op.isNoOverwriteAt_inv hop with ⟨value, rfl⟩ | ⟨ops, rfl⟩
  · cases value <;> simp [Mem.step, Mem.insert, Mem.resolve, hh]
  · simp [Mem.step, Mem.execute, Mem.resolve, hh]

/-- **C20 (no overwrite, database).**  The same for `DBSpace`: the write raises (AssertionError) and neither
`description_map`, the auto-drop set, the counter nor the database changes. -/
theorem C20_no_overwrite_db (s : DB.State κ τ δ) (op : Op κ τ ω) (k : κ) (hop : op.IsNoOverwriteAt k)
    (hk : DB.abs s k ≠ none) :
    (DB.step P s op).1 = .error .AssertionError ∧ (DB.step P s op).2 = s := by
  have hh : AL.has s.descr k = true := Decidable.byContradiction fun h => hk (if_neg h)
  rcases Op.isNoOverwriteAt_inv hop with ⟨value, rfl⟩ | ⟨ops, rfl⟩
  · simp [DB.step, DB.insert, DB.resolve, hh]
  · simp [DB.step, DB.execute, DB.resolve, hh]

/-- **C20 (no overwrite, general form, in-memory).**  Whatever the key argument (explicit, automatic,
malformed) and whatever the outcome, a write with `allow_overwrite=False` leaves every existing entry bound to
the table it had. -/
theorem C20_no_overwrite_preserves_mem (s : Mem.State κ τ) (op : Op κ τ ω) (hop : op.IsNoOverwrite)
    (k : κ) (hk : Mem.abs s k ≠ none) : Mem.abs (Mem.step P s op).2 k = Mem.abs s k := by
  simp only [Mem.abs_eq_view P] at hk ⊢
  exact (Mem.step_does P s op).preserves hop hk

/-- **C20 (no overwrite, general form, database).**  Whatever the key argument and the outcome, a
`DBSpace` write with `allow_overwrite=False` leaves every existing entry bound to the table it had. -/
theorem C20_no_overwrite_preserves_db (s : DB.State κ τ δ) (op : Op κ τ ω) (hop : op.IsNoOverwrite)
    (k : κ) (hk : DB.abs s k ≠ none) : DB.abs (DB.step P s op).2 k = DB.abs s k := by
  have hd : ¬ DB.Drops P s op := by rintro ⟨_, _, _, rfl, _⟩; exact hop
  exact (DB.step_does P s op hd).1.preserves hop hk

/-- **C20 (automatic keys are fresh, in-memory).**  When `insert`/`execute` is called with `key=None` and
succeeds – with either value of `allow_overwrite` – the key it returns was not a key of the space, and every
existing entry is still bound to the table it had.  (Unpatched code: false, candidate defect D11.) -/
theorem C20_auto_key_fresh_mem (hinj : TmpInjective P) (s : Mem.State κ τ) (op : Op κ τ ω)
    (hop : op.IsAuto) (out : Out κ τ δ) (hok : (Mem.step P s op).1 = .ok out) :
    ∃ k d, out = .descr k d ∧ Mem.abs s k = none ∧ Mem.abs (Mem.step P s op).2 k ≠ none ∧
      ∀ k', Mem.abs s k' ≠ none → Mem.abs (Mem.step P s op).2 k' = Mem.abs s k' := by
  have h := Mem.step_does P s op
  rw [hok] at h
  simp only [Mem.abs_eq_view P]
  exact h.auto_fresh (Mem.auto_unknown P hinj s) hop

/-- **C20 (automatic keys are fresh, database).**  The same for `DBSpace`, from every state, read through
`DB.abs`: the returned key was not bound to a table before (the proof shows it was not a described key), it is
bound afterwards, and every bound key keeps its table. -/
theorem C20_auto_key_fresh_db (hinj : TmpInjective P) (s : DB.State κ τ δ) (op : Op κ τ ω)
    (hop : op.IsAuto) (out : Out κ τ δ) (hok : (DB.step P s op).1 = .ok out) :
    ∃ k d, out = .descr k d ∧ DB.abs s k = none ∧ DB.abs (DB.step P s op).2 k ≠ none ∧
      ∀ k', DB.abs s k' ≠ none → DB.abs (DB.step P s op).2 k' = DB.abs s k' := by
  have hd : ¬ DB.Drops P s op := by
    rintro ⟨_, key, _, rfl, hk, hh⟩
    cases key with
    | auto => cases hk; rw [DB.auto_not_has P hinj] at hh; cases hh
    | _ => exact hop
  have h := (DB.step_does P s op hd).1
  rw [hok] at h
  exact h.auto_fresh (DB.auto_unknown P hinj s) hop

theorem DB.closeLoop_spec (l : List κ) : ∀ (s : DB.State κ τ δ), l.Nodup → (∀ k ∈ l, AL.has s.descr k = true) →
    (DB.closeLoop l s).1 = .ok () ∧
    (∀ k', AL.lookup (DB.closeLoop l s).2.db k' = if k' ∈ l then none else AL.lookup s.db k') ∧
    (∀ k', AL.lookup (DB.closeLoop l s).2.descr k' = if k' ∈ l then none else AL.lookup s.descr k') := by
  induction l with
  | nil => intro s _ _; simp [DB.closeLoop]
  | cons k l ih =>
    intro s hnd hall
    rw [List.nodup_cons] at hnd
    simp only [DB.closeLoop, hall k (List.mem_cons_self), if_true]
    have := ih (DB.removeKey s k) hnd.2 (by
      intro k' hk'
      have hne : k' ≠ k := by rintro rfl; exact hnd.1 hk'
      simp [DB.removeKey, AL.has_erase, hne, hall k' (List.mem_cons_of_mem _ hk')])
    refine ⟨this.1, fun k' => ?_, fun k' => ?_⟩
    · rw [this.2.1, DB.removeKey_db]
      by_cases h1 : k' ∈ l <;> by_cases h2 : k' = k <;> simp [h1, h2]
    · rw [this.2.2, DB.removeKey_descr]
      by_cases h1 : k' ∈ l <;> by_cases h2 : k' = k <;> simp [h1, h2]

/-- **C20 (close).**  In every state satisfying the invariant in which all described keys are eligible for
auto-drop (every state reachable by a history, `C20_db_inv`), `close()` of a space created with
`drop_tables_on_close=True` raises nothing, drops exactly the tables of the space and leaves every other table
of the database as it was; with `drop_tables_on_close=False` it changes nothing. -/
theorem C20_db_close (s : DB.State κ τ δ) (hi : DB.Inv P s) (ha : DB.AutoAll s) :
    (DB.close true s).1 = .ok () ∧
    (∀ k, AL.lookup (DB.close true s).2.db k = if AL.has s.descr k then none else AL.lookup s.db k) ∧
    (∀ k, AL.lookup (DB.close true s).2.descr k = none) ∧
    DB.close false s = (.ok (), s) := by
  have h := DB.closeLoop_spec s.autoDrop s hi.auto_nodup hi.auto_sub
  simp only [DB.close, if_true]
  refine ⟨h.1, fun k => ?_, fun k => ?_, by simp⟩
  · rw [h.2.1]
    by_cases hk : AL.has s.descr k = true
    · simp [hk, ha k hk]
    · have : k ∉ s.autoDrop := fun hm => hk (hi.auto_sub k hm)
      simp [hk, this]
  · rw [h.2.2]
    by_cases hk : AL.has s.descr k = true
    · simp [ha k hk]
    · have : k ∉ s.autoDrop := fun hm => hk (hi.auto_sub k hm)
      simp only [this, if_false]
      exact (AL.has_eq_false_iff _ _).mp (by simpa using hk)

end Safety

section Concrete

/-- A concrete instance: keys, tables and descriptions are numbers; automatic key `n` is the number `n` (so
user key `1` collides with the first automatic name); a pipeline names one source table and adds 1 to it. -/
def P0 : Params Nat Nat Nat Nat where
  tmpName := fun n => n
  descOf := fun t => t
  evalOps := fun src look => match look src with | some v => .ok (v + 1) | none => .error .KeyError

theorem P0_injective : TmpInjective P0 := fun _ _ h => h

/-- the real name function satisfies the one hypothesis on the parameters -/
theorem C20_tmpName_injective (descOf : τ → δ) (evalOps : ω → (String → Option τ) → Except Err τ) :
    TmpInjective (⟨daTemp, descOf, evalOps⟩ : Params String τ δ ω) := daTemp_injective

/-- a DBSpace holding table 10 under key 5 -/
def sG : DB.State Nat Nat Nat := (DB.step P0 (DB.init []) (.insert (.str 5) (some 10) (some true))).2

/-- **The guard `DB.guardExec` (finding `C20-db-execute-overwrite-drops-first`) is necessary.**  In the state `sG`
(reachable, satisfies the invariant, owns its database) `execute(<table 5 plus one>, key=5, allow_overwrite=True)` violates the guard,
and the step is NOT one of the keyed store: the store must bind 5 to 11, `DBSpace` raises and loses key 5. -/
theorem C20_G_dbexec_necessary :
    DB.guardExec P0 sG (.execute 5 (.str 5) (some true)) = false ∧
    DB.Inv P0 sG ∧ DB.Owned sG ∧
    ¬ Spec.step P0 (DB.abs sG) (.execute 5 (.str 5) (some true))
        (outAbs (DB.step P0 sG (.execute 5 (.str 5) (some true))).1)
        (DB.abs (DB.step P0 sG (.execute 5 (.str 5) (some true))).2) := by
  refine ⟨by decide, ?_, ?_, ?_⟩
  · exact (C20_db_inv P0 [.insert (.str 5) (some 10) (some true)] []).1
  · exact (C20_db_inv P0 [.insert (.str 5) (some 10) (some true)] []).2.2 rfl
  · intro h
    have h5 : DB.abs sG 5 = some 10 := by decide
    have hout : outAbs (DB.step P0 sG (.execute 5 (.str 5) (some true))).1 = .err := by decide
    simp only [Spec.step, P0, h5, Spec.write, Bool.true_eq_false, false_and, if_false] at h
    have h1 := h.1
    change outAbs (DB.step P0 sG (.execute 5 (.str 5) (some true))).1 = _ at h1
    rw [hout] at h1
    cases h1

/-- what the unguarded step does: the old table is gone, the key with it -/
example : (DB.step P0 sG (.execute 5 (.str 5) (some true))).2.db = [] ∧
          (DB.step P0 sG (.execute 5 (.str 5) (some true))).2.descr = [] := by decide

/-- D11 scenario on the patched model: user key 1, then an automatic `insert` and an automatic `execute` take 2 and
3, never 1 -/
example : (Mem.run P0 Mem.init [.insert (.str 1) (some 100) (some true), .insert .auto (some 7) (some true),
            .execute 1 .auto (some false), .keys]).2.map = [(1, 100), (2, 7), (3, 101)] := by decide

example : (Mem.step P0 ⟨[(1, 100)], 0⟩ (.insert .auto (some 7) (some true))).1 = .ok (.descr 2 7) := by rfl

example : (Op.insert (.str 1) (some 7) (some false) : Op Nat Nat Nat).IsNoOverwriteAt 1 ∧
    Mem.abs (⟨[(1, 100)], 0⟩ : Mem.State Nat Nat) 1 ≠ none ∧
    (Mem.step P0 ⟨[(1, 100)], 0⟩ (.insert (.str 1) (some 7) (some false))).1 = .error .AssertionError := by
  refine ⟨rfl, by decide, by rfl⟩

/-- a guarded DBSpace history: overwrite by `execute` from another table is inside the guard -/
example : DB.GuardedRun P0 (DB.init []) [.insert (.str 5) (some 10) (some true), .insert (.str 6) (some 20) (some true),
    .execute 6 (.str 5) (some true), .retrieve (some 5), .remove (some 6), .keys] := by
  refine ⟨by decide, by decide, by decide, by decide, by decide, by decide, trivial⟩

example : (DB.run P0 (DB.init []) [.insert (.str 5) (some 10) (some true), .insert (.str 6) (some 20) (some true),
    .execute 6 (.str 5) (some true), .remove (some 6)]).2.db = [(5, 21)] := by decide

/-- on a database that already held table 9: `close` drops the two tables the space stored and leaves table 9 -/
example : (DB.close true (DB.run P0 (DB.init [(9, 90)]) [.insert (.str 5) (some 10) (some true),
    .insert .auto (some 3) (some false)]).2).2.db = [(9, 90)] := by decide

example : TmpInjective P0 := P0_injective

/-- D11 on the UNPATCHED code (the model above is of the patched code): the unpatched choice
`da_temp_<n_tmp + 1>` is an existing key as soon as the user has stored a table under that name, and
`insert(key=None)` then runs with `allow_overwrite=True`.  Witness on the real code: corpus/C20/d11_auto_key_*.json. -/
example : P0.tmpName ((Mem.init : Mem.State Nat Nat).nTmp + 1) ∈ AL.keys [((1 : Nat), (100 : Nat))] := by decide

end Concrete

end DAVerif.Space
