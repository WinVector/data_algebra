import DAVerif.Proofs.ExprWalk
import DAVerif.Proofs.ExprParse
import DAVerif.Generated.ExprTables
/-!
# C13 — Expression text is parsed with Python's precedence and meaning

Model: `Expr/Cst.lean` (tokens, lark trees), `Expr/Parse.lean` (the grammar fragment), `Expr/Walk.lean` (`_walk_lark_tree`
and the `Term` builders), `Expr/Print.lean` (`to_python`), `Expr/Lex.lean` (spelling of literals).  Specification side:
`Expr/Eval.lean` (`evalPy`, the Python reading of a tree; `evalTerm`, the meaning of a DSL term; `PyLaws`), `Expr/Canon.lean`
(`tk`, `cst`, `wf`).  That the walker only returns well-formed terms is `Props/C13wf.lean`.
-/
namespace DAVerif.Expr

/-- **C13 (meaning).** For every lark tree `c` — whatever its size or shape — if the walker accepts it (returns a term `t`)
and the tree has a Python reading `v` on the row `ρ` (`evalPy`: left-associative binary levels, right-associative `**`,
a prefix minus applied to the whole power phrase after it, chained comparisons as the conjunction of the pairwise
comparisons, `and`/`or`/`not`, calls), then the DSL term evaluates to exactly that value.  Both sides interpret every
operator symbol by the same `Θ`; `Θ` is arbitrary up to the four laws of `PyLaws` (k-ary `+ * and or` fold their binary
versions, `-constant` is the negated constant, unary `+` is the identity, `x == False` is `not x`).  `env.Sane` is a
decidable condition on the tables the walker reads (`op_remap`, `factor_remap`, the builder methods), discharged for
the tables regenerated from the source by `C13_generated_tables_sane`.

Before `fixes/c13-comparison-chain.diff` the statement needed the guard "no comparison chain" (see
`C13_old_chain_walk_not_python`). -/
theorem C13_walk_meaning (env : Env) (hs : env.Sane) (Θ : Interp) (hΘ : PyLaws Θ) (ρ : String → Θ.V)
    (c : Cst) (t : Term) (v : Θ.V) :
    walk env c = .ok t → evalPy Θ ρ c = some v → evalTerm Θ ρ t = v :=
  walk_sound hs hΘ ρ c t v

/-- The tables regenerated from `/repo` on every run (`Generated/ExprTables.lean`: `op_remap`, `factor_remap`, the
shapes of `Term`'s builder methods) satisfy the sanity condition of `C13_walk_meaning`, for every set of columns. -/
theorem C13_generated_tables_sane (cols : List String) : (Generated.env cols).Sane := by
  show tablesSane Generated.methodTable Generated.opRemap Generated.factorRemap = true
  decide +kernel

/-- the concrete interpretation over booleans and integers satisfies the laws -/
theorem ΘInt_laws : PyLaws ΘInt where
  kary := by
    intro op _ a b c rest
    simp [ΘInt, pvApp, List.foldl]
  negLit := by
    intro l l' h
    cases l <;> simp [negLit] at h <;> subst h <;> simp [ΘInt, pvApp, PV.ofLit, PV.num]
    rename_i b; cases b <;> simp
  pos := by intro v; show pvApp "+" [v] = v; simp only [pvApp]; rfl
  notEq := by intro v; show pvApp "==" [v, PV.ofLit (.bool false)] = pvApp "not" [v]; simp [pvApp, PV.ofLit, List.foldl]

private def tkn (k : TokKind) (s : String) : Cst := .tok ⟨k, s⟩
private def num (s : String) : Cst := .node "number" [tkn .dec s]
private def var (s : String) : Cst := .node "var" [tkn .name s]

/-- lark's tree of `-x ** 2` -/
def cstNegPow : Cst := .node "factor" [tkn .op "-", .node "power" [var "x", num "2"]]
/-- lark's tree of `3 > x > 1` -/
def cstChain : Cst := .node "comparison" [num "3", tkn .op ">", var "x", tkn .op ">", num "1"]
/-- lark's tree of `x - y - 1 + x * -2` -/
def cstArith : Cst :=
  .node "arith_expr" [var "x", tkn .op "-", var "y", tkn .op "-", num "1", tkn .op "+",
    .node "term" [var "x", tkn .op "*", .node "factor" [tkn .op "-", num "2"]]]

/-- `ΘInt.V` is `PV` (made explicit so that equality is decidable by instance search) -/
def asPV (x : ΘInt.V) : PV := x
def asOptPV (x : Option ΘInt.V) : Option PV := x

def rowX (x y : Int) : String → PV := fun c => if c == "x" then .i x else if c == "y" then .i y else .null

def walksTo (env : Env) (c : Cst) (t : Term) : Bool :=
  match walk env c with
  | .ok t' => termBEq t' t
  | .error _ => false

def tNegPow : Term := .app "-" [.app "**" [.col "x", .value (.int 2)] true false] true false
def tChain : Term :=
  .app "and" [.app ">" [.value (.int 3), .col "x"] true false, .app ">" [.col "x", .value (.int 1)] true false] true false
def tOldChain : Term := .app ">" [.app ">" [.value (.int 3), .col "x"] true false, .value (.int 1)] true false

-- the hypotheses of `C13_walk_meaning` hold on concrete trees: the walker accepts them, the Python reading exists,
-- and the value is Python's: `-x ** 2` at x = 3 is -9 (not 9); `3 > x > 1` at x = 2 is True; `x - y - 1 + x * -2`
-- at x = 5, y = 2 is (5 - 2 - 1) + (5 * -2) = -8
example : walksTo (Generated.env ["x", "y"]) cstNegPow tNegPow = true := by decide +kernel
example : asOptPV (evalPy ΘInt (rowX 3 0) cstNegPow) = some (PV.i (-9)) := by decide +kernel
example : asPV (evalTerm ΘInt (rowX 3 0) tNegPow) = PV.i (-9) := by decide +kernel
example : walksTo (Generated.env ["x", "y"]) cstChain tChain = true := by decide +kernel
example : asOptPV (evalPy ΘInt (rowX 2 0) cstChain) = some (PV.b true) := by decide +kernel
example : asPV (evalTerm ΘInt (rowX 2 0) tChain) = PV.b true := by decide +kernel
example : asOptPV ((walk (Generated.env ["x", "y"]) cstArith).toOption.map (evalTerm ΘInt (rowX 5 2)))
    = some (PV.i (-8)) := by decide +kernel
example : asOptPV (evalPy ΘInt (rowX 5 2) cstArith) = some (PV.i (-8)) := by decide +kernel

/-- **Witness of the repaired defect.** The term the walker built for `3 > x > 1` before
`fixes/c13-comparison-chain.diff` – the linear chain `(3 > x) > 1` – does not have Python's value at `x = 2`
(Python: `True`; the chain: `True > 1 = False`).  So without the fix `C13_walk_meaning` is false at this tree, and the
statement would need the guard "no comparison chain". -/
theorem C13_old_chain_walk_not_python :
    asPV (evalTerm ΘInt (rowX 2 0) tOldChain) ≠ PV.b true ∧
    asOptPV (evalPy ΘInt (rowX 2 0) cstChain) = some (PV.b true) := by decide +kernel


/-- **C13 / C12 (print → parse round trip).** For every *well-formed* term `t` – `wf env t`: a decidable predicate saying
that the literals' spellings re-read to themselves, the columns are known, collections are non-empty with distinct keys,
and at every node re-running the builder that the node's printed form invokes returns the node – the tokens of
`str(t)` (`printToks`, the model of `to_python`) are parsed by the model of the grammar (`parseToks`) to the tree
`cst t`, and the walker maps that tree back to exactly `t` (every field, including `method`; this implies the
repository's `is_equal`).  `env.NegFolds` says that `-` is remapped to `__neg__` and `Value.__neg__` folds constants
(true of the regenerated tables: `C13_generated_negfolds`).  The parser's fuel (`16·(tokens+1)`) is shown sufficient as
part of the statement. -/
theorem C13_print_parse (env : Env) (hn : env.NegFolds) (t : Term) (hwf : wf env t = true) :
    parseToks (printToks t) = .ok (cst t) ∧ walk env (cst t) = .ok t := by
  refine ⟨?_, walk_cst hn t hwf⟩
  have hp := (parses_all env t hwf).1.1 (fuelFor (tk t false)) [] (by simp [fuelFor]; omega) trivial
  simp only [List.append_nil] at hp
  simp [parseToks, parseCore, printToks_eq, hp]

/-- the same for the entry point `parse_by_lark` (which also asserts the result is a `Term`, not a bare list/dict) -/
theorem C13_print_parse_top (env : Env) (hn : env.NegFolds) (t : Term) (hwf : wf env t = true)
    (hterm : ∀ vs, t ≠ .list vs) (hterm' : ∀ kvs, t ≠ .dict kvs) :
    (parseToks (printToks t)).toOption.map (walkTop env) = some (.ok t) := by
  obtain ⟨h1, h2⟩ := C13_print_parse env hn t hwf
  rw [h1]
  simp only [Except.toOption, Option.map_some, walkTop, h2, ok_bind]

theorem C13_generated_negfolds (cols : List String) : (Generated.env cols).NegFolds :=
  ⟨show Generated.valueNegFolds = true by decide,
   show remap Generated.factorRemap "-" = "__neg__" by decide⟩

/-- **C13 (parse → print → parse).** If a token list parses to a tree that the walker turns into a well-formed term, then
printing that term and parsing again gives the same term: the printed form is a fixed point.
That the walker's results *are* well-formed (for texts that call no dunder method, finding
`C13-dunder-bitwise-method-print`, and whose FLOAT tokens are in the scope of the float model) is `C13_walk_wf` in
`Props/C13wf.lean`, where `C13_roundtrip_text` states the round trip without the hypothesis `hwf`; the correspondence
suite `expr_canon` also evaluates `wf` on each term the real parser returns. -/
theorem C13_parse_print_idem (env : Env) (hn : env.NegFolds) (toks : List Token) (c : Cst) (t : Term)
    (_hp : parseToks toks = .ok c) (_hw : walk env c = .ok t) (hwf : wf env t = true) :
    ∃ c', parseToks (printToks t) = .ok c' ∧ walk env c' = .ok t ∧ printToks t = tk t false :=
  ⟨cst t, (C13_print_parse env hn t hwf).1, (C13_print_parse env hn t hwf).2, printToks_eq t⟩

def roundTrips (env : Env) (t : Term) : Bool :=
  match parseToks (printToks t) with
  | .ok c => okEq (walk env c) t
  | .error _ => false

/-- lark's tree of `x.__and__(y)` -/
def cstDunderAnd : Cst :=
  .node "funccall" [.node "getattr" [var "x", tkn .name "__and__"], .node "arguments" [var "y"]]

/-- **Known finding `C13-dunder-bitwise-method-print` (guard `NoDunderCall`).** The walker accepts `x.__and__(y)` and
builds the inline expression `x & y`; that term is not well-formed and its printed form does not come back (the parser
refuses `&`).  So "every term the walker returns round-trips" needs the guard that the text calls no dunder method. -/
theorem C13_dunder_guard_necessary :
    walksTo (Generated.env ["x", "y"]) cstDunderAnd (.app "&" [.col "x", .col "y"] true false) = true ∧
    wf (Generated.env ["x", "y"]) (.app "&" [.col "x", .col "y"] true false) = false ∧
    roundTrips (Generated.env ["x", "y"]) (.app "&" [.col "x", .col "y"] true false) = false := by
  decide +kernel

/-- lark's tree of `(-x)(y)` -/
def cstUnaryCallee : Cst :=
  .node "funccall" [.node "factor" [tkn .op "-", var "x"], .node "arguments" [var "y"]]

/-- **Known finding `C13-call-of-unary-expression` (guard `CalleeIsName`).** The walker accepts `(-x)(y)` as a call of
the function *named by the operator token* `-`.  The printed form `-(y)` then contains the function name `-` in a NAME
position: at the token level (this model) it still round-trips, but lark's lexer reads the printed `-` as the operator,
so on the real code the text re-parses to the unary minus of `y`.  The theorems' lexical scope ("names are identifiers")
excludes exactly this: the printed token list has a NAME token that is not an identifier. -/
theorem C13_callee_guard_necessary :
    walksTo (Generated.env ["x", "y"]) cstUnaryCallee (.app "-" [.col "y"] false false) = true ∧
    (printToks (.app "-" [.col "y"] false false)).any (fun k => k.kind == .name && k.text == "-") = true := by
  decide +kernel

/-- `(-x) ** 2 + y.max()` as the walker builds it -/
def tRound : Term :=
  .app "+" [.app "**" [.app "-" [.col "x"] true false, .value (.int 2)] true false,
            .app "max" [.col "y"] false true] true false

example : wf (Generated.env ["x", "y"]) tRound = true := by decide +kernel
example : roundTrips (Generated.env ["x", "y"]) tRound = true := by decide +kernel
example : printText tRound = "((-(x)) ** 2) + y.max()" := by decide +kernel
example : wf (Generated.env ["x", "y"]) tChain = true := by decide +kernel
example : wf (Generated.env ["x", "y"])
    (.app "mapv" [.col "x", .dict [(.int 1, .str "a"), (.int (-2), .str "it's")], .value .none] false true) = true := by
  decide +kernel
-- not well-formed: a unary minus around a constant (the walker folds it), an unknown column
example : wf (Generated.env ["x"]) (.app "-" [.value (.int 5)] true false) = false := by decide +kernel
example : wf (Generated.env ["x"]) (.col "q") = false := by decide +kernel

end DAVerif.Expr
