import DAVerif.Proofs.C06Exact
import DAVerif.Props.C26
import DAVerif.Proofs.EvalRead
import DAVerif.Sem.Theta
/-!
# C06  Builder simplifications never change what a pipeline means

Vocabulary (`Spec/Chain.lean`): `buildRaw` (a builder call without any simplification), `semStep` (the meaning of ONE step
on a materialised table: the raw node over a fresh description of the table), `t ≈ᶜ t'` (same table up to the order of rows
and of columns – the comparison rule for results), `StepScope` (C18's scope condition for the new step); `Reachable` (the
pipelines a user can write, `Props/C26.lean`); `ChainScope` (`Proofs/C06Chain.lean`).  The model of the builders is `build`
(`Ops/Builder.lean`, /repo after the fixes D3, D4, D5, e8da488 of DESIGN.md).
-/
namespace DAVerif

/-- **`merge_ops_sound`** (restated from `Proofs/Merge.lean`; see there for the windowed analogue
`merge_ops_sound_window`).  If `try_to_merge_ops` merges the assignments `o₁` (first `extend`) and `o₂` (second
`extend`) into `o`, then on every table `t` the single plain `extend` with `o` computes exactly the table the
two plain `extend`s compute one after the other, the columns being listed in the merged node's order `oc'`
(`oc1`: columns after the first step, containing the columns the second step reads; `oc2`: columns after the
second step). -/
theorem C06_merge_ops_sound (Θ : Interp) {o1 o2 o : Assign} (h : tryMergeOps o1 o2 = some o) (t : Table)
    (oc1 oc2 oc' : List String) (hu : ∀ c ∈ Term.colsUsedOps o2, c ∈ oc1)
    (h1 : ∀ c ∈ oc', c ∈ oc1 ∨ c ∈ o2.map (·.1)) (h2 : ∀ c ∈ oc', c ∈ oc2) :
    semExtendPlain Θ o t oc' = (semExtendPlain Θ o2 (semExtendPlain Θ o1 t oc1) oc2).selectCols oc' :=
  merge_ops_sound Θ h t oc1 oc2 oc' hu h1 h2

/-- **`trivial_order_elim_sound`.**  Removing the `order_rows` steps without limit at the top of a pipeline
(`Ops.strip`; what every builder does before it constructs its node) gives a pipeline that fails with the same
error, or evaluates to a table with the same columns and the same multiset of rows. -/
theorem trivial_order_elim_sound (Θ : Interp) (cfg : SemCfg) (env : Env) (p : Ops) :
    ResEquiv (sem Θ cfg env p.strip) (sem Θ cfg env p) ∧ p.strip.cols = p.cols ∧
      p.strip.isTrivialWhenIntermediate = false := by
  rw [Ops.strip_eq]
  exact ⟨sem_strip Θ cfg env p, strip_cols p, strip_isTrivial p⟩

/-- **`select_collapse_sound`** (restated from `Proofs/C06Sem.lean`).  `select_columns(cs)` on a pipeline whose
top consists of column selections / deletions (and `order_rows` steps without limit) constructs its node below
them (`Ops.selectBase`), after checking `cs` against each of them (`Ops.selectGuards`): the collapsed pipeline
fails with the same error, or gives the same columns `cs` and the same multiset of rows (the same rows in the
same order when no `order_rows` is skipped), as selecting `cs` from the receiver. -/
theorem C06_select_collapse_sound (Θ : Interp) (cfg : SemCfg) (env : Env) (self : Ops) (cs : List String)
    (hg : self.selectGuards.all (fun g => subset cs g) = true) :
    ResEquiv (sem Θ cfg env (.selectCols self.selectBase cs)) (sem Θ cfg env (.selectCols self cs)) := by
  simp only [sem]
  exact select_collapse_sound Θ cfg env self cs hg

/-- **C06, one step.**  For every interpretation `Θ` of the function symbols (record transforms returning the
declared columns and respecting row / column order), both backend configurations, every environment, every
pipeline `p` a user can write and every builder call `s` (any step kind, any arguments; `n` a table name not
used by the step's own argument pipelines) that is accepted and returns `p'`: evaluating `p'` fails with the same
error, or gives the same table up to the order of rows and of columns, as evaluating `p` and applying the
**raw, unsimplified** step to the materialised result – provided the new step is in C18's scope on that result
(`StepScope`: total window order or order free window functions; order free aggregates; a limit that does not
cut through a tie).  This covers the `extend` merge, the `order_rows` elimination and the select collapse. -/
theorem C06_chain_eq_sequential (Θ : Interp) (cfg : SemCfg) (env : Env) (hΘ : ConvertOK Θ)
    (hC : ConvertInvariant Θ) {p p' : Ops} {s : Step} (n : String) (hp : Reachable p)
    (hb : ∀ b ∈ Step.argOps s, Reachable b) (h : build p s = .ok p') (hf : Step.Fresh n s)
    (hs : ∀ t, sem Θ cfg env p = .ok t → StepScope Θ s t.rows) :
    ResEquivC (sem Θ cfg env p') (sem Θ cfg env p >>= semStep Θ cfg env n s) :=
  build_sem hΘ hC n hp.valid (fun b hbm => (hb b hbm).valid) h hf hs

/-- **C06, one step, same column order.**  When the chained pipeline declares its columns in the order of the
raw step's node (always, except after an `extend` merge in which both steps assign a common column), the two
results also list their columns in the same order: same error, or same columns and same multiset of rows. -/
theorem C06_chain_eq_sequential_cols (Θ : Interp) (cfg : SemCfg) (env : Env) (hΘ : ConvertOK Θ)
    (hC : ConvertInvariant Θ) {p p' : Ops} {s : Step} (n : String) (hp : Reachable p)
    (hb : ∀ b ∈ Step.argOps s, Reachable b) (h : build p s = .ok p') (hf : Step.Fresh n s)
    (hs : ∀ t, sem Θ cfg env p = .ok t → StepScope Θ s t.rows)
    (hcols : ∀ N, buildRaw (.table n p.cols) s = .ok N → N.cols = p'.cols) :
    ResEquiv (sem Θ cfg env p') (sem Θ cfg env p >>= semStep Θ cfg env n s) := by
  apply (C06_chain_eq_sequential Θ cfg env hΘ hC n hp hb h hf hs).to_resEquiv
  intro t t' ht ht'
  obtain ⟨tp, htp, hst⟩ := bind_eq_ok.mp ht'
  simp only [semStep] at hst
  obtain ⟨N, hN, hsem⟩ := bind_eq_ok.mp hst
  rw [sem_cols hΘ htp] at hN
  rw [sem_cols hΘ ht, sem_cols hΘ hsem]
  exact (hcols N hN).symm

/-- **C06, one step, exact form.**  When moreover no `order_rows` without limit is skipped by the builder (none at
the top of `p`, nor below the column selections / deletions at its top: `Ops.noTrivialOrderTop`), the two
evaluations are *equal* – same error, or the same rows in the same order with the same column list – without any
scope hypothesis. -/
theorem C06_chain_eq_sequential_eq (Θ : Interp) (cfg : SemCfg) (env : Env) (hΘ : ConvertOK Θ)
    {p p' : Ops} {s : Step} (n : String) (hp : Reachable p) (hb : ∀ b ∈ Step.argOps s, Reachable b)
    (h : build p s = .ok p') (hf : Step.Fresh n s) (hno : p.noTrivialOrderTop = true)
    (hcols : ∀ N, buildRaw (.table n p.cols) s = .ok N → N.cols = p'.cols) :
    sem Θ cfg env p' = sem Θ cfg env p >>= semStep Θ cfg env n s :=
  build_sem_exact hΘ n hp.valid (fun b hbm => (hb b hbm).valid) h hf hno hcols

/-- **C06, acceptance.**  A builder call on a reachable pipeline is accepted exactly when the raw call on a table
description with the same column names is – provided the table descriptions of the pipeline and of the step's
argument pipelines are consistent (the materialised table being a *new* table, `n` fresh). -/
theorem C06_accepts_iff {p : Ops} (hp : Reachable p) (n : String) (s : Step) (hf : Step.Fresh n s)
    (ht : ∀ b ∈ Step.argOps s, tablesConsistent p.tables b.tables = true) :
    (build p s).isOk ↔ (buildRaw (.table n p.cols) s).isOk := by
  rw [isOk_iff_errOf, isOk_iff_errOf,
    build_errOf hp.valid n s (fun b hb => ⟨ht b hb, tablesConsistent_fresh (hf b hb)⟩)]

/-- **C06, same error class.**  Under the same conditions the two calls fail with the same error class. -/
theorem C06_same_error {p : Ops} (hp : Reachable p) (n : String) (s : Step) (hf : Step.Fresh n s)
    (ht : ∀ b ∈ Step.argOps s, tablesConsistent p.tables b.tables = true) :
    errOf (build p s) = errOf (buildRaw (.table n p.cols) s) :=
  build_errOf hp.valid n s (fun b hb => ⟨ht b hb, tablesConsistent_fresh (hf b hb)⟩)

/-- **C06, chains.**  The pipeline built from a reachable pipeline `start` by any chain of accepted builder calls
evaluates – same error, or same table up to the order of rows and columns – to the raw steps applied one after
the other, each to the materialised result of the previous one (`semSteps`); each step being in C18's scope on
the result of the pipeline built from the steps before it (`ChainScope`). -/
theorem C06_chain (Θ : Interp) (cfg : SemCfg) (env : Env) (hΘ : ConvertOK Θ) (hC : ConvertInvariant Θ)
    (n : String) {start p' : Ops} (steps : List Step) (hstart : Reachable start)
    (hb : ∀ s ∈ steps, ∀ b ∈ Step.argOps s, Reachable b) (h : buildChain start steps = .ok p')
    (hf : ∀ s ∈ steps, Step.Fresh n s) (hs : ChainScope Θ cfg env start steps) :
    ResEquivC (sem Θ cfg env p') (sem Θ cfg env start >>= semSteps Θ cfg env n steps) :=
  buildChain_sem hΘ hC n hstart.valid steps (fun s hs b hbm => (hb s hs b hbm).valid) h hf hs

namespace C06Ex

/-- a record transform that returns the declared columns (and no rows) – enough to instantiate the laws -/
def conv : RecMap → Table → Except Err Table :=
  fun rm _ => if nodupB rm.produced then .ok ⟨rm.produced, []⟩ else .error .other

/-- the driver's concrete interpretation of the function symbols -/
def Θc : Interp := Theta.concrete conv

theorem convertOK : ConvertOK Θc := by
  intro rm t t' h
  have h' : conv rm t = .ok t' := h
  simp only [conv] at h'
  split at h'
  · cases h'; exact ⟨rfl, fun _ hr => by cases hr⟩
  · cases h'

theorem convertInv : ConvertInvariant Θc := by
  intro rm t t' hn _
  show ResEquivC (conv rm t) (conv rm t')
  simp only [conv, nodupB_iff.mpr hn, if_true]
  exact Table.EquivC.refl (fun _ hr => by cases hr) hn

def d : Ops := .table "d" ["g", "x"]
def env : Env := [("d", ⟨["g", "x"], [[("g", .num 1), ("x", .num 5)], [("g", .num 2), ("x", .num 3)]]⟩)]

/-- `order_rows(['x'])` (eliminated by the next step) -/
def s1 : Step := .order ["x"] [] none
/-- `extend({'a': 'x + 1', 'b': '2'})` -/
def s2 : Step :=
  .extend [("a", .app "+" [.col "x", .value (.int 1)] true false), ("b", .value (.int 2))] .none [] []
/-- `extend({'a': '3', 'c': 'g'})`: merged into the previous `extend`, `a` being assigned by both -/
def s3 : Step := .extend [("a", .value (.int 3)), ("c", .col "g")] .none [] []
/-- `select_columns(['a', 'c', 'g'])` -/
def s4 : Step := .selectCols ["a", "c", "g"]
/-- `select_columns(['c', 'a'])`: collapsed with the previous selection -/
def s5 : Step := .selectCols ["c", "a"]

def steps : List Step := [s1, s2, s3, s4, s5]

/-- the chain builds ONE `extend` node (merged assignments, `order_rows` gone) under ONE selection -/
theorem built : buildChain d steps = .ok (.selectCols (.extend d
    [("b", .value (.int 2)), ("a", .value (.int 3)), ("c", .col "g")] [] [] [] false) ["c", "a"]) := by
  rfl

theorem d_reachable : Reachable d := Reachable.table "d" ["g", "x"] (by decide) (by decide)

theorem noArgs : ∀ s ∈ steps, Step.argOps s = [] := by decide +kernel

/-- neither `extend` step is windowed; the other steps are always in scope -/
theorem scope_all : ∀ s ∈ steps, ∀ rows, StepScope Θc s rows := by
  intro s hs rows
  simp only [steps, List.mem_cons, List.not_mem_nil, or_false] at hs
  rcases hs with rfl | rfl | rfl | rfl | rfl
  · trivial
  · intro h; exact absurd h (by decide +kernel)
  · intro h; exact absurd h (by decide +kernel)
  · trivial
  · trivial

theorem chainScope : ChainScope Θc .pandas env d steps := by
  intro pre s post e _ _ t _
  exact scope_all s (by rw [e]; simp) t.rows

section
-- `ResEquivC` is a `match` on the two results: left transparent, the elaborator evaluates both sides of the
-- statement below when it looks at the type of the application
attribute [local irreducible] ResEquivC

example : ResEquivC (sem Θc .pandas env (.selectCols (.extend d
      [("b", .value (.int 2)), ("a", .value (.int 3)), ("c", .col "g")] [] [] [] false) ["c", "a"]))
    (sem Θc .pandas env d >>= semSteps Θc .pandas env "m" steps) :=
  C06_chain Θc .pandas env convertOK convertInv "m" steps d_reachable
    (fun s hs b hb => by rw [noArgs s hs] at hb; cases hb) built
    (fun s hs b hb => by rw [noArgs s hs] at hb; cases hb) chainScope

end

example : ∃ t, sem Θc .pandas env (.selectCols (.extend d
      [("b", .value (.int 2)), ("a", .value (.int 3)), ("c", .col "g")] [] [] [] false) ["c", "a"]) = .ok t ∧
    t.cols = ["c", "a"] ∧ t.rows.length = 2 := ⟨_, rfl, by decide, by decide⟩

theorem built_s2 : build d s2 = .ok (.extend d
    [("a", .app "+" [.col "x", .value (.int 1)] true false), ("b", .value (.int 2))] [] [] [] false) := by rfl

example : sem Θc .pandas env (.extend d
      [("a", .app "+" [.col "x", .value (.int 1)] true false), ("b", .value (.int 2))] [] [] [] false)
    = sem Θc .pandas env d >>= semStep Θc .pandas env "m" s2 :=
  C06_chain_eq_sequential_eq Θc .pandas env convertOK "m" d_reachable (by intro b hb; cases hb) built_s2
    (by intro b hb; cases hb) rfl (by intro N hN; rw [buildRaw_ok_node hN]; rfl)

end C06Ex

open C06Ex in
/-- **Column order is not preserved by the `extend` merge** (so the one-step statement cannot be strengthened to
`ResEquiv`, which compares the column lists): `.extend({'a': 'x + 1', 'b': '2'}).extend({'a': '3', 'c': 'g'})`
is merged into one node that declares `g, x, b, a, c`; the second step applied to the materialised first result
declares `g, x, a, b, c`.  The real library does the same. -/
theorem C06_column_order_not_preserved :
    ¬ ∀ (Θ : Interp) (cfg : SemCfg) (env : Env) (p p' : Ops) (s : Step) (n : String), ConvertOK Θ →
        ConvertInvariant Θ → Reachable p → build p s = .ok p' → Step.Fresh n s →
        (∀ t, sem Θ cfg env p = .ok t → StepScope Θ s t.rows) →
        ResEquiv (sem Θ cfg env p') (sem Θ cfg env p >>= semStep Θ cfg env n s) := by
  intro h
  have hreach := Reachable.step d_reachable (fun b hb => by cases hb) built_s2
  have hb : build (.extend d
      [("a", .app "+" [.col "x", .value (.int 1)] true false), ("b", .value (.int 2))] [] [] [] false) s3
      = .ok (.extend d [("b", .value (.int 2)), ("a", .value (.int 3)), ("c", .col "g")] [] [] [] false) := by
    rfl
  have h0 := h Θc .pandas env _ _ s3 "m" convertOK convertInv hreach hb (fun b hb => by cases hb)
    (fun t _ hw => absurd hw (by decide))
  obtain ⟨tl, hl, cl⟩ := exists_ok_of_eval (P := fun t : Table => t.cols = ["g", "x", "b", "a", "c"])
    (x := sem Θc .pandas env (.extend d [("b", .value (.int 2)), ("a", .value (.int 3)), ("c", .col "g")] [] [] [] false))
    (by decide +kernel)
  obtain ⟨tr, hr, cr⟩ := exists_ok_of_eval (P := fun t : Table => t.cols = ["g", "x", "a", "b", "c"])
    (x := sem Θc .pandas env (.extend d
      [("a", .app "+" [.col "x", .value (.int 1)] true false), ("b", .value (.int 2))] [] [] [] false)
      >>= semStep Θc .pandas env "m" s3) (by decide +kernel)
  rw [hl, hr] at h0
  have := h0.1
  rw [cl, cr] at this
  exact absurd this (by decide)

/-- **The consistency of the table descriptions is necessary for acceptance parity**: a join of the table `d(a)`
with another description `d(b)` of the same name is rejected (ValueError), the raw join on a fresh description
`m(a)` of the materialised left side is accepted. -/
theorem C06_accepts_tables_necessary :
    ¬ ∀ (p : Ops) (n : String) (s : Step), Reachable p → Step.Fresh n s →
        errOf (build p s) = errOf (buildRaw (.table n p.cols) s) := by
  intro h
  have := h (.table "d" ["a"]) "m" (.join (.table "d" ["b"]) [] [] "cross" false)
    (Reachable.table "d" ["a"] (by decide) (by decide)) (by
      intro b hb
      simp only [Step.argOps, List.mem_singleton] at hb
      subst hb
      decide)
  exact absurd this (by decide +kernel)

end DAVerif
