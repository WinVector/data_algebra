import DAVerif.Proofs.RefJoin
import DAVerif.Proofs.SemBasic
import DAVerif.Sem.Theta
/-!
# C16  natural_join matches SQL join semantics  (executor model)

Specification side (`Spec/Ref.lean`): `Ref.refJoin jt onA onB ta tb` – the standard SQL joins as a textbook nested loop
(key equality in three-valued logic, so a null key never matches; LEFT/RIGHT/FULL add the unmatched rows of the respective
side padded with nulls; CROSS = all pairs; output columns = left columns then the new right columns; every output cell is
`COALESCE(left cell, right cell)`), and the guard `Ref.G_nonNullKeys` of finding D18.

About the join step `semJoin` of `sem`: `SemCfg.ref` computes exactly `refJoin`; `SemCfg.pandas` (what `pandas_base.py`
computes: `pandas.merge`) computes it under the guard `G_nonNullKeys` (necessary: finding D18), CROSS being the plain
product without any guard after fix 1a3e0a8 of /repo; the executor before that fix (`crossAsOuter = true`: CROSS as an outer
merge on a constant key) computed the product only when both sides have rows or neither has.  `jointype="outer"` is
evaluated as a FULL join by `sem`; it is not one of the five types of the property (Appendix B of DESIGN.md).  The SQL-side
theorems (SQLite emulations, native joins) are in `Props/C01joins.lean`, `Props/C16full.lean`, `Props/C16nested.lean`.
-/
namespace DAVerif
open RefSem

/-- **C16, the reference configuration is the SQL join.**  With as many left as right key columns (the builder
asserts it) and distinct right column names, the join step of the reference semantics returns the columns and
exactly the rows (as a multiset) of the standard SQL join, for INNER, LEFT, RIGHT, FULL, CROSS (and OUTER, which is
evaluated as FULL): duplicate keys give all combinations, a null key never matches. -/
theorem C16_ref_is_sql (jt : JoinType) {onA onB : List String} (hlen : onA.length = onB.length) (ta tb : Table)
    (hb : tb.cols.Nodup) :
    semJoin SemCfg.ref jt onA onB ta tb (appendNew ta.cols tb.cols) ≈ Ref.refJoin jt onA onB ta tb := by
  rw [appendNew_eq_filter hb]
  exact semJoin_ref_equiv_refJoin jt hlen ta tb

/-- **C16 for a `natural_join` node of a pipeline** (reference semantics): the result is the reference join of the
results of the two sub-pipelines, its columns arranged as the node declares them. -/
theorem C16_sem_ref_join (Θ : Interp) (hΘ : ConvertOK Θ) (env : Env) (a b : Ops) {onA onB : List String}
    (jt : JoinType) (hlen : onA.length = onB.length) (hb : b.cols.Nodup) {t : Table}
    (h : sem Θ SemCfg.ref env (.join a b onA onB jt) = .ok t) :
    ∃ ta tb, sem Θ SemCfg.ref env a = .ok ta ∧ sem Θ SemCfg.ref env b = .ok tb ∧
      t ≈ (Ref.refJoin jt onA onB ta tb).selectCols (Ops.join a b onA onB jt).cols := by
  obtain ⟨ta, hta, h⟩ := bind_eq_ok.mp h
  obtain ⟨tb, htb, h⟩ := bind_eq_ok.mp h
  cases h
  refine ⟨ta, tb, hta, htb, ?_⟩
  have hca := (sem_cols_wf Θ hΘ _ env a ta hta).1
  have hcb := (sem_cols_wf Θ hΘ _ env b tb htb).1
  rw [← hca, ← hcb]
  exact (C16_ref_is_sql jt hlen ta tb (hcb ▸ hb)).selectCols _

/-- `jointype="outer"` is evaluated exactly like `"full"`, by the executor model in both configurations and by
the reference join -/
theorem C16_outer_is_full (cfg : SemCfg) (onA onB : List String) (ta tb : Table) (oc : List String) :
    semJoin cfg .outer onA onB ta tb oc = semJoin cfg .full onA onB ta tb oc ∧
    Ref.refJoin .outer onA onB ta tb = Ref.refJoin .full onA onB ta tb := by
  constructor
  · simp only [semJoin]
    rfl
  · simp only [Ref.refJoin, Ref.joins, Ref.keepsLeft, Ref.keepsRight]
    rfl

/-- a null key never matches: if the SQL key condition holds, no key cell on either side is null -/
theorem C16_null_keys_never_match {onA onB : List String} {ra rb : Row}
    (h : Ref.keysEqual onA onB ra rb = true) :
    ∀ ab ∈ onA.zip onB, (ra.get ab.1).isNull = false ∧ (rb.get ab.2).isNull = false ∧ ra.get ab.1 = rb.get ab.2 := by
  intro ab hab
  have := List.all_eq_true.mp h ab hab
  simp only [Bool.and_eq_true, Bool.not_eq_eq_eq_not, Bool.not_true, beq_iff_eq] at this
  exact ⟨this.1.1, this.1.2, this.2⟩

/-- **C16, Pandas executor, guarded.**  When no pair of key columns has a null on both sides
(`Ref.G_nonNullKeys`), the Pandas executor's joins – all types – are exactly the joins of the reference
configuration, hence (`C16_pandas_is_sql_partial`) the standard SQL joins. -/
theorem C16_pandas_partial {jt : JoinType} {onA onB : List String} {ta tb : Table} (oc : List String)
    (hg : Ref.G_nonNullKeys ta tb onA onB) :
    semJoin SemCfg.pandas jt onA onB ta tb oc ≈ semJoin SemCfg.ref jt onA onB ta tb oc :=
  Table.Equiv.of_eq (semJoin_pandas_eq_ref oc hg)

theorem C16_pandas_is_sql_partial {jt : JoinType} {onA onB : List String} (hlen : onA.length = onB.length)
    {ta tb : Table} (hb : tb.cols.Nodup) (hg : Ref.G_nonNullKeys ta tb onA onB) :
    semJoin SemCfg.pandas jt onA onB ta tb (appendNew ta.cols tb.cols) ≈ Ref.refJoin jt onA onB ta tb :=
  (C16_pandas_partial _ hg).trans (C16_ref_is_sql jt hlen ta tb hb)

/-- **C16, CROSS on the Pandas executor** (after fix 1a3e0a8: an inner merge on a constant key) is the plain
product, for all inputs – empty sides and null cells included; a CROSS join has no keys, but even if it had they
would be ignored. -/
theorem C16_pandas_cross (onA onB : List String) (ta tb : Table) (oc : List String) :
    semJoin SemCfg.pandas .cross onA onB ta tb oc ≈ semJoin SemCfg.ref .cross onA onB ta tb oc :=
  Table.Equiv.of_eq (semJoin_cross_eq_ref true onA onB ta tb oc)

theorem C16_pandas_cross_is_sql (ta tb : Table) (hb : tb.cols.Nodup) :
    semJoin SemCfg.pandas .cross [] [] ta tb (appendNew ta.cols tb.cols) ≈ Ref.refJoin .cross [] [] ta tb :=
  (C16_pandas_cross [] [] ta tb _).trans (C16_ref_is_sql .cross rfl ta tb hb)

/-- **CROSS as an outer merge on a constant key** – the executor *before* fix 1a3e0a8 (`crossAsOuter = true`) – is
the plain product under the guard "both inputs have rows or neither has" (needed: `C16_cross_as_outer_necessary`). -/
theorem C16_cross_as_outer_partial (n : Bool) {onA onB : List String} {ta tb : Table} (oc : List String)
    (h : ta.rows = [] ↔ tb.rows = []) :
    semJoin ⟨n, true⟩ .cross onA onB ta tb oc ≈ semJoin SemCfg.ref .cross onA onB ta tb oc :=
  Table.Equiv.of_eq (semJoin_crossAsOuter_eq_ref n oc h)

theorem coalesce_null_left (x : Val) : Ref.coalesce .null x = x := rfl

/-- **C16, differently named keys.**  For a key pair `(a, b)` with `a` a column of the left side only and `b` a
column of the right side only, both key columns are in the result (reference configuration, INNER/LEFT/RIGHT/FULL),
and every result row is of one of three kinds: a matched pair – both cells carry the common non-null key value –,
an unmatched left row – `a` from the left row, `b` padded with null –, or an unmatched right row – `a` padded with
null, `b` from the right row. -/
theorem C16_diffkeys {jt : JoinType} {onA onB : List String} {ta tb : Table} {oc : List String} {a b : String}
    (hab : (a, b) ∈ onA.zip onB) (ha : a ∈ ta.cols) (ha' : a ∉ tb.cols) (hb : b ∈ tb.cols) (hb' : b ∉ ta.cols)
    (hoa : a ∈ oc) (hob : b ∈ oc) (hjt : jt ≠ .cross) :
    ∀ r ∈ (semJoin SemCfg.ref jt onA onB ta tb oc).rows,
      (∃ ra ∈ ta.rows, ∃ rb ∈ tb.rows, r.get a = ra.get a ∧ r.get b = rb.get b ∧ ra.get a = rb.get b ∧
        (ra.get a).isNull = false) ∨
      (∃ ra ∈ ta.rows, r.get a = ra.get a ∧ r.get b = .null) ∨
      (∃ rb ∈ tb.rows, r.get a = .null ∧ r.get b = rb.get b) := by
  have hne : onA.isEmpty = false := by
    cases onA with
    | nil => cases hab
    | cons => rfl
  have hcr : (jt == JoinType.cross) = false := by cases jt <;> first | rfl | exact absurd rfl hjt
  intro r hr
  rcases mem_semJoin_rows hr with ⟨ra, hra, rb, hrb, hm, rfl⟩ | ⟨ra, hra, rfl⟩ | ⟨rb, hrb, rfl⟩
  · simp only [hcr, hne, Bool.or_self, Bool.false_or, keyMatch, SemCfg.ref, Bool.and_eq_true, beq_iff_eq] at hm
    refine Or.inl ⟨ra, hra, rb, hrb, ?_, ?_, get_of_keyOf_eq hm.1 hab, ?_⟩
    · rw [get_joinRow hoa, sideCell_of_mem ha, sideCell_of_not_mem ha', coalesce_null_right]
    · rw [get_joinRow hob, sideCell_of_not_mem hb', sideCell_of_mem hb, coalesce_null_left]
    · simpa using List.all_eq_true.mp hm.2 (ra.get a) (List.mem_map.mpr ⟨a, (List.of_mem_zip hab).1, rfl⟩)
  · refine Or.inr (Or.inl ⟨ra, hra, ?_, ?_⟩)
    · rw [get_joinRow hoa, sideCell_of_mem ha]; exact coalesce_null_right _
    · rw [get_joinRow hob, sideCell_of_not_mem hb']; rfl
  · refine Or.inr (Or.inr ⟨rb, hrb, ?_, ?_⟩)
    · rw [get_joinRow hoa, sideCell_of_not_mem ha']; rfl
    · rw [get_joinRow hob, sideCell_of_mem hb]; rfl

/-- **C16, shared columns.**  For a column `c` of both sides (a same-named key or a shared non-key column), in
both configurations and for every join type: a row made from a left row and a right row carries the left value,
or the right value where the left is null; an unmatched left (right) row carries its own value. -/
theorem C16_coalesce {cfg : SemCfg} {jt : JoinType} {onA onB : List String} {ta tb : Table} {oc : List String}
    {c : String} (ha : c ∈ ta.cols) (hb : c ∈ tb.cols) (hoc : c ∈ oc) :
    ∀ r ∈ (semJoin cfg jt onA onB ta tb oc).rows,
      (∃ ra ∈ ta.rows, ∃ rb ∈ tb.rows,
        r.get c = if (ra.get c).isNull then rb.get c else ra.get c) ∨
      (∃ ra ∈ ta.rows, r.get c = ra.get c) ∨
      (∃ rb ∈ tb.rows, r.get c = rb.get c) := by
  intro r hr
  rcases mem_semJoin_rows hr with ⟨ra, hra, rb, hrb, _, rfl⟩ | ⟨ra, hra, rfl⟩ | ⟨rb, hrb, rfl⟩
  · exact Or.inl ⟨ra, hra, rb, hrb, by rw [get_joinRow hoc, sideCell_of_mem ha, sideCell_of_mem hb]; rfl⟩
  · exact Or.inr (Or.inl ⟨ra, hra, by rw [get_joinRow hoc, sideCell_of_mem ha]; exact coalesce_null_right _⟩)
  · exact Or.inr (Or.inr ⟨rb, hrb, by rw [get_joinRow hoc, sideCell_of_mem hb]; rfl⟩)

namespace C16Ex

/-- `L(k, a, v)`: duplicate key 1, a null key -/
def L : Table := ⟨["k", "a", "v"],
  [[("k", .num 1), ("a", .num 10), ("v", .null)], [("k", .num 1), ("a", .num 11), ("v", .num 7)],
   [("k", .null), ("a", .num 12), ("v", .num 8)], [("k", .num 3), ("a", .num 13), ("v", .num 9)]]⟩
/-- `R(k, b, v)`: key 1, key 2, no null key -/
def R : Table := ⟨["k", "b", "v"],
  [[("k", .num 1), ("b", .num 20), ("v", .num 5)], [("k", .num 2), ("b", .num 21), ("v", .num 6)]]⟩
/-- `Rn`: as `R` with a null key -/
def Rn : Table := ⟨["k", "b", "v"],
  [[("k", .num 1), ("b", .num 20), ("v", .num 5)], [("k", .null), ("b", .num 21), ("v", .num 6)]]⟩
/-- `R'(j, b)`: differently named key -/
def R' : Table := ⟨["j", "b"], [[("j", .num 1), ("b", .num 20)], [("j", .num 2), ("b", .num 21)]]⟩

/-- the guard holds for `L`, `R` (the right key column has no null) although the left one has a null -/
example : Ref.G_nonNullKeys L R ["k"] ["k"] := by decide
example : ¬ Ref.G_nonNullKeys L Rn ["k"] ["k"] := by decide

/-- the FULL reference join of `L` and `R`: 2 matched rows (shared `v` coalesced: 5 where the left is null,
else the left 7), 2 unmatched left rows (one with the null key), 1 unmatched right row -/
example : (Ref.refJoin .full ["k"] ["k"] L R).rows =
    [[("k", .num 1), ("a", .num 10), ("v", .num 5), ("b", .num 20)],
     [("k", .num 1), ("a", .num 11), ("v", .num 7), ("b", .num 20)],
     [("k", .null), ("a", .num 12), ("v", .num 8), ("b", .null)],
     [("k", .num 3), ("a", .num 13), ("v", .num 9), ("b", .null)],
     [("k", .num 2), ("a", .null), ("v", .num 6), ("b", .num 21)]] := by decide +kernel

example : semJoin SemCfg.pandas .full ["k"] ["k"] L R (appendNew L.cols R.cols) ≈ Ref.refJoin .full ["k"] ["k"] L R :=
  C16_pandas_is_sql_partial rfl (by decide) (by decide)

/-- differently named keys: both key columns are kept, null padded -/
example : (Ref.refJoin .full ["k"] ["j"] L R').rows =
    [[("k", .num 1), ("a", .num 10), ("v", .null), ("j", .num 1), ("b", .num 20)],
     [("k", .num 1), ("a", .num 11), ("v", .num 7), ("j", .num 1), ("b", .num 20)],
     [("k", .null), ("a", .num 12), ("v", .num 8), ("j", .null), ("b", .null)],
     [("k", .num 3), ("a", .num 13), ("v", .num 9), ("j", .null), ("b", .null)],
     [("k", .null), ("a", .null), ("v", .null), ("j", .num 2), ("b", .num 21)]] := by decide +kernel

def N1 : Table := ⟨["k", "a"], [[("k", .null), ("a", .num 1)]]⟩
def N2 : Table := ⟨["k", "b"], [[("k", .null), ("b", .num 2)]]⟩
def E : Table := ⟨["b"], []⟩
def A1 : Table := ⟨["a"], [[("a", .num 1)]]⟩

end C16Ex

open C16Ex in
/-- **The guard `G_nonNullKeys` is necessary** (finding D18: `pandas.merge` matches null keys).  An INNER join of
`(k = null, a = 1)` with `(k = null, b = 2)` on `k`: the Pandas executor returns one row, the standard join none
(the real library does the same on this input). -/
theorem C16_pandas_nullkeys_necessary :
    ¬ ∀ (jt : JoinType) (onA onB : List String) (ta tb : Table),
        semJoin SemCfg.pandas jt onA onB ta tb (appendNew ta.cols tb.cols)
          ≈ semJoin SemCfg.ref jt onA onB ta tb (appendNew ta.cols tb.cols) := by
  intro h
  exact absurd (h .inner ["k"] ["k"] N1 N2) (by decide +kernel)

open C16Ex in
/-- **The guard of `C16_cross_as_outer_partial` was necessary** (the defect repaired by fix 1a3e0a8, finding
`N11-pandas-cross-join-empty-side`).  A CROSS join of a one-row table with an empty table: evaluated as an outer
merge on a constant key it returns the row padded with null; the product is empty. -/
theorem C16_cross_as_outer_necessary :
    ¬ ∀ (ta tb : Table), semJoin ⟨true, true⟩ .cross [] [] ta tb (appendNew ta.cols tb.cols)
        ≈ semJoin SemCfg.ref .cross [] [] ta tb (appendNew ta.cols tb.cols) := by
  intro h
  exact absurd (h A1 E) (by decide +kernel)

/-- on the same input the executor after the fix returns no rows -/
example : (semJoin SemCfg.pandas .cross [] [] C16Ex.A1 C16Ex.E (appendNew C16Ex.A1.cols C16Ex.E.cols)).rows = [] := by
  decide +kernel

end DAVerif
