import DAVerif.Proofs.SqlNested
import DAVerif.Proofs.SqlReach
import DAVerif.Props.C01core
import DAVerif.Proofs.EvalRead
/-!
# C01 / C02 / C16 — `natural_join` and `concat_rows` in the SQL translation

The `…_all` statements of `Props/C01core.lean` (and the join theorems `C16_*_all`, which stand here) for `allow_extend_merges`
off: their instances.  Reference side: `semE ec Θ SemCfg.ref env p` (stage A) resp. `sem Θ SemCfg.ref env p` (stage B) –
standard SQL joins: null keys never match, unmatched rows padded with NULL, common columns `COALESCE(a.c, b.c)`.

Scope `Sql.Good cfg env p`: `InFragJ` (everything but `convert_records`), `WF`, `SqlWF`,
`MapsOK` (as in C01core), `JoinWF` (join keys are columns of their side; the sides of a `concat_rows` have the same column
set – `C16_reachable_joinwf`: every reachable pipeline), `JoinTypesSql` (no join of type `OUTER`: not SQL, the engine
rejects the text), `JoinsNative cfg` (the dialect renders every join natively: always on the generic dialect; INNER / LEFT /
CROSS on SQLite), `LabelSidesPlain` (the sides of a `concat_rows` with id column do not end in an `order_rows` without
limit: the builder call that adds the label column drops such a node, only the row multiset of that side survives –
outside the row-list invariant of stage A), `EnvOK false`.

SQLite's emulated joins change the row order; here for a join at the root, up to row order: RIGHT = LEFT join of the
swapped sources with `COALESCE(second, first)`, for all data; FULL: `Props/C16full.lean`; anywhere in the pipeline:
`Props/C16nested.lean`.
-/
namespace DAVerif
open DAVerif.Sql

/-- **C01/C02, stage A, with joins and `concat_rows`.**  For every pipeline `p` in scope (`Good cfg env p`), every `Θ`,
both engines: if `to_sql` (no extend merges) produces the query `q`, then `q` evaluates, its result has exactly the
declared column set, and its rows restricted to the declared columns are **exactly, in order** the rows of the table
`p` denotes under the engine's NULL placement and the standard SQL join semantics.  No hypothesis on data or `Θ`. -/
theorem C01_joins_engine_order (Θ : Interp) (ec : EngineCfg) (env : Env) (cfg : SqlCfg) (hm : cfg.merges = false)
    (p : Ops) (hg : Good cfg env p) {q : Near} (h : toNearSql cfg p = .ok q) :
    ∃ T tp, semSql Θ ec env q = .ok T ∧ semE ec Θ SemCfg.ref env p = .ok tp ∧ tp.cols = p.cols ∧
      (∀ c, c ∈ T.cols ↔ c ∈ p.cols) ∧ T.rows.map (fun r => r.select p.cols) = tp.rows :=
  C01_engine_order_all Θ ec env cfg p hg h

/-- **C01_translation_sound_joins.**  Fragment = unary ∪ `natural_join` ∪ `concat_rows`, `cfg.merges = false`, any
dialect configuration for which the pipeline's joins are rendered natively (`Good` contains `JoinsNative cfg p`).
Within the scope of C18 (order-free aggregates, total window orders, clean limit cuts) and `SqlScope` (null-free order
columns at ordered windows and at `order_rows` with limit): the query `to_sql` produces evaluates, the reference
semantics evaluates, and the two tables have the **same column set and the same multiset of rows**. -/
theorem C01_translation_sound_joins (Θ : Interp) (ec : EngineCfg) (env : Env) (cfg : SqlCfg) (hm : cfg.merges = false)
    (p : Ops) (hg : Good cfg env p) (hA : AggsOrderFree Θ p) (hW : WindowsTotal Θ SemCfg.ref env p)
    (hS : SqlScope Θ SemCfg.ref env p) {q : Near} (h : toNearSql cfg p = .ok q) :
    ∃ T t, semSql Θ ec env q = .ok T ∧ sem Θ SemCfg.ref env p = .ok t ∧ t.cols = p.cols ∧ T.EquivS t :=
  C01_translation_sound_all Θ ec env cfg p hg hA hW hS h

/-- the scope bundle on a dialect with native RIGHT / FULL joins (generic dialect, PostgreSQL, …): `JoinsNative` holds
for every pipeline -/
theorem Sql.Good.of_generic {cfg : SqlCfg} (hgen : cfg.emulateRightFull = false) {env : Env} {p : Ops}
    (hf : InFragJ p = true) (hwf : WF p) (hsq : SqlWF p) (hmp : MapsOK p) (hj : JoinWF p) (ht : JoinTypesSql p)
    (hl : LabelSidesPlain p) (he : EnvOK false env p) : Good cfg env p :=
  ⟨hf, hwf, hsq, hmp, hj, ht, joinsNative_of_generic hgen p, hl, he⟩

/-- **C01_translation_sound_joins, generic dialect**: all five SQL join types (INNER, LEFT, RIGHT, FULL, CROSS) -/
theorem C01_translation_sound_joins_generic (Θ : Interp) (ec : EngineCfg) (env : Env) (cfg : SqlCfg)
    (hm : cfg.merges = false) (hgen : cfg.emulateRightFull = false) (p : Ops)
    (hf : InFragJ p = true) (hwf : WF p) (hsq : SqlWF p) (hmp : MapsOK p) (hj : JoinWF p) (ht : JoinTypesSql p)
    (hl : LabelSidesPlain p) (he : EnvOK false env p)
    (hA : AggsOrderFree Θ p) (hW : WindowsTotal Θ SemCfg.ref env p) (hS : SqlScope Θ SemCfg.ref env p)
    {q : Near} (h : toNearSql cfg p = .ok q) :
    ∃ T t, semSql Θ ec env q = .ok T ∧ sem Θ SemCfg.ref env p = .ok t ∧ t.cols = p.cols ∧ T.EquivS t :=
  C01_translation_sound_joins Θ ec env cfg hm p (Good.of_generic hgen hf hwf hsq hmp hj ht hl he) hA hW hS h

/-- **C01_translation_sound_joins, SQLite dialect** (`emulateRightFull = true`): pipelines whose joins are INNER, LEFT
or CROSS (`JoinsNative`); for RIGHT and FULL joins see `C16_sqlite_right_as_left`, `C16_sqlite_full_partial`. -/
theorem C01_translation_sound_joins_sqlite (Θ : Interp) (ec : EngineCfg) (env : Env) (cfg : SqlCfg)
    (hm : cfg.merges = false) (_hemu : cfg.emulateRightFull = true) (p : Ops)
    (hf : InFragJ p = true) (hwf : WF p) (hsq : SqlWF p) (hmp : MapsOK p) (hj : JoinWF p) (ht : JoinTypesSql p)
    (hn : JoinsNative cfg p) (hl : LabelSidesPlain p) (he : EnvOK false env p)
    (hA : AggsOrderFree Θ p) (hW : WindowsTotal Θ SemCfg.ref env p) (hS : SqlScope Θ SemCfg.ref env p)
    {q : Near} (h : toNearSql cfg p = .ok q) :
    ∃ T t, semSql Θ ec env q = .ok T ∧ sem Θ SemCfg.ref env p = .ok t ∧ t.cols = p.cols ∧ T.EquivS t :=
  C01_translation_sound_joins Θ ec env cfg hm p ⟨hf, hwf, hsq, hmp, hj, ht, hn, hl, he⟩ hA hW hS h

/-- **Strong scope: list equality.**  With null-free order columns at every `order_rows` and ordered window the SQL
result and the reference result have the same rows in the same order – joins and `concat_rows` included, any `Θ`. -/
theorem C01_translation_exact_joins (Θ : Interp) (ec : EngineCfg) (env : Env) (cfg : SqlCfg) (hm : cfg.merges = false)
    (p : Ops) (hg : Good cfg env p) (hN : OrdersNullFree Θ SemCfg.ref env p) {q : Near} (h : toNearSql cfg p = .ok q) :
    ∃ T t, semSql Θ ec env q = .ok T ∧ sem Θ SemCfg.ref env p = .ok t ∧ t.cols = p.cols ∧ T.EqS t :=
  C01_translation_exact_all Θ ec env cfg p hg hN h

/-- **For pipelines built by the builders**: `Reachable p` replaces `WF`, `SqlWF` and `JoinWF`
(`C26_reachable_wf`, `C01_reachable_sqlwf`, `C16_reachable_joinwf`). -/
theorem C01_translation_sound_joins_reachable (Θ : Interp) (ec : EngineCfg) (env : Env) (cfg : SqlCfg)
    (hm : cfg.merges = false) (p : Ops) (hr : Reachable p) (hf : InFragJ p = true) (hmp : MapsOK p)
    (ht : JoinTypesSql p) (hn : JoinsNative cfg p) (hl : LabelSidesPlain p) (he : EnvOK false env p)
    (hA : AggsOrderFree Θ p) (hW : WindowsTotal Θ SemCfg.ref env p) (hS : SqlScope Θ SemCfg.ref env p)
    {q : Near} (h : toNearSql cfg p = .ok q) :
    ∃ T t, semSql Θ ec env q = .ok T ∧ sem Θ SemCfg.ref env p = .ok t ∧ t.cols = p.cols ∧ T.EquivS t :=
  C01_translation_sound_joins Θ ec env cfg hm p
    ⟨hf, C26_reachable_wf hr, C01_reachable_sqlwf hr, hmp, C16_reachable_joinwf hr, ht, hn, hl, he⟩ hA hW hS h

/-- C08 / C09 with joins: exactly the declared columns, as many rows as the reference table – unconditionally -/
theorem C08_sql_cols_joins (Θ : Interp) (ec : EngineCfg) (env : Env) (cfg : SqlCfg) (hm : cfg.merges = false)
    (p : Ops) (hg : Good cfg env p) {q : Near} (h : toNearSql cfg p = .ok q) :
    ∃ T tp, semSql Θ ec env q = .ok T ∧ semE ec Θ SemCfg.ref env p = .ok tp ∧ (∀ c, c ∈ T.cols ↔ c ∈ p.cols) ∧
      T.rows.length = tp.rows.length := by
  obtain ⟨T, tp, h1, h2, _, h4, h6⟩ := C01_joins_engine_order Θ ec env cfg hm p hg h
  refine ⟨T, tp, h1, h2, h4, ?_⟩
  have := congrArg List.length h6
  simpa using this

/-- **C16_sql_native_all.**  A join the dialect renders natively – on the generic dialect all five SQL join types –
over two pipelines of the fragment, extend merges on or off: the SQL returns, row by row **in order**, the reference
join `semJoin SemCfg.ref` of the two sides' tables, on exactly the columns of the two sides. -/
theorem C16_sql_native_all (Θ : Interp) (ec : EngineCfg) (env : Env) (cfg : SqlCfg)
    (a b : Ops) (onA onB : List String) (jt : JoinType) (hg : Good cfg env (.join a b onA onB jt))
    {q : Near} (h : toNearSql cfg (.join a b onA onB jt) = .ok q) :
    ∃ T ta tb, semSql Θ ec env q = .ok T ∧ semE ec Θ SemCfg.ref env a = .ok ta ∧ semE ec Θ SemCfg.ref env b = .ok tb ∧
      (∀ c, c ∈ T.cols ↔ c ∈ a.cols ∨ c ∈ b.cols) ∧
      T.rows.map (fun r => r.select (Ops.join a b onA onB jt).cols) =
        ((semJoin SemCfg.ref jt onA onB ta tb (appendNew a.cols b.cols)).selectCols (Ops.join a b onA onB jt).cols).rows := by
  obtain ⟨T, tp, h1, h2, _, h4, h6⟩ := SqlE.engine_order_all Θ ec env cfg _ hg h
  obtain ⟨ta, tb, hta, htb, rfl⟩ := semG_join_ok h2
  exact ⟨T, ta, tb, h1, hta, htb, fun c => (h4 c).trans (mem_join_cols a b onA onB jt c), h6⟩

/-- **C16_diffkeys_sql_all.**  Differently named join keys: both key columns are kept, every dialect configuration. -/
theorem C16_diffkeys_sql_all (Θ : Interp) (ec : EngineCfg) (env : Env) (cfg : SqlCfg)
    (a b : Ops) (onA onB : List String) (jt : JoinType) (hg : Good cfg env (.join a b onA onB jt))
    {q : Near} (h : toNearSql cfg (.join a b onA onB jt) = .ok q) :
    ∃ T ta tb, semSql Θ ec env q = .ok T ∧ semE ec Θ SemCfg.ref env a = .ok ta ∧ semE ec Θ SemCfg.ref env b = .ok tb ∧
      (∀ c ∈ onA ++ onB, c ∈ T.cols) ∧
      T.rows.map (fun r => r.select (Ops.join a b onA onB jt).cols) =
        ((semJoin SemCfg.ref jt onA onB ta tb (appendNew a.cols b.cols)).selectCols (Ops.join a b onA onB jt).cols).rows := by
  obtain ⟨T, ta, tb, h1, h2, h3, h4, h5⟩ := C16_sql_native_all Θ ec env cfg a b onA onB jt hg h
  obtain ⟨hoa, hob, _⟩ := hg.of_join
  exact ⟨T, ta, tb, h1, h2, h3, fun c hc => (h4 c).mpr ((List.mem_append.mp hc).imp (hoa c) (hob c)), h5⟩

/-- **C16_sqlite_right_as_left_all.**  SQLite's RIGHT join (LEFT join of the swapped sources, `COALESCE(second,
first)`) at the root of a pipeline over two pipelines of the fragment, **extend merges on or off**, every data: the
SQL evaluates, has exactly the columns of the two sides, and returns the rows of the reference RIGHT join as a
multiset. -/
theorem C16_sqlite_right_as_left_all (Θ : Interp) (ec : EngineCfg) (env : Env) (cfg : SqlCfg)
    (hemu : cfg.emulateRightFull = true) (a b : Ops) (onA onB : List String)
    (hga : Good cfg env a) (hgb : Good cfg env b) (hoa : ∀ c ∈ onA, c ∈ a.cols) (hob : ∀ c ∈ onB, c ∈ b.cols)
    (hlen : onA.length = onB.length) {q : Near} (h : toNearSql cfg (.join a b onA onB .right) = .ok q) :
    ∃ T ta tb, semSql Θ ec env q = .ok T ∧ semE ec Θ SemCfg.ref env a = .ok ta ∧ semE ec Θ SemCfg.ref env b = .ok tb ∧
      (∀ c, c ∈ T.cols ↔ c ∈ a.cols ∨ c ∈ b.cols) ∧
      (T.rows.map (fun r => r.select (Ops.join a b onA onB .right).cols)).Perm
        ((semJoin SemCfg.ref .right onA onB ta tb (appendNew a.cols b.cols)).selectCols
          (Ops.join a b onA onB .right).cols).rows := by
  obtain ⟨st', hrun⟩ := toNearSql_ok h
  exact sqlite_right_root hemu a b onA onB hga hgb hoa hob
    (by cases onA <;> cases onB <;> first | rfl | cases hlen) hrun

/-- **C16_sql_native.**  A join the dialect renders natively – on the generic dialect all five SQL join types – over
two pipelines of the fragment: the SQL returns, row by row **in order**, the reference join `semJoin SemCfg.ref` of the
two sides' tables (matched pairs left-major, then unmatched left rows, then unmatched right rows; null keys never
match; common columns `COALESCE(a.c, b.c)`; every other column qualified by its side), on exactly the columns of the
two sides. -/
theorem C16_sql_native (Θ : Interp) (ec : EngineCfg) (env : Env) (cfg : SqlCfg) (hm : cfg.merges = false)
    (a b : Ops) (onA onB : List String) (jt : JoinType) (hg : Good cfg env (.join a b onA onB jt))
    {q : Near} (h : toNearSql cfg (.join a b onA onB jt) = .ok q) :
    ∃ T ta tb, semSql Θ ec env q = .ok T ∧ semE ec Θ SemCfg.ref env a = .ok ta ∧ semE ec Θ SemCfg.ref env b = .ok tb ∧
      (∀ c, c ∈ T.cols ↔ c ∈ a.cols ∨ c ∈ b.cols) ∧
      T.rows.map (fun r => r.select (Ops.join a b onA onB jt).cols) =
        ((semJoin SemCfg.ref jt onA onB ta tb (appendNew a.cols b.cols)).selectCols (Ops.join a b onA onB jt).cols).rows :=
  C16_sql_native_all Θ ec env cfg a b onA onB jt hg h

/-- **C16_sql_native on the generic dialect**, hypotheses spelled out: any of INNER, LEFT, RIGHT, FULL, CROSS. -/
theorem C16_sql_native_generic (Θ : Interp) (ec : EngineCfg) (env : Env) (cfg : SqlCfg) (hm : cfg.merges = false)
    (hgen : cfg.emulateRightFull = false) (a b : Ops) (onA onB : List String) (jt : JoinType) (hjt : jt ≠ .outer)
    (hga : Good cfg env a) (hgb : Good cfg env b) (hoa : ∀ c ∈ onA, c ∈ a.cols) (hob : ∀ c ∈ onB, c ∈ b.cols)
    {q : Near} (h : toNearSql cfg (.join a b onA onB jt) = .ok q) :
    ∃ T ta tb, semSql Θ ec env q = .ok T ∧ semE ec Θ SemCfg.ref env a = .ok ta ∧ semE ec Θ SemCfg.ref env b = .ok tb ∧
      (∀ c, c ∈ T.cols ↔ c ∈ a.cols ∨ c ∈ b.cols) ∧
      T.rows.map (fun r => r.select (Ops.join a b onA onB jt).cols) =
        ((semJoin SemCfg.ref jt onA onB ta tb (appendNew a.cols b.cols)).selectCols (Ops.join a b onA onB jt).cols).rows :=
  C16_sql_native Θ ec env cfg hm a b onA onB jt (hga.join hgb hoa hob hjt (Or.inl hgen)) h

/-- **C16_sqlite_inner_left_cross.**  On SQLite (`emulateRightFull = true`) INNER, LEFT and CROSS joins are rendered
natively: same statement as `C16_sql_native` (row list, in order). -/
theorem C16_sqlite_inner_left_cross (Θ : Interp) (ec : EngineCfg) (env : Env) (cfg : SqlCfg) (hm : cfg.merges = false)
    (_hemu : cfg.emulateRightFull = true) (a b : Ops) (onA onB : List String) (jt : JoinType)
    (_hjt : jt = .inner ∨ jt = .left ∨ jt = .cross) (hg : Good cfg env (.join a b onA onB jt))
    {q : Near} (h : toNearSql cfg (.join a b onA onB jt) = .ok q) :
    ∃ T ta tb, semSql Θ ec env q = .ok T ∧ semE ec Θ SemCfg.ref env a = .ok ta ∧ semE ec Θ SemCfg.ref env b = .ok tb ∧
      (∀ c, c ∈ T.cols ↔ c ∈ a.cols ∨ c ∈ b.cols) ∧
      T.rows.map (fun r => r.select (Ops.join a b onA onB jt).cols) =
        ((semJoin SemCfg.ref jt onA onB ta tb (appendNew a.cols b.cols)).selectCols (Ops.join a b onA onB jt).cols).rows :=
  C16_sql_native Θ ec env cfg hm a b onA onB jt hg h

/-- **C16_sqlite_right_as_left.**  On SQLite a RIGHT join is rendered as the LEFT join of the swapped sources with
swapped keys (fix D31) and `COALESCE(second.c, first.c)`.  Over two pipelines of the fragment, for **every** data
(null keys included): the SQL evaluates, has exactly the columns of the two sides, and returns the rows of the
reference RIGHT join **as a multiset** (the emulation lists matched pairs right-row-major). -/
theorem C16_sqlite_right_as_left (Θ : Interp) (ec : EngineCfg) (env : Env) (cfg : SqlCfg) (hm : cfg.merges = false)
    (hemu : cfg.emulateRightFull = true) (a b : Ops) (onA onB : List String)
    (hga : Good cfg env a) (hgb : Good cfg env b) (hoa : ∀ c ∈ onA, c ∈ a.cols) (hob : ∀ c ∈ onB, c ∈ b.cols)
    (hlen : onA.length = onB.length) {q : Near} (h : toNearSql cfg (.join a b onA onB .right) = .ok q) :
    ∃ T ta tb, semSql Θ ec env q = .ok T ∧ semE ec Θ SemCfg.ref env a = .ok ta ∧ semE ec Θ SemCfg.ref env b = .ok tb ∧
      (∀ c, c ∈ T.cols ↔ c ∈ a.cols ∨ c ∈ b.cols) ∧
      (T.rows.map (fun r => r.select (Ops.join a b onA onB .right).cols)).Perm
        ((semJoin SemCfg.ref .right onA onB ta tb (appendNew a.cols b.cols)).selectCols
          (Ops.join a b onA onB .right).cols).rows :=
  C16_sqlite_right_as_left_all Θ ec env cfg hemu a b onA onB hga hgb hoa hob hlen h

/-- **C16_diffkeys_sql.**  Differently named join keys (`on_a ≠ on_b`; the condition `joinKeysSane` of `Sem/Eval.lean`
is not needed on the SQL side): both key columns are kept – every key column of either side is a column of the SQL
result, rendered as a qualified pass-through of its own side (for an unmatched left row the right key is NULL) – and
the rows are those of the reference join. -/
theorem C16_diffkeys_sql (Θ : Interp) (ec : EngineCfg) (env : Env) (cfg : SqlCfg) (hm : cfg.merges = false)
    (a b : Ops) (onA onB : List String) (jt : JoinType) (hg : Good cfg env (.join a b onA onB jt))
    {q : Near} (h : toNearSql cfg (.join a b onA onB jt) = .ok q) :
    ∃ T ta tb, semSql Θ ec env q = .ok T ∧ semE ec Θ SemCfg.ref env a = .ok ta ∧ semE ec Θ SemCfg.ref env b = .ok tb ∧
      (∀ c ∈ onA ++ onB, c ∈ T.cols) ∧
      T.rows.map (fun r => r.select (Ops.join a b onA onB jt).cols) =
        ((semJoin SemCfg.ref jt onA onB ta tb (appendNew a.cols b.cols)).selectCols (Ops.join a b onA onB jt).cols).rows :=
  C16_diffkeys_sql_all Θ ec env cfg a b onA onB jt hg h

namespace C01JEx
open C18Ex (Θc)

/-- generic dialect / SQLite dialect, no extend merges -/
def cfgG : SqlCfg := ⟨false, false⟩
def cfgS : SqlCfg := ⟨false, true⟩

def a1 : Row := [("k", .num 1), ("x", .num 10)]
def a2 : Row := [("k", .null), ("x", .num 20)]
def a3 : Row := [("k", .num 2), ("x", .num 30)]
def b1 : Row := [("k", .num 1), ("y", .num 5)]
def b2 : Row := [("k", .null), ("y", .num 6)]
def b3 : Row := [("k", .num 3), ("y", .num 7)]
def c1 : Row := [("k2", .num 1), ("y", .num 5)]
def envJ : Env := [("A", ⟨["k", "x"], [a1, a2, a3]⟩), ("B", ⟨["k", "y"], [b1, b2, b3]⟩), ("C", ⟨["k2", "y"], [c1]⟩),
  ("A2", ⟨["k", "x"], [a3]⟩)]
def tA : Ops := .table "A" ["k", "x"]
def tB : Ops := .table "B" ["k", "y"]
def tC : Ops := .table "C" ["k2", "y"]
def tA2 : Ops := .table "A2" ["k", "x"]


/-- `A.natural_join(B, on=['k'], jointype=jt)`, null keys on both sides -/
def pJ (jt : JoinType) : Ops := .join tA tB ["k"] ["k"] jt

theorem good_pJ (cfg : SqlCfg) (jt : JoinType) (hjt : jt ≠ .outer)
    (hn : cfg.emulateRightFull = false ∨ (jt ≠ .right ∧ jt ≠ .full)) : Good cfg envJ (pJ jt) :=
  (good_table cfg rfl (by decide) (by decide) (by decide)).join (good_table cfg rfl (by decide) (by decide) (by decide)) (by decide) (by decide) hjt hn

/-- a FULL join on the generic dialect: the translation succeeds, and the SQL returns the five rows of the standard
FULL join (the two null-key rows do **not** match each other) -/
example : ∃ q T, toNearSql cfgG (pJ .full) = .ok q ∧ semSql Θc EngineCfg.sqlite envJ q = .ok T ∧
    T.rows = [[("k", .num 1), ("x", .num 10), ("y", .num 5)], [("k", .null), ("x", .num 20), ("y", .null)],
      [("k", .num 2), ("x", .num 30), ("y", .null)], [("k", .null), ("x", .null), ("y", .num 6)],
      [("k", .num 3), ("x", .null), ("y", .num 7)]] := exists_ok_ok_of_eval (by decide +kernel)

example (ec : EngineCfg) (jt : JoinType) (hjt : jt ≠ .outer) {q : Near} (h : toNearSql cfgG (pJ jt) = .ok q) :
    ∃ T ta tb, semSql Θc ec envJ q = .ok T ∧ semE ec Θc SemCfg.ref envJ tA = .ok ta ∧
      semE ec Θc SemCfg.ref envJ tB = .ok tb ∧ (∀ c, c ∈ T.cols ↔ c ∈ tA.cols ∨ c ∈ tB.cols) ∧
      T.rows.map (fun r => r.select (pJ jt).cols) =
        ((semJoin SemCfg.ref jt ["k"] ["k"] ta tb (appendNew tA.cols tB.cols)).selectCols (pJ jt).cols).rows :=
  C16_sql_native Θc ec envJ cfgG rfl tA tB ["k"] ["k"] jt (good_pJ cfgG jt hjt (Or.inl rfl)) h

example (ec : EngineCfg) {q : Near} (h : toNearSql cfgS (pJ .left) = .ok q) :
    ∃ T t, semSql Θc ec envJ q = .ok T ∧ sem Θc SemCfg.ref envJ (pJ .left) = .ok t ∧ t.cols = (pJ .left).cols ∧
      T.EquivS t :=
  C01_translation_sound_joins Θc ec envJ cfgS rfl (pJ .left)
    (good_pJ cfgS .left (by decide) (Or.inr ⟨by decide, by decide⟩)) ⟨trivial, trivial⟩ ⟨trivial, trivial⟩
    ⟨trivial, trivial⟩ h

/-- SQLite, RIGHT join: the translation succeeds; the SQL (swapped LEFT join) lists the rows in another order and
another column order than the reference RIGHT join, the multiset is the same (`C16_sqlite_right_as_left`) -/
example : ∃ q T, toNearSql cfgS (pJ .right) = .ok q ∧ semSql Θc EngineCfg.sqlite envJ q = .ok T ∧
    T.rows = [[("k", .num 1), ("y", .num 5), ("x", .num 10)], [("k", .null), ("y", .num 6), ("x", .null)],
      [("k", .num 3), ("y", .num 7), ("x", .null)]] := exists_ok_ok_of_eval (by decide +kernel)

example (ec : EngineCfg) {q : Near} (h : toNearSql cfgS (pJ .right) = .ok q) :
    ∃ T ta tb, semSql Θc ec envJ q = .ok T ∧ semE ec Θc SemCfg.ref envJ tA = .ok ta ∧
      semE ec Θc SemCfg.ref envJ tB = .ok tb ∧ (∀ c, c ∈ T.cols ↔ c ∈ tA.cols ∨ c ∈ tB.cols) ∧
      (T.rows.map (fun r => r.select (pJ .right).cols)).Perm
        ((semJoin SemCfg.ref .right ["k"] ["k"] ta tb (appendNew tA.cols tB.cols)).selectCols (pJ .right).cols).rows :=
  C16_sqlite_right_as_left Θc ec envJ cfgS rfl rfl tA tB ["k"] ["k"] (good_table _ rfl (by decide) (by decide) (by decide))
    (good_table _ rfl (by decide) (by decide) (by decide)) (by decide) (by decide) rfl h

/-- differently named keys: `A.natural_join(C, on={'k': 'k2'}, jointype='left')` keeps `k` and `k2`; the unmatched
left rows have `k2 = NULL` -/
def pD : Ops := .join tA tC ["k"] ["k2"] .left

theorem good_pD : Good cfgS envJ pD :=
  (good_table cfgS rfl (by decide) (by decide) (by decide)).join (good_table cfgS rfl (by decide) (by decide) (by decide)) (by decide) (by decide) nofun
    (Or.inr ⟨nofun, nofun⟩)

example : ∃ q T, toNearSql cfgS pD = .ok q ∧ semSql Θc EngineCfg.sqlite envJ q = .ok T ∧
    T.rows = [[("k", .num 1), ("x", .num 10), ("k2", .num 1), ("y", .num 5)],
      [("k", .null), ("x", .num 20), ("k2", .null), ("y", .null)],
      [("k", .num 2), ("x", .num 30), ("k2", .null), ("y", .null)]] := exists_ok_ok_of_eval (by decide +kernel)

example (ec : EngineCfg) {q : Near} (h : toNearSql cfgS pD = .ok q) :
    ∃ T ta tb, semSql Θc ec envJ q = .ok T ∧ semE ec Θc SemCfg.ref envJ tA = .ok ta ∧
      semE ec Θc SemCfg.ref envJ tC = .ok tb ∧ (∀ c ∈ ["k"] ++ ["k2"], c ∈ T.cols) ∧
      T.rows.map (fun r => r.select pD.cols) =
        ((semJoin SemCfg.ref .left ["k"] ["k2"] ta tb (appendNew tA.cols tC.cols)).selectCols pD.cols).rows :=
  C16_diffkeys_sql Θc ec envJ cfgS rfl tA tC ["k"] ["k2"] .left good_pD h

/-- `concat_rows` with an id column over two sides that are `extend` nodes (the builder merges the label assignment
into them), below a `select_rows`; and a join of the result with `B` -/
def pU : Ops :=
  .join
    (.selectRows
      (.concat (.extend tA [("z", .value (.int 1))] [] [] [] false)
        (.extend tA2 [("z", .value (.int 2))] [] [] [] false) (some "src") "a" "b")
      (.app ">" [.col "x", .value (.int 5)] true false))
    tB ["k"] ["k"] .inner

theorem good_pU : Good cfgS envJ pU := by
  exact ⟨rfl, by decide +kernel, by decide +kernel, by decide +kernel, by decide +kernel, by decide +kernel,
    by decide +kernel, by decide +kernel, by decide +kernel⟩

example : ∃ q, toNearSql cfgS pU = .ok q := exists_ok_of_isOk (by decide +kernel)

example (ec : EngineCfg) {q : Near} (h : toNearSql cfgS pU = .ok q) :
    ∃ T t, semSql Θc ec envJ q = .ok T ∧ sem Θc SemCfg.ref envJ pU = .ok t ∧ t.cols = pU.cols ∧ T.EquivS t :=
  C01_translation_sound_joins Θc ec envJ cfgS rfl pU good_pU ⟨⟨trivial, trivial⟩, trivial⟩
    ⟨⟨⟨trivial, fun h => by cases h⟩, ⟨trivial, fun h => by cases h⟩⟩, trivial⟩
    ⟨⟨⟨trivial, fun h => by cases h⟩, ⟨trivial, fun h => by cases h⟩⟩, trivial⟩ h

end C01JEx

end DAVerif
