import DAVerif.Proofs.SqlReach
import DAVerif.Proofs.SqlAllTrans
import DAVerif.Proofs.SqlTotal
import DAVerif.Props.C01core
import DAVerif.Proofs.EvalRead
/-!
# C01 with extend merges, and C04 (part) — merging compatible extend steps is an optimisation only

Fragment, model and hypotheses of `Props/C01core.lean`; the dialect option `allow_extend_merges` (`cfg.merges`) is free.
When it is on and the translated source of an `extend` is a *mergeable* step (only extend steps are; no WHERE / GROUP BY /
ORDER BY), `extend_to_near_sql` computes `contention` from the non-trivial terms and the declared dependencies of both and,
if it is empty, writes its entries into the SELECT list of the source step instead of emitting a new `extend_n` query
(`Sql/ToNearSql.lean`, `toNear`, extend case).  `C04_merge_option_sound(_all)`: the option may change the SQL text, never
its result; `C04_merge_invariant(_all)`: what the dictionaries of a mergeable root step mean (`Sql.MergeInv`);
`C01_to_sql_total`: the translation of the unary fragment does not fail; `merge_contention_necessary`: a pair that must
not merge.
-/
namespace DAVerif
namespace Sql

/-- **C01/C02, stage A, extend merges allowed.**  For every well-formed pipeline `p` of the fragment, every
environment that has its tables with at least the declared columns, every interpretation `Θ`, both engines and
**every** dialect configuration `cfg` (`allow_extend_merges` on or off): if `to_sql` produces the query `q`, then
`q` evaluates; its result has exactly the declared column set; and its rows, restricted to the declared columns,
are exactly, in order, the rows of the table the pipeline denotes under the engine's NULL placement (`semE ec`). -/
theorem C01_translation_engine_order_merges (Θ : Interp) (ec : EngineCfg) (env : Env) (cfg : SqlCfg)
    (p : Ops) (hf : InFrag p = true) (hwf : WF p) (hsq : SqlWF p) (hmp : MapsOK p)
    (he : EnvOK false env p) {q : Near} (h : toNearSql cfg p = .ok q) :
    ∃ T tp, semSql Θ ec env q = .ok T ∧ semE ec Θ SemCfg.ref env p = .ok tp ∧ tp.cols = p.cols ∧
      (∀ c, c ∈ T.cols ↔ c ∈ p.cols) ∧ T.rows.map (fun r => r.select p.cols) = tp.rows :=
  C01_engine_order_all Θ ec env cfg p (.of_frag hf hwf hsq hmp he) h

/-- **C01/C02 core for both values of `cfg.merges` (`C01_translation_sound_unary_merges`).**  One interpretation
`Θ` on both sides, both engines, every dialect configuration.  For every well-formed pipeline `p` of the fragment
and every environment with at least the declared columns, within the scope of C18 (`AggsOrderFree`,
`WindowsTotal`) and `SqlScope`: the query `to_sql` produces – with or without extend merges – evaluates, the
reference semantics evaluates, and the two tables have the same column set and the same multiset of rows. -/
theorem C01_translation_sound_unary_merges (Θ : Interp) (ec : EngineCfg) (env : Env) (cfg : SqlCfg)
    (p : Ops) (hf : InFrag p = true) (hwf : WF p) (hsq : SqlWF p) (hmp : MapsOK p)
    (he : EnvOK false env p) (hA : AggsOrderFree Θ p) (hW : WindowsTotal Θ SemCfg.ref env p)
    (hS : SqlScope Θ SemCfg.ref env p)
    {q : Near} (h : toNearSql cfg p = .ok q) :
    ∃ T t, semSql Θ ec env q = .ok T ∧ sem Θ SemCfg.ref env p = .ok t ∧ t.cols = p.cols ∧ T.EquivS t :=
  C01_translation_sound_all Θ ec env cfg p (.of_frag hf hwf hsq hmp he) hA hW hS h

/-- the same for pipelines built by the builders (`Reachable`), every dialect configuration -/
theorem C01_translation_sound_reachable_merges (Θ : Interp) (ec : EngineCfg) (env : Env) (cfg : SqlCfg)
    (p : Ops) (hr : Reachable p) (hf : InFrag p = true) (hmp : MapsOK p)
    (he : EnvOK false env p) (hA : AggsOrderFree Θ p) (hW : WindowsTotal Θ SemCfg.ref env p)
    (hS : SqlScope Θ SemCfg.ref env p)
    {q : Near} (h : toNearSql cfg p = .ok q) :
    ∃ T t, semSql Θ ec env q = .ok T ∧ sem Θ SemCfg.ref env p = .ok t ∧ t.cols = p.cols ∧ T.EquivS t :=
  C01_translation_sound_unary_merges Θ ec env cfg p hf (C26_reachable_wf hr) (C01_reachable_sqlwf hr) hmp he hA hW hS h

/-- **Strong scope, every dialect configuration**: with null-free order columns at every `order_rows` and ordered
window, the SQL result – extend merges or not – has the reference rows in the same order (no law on `Θ`). -/
theorem C01_translation_exact_merges (Θ : Interp) (ec : EngineCfg) (env : Env) (cfg : SqlCfg)
    (p : Ops) (hf : InFrag p = true) (hwf : WF p) (hsq : SqlWF p) (hmp : MapsOK p)
    (he : EnvOK false env p) (hN : OrdersNullFree Θ SemCfg.ref env p)
    {q : Near} (h : toNearSql cfg p = .ok q) :
    ∃ T t, semSql Θ ec env q = .ok T ∧ sem Θ SemCfg.ref env p = .ok t ∧ t.cols = p.cols ∧ T.EqS t :=
  C01_translation_exact_all Θ ec env cfg p (.of_frag hf hwf hsq hmp he) hN h

/-- C08 for every dialect configuration: the SQL result has exactly the declared column set -/
theorem C08_sql_cols_merges (Θ : Interp) (ec : EngineCfg) (env : Env) (cfg : SqlCfg)
    (p : Ops) (hf : InFrag p = true) (hwf : WF p) (hsq : SqlWF p) (hmp : MapsOK p)
    (he : EnvOK false env p) {q : Near} (h : toNearSql cfg p = .ok q) :
    ∃ T, semSql Θ ec env q = .ok T ∧ ∀ c, c ∈ T.cols ↔ c ∈ p.cols :=
  C08_sql_cols_all Θ ec env cfg p (.of_frag hf hwf hsq hmp he) h

/-- C09 for every dialect configuration: the SQL result has as many rows as the pipeline's table -/
theorem C09_sql_row_count_merges (Θ : Interp) (ec : EngineCfg) (env : Env) (cfg : SqlCfg)
    (p : Ops) (hf : InFrag p = true) (hwf : WF p) (hsq : SqlWF p) (hmp : MapsOK p)
    (he : EnvOK false env p) {q : Near} (h : toNearSql cfg p = .ok q) :
    ∃ T tp, semSql Θ ec env q = .ok T ∧ semE ec Θ SemCfg.ref env p = .ok tp ∧ T.rows.length = tp.rows.length :=
  C09_sql_row_count_all Θ ec env cfg p (.of_frag hf hwf hsq hmp he) h

/-- **Equality of tables up to column order** (specification side): the same column set, and the same rows in the
same order when every row is read through the column list of the first table. -/
def SameUpToColOrder (T T' : Table) : Prop :=
  (∀ c, c ∈ T.cols ↔ c ∈ T'.cols) ∧
    T.rows.map (fun r => r.select T.cols) = T'.rows.map (fun r => r.select T.cols)

def ResSame : Except Err Table → Except Err Table → Prop
  | .ok T, .ok T' => SameUpToColOrder T T'
  | .error _, .error _ => True
  | _, _ => False

/-- `db.read_query(ops.to_sql(db_model))` in the model: translate, then evaluate the query -/
def sqlResult (Θ : Interp) (ec : EngineCfg) (env : Env) (cfg : SqlCfg) (p : Ops) : Except Err Table :=
  toNearSql cfg p >>= semSql Θ ec env

theorem sameUpToColOrder_of_rows {T₁ T₂ tp : Table} {pc : List String} (a4 : ∀ c, c ∈ T₁.cols ↔ c ∈ pc)
    (b4 : ∀ c, c ∈ T₂.cols ↔ c ∈ pc) (a6 : T₁.rows.map (fun r => r.select pc) = tp.rows)
    (b6 : T₂.rows.map (fun r => r.select pc) = tp.rows) :
    T₁.rows.map (fun r => r.select pc) = T₂.rows.map (fun r => r.select pc) ∧ SameUpToColOrder T₁ T₂ :=
  have hrows := a6.trans b6.symm
  ⟨hrows, fun c => (a4 c).trans (b4 c).symm, map_select_mono hrows (fun c hc => (a4 c).mp hc)⟩

end Sql

section
open Sql

/-- **C04_merge_option_sound_all.**  For every pipeline of the fragment with joins and `concat_rows` in scope: if
`to_sql` succeeds with `allow_extend_merges = True` (query `q₁`) and with `allow_extend_merges = False` (query `q₂`),
both queries evaluate, to tables with the declared column set and **the same rows in the same order**.  No
hypothesis on the data, on `Θ` or on NULL placement. -/
theorem C04_merge_option_sound_all (Θ : Interp) (ec : EngineCfg) (env : Env) (cfg : SqlCfg)
    (p : Ops) (hg : Good cfg env p)
    {q₁ q₂ : Near} (h₁ : toNearSql { cfg with merges := true } p = .ok q₁)
    (h₂ : toNearSql { cfg with merges := false } p = .ok q₂) :
    ∃ T₁ T₂, semSql Θ ec env q₁ = .ok T₁ ∧ semSql Θ ec env q₂ = .ok T₂ ∧
      (∀ c, c ∈ T₁.cols ↔ c ∈ p.cols) ∧ (∀ c, c ∈ T₂.cols ↔ c ∈ p.cols) ∧
      T₁.rows.map (fun r => r.select p.cols) = T₂.rows.map (fun r => r.select p.cols) ∧
      SameUpToColOrder T₁ T₂ := by
  obtain ⟨T₁, tp₁, a1, a2, _, a4, a6⟩ := C01_engine_order_all Θ ec env _ p (hg.with_merges true) h₁
  obtain ⟨T₂, tp₂, b1, b2, _, b4, b6⟩ := C01_engine_order_all Θ ec env _ p (hg.with_merges false) h₂
  cases a2.symm.trans b2
  exact ⟨T₁, T₂, a1, b1, a4, b4, sameUpToColOrder_of_rows a4 b4 a6 b6⟩

/-- **C04_merge_invariant_all**: `MergeInv` of the translation result (joins and `concat_rows` included; a join or
`UNION ALL` step is never mergeable) -/
theorem C04_merge_invariant_all (Θ : Interp) (ec : EngineCfg) (env : Env) (cfg : SqlCfg)
    (p : Ops) (hg : Good cfg env p) {q : Near} (h : toNearSql cfg p = .ok q) : MergeInv q := by
  obtain ⟨st', hrun⟩ := toNearSql_ok h
  exact SqlE.mergeInv_root_all Θ ec env cfg p hg hrun

end

namespace Sql

/-- **C04_merge_option_sound.**  For every well-formed pipeline `p` of the fragment, every environment with at
least the declared columns, every `Θ`, both engines and every dialect configuration `cfg`: if `to_sql` succeeds
with `allow_extend_merges = True` (query `q₁`) and with `allow_extend_merges = False` (query `q₂`), then both
queries evaluate, to tables with the same column set – the declared columns – and **the same rows in the same
order** (read through the declared columns, or through the column list of either result).  No hypothesis on the
data, on `Θ` or on NULL placement: merging extend steps changes the SQL text, never its result. -/
theorem C04_merge_option_sound (Θ : Interp) (ec : EngineCfg) (env : Env) (cfg : SqlCfg)
    (p : Ops) (hf : InFrag p = true) (hwf : WF p) (hsq : SqlWF p) (hmp : MapsOK p) (he : EnvOK false env p)
    {q₁ q₂ : Near} (h₁ : toNearSql { cfg with merges := true } p = .ok q₁)
    (h₂ : toNearSql { cfg with merges := false } p = .ok q₂) :
    ∃ T₁ T₂, semSql Θ ec env q₁ = .ok T₁ ∧ semSql Θ ec env q₂ = .ok T₂ ∧
      (∀ c, c ∈ T₁.cols ↔ c ∈ p.cols) ∧ (∀ c, c ∈ T₂.cols ↔ c ∈ p.cols) ∧
      T₁.rows.map (fun r => r.select p.cols) = T₂.rows.map (fun r => r.select p.cols) ∧
      SameUpToColOrder T₁ T₂ :=
  C04_merge_option_sound_all Θ ec env cfg p (.of_frag hf hwf hsq hmp he) h₁ h₂

/-- the same as a statement about results (`ResSame`), given that both translations succeed -/
theorem C04_merge_option_sound_res (Θ : Interp) (ec : EngineCfg) (env : Env) (cfg : SqlCfg)
    (p : Ops) (hf : InFrag p = true) (hwf : WF p) (hsq : SqlWF p) (hmp : MapsOK p) (he : EnvOK false env p)
    {q₁ q₂ : Near} (h₁ : toNearSql { cfg with merges := true } p = .ok q₁)
    (h₂ : toNearSql { cfg with merges := false } p = .ok q₂) :
    ResSame (sqlResult Θ ec env { cfg with merges := true } p) (sqlResult Θ ec env { cfg with merges := false } p) := by
  obtain ⟨T₁, T₂, a1, b1, _, _, _, hs⟩ := C04_merge_option_sound Θ ec env cfg p hf hwf hsq hmp he h₁ h₂
  unfold sqlResult
  rw [h₁, h₂]
  show ResSame (semSql Θ ec env q₁) (semSql Θ ec env q₂)
  rw [a1, b1]
  exact hs

/-- **`to_sql` does not fail** on the fragment, for every dialect configuration: for a well-formed pipeline whose
tables are present with at least the declared columns, `to_near_sql_implementation_` returns a query (no
`KeyError` from `select_columns` / `drop_columns` on a merged or pruned step, no failed guard). -/
theorem C01_to_sql_total (Θ : Interp) (ec : EngineCfg) (env : Env) (cfg : SqlCfg)
    (p : Ops) (hf : InFrag p = true) (hwf : WF p) (hsq : SqlWF p) (hmp : MapsOK p) (he : EnvOK false env p) :
    ∃ q, toNearSql cfg p = .ok q := by
  obtain ⟨q, st', h⟩ := toNear_total_frag Θ ec env cfg p hf hwf hsq hmp he (6 * p.size + 6) (by omega)
    p.cols 0 (fun c hc => hc)
  have h := (congrFun (toNear_getD _ p none) 0).trans h
  refine ⟨q, ?_⟩
  unfold toNearSql
  simp only [StateT.run, h]
  rfl

/-- **C04_merge_option_sound, as an equation between results** (`Except`-lifted, no hypothesis on the outcome of
the translations): translating with and without extend merges and running the query gives, in both cases, a
table – never an error – and the two tables are equal up to column order. -/
theorem C04_merge_option_sound_lifted (Θ : Interp) (ec : EngineCfg) (env : Env) (cfg : SqlCfg)
    (p : Ops) (hf : InFrag p = true) (hwf : WF p) (hsq : SqlWF p) (hmp : MapsOK p) (he : EnvOK false env p) :
    ResSame (sqlResult Θ ec env { cfg with merges := true } p) (sqlResult Θ ec env { cfg with merges := false } p) ∧
      ∃ T₁ T₂, sqlResult Θ ec env { cfg with merges := true } p = .ok T₁ ∧
        sqlResult Θ ec env { cfg with merges := false } p = .ok T₂ := by
  obtain ⟨q₁, h₁⟩ := C01_to_sql_total Θ ec env { cfg with merges := true } p hf hwf hsq hmp he
  obtain ⟨q₂, h₂⟩ := C01_to_sql_total Θ ec env { cfg with merges := false } p hf hwf hsq hmp he
  refine ⟨C04_merge_option_sound_res Θ ec env cfg p hf hwf hsq hmp he h₁ h₂, ?_⟩
  obtain ⟨T₁, T₂, a1, b1, _⟩ := C04_merge_option_sound Θ ec env cfg p hf hwf hsq hmp he h₁ h₂
  refine ⟨T₁, T₂, ?_, ?_⟩
  · unfold sqlResult; rw [h₁]; exact a1
  · unfold sqlResult; rw [h₂]; exact b1

/-- **C04_merge_invariant.**  Every step of a translation that is marked mergeable – the emitted `extend_n`
steps, steps that already absorbed other extends, steps pruned by `select_columns` / `drop_columns` – is a plain
SELECT without suffix whose dictionaries satisfy `TermsOK`: each non-pass entry is an expression or window
expression, its declared dependencies contain every column it reads (partition and order columns included), and
every entry reads only columns its sub-query is bound with.  (Stated for the root step; the induction
`Sql.SqlE.transOK_fragJ_all` has it for every sub-query.) -/
theorem C04_merge_invariant (Θ : Interp) (ec : EngineCfg) (env : Env) (cfg : SqlCfg)
    (p : Ops) (hf : InFrag p = true) (hwf : WF p) (hsq : SqlWF p) (hmp : MapsOK p) (he : EnvOK false env p)
    {q : Near} (h : toNearSql cfg p = .ok q) : MergeInv q :=
  C04_merge_invariant_all Θ ec env cfg p (.of_frag hf hwf hsq hmp he) h

namespace C04Ex
open C18Ex (Θc)
open C01Ex (envD d)

/-- `allow_extend_merges = True` (the default of every dialect) / `False` -/
def cfgT : SqlCfg := ⟨true, true⟩
def cfgF : SqlCfg := ⟨false, true⟩

def xPlus1 : Term := .app "+" [.col "x", .value (.int 1)] true false
def xTimes2 : Term := .app "*" [.col "x", .value (.int 2)] true false
def sizeW : Term := .app "size" [] false true
def winG : Option Win := some ⟨["g"], [], []⟩

theorem d_env (p : Ops) (hp : p.tables = [("d", ["g", "x"])]) : EnvOK false envD p :=
  envOK_single hp rfl (by decide) (nomatch ·)

/-! ### two plain extends: `d.extend({'y': 'x + 1'}).extend({'z': 'x * 2'})` (as two nodes) -/

def pM : Ops := .extend (.extend d [("y", xPlus1)] [] [] [] false) [("z", xTimes2)] [] [] [] false

/-- the single query the translation with merges returns: `SELECT g, x, x + 1 AS y, x * 2 AS z FROM d` -/
def qM : Near :=
  .unary "extend_0" (some [("g", .pass), ("x", .pass), ("y", .expr xPlus1 none), ("z", .expr xTimes2 none)]) false
    (.table "d" ["g", "x"]) (some ["g", "x"]) .none true
    (some [("g", ["g"]), ("x", ["x"]), ("y", ["x"]), ("z", ["x"])]) (keyOfNode "extend" pM ["g", "x", "y", "z"])

theorem pM_merged : toNearSql cfgT pM = .ok qM := by rfl
example : (toNearSql cfgF pM).map Near.names = .ok ["extend_1", "extend_0"] := by decide +kernel
example : qM.names = ["extend_0"] := rfl

theorem pM_wf : WF pM := by decide +kernel

example (ec : EngineCfg) :
    ∃ T t, semSql Θc ec envD qM = .ok T ∧ sem Θc SemCfg.ref envD pM = .ok t ∧ t.cols = pM.cols ∧ T.EquivS t :=
  C01_translation_sound_unary_merges Θc ec envD cfgT pM rfl pM_wf (by decide) (by decide) (by decide +kernel)
    trivial ⟨⟨trivial, fun h => by cases h⟩, fun h => by cases h⟩
    ⟨⟨trivial, fun h => by cases h⟩, fun h => by cases h⟩ pM_merged

example (ec : EngineCfg) {q₂ : Near} (h₂ : toNearSql cfgF pM = .ok q₂) :
    ∃ T₁ T₂, semSql Θc ec envD qM = .ok T₁ ∧ semSql Θc ec envD q₂ = .ok T₂ ∧
      (∀ c, c ∈ T₁.cols ↔ c ∈ pM.cols) ∧ (∀ c, c ∈ T₂.cols ↔ c ∈ pM.cols) ∧
      T₁.rows.map (fun r => r.select pM.cols) = T₂.rows.map (fun r => r.select pM.cols) ∧ SameUpToColOrder T₁ T₂ :=
  C04_merge_option_sound Θc ec envD cfgT pM rfl pM_wf (by decide) (by decide) (by decide +kernel) pM_merged h₂

example (ec : EngineCfg) : ResSame (sqlResult Θc ec envD cfgT pM) (sqlResult Θc ec envD cfgF pM) :=
  (C04_merge_option_sound_lifted Θc ec envD cfgT pM rfl pM_wf (by decide) (by decide) (by decide +kernel)).1

example : (semSql Θc EngineCfg.sqlite envD qM).toOption = some ⟨["g", "x", "y", "z"],
    [[("g", .str "a"), ("x", .num 1), ("y", .num 2), ("z", .num 2)],
     [("g", .str "b"), ("x", .num 2), ("y", .num 3), ("z", .num 4)],
     [("g", .str "a"), ("x", .null), ("y", .null), ("z", .null)]]⟩ := by decide +kernel

/-- `d.extend({'y': 'x + 1'}).extend({'c': '_.size()'}, partition_by=['g'])` -/
def pPW : Ops := .extend (.extend d [("y", xPlus1)] [] [] [] false) [("c", sizeW)] ["g"] [] [] true

/-- `SELECT g, x, x + 1 AS y, COUNT(1) OVER (PARTITION BY g) AS c FROM d`: the window term is evaluated over the
rows of `d` (the FROM rows of the merged SELECT), next to the plain term -/
def qPW : Near :=
  .unary "extend_0" (some [("g", .pass), ("x", .pass), ("y", .expr xPlus1 none), ("c", .expr sizeW winG)]) false
    (.table "d" ["g", "x"]) (some ["g", "x"]) .none true
    (some [("g", ["g"]), ("x", ["x"]), ("y", ["x"]), ("c", ["g"])]) (keyOfNode "extend" pPW ["g", "x", "y", "c"])

theorem pPW_merged : toNearSql cfgT pPW = .ok qPW := by rfl
example : (toNearSql cfgF pPW).map Near.names = .ok ["extend_1", "extend_0"] := by decide +kernel

theorem pPW_wf : WF pPW := by decide +kernel

example (ec : EngineCfg) :
    ∃ T t, semSql Θc ec envD qPW = .ok T ∧ sem Θc SemCfg.ref envD pPW = .ok t ∧ t.cols = pPW.cols ∧ T.EquivS t :=
  C01_translation_sound_unary_merges Θc ec envD cfgT pPW rfl pPW_wf (by decide) (by decide) (by decide +kernel)
    trivial
    ⟨⟨trivial, fun h => by cases h⟩, fun _ t _ => Or.inr (fun kv hkv => by
      simp only [List.mem_singleton] at hkv
      subst hkv
      exact C18Ex.size_win_orderFree)⟩
    ⟨⟨trivial, fun h => by cases h⟩, fun _ t _ => Or.inl (fun _ _ _ hc => by cases hc)⟩ pPW_merged

example : ∃ T, semSql Θc EngineCfg.sqlite envD qPW = .ok T ∧ T.cols = ["g", "x", "y", "c"] ∧ T.rows.length = 3 :=
  exists_ok_of_eval (by decide +kernel)

/-- `d.extend({'c': '_.size()'}, partition_by=['g']).extend({'z': 'x * 2'})`: the builders keep these two nodes
apart (a windowed and a plain extend), the SQL translation merges them -/
def pWP : Ops := .extend (.extend d [("c", sizeW)] ["g"] [] [] true) [("z", xTimes2)] [] [] [] false

def qWP : Near :=
  .unary "extend_0" (some [("g", .pass), ("x", .pass), ("c", .expr sizeW winG), ("z", .expr xTimes2 none)]) false
    (.table "d" ["g", "x"]) (some ["g", "x"]) .none true
    (some [("g", ["g"]), ("x", ["x"]), ("c", ["g"]), ("z", ["x"])]) (keyOfNode "extend" pWP ["g", "x", "c", "z"])

theorem pWP_merged : toNearSql cfgT pWP = .ok qWP := by rfl

/-- `d.extend({'c': '_.size()'}, partition_by=['g']).select_columns(['c']).extend({'z': '1'})` (the situation of fix
D32): the window step renders `g` (its partition column), `select_columns` deletes that entry from the step's SELECT list
but not from its declared dependencies, then `z` is merged into the pruned step -/
def pD : Ops := .extend (.selectCols (.extend d [("c", sizeW)] ["g"] [] [] true) ["c"])
  [("z", .value (.int 1))] [] [] [] false

theorem pD_merged : (toNearSql cfgT pD).map Near.names = .ok ["extend_1", "table_reference_0"] :=
  by decide +kernel
example : (toNearSql cfgF pD).map Near.names = .ok ["extend_2", "extend_1", "table_reference_0"] :=
  by decide +kernel
example : (toNearSql cfgT pD).map Near.termKeys = .ok (some ["c", "z"]) := by decide +kernel

/-- `d.extend({'y': 'x + 1'}).extend({'z': 'y * 2'})`: our term reads the column `y` that the source step computes -/
def pN : Ops :=
  .extend (.extend d [("y", xPlus1)] [] [] [] false) [("z", .app "*" [.col "y", .value (.int 2)] true false)]
    [] [] [] false

/-- our dictionaries and those of the source step, as `extend_to_near_sql` builds them for the root request -/
def termsN : Terms := extTerms [("z", .app "*" [.col "y", .value (.int 2)] true false)] ["g", "x", "y", "z"] none
def depsN : List (String × List String) :=
  extDeps [("z", .app "*" [.col "y", .value (.int 2)] true false)] ["g", "x", "y", "z"] []
def stermsN : Terms := extTerms [("y", xPlus1)] ["g", "x", "y"] none
def sdepsN : List (String × List String) := extDeps [("y", xPlus1)] ["g", "x", "y"] []

/-- what the merge would return if the contention check were skipped:
`SELECT g, x, x + 1 AS y, y * 2 AS z FROM d` -/
def qBad : Near := extMerged pN "extend_0" stermsN false (.table "d" ["g", "x"]) (some ["g", "x"]) sdepsN termsN depsN

end C04Ex

open C04Ex in
/-- **merge_contention_necessary.**  `d.extend({'y': 'x + 1'}).extend({'z': 'y * 2'})`: the contention set is
`{y}` (a non-trivial term of the source step that our term needs), the translation with `allow_extend_merges`
emits two queries, and it has to: the step the merge would produce, `SELECT g, x, x + 1 AS y, y * 2 AS z FROM d`,
reads a column `y` of `d` that does not exist there (in the model: NULL) instead of `x + 1` – its `z` differs from the
reference result.  The contention check (component `subNT ∩ ourNeeds`) cannot be dropped. -/
theorem merge_contention_necessary :
    contention depsN termsN sdepsN stermsN = ["y"] ∧
    (toNearSql cfgT pN).map Near.names = .ok ["extend_1", "extend_0"] ∧
    ((semSql C18Ex.Θc EngineCfg.sqlite C01Ex.envD qBad).toOption.map
        (fun T => T.rows.map (fun r => (r.get "x", r.get "y", r.get "z")))) =
      some [(.num 1, .num 2, .null), (.num 2, .num 3, .null), (.null, .null, .null)] ∧
    ((sem C18Ex.Θc SemCfg.ref C01Ex.envD pN).toOption.map
        (fun t => t.rows.map (fun r => (r.get "x", r.get "y", r.get "z")))) =
      some [(.num 1, .num 2, .num 4), (.num 2, .num 3, .num 6), (.null, .null, .null)] := by
  exact ⟨by decide +kernel, by decide +kernel, by decide +kernel, by decide +kernel⟩

end Sql
end DAVerif
