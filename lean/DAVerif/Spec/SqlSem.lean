import DAVerif.Sql.Sem
import DAVerif.Sem.EvalG
import DAVerif.Spec.Perm
/-!
Specification-side vocabulary for C01/C02 ("the SQL produced by `to_sql` returns the same table as the Pandas
evaluation"), shared by `Proofs/Sql*.lean`, `Props/C01core.lean` and the follow-up proofs (extend merge, joins).

* `semG le` – the relational semantics `sem` with the row comparison used by `order_rows` and by window orderings
  as a parameter: `semG rowLe = sem` (pandas: nulls last, `semG_rowLe`), `semG (sqlRowLe ec)` = the same operators
  with the engine's NULL placement.  The translation proof (stage A) relates the SQL to `semG (sqlRowLe ec)` with
  **list** equality and without any hypothesis on data or on `Θ`; stage B relates `semG (sqlRowLe ec)` to `sem`.
* `Table.EquivS` – same column *set*, same row multiset (column order ignored).
* `SqlWF` – the structural facts about a pipeline the translation relies on beyond `WF` (all established by the
  builders); `MapsOK` – dictionaries have unique keys (a modelling artefact: Python dicts) and a
  `rename_columns` does not name one source column twice (guard of a finding, see `C08_rename_twice_necessary`).
* `EnvOK` – the environment has the pipeline's tables with (at least | exactly) the declared columns.
* `Sound` – **the invariant of the translation**: what a translated sub-query `q` owes its consumer.
* the data-side scope conditions (`NullFreeOn`, `OrdersNullFree`, `SqlScope`).
-/
namespace DAVerif
namespace Sql

/-! ### the semantics with the comparison as a parameter (`semG le`: `Sem/EvalG.lean`) -/

/-- the operators as the SQL engine `ec` orders rows (NULL smallest: SQLite, MySQL; NULL largest: PostgreSQL) -/
abbrev semE (ec : EngineCfg) := semG (sqlRowLe ec)

/-! ### comparison of results up to column order -/

/-- same column set, and after re-ordering the columns of `t` as in `t'`, the same multiset of rows -/
def _root_.DAVerif.Table.EquivS (t t' : Table) : Prop :=
  (∀ c, c ∈ t.cols ↔ c ∈ t'.cols) ∧ (t.rows.map (fun r => r.select t'.cols)).Perm t'.rows

/-- same column set, and after re-ordering the columns of `t` as in `t'`, the same list of rows -/
def _root_.DAVerif.Table.EqS (t t' : Table) : Prop :=
  (∀ c, c ∈ t.cols ↔ c ∈ t'.cols) ∧ t.rows.map (fun r => r.select t'.cols) = t'.rows

/-! ### the fragment and its well-formedness -/

/-- the node kinds covered by `Props/C01core.lean` -/
def InFrag : Ops → Bool
  | .table _ _ => true
  | .extend s _ _ _ _ _ | .project s _ _ | .selectRows s _ | .selectCols s _ | .dropCols s _
  | .order s _ _ _ | .rename s _ | .mapCols s _ _ => InFrag s
  | .join .. | .concat .. | .convert .. => false

/-- facts the builders establish and the translation relies on, beyond `WF` (Boolean, hence decidable):
project: group and used columns are source columns, assignment keys unique and disjoint from the group;
select_rows / order_rows: the columns mentioned are source columns; rename / map_columns: the sources are source
columns and no new name collides with a column that stays. -/
def sqlWFb : Ops → Bool
  | .table _ _ => true
  | .extend s _ _ _ _ _ => sqlWFb s
  | .project s ops group =>
    sqlWFb s && subset group s.cols && subset (ops.flatMap (fun kv => Term.colsRaw kv.2)) s.cols
      && nodupB (ops.map (·.1)) && disjoint (ops.map (·.1)) group
  | .selectRows s e => sqlWFb s && subset (Term.colsRaw e) s.cols
  | .selectCols s _ => sqlWFb s
  | .dropCols s _ => sqlWFb s
  | .order s cs _ _ => sqlWFb s && subset cs s.cols
  | .rename s m =>
    sqlWFb s && subset (m.map (·.2)) s.cols
      && m.all (fun kv => !s.cols.contains kv.1 || (m.map (·.2)).contains kv.1)
  | .mapCols s m dels =>
    sqlWFb s && subset (m.map (·.1)) s.cols && subset dels s.cols
      && m.all (fun kv => !s.cols.contains kv.2 || (m.map (·.1)).contains kv.2 || dels.contains kv.2)
  | .join a b _ _ _ | .concat a b _ _ _ => sqlWFb a && sqlWFb b
  | .convert s _ => sqlWFb s

def SqlWF (p : Ops) : Prop := sqlWFb p = true
instance (p : Ops) : Decidable (SqlWF p) := by unfold SqlWF; exact inferInstance

/-- dictionaries are dictionaries (unique keys: `rename_columns` new names, `map_columns` old names, a
`map_columns` source is not both renamed and deleted, no two sources get the same new name), **and** a
`rename_columns` names every source column at most once (guard, see `C08_rename_twice_necessary`). -/
def mapsOKb : Ops → Bool
  | .table _ _ => true
  | .extend s _ _ _ _ _ | .project s _ _ | .selectRows s _ | .selectCols s _ | .dropCols s _
  | .order s _ _ _ | .convert s _ => mapsOKb s
  | .rename s m => mapsOKb s && nodupB (m.map (·.1)) && nodupB (m.map (·.2))
  | .mapCols s m dels => mapsOKb s && nodupB (m.map (·.1)) && nodupB (m.map (·.2)) && disjoint (m.map (·.1)) dels
  | .join a b _ _ _ | .concat a b _ _ _ => mapsOKb a && mapsOKb b

def MapsOK (p : Ops) : Prop := mapsOKb p = true
instance (p : Ops) : Decidable (MapsOK p) := by unfold MapsOK; exact inferInstance

/-- the environment binds every table of the pipeline to a table with at least (`exact = false`) or exactly
(`exact = true`, as a set) the declared columns -/
def EnvOK (exact : Bool) (env : Env) (p : Ops) : Prop :=
  ∀ nc ∈ p.tables, ∃ t, env.lookup nc.1 = some t ∧ (∀ c ∈ nc.2, c ∈ t.cols) ∧
    (exact = true → ∀ c ∈ t.cols, c ∈ nc.2)

/-! ### the invariant -/

/-- **What a translated sub-query owes its consumer.**  `q` is the near-SQL of a pipeline with declared columns
`pcols`, translated for the requested column set `u`; `tp` is the pipeline's table (reference semantics).

`req`: whichever sub-set `u'` of `u` the consumer binds (`NearSQLContainer.columns`), as a sub-query or as a
forced SELECT, the query evaluates; its result has at least the columns `u'`; and its rows are, **in order**, the
rows of `tp` as far as the columns `u'` go (for `u' = []`: as many rows).

`keys`: if anything was requested, the step has term keys (it is not a `SELECT *`); they are what it renders when
bound with `columns = None` (at the root); they are declared columns and include everything requested. -/
structure Sound (Θ : Interp) (ec : EngineCfg) (env : Env) (q : Near) (u pcols : List String) (tp : Table) : Prop where
  req : ∀ u' : List String, (∀ c ∈ u', c ∈ u) → ∀ force : Bool,
    ∃ T, semNear Θ ec env [] q (some u') force = .ok T ∧ (∀ c ∈ u', c ∈ T.cols) ∧
      T.rows.map (fun r => r.select u') = tp.rows.map (fun r => r.select u')
  keys : u ≠ [] → ∃ ks, q.termKeys = some ks ∧ (∀ k ∈ ks, k ∈ pcols) ∧ (∀ c ∈ u, c ∈ ks)

/-! ### data-side scope conditions -/

/-- no row has a null in one of the columns `cs` -/
def NullFreeOn (cs : List String) (rows : List Row) : Prop := ∀ r ∈ rows, ∀ c ∈ cs, (r.get c).isNull = false

instance (cs : List String) (rows : List Row) : Decidable (NullFreeOn cs rows) := by
  unfold NullFreeOn; exact inferInstance

/-- **strong scope**: at every `order_rows` and every ordered window of the pipeline, the order columns of the
rows that reach it are null free (then the engine's and pandas' row comparisons coincide there) -/
def OrdersNullFree (Θ : Interp) (cfg : SemCfg) (env : Env) : Ops → Prop
  | .table _ _ => True
  | .extend src _ _ order _ _ =>
      OrdersNullFree Θ cfg env src ∧ (∀ t, sem Θ cfg env src = .ok t → NullFreeOn order t.rows)
  | .order src cs _ _ =>
      OrdersNullFree Θ cfg env src ∧ (∀ t, sem Θ cfg env src = .ok t → NullFreeOn cs t.rows)
  | .project src _ _ | .selectRows src _ | .selectCols src _ | .dropCols src _ | .rename src _
  | .mapCols src _ _ | .convert src _ => OrdersNullFree Θ cfg env src
  | .join a b _ _ _ | .concat a b _ _ _ => OrdersNullFree Θ cfg env a ∧ OrdersNullFree Θ cfg env b

/-- **scope of the multiset theorem**: an ordered window sees null-free order columns unless all its functions are
order free (windows without `order_by` are always in scope); an `order_rows` with a limit sees null-free order
columns (an `order_rows` without limit may order nulls: only the row order is affected) -/
def SqlScope (Θ : Interp) (cfg : SemCfg) (env : Env) : Ops → Prop
  | .table _ _ => True
  | .extend src ops _ order _ windowed =>
      SqlScope Θ cfg env src ∧
      (windowed = true → ∀ t, sem Θ cfg env src = .ok t →
        NullFreeOn order t.rows ∨ ∀ kv ∈ ops, WinOrderFree Θ (opName kv.2))
  | .order src cs _ limit =>
      SqlScope Θ cfg env src ∧ (limit ≠ none → ∀ t, sem Θ cfg env src = .ok t → NullFreeOn cs t.rows)
  | .project src _ _ | .selectRows src _ | .selectCols src _ | .dropCols src _ | .rename src _
  | .mapCols src _ _ | .convert src _ => SqlScope Θ cfg env src
  | .join a b _ _ _ | .concat a b _ _ _ => SqlScope Θ cfg env a ∧ SqlScope Θ cfg env b

end Sql
end DAVerif
