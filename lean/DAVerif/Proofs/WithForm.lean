import DAVerif.Sql.WithFormG
import DAVerif.Proofs.RowBasic
/-!
Property C04, the structure of the WITH form `toWithFormG key` (Sql/WithFormG.lean): its normal forms (the `is_table`
shortcuts of `to_with_form` do not change the outcome: `toWithFormG_unary/_join/_union`), the names of the emitted steps
(`toWithFormG_names`); and what the simulation of Proofs/WithSound.lean needs of `semNear` and `runSteps`.
-/
namespace DAVerif.Sql
open DAVerif

def stepNames (s : List WithStep) : List String := s.map (·.name)

theorem mem_stepNames {st : WithStep} {s : List WithStep} (h : st ∈ s) : st.name ∈ stepNames s :=
  List.mem_map.mpr ⟨st, h, rfl⟩

theorem any_name_false_of {s : List WithStep} {nm : String} (h : nm ∉ stepNames s) :
    (s.any fun x => x.name == nm) = false := by
  rw [Bool.eq_false_iff, ne_eq, List.any_eq_true]
  rintro ⟨x, hx, hxe⟩
  exact h (eq_of_beq hxe ▸ mem_stepNames hx)

/-- the binary step's filter `nmi not in seen` does nothing when the two sequences share no name -/
theorem appendUnseen_eq (q2 : List WithStep) : ∀ q1 : List WithStep, (stepNames q2).Nodup →
    (∀ n ∈ stepNames q2, n ∉ stepNames q1) → appendUnseen q1 q2 = q1 ++ q2 := by
  unfold appendUnseen
  induction q2 with
  | nil => intro q1 _ _; exact (List.append_nil q1).symm
  | cons st q2 ih =>
    intro q1 hnd hdis
    rw [stepNames, List.map_cons, List.nodup_cons] at hnd
    rw [List.foldl_cons, any_name_false_of (hdis st.name (mem_stepNames List.mem_cons_self)), if_neg Bool.false_ne_true,
      ih (q1 ++ [st]) hnd.2, List.append_assoc]
    · rfl
    · intro n hn hmem
      rw [stepNames, List.map_append, List.mem_append, List.map_cons, List.map_nil, List.mem_singleton] at hmem
      rcases hmem with h | h
      · exact hdis n (List.mem_cons_of_mem _ hn) h
      · exact hnd.1 (h ▸ hn)

theorem lookupLast_append_single {β : Type} (m : List (String × β)) (k : String) (v : β) :
    lookupLast (m ++ [(k, v)]) k = some v := by
  rw [lookupLast_concat, if_pos (beq_self_eq_true k)]

theorem lookupLast_append_of_notMem {β : Type} (m more : List (String × β)) (k : String)
    (h : k ∉ more.map (·.1)) : lookupLast (m ++ more) k = lookupLast m k := by
  rw [lookupLast_append, lookupLast_eq_none_iff.mpr h]; rfl

theorem lookupLast_some_fst_mem {β : Type} (m : List (String × β)) (k : String) (v : β)
    (h : lookupLast m k = some v) : k ∈ m.map (·.1) :=
  List.mem_map.mpr ⟨_, lookupLast_mem h, rfl⟩

abbrev WFRes := Near × List WithStep × Option Cache

/-- `to_with_form_stub` on the container `(near, cols, force)`, from `to_with_form` on the same node -/
abbrev stubG (key : KeyFn) (cache : Option Cache) (near : Near) (cols : Option (List String)) (force : Bool) : WFRes :=
  stubStep key cache near cols force (toWithFormG key cache near)

theorem Near.names_of_isTable {n : Near} (h : n.isTable = true) : n.names = [] := by
  cases n <;> simp_all [Near.isTable, Near.names]

theorem Near.names_of_not_isTable {n : Near} (h : ¬ n.isTable = true) : n.names = n.name :: n.names.tail := by
  cases n <;> simp_all [Near.isTable, Near.names, Near.name]

theorem Near.name_notMem_tail {n : Near} (ht : ¬ n.isTable = true) (hnd : n.names.Nodup) : n.name ∉ n.names.tail := by
  rw [Near.names_of_not_isTable ht] at hnd
  exact (List.nodup_cons.mp hnd).1

theorem stubStep_isTable (key : KeyFn) (cache0 : Option Cache) {near : Near} (cols : Option (List String)) (force : Bool)
    (r : WFRes) (h : near.isTable = true) : stubStep key cache0 near cols force r = r := by
  simp [stubStep, h]

theorem stubStep_hit (key : KeyFn) (cache0 : Option Cache) {near : Near} (cols : Option (List String)) (force : Bool)
    (r : WFRes) (ht : ¬ near.isTable = true) {nm : String}
    (h : (cache0.bind fun c => lookupLast c (key near cols)) = some nm) :
    stubStep key cache0 near cols force r = (.cte nm, [], cache0) := by
  simp only [stubStep, if_neg ht, h]

theorem stubStep_miss (key : KeyFn) (cache0 : Option Cache) {near : Near} (cols : Option (List String)) (force : Bool)
    (r : WFRes) (ht : ¬ near.isTable = true)
    (h : (cache0.bind fun c => lookupLast c (key near cols)) = none) :
    stubStep key cache0 near cols force r = (.cte r.1.name,
       if r.2.1.any (fun st => st.name == r.1.name) then r.2.1 else r.2.1 ++ [⟨r.1.name, r.1, cols, force⟩],
       r.2.2.map (fun c => c ++ [(key near cols, r.1.name)])) := by
  simp only [stubStep, if_neg ht, h]

theorem toWithFormG_isTable (key : KeyFn) (cache : Option Cache) {near : Near} (h : near.isTable = true) :
    toWithFormG key cache near = (near, [], cache) := by
  cases near <;> simp_all [Near.isTable, toWithFormG]

theorem toWithFormG_name (key : KeyFn) (cache : Option Cache) (near : Near) :
    (toWithFormG key cache near).1.name = near.name := by
  cases near <;> simp only [toWithFormG] <;> (try split) <;> rfl

def StepNamesIn (ns : List String) (r : WFRes) : Prop := (stepNames r.2.1).Nodup ∧ ∀ n ∈ stepNames r.2.1, n ∈ ns

theorem StepNamesIn.nil (ns : List String) (n : Near) (c : Option Cache) : StepNamesIn ns (n, [], c) :=
  ⟨List.nodup_nil, fun _ h => nomatch h⟩

theorem any_name_false {near : Near} {r : WFRes} (ht : ¬ near.isTable = true) (hnd : near.names.Nodup)
    (hr : StepNamesIn near.names.tail r) : (r.2.1.any fun st => st.name == near.name) = false :=
  any_name_false_of fun h => Near.name_notMem_tail ht hnd (hr.2 _ h)

theorem stubStep_names (key : KeyFn) (cache0 : Option Cache) {near : Near} (cols : Option (List String)) (force : Bool)
    {r : WFRes} (hname : r.1.name = near.name) (hnd : near.names.Nodup) (hr : StepNamesIn near.names.tail r) :
    StepNamesIn near.names (stubStep key cache0 near cols force r) := by
  by_cases ht : near.isTable = true
  · rw [stubStep_isTable key _ cols force _ ht]
    exact ⟨hr.1, fun n hn => List.mem_of_mem_tail (hr.2 n hn)⟩
  · cases hl : (cache0.bind fun c => lookupLast c (key near cols)) with
    | some nm => rw [stubStep_hit key _ cols force _ ht hl]; exact StepNamesIn.nil _ _ _
    | none =>
      rw [stubStep_miss key _ cols force _ ht hl, hname, any_name_false ht hnd hr, Near.names_of_not_isTable ht]
      simp only [Bool.false_eq_true, if_false, StepNamesIn, stepNames, List.map_append, List.map_cons, List.map_nil]
      constructor
      · rw [List.nodup_append]
        refine ⟨hr.1, List.nodup_cons.mpr ⟨List.not_mem_nil, List.nodup_nil⟩, fun a ha b hb he => ?_⟩
        rw [List.mem_singleton] at hb
        exact Near.name_notMem_tail ht hnd (hb ▸ he ▸ hr.2 a ha)
      · intro n hn'
        rw [List.mem_append, List.mem_singleton] at hn'
        cases hn' with
        | inl h => exact List.mem_cons_of_mem _ (hr.2 _ h)
        | inr h => exact h ▸ List.mem_cons_self

theorem pair_names {ln rn : List String} {r1 r2 : WFRes} (hnd : (ln ++ rn).Nodup)
    (h1 : StepNamesIn ln r1) (h2 : StepNamesIn rn r2) :
    appendUnseen r1.2.1 r2.2.1 = r1.2.1 ++ r2.2.1 ∧ (stepNames (r1.2.1 ++ r2.2.1)).Nodup ∧
      ∀ n ∈ stepNames (r1.2.1 ++ r2.2.1), n ∈ ln ++ rn := by
  rw [List.nodup_append] at hnd
  have hdis : ∀ n ∈ stepNames r2.2.1, n ∉ stepNames r1.2.1 :=
    fun n hn2 hn1 => hnd.2.2 n (h1.2 n hn1) n (h2.2 n hn2) rfl
  refine ⟨appendUnseen_eq _ _ h2.1 hdis, ?_, ?_⟩
  · simp only [stepNames, List.map_append]
    rw [List.nodup_append]
    exact ⟨h1.1, h2.1, fun a ha b hb he => hdis a (he ▸ hb) ha⟩
  · intro n hn
    simp only [stepNames, List.map_append, List.mem_append] at hn ⊢
    exact hn.imp (h1.2 n) (h2.2 n)

/-! ### normal forms: the `is_table` shortcuts of `to_with_form` do not change the outcome -/

theorem toWithFormG_join (key : KeyFn) (cache : Option Cache) (name : String) (terms : Terms) (l : Near)
    (lc : List String) (ln : String) (r : Near) (rc : List String) (rn : String) (jt : JoinType) (oa ob : List String)
    (k : Option String) :
    toWithFormG key cache (.join name terms l lc ln r rc rn jt oa ob k) =
      (.join name terms (stubG key cache l (some lc) false).1 lc ln
          (stubG key (stubG key cache l (some lc) false).2.2 r (some rc) false).1 rc rn jt oa ob k,
        appendUnseen (stubG key cache l (some lc) false).2.1
          (stubG key (stubG key cache l (some lc) false).2.2 r (some rc) false).2.1,
        (stubG key (stubG key cache l (some lc) false).2.2 r (some rc) false).2.2) := by
  simp only [toWithFormG]
  split
  · rename_i h
    simp only [Bool.and_eq_true] at h
    simp only [stubStep_isTable key _ _ _ _ h.1, stubStep_isTable key _ _ _ _ h.2, toWithFormG_isTable key _ h.1,
      toWithFormG_isTable key _ h.2, appendUnseen, List.foldl_nil]
  · rfl

theorem toWithFormG_union (key : KeyFn) (cache : Option Cache) (name : String) (terms : List String)
    (l r : Near) (cs : List String) (k : Option String) :
    toWithFormG key cache (.union name terms l r cs k) =
      (.union name terms (stubG key cache l (some cs) true).1
          (stubG key (stubG key cache l (some cs) true).2.2 r (some cs) true).1 cs k,
        appendUnseen (stubG key cache l (some cs) true).2.1
          (stubG key (stubG key cache l (some cs) true).2.2 r (some cs) true).2.1,
        (stubG key (stubG key cache l (some cs) true).2.2 r (some cs) true).2.2) := by
  simp only [toWithFormG]
  split
  · rename_i h
    simp only [Bool.and_eq_true] at h
    simp only [stubStep_isTable key _ _ _ _ h.1, stubStep_isTable key _ _ _ _ h.2, toWithFormG_isTable key _ h.1,
      toWithFormG_isTable key _ h.2, appendUnseen, List.foldl_nil]
  · rfl

/-- only when the source is table-like does the step keep its `mergeable` flag and its declared dependencies -/
theorem toWithFormG_unary (key : KeyFn) (cache : Option Cache) (name : String) (terms : Option Terms)
    (agg : Bool) (sub : Near) (sc : Option (List String)) (sf : Suffix) (mg : Bool)
    (deps : Option (List (String × List String))) (k : Option String) :
    toWithFormG key cache (.unary name terms agg sub sc sf mg deps k) =
      (.unary name terms agg (stubG key cache sub sc false).1 sc sf (sub.isTable && mg)
          (if sub.isTable then deps else none) k,
        (stubG key cache sub sc false).2.1, (stubG key cache sub sc false).2.2) := by
  simp only [toWithFormG]
  split
  · rename_i h
    simp only [stubStep_isTable key _ _ _ _ h, toWithFormG_isTable key _ h, h, Bool.true_and]
  · rename_i h
    simp only [h, Bool.false_and]

/-- **the step names of the WITH form are those of the tree below the root, each once** -/
theorem toWithFormG_names (key : KeyFn) (near : Near) : near.names.Nodup → ∀ cache,
    StepNamesIn near.names.tail (toWithFormG key cache near) := by
  have stub : ∀ {n : Near} (c : Option Cache) (cols : Option (List String)) (f : Bool), n.names.Nodup →
      StepNamesIn n.names.tail (toWithFormG key c n) → StepNamesIn n.names (stubG key c n cols f) :=
    fun c cols f hnd ih => stubStep_names key _ cols f (toWithFormG_name key c _) hnd ih
  induction near with
  | table n ts => intro _ cache; exact StepNamesIn.nil _ _ _
  | cte n => intro _ cache; exact StepNamesIn.nil _ _ _
  | unary name terms agg sub sc sf mg deps k ih =>
    intro hnd cache
    rw [toWithFormG_unary]
    exact stub cache sc false (List.nodup_cons.mp hnd).2 (ih (List.nodup_cons.mp hnd).2 cache)
  | join name terms l lc ln r rc rn jt oa ob k ihl ihr =>
    intro hnd cache
    have hlr := (List.nodup_cons.mp hnd).2
    have hl := (List.nodup_append.mp hlr).1
    have hr := (List.nodup_append.mp hlr).2.1
    rw [toWithFormG_join]
    have := pair_names hlr (stub cache (some lc) false hl (ihl hl cache))
      (stub (stubG key cache l (some lc) false).2.2 (some rc) false hr (ihr hr _))
    exact ⟨this.1 ▸ this.2.1, this.1 ▸ this.2.2⟩
  | union name terms l r cs k ihl ihr =>
    intro hnd cache
    have hlr := (List.nodup_cons.mp hnd).2
    have hl := (List.nodup_append.mp hlr).1
    have hr := (List.nodup_append.mp hlr).2.1
    rw [toWithFormG_union]
    have := pair_names hlr (stub cache (some cs) true hl (ihl hl cache))
      (stub (stubG key cache l (some cs) true).2.2 (some cs) true hr (ihr hr _))
    exact ⟨this.1 ▸ this.2.1, this.1 ▸ this.2.2⟩

theorem stubG_names (key : KeyFn) {near : Near} (hnd : near.names.Nodup) (cache : Option Cache)
    (cols : Option (List String)) (force : Bool) : StepNamesIn near.names (stubG key cache near cols force) :=
  stubStep_names key _ cols force (toWithFormG_name key cache _) hnd (toWithFormG_names key near hnd cache)

def bdesc (n : Near) (c : Option (List String)) (f : Bool) : List Bound :=
  (if n.isTable then [] else [(n, c, f)]) ++ n.desc

def bkey (key : KeyFn) (x : Bound) : String := key x.1 x.2.1

theorem desc_unary (name : String) (terms : Option Terms) (agg : Bool) (sub : Near)
    (sc : Option (List String)) (sf : Suffix) (mg : Bool) (deps : Option (List (String × List String))) (k : Option String) :
    (Near.unary name terms agg sub sc sf mg deps k).desc = bdesc sub sc false := rfl

theorem desc_join (name : String) (terms : Terms) (l : Near) (lc : List String)
    (ln : String) (r : Near) (rc : List String) (rn : String) (jt : JoinType) (oa ob : List String) (k : Option String) :
    (Near.join name terms l lc ln r rc rn jt oa ob k).desc = bdesc l (some lc) false ++ bdesc r (some rc) false := rfl

theorem desc_union (name : String) (terms : List String) (l r : Near) (cs : List String) (k : Option String) :
    (Near.union name terms l r cs k).desc = bdesc l (some cs) true ++ bdesc r (some cs) true := rfl

theorem desc_of_isTable {n : Near} (h : n.isTable = true) : n.desc = [] := by
  cases n <;> simp_all [Near.isTable, Near.desc]

theorem bdesc_of_isTable {n : Near} (c : Option (List String)) (f : Bool) (h : n.isTable = true) : bdesc n c f = [] := by
  simp [bdesc, h, desc_of_isTable h]

theorem bdesc_of_not_isTable {n : Near} (c : Option (List String)) (f : Bool) (h : ¬ n.isTable = true) :
    bdesc n c f = (n, c, f) :: n.desc := by
  simp [bdesc, h]

theorem stubStep_cache_none (key : KeyFn) {cache0 : Option Cache} (near : Near) (cols : Option (List String))
    (force : Bool) {r : WFRes} (h0 : cache0 = none) (hr : r.2.2 = none) :
    (stubStep key cache0 near cols force r).2.2 = none := by
  subst h0
  by_cases ht : near.isTable = true
  · rw [stubStep_isTable key _ cols force _ ht, hr]
  · rw [stubStep_miss key _ cols force _ ht rfl, hr]; rfl

theorem toWithFormG_cache_none (key : KeyFn) (near : Near) :
    (toWithFormG key none near).2.2 = none := by
  have stub : ∀ (n : Near) (cols : Option (List String)) (f : Bool), (toWithFormG key none n).2.2 = none →
      (stubG key none n cols f).2.2 = none :=
    fun n cols f ih => stubStep_cache_none key n cols f rfl ih
  induction near with
  | table n ts => rfl
  | cte n => rfl
  | unary name terms agg sub sc sf mg deps k ih =>
    rw [toWithFormG_unary]
    exact stub sub sc false ih
  | join name terms l lc ln r rc rn jt oa ob k ihl ihr =>
    rw [toWithFormG_join, stub l (some lc) false ihl]
    exact stub r (some rc) false ihr
  | union name terms l r cs k ihl ihr =>
    rw [toWithFormG_union, stub l (some cs) true ihl]
    exact stub r (some cs) true ihr

section Sem
variable (Θ : Interp) (ec : EngineCfg) (env : Env)

/-- a step depends on its sub-queries through their values only (whatever the names, flags, contexts) -/
theorem semNear_unary_congr {env1 env2 : Env} {c1 c2 : List (String × Table)} {n n' : String} {ts : Option Terms}
    {agg : Bool} {s1 s2 : Near} {sc : Option (List String)} {sf : Suffix} {m m' : Bool}
    {d d' : Option (List (String × List String))} {k k' : Option String} {cols : Option (List String)} {f f' : Bool}
    (h : semNear Θ ec env1 c1 s1 sc false = semNear Θ ec env2 c2 s2 sc false) :
    semNear Θ ec env1 c1 (.unary n ts agg s1 sc sf m d k) cols f =
      semNear Θ ec env2 c2 (.unary n' ts agg s2 sc sf m' d' k') cols f' := by
  unfold semNear
  rw [h]

theorem semNear_join_congr {env1 env2 : Env} {c1 c2 : List (String × Table)} {n n' : String} {ts : Terms}
    {l1 l2 r1 r2 : Near} {lc rc : List String} {ln rn ln' rn' : String} {jt : JoinType} {oa ob : List String}
    {k k' : Option String} {cols : Option (List String)} {f f' : Bool}
    (hl : semNear Θ ec env1 c1 l1 (some lc) false = semNear Θ ec env2 c2 l2 (some lc) false)
    (hr : semNear Θ ec env1 c1 r1 (some rc) false = semNear Θ ec env2 c2 r2 (some rc) false) :
    semNear Θ ec env1 c1 (.join n ts l1 lc ln r1 rc rn jt oa ob k) cols f =
      semNear Θ ec env2 c2 (.join n' ts l2 lc ln' r2 rc rn' jt oa ob k') cols f' := by
  unfold semNear
  rw [hl, hr]

theorem semNear_union_congr {env1 env2 : Env} {c1 c2 : List (String × Table)} {n n' : String} {ts : List String}
    {l1 l2 r1 r2 : Near} {cs : List String} {k k' : Option String} {cols : Option (List String)} {f f' : Bool}
    (hl : semNear Θ ec env1 c1 l1 (some cs) true = semNear Θ ec env2 c2 l2 (some cs) true)
    (hr : semNear Θ ec env1 c1 r1 (some cs) true = semNear Θ ec env2 c2 r2 (some cs) true) :
    semNear Θ ec env1 c1 (.union n ts l1 r1 cs k) cols f = semNear Θ ec env2 c2 (.union n' ts l2 r2 cs k') cols f' := by
  unfold semNear
  rw [hl, hr]

theorem semNear_table_ctes (c1 c2 : List (String × Table)) (n : String) (ts : List String)
    (cols : Option (List String)) (f : Bool) :
    semNear Θ ec env c1 (.table n ts) cols f = semNear Θ ec env c2 (.table n ts) cols f := by
  simp only [semNear]

theorem semNear_cte (c : List (String × Table)) (nm : String) (cols : Option (List String)) (f : Bool) :
    semNear Θ ec env c (.cte nm) cols f = (match lookupLast c nm with | none => .error .other | some t => .ok t) := by
  simp only [semNear]
  cases lookupLast c nm <;> rfl

theorem bind_err_other {α β : Type} {x : Except Err α} {g : α → Except Err β} {e : Err}
    (hx : ∀ e', x = .error e' → e' = .other) (hg : ∀ a, g a = .error e → e = .other) (h : x >>= g = .error e) :
    e = .other := by
  cases x with
  | error e' => cases h; exact hx _ rfl
  | ok a => exact hg a h

/-- every error of the SQL semantics is the same value -/
theorem semNear_err (c : List (String × Table)) (q : Near) :
    ∀ cols f e, semNear Θ ec env c q cols f = .error e → e = .other := by
  induction q with
  | table n ts =>
    intro cols f e h
    simp only [semNear] at h
    repeat' split at h
    all_goals first | (cases h; rfl) | cases h
  | cte n =>
    intro cols f e h
    simp only [semNear] at h
    split at h <;> cases h
    rfl
  | unary n ts agg s sc sf m d k ih =>
    intro cols f e h
    unfold semNear at h
    refine bind_err_other (ih _ _) (fun t ht => ?_) h
    dsimp only at ht
    split at ht <;> split at ht <;> cases ht
  | join n ts l lc ln r rc rn jt oa ob k ihl ihr =>
    intro cols f e h
    unfold semNear at h
    refine bind_err_other (ihl _ _) (fun tl => bind_err_other (ihr _ _) fun tr ht => ?_) h
    dsimp only at ht
    split at ht <;> cases ht
    rfl
  | union n ts l r cs k ihl ihr =>
    intro cols f e h
    unfold semNear at h
    refine bind_err_other (ihl _ _) (fun tl => bind_err_other (ihr _ _) fun tr ht => ?_) h
    cases ht

theorem semNear_unary_err (c : List (String × Table))
    (n : String) (ts : Option Terms) (agg : Bool) (s : Near) (sc : Option (List String)) (sf : Suffix)
    (m : Bool) (d : Option (List (String × List String))) (k : Option String) (cols : Option (List String)) (f : Bool)
    (h : semNear Θ ec env c s sc false = .error .other) :
    semNear Θ ec env c (.unary n ts agg s sc sf m d k) cols f = .error .other := by
  simp only [semNear, h]; rfl

theorem semNear_join_err (c : List (String × Table))
    (n : String) (ts : Terms) (l r : Near) (lc rc : List String) (ln rn : String) (jt : JoinType)
    (oa ob : List String) (k : Option String) (cols : Option (List String)) (f : Bool)
    (h : semNear Θ ec env c l (some lc) false = .error .other ∨ semNear Θ ec env c r (some rc) false = .error .other) :
    semNear Θ ec env c (.join n ts l lc ln r rc rn jt oa ob k) cols f = .error .other := by
  simp only [semNear]
  cases hl : semNear Θ ec env c l (some lc) false with
  | error e => rw [semNear_err Θ ec env c l _ _ _ hl]; rfl
  | ok tl =>
    cases h with
    | inl h => rw [hl] at h; cases h
    | inr h => rw [h]; rfl

theorem semNear_union_err (c : List (String × Table))
    (n : String) (ts : List String) (l r : Near) (cs : List String) (k : Option String) (cols : Option (List String)) (f : Bool)
    (h : semNear Θ ec env c l (some cs) true = .error .other ∨ semNear Θ ec env c r (some cs) true = .error .other) :
    semNear Θ ec env c (.union n ts l r cs k) cols f = .error .other := by
  simp only [semNear]
  cases hl : semNear Θ ec env c l (some cs) true with
  | error e => rw [semNear_err Θ ec env c l _ _ _ hl]; rfl
  | ok tl =>
    cases h with
    | inl h => rw [hl] at h; cases h
    | inr h => rw [h]; rfl

theorem runSteps_nil (ctes : List (String × Table)) : runSteps Θ ec env ctes [] = .ok ctes := rfl

theorem runSteps_append (ctes : List (String × Table)) (a b : List WithStep) :
    runSteps Θ ec env ctes (a ++ b) = (runSteps Θ ec env ctes a >>= fun c => runSteps Θ ec env c b) := by
  simp only [runSteps, List.foldlM_append]

theorem runSteps_single (ctes : List (String × Table)) (st : WithStep) :
    runSteps Θ ec env ctes [st] =
      (semNear Θ ec env ctes st.near st.cols st.force >>= fun t => pure (ctes ++ [(st.name, t)])) := by
  simp only [runSteps, List.foldlM_cons, List.foldlM_nil, bind_pure]

theorem semWith_eq (steps : List WithStep) (last : Near) :
    semWith Θ ec env steps last = (runSteps Θ ec env [] steps >>= fun ctes => semNear Θ ec env ctes last none true) := rfl

end Sem

end DAVerif.Sql
