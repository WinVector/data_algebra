import DAVerif.Proofs.SqlJoin
/-!
C16, SQLite: RIGHT join emulated as the LEFT join of the swapped sources with the COALESCE direction reversed
(`_emit_right_join_as_left_join`).

The emulation changes the **row order** (matched pairs come out right-row-major): the step is sound, with list equality,
against the reference RIGHT join *listed right-row-major* (`SqlE.swapJoinTable`; any null pattern in the keys), which is
the reference RIGHT join up to row order (`SqlE.swapJoinTable_equiv`, from `joinRows_swap`, `Proofs/Perm.lean`).
`SoundP` / `TransOKP` are `Sound` / `TransOK` with `List.Perm` in place of list equality.
-/
namespace DAVerif
namespace Sql
open DAVerif.Ops (usedFromSources unionL)

variable {Θ : Interp} {ec : EngineCfg} {env : Env} {G : Near → Prop} {cfg : SqlCfg}

structure SoundP (Θ : Interp) (ec : EngineCfg) (env : Env) (q : Near) (u pcols : List String) (tp : Table) : Prop where
  req : ∀ u' : List String, (∀ c ∈ u', c ∈ u) → ∀ force : Bool,
    ∃ T, semNear Θ ec env [] q (some u') force = .ok T ∧ (∀ c ∈ u', c ∈ T.cols) ∧
      (T.rows.map (fun r => r.select u')).Perm (tp.rows.map (fun r => r.select u'))
  keys : u ≠ [] → ∃ ks, q.termKeys = some ks ∧ (∀ k ∈ ks, k ∈ pcols) ∧ (∀ c ∈ u, c ∈ ks)

theorem Sound.toP {q : Near} {u pc : List String} {tp : Table} (h : Sound Θ ec env q u pc tp) :
    SoundP Θ ec env q u pc tp :=
  ⟨fun u' hu' force => by
    obtain ⟨T, h1, h2, h3⟩ := h.req u' hu' force
    exact ⟨T, h1, h2, h3 ▸ List.Perm.refl _⟩, h.keys⟩

def TransOKP (Θ : Interp) (ec : EngineCfg) (env : Env) (scfg : SemCfg) (G : Near → Prop) (cfg : SqlCfg)
    (fuel : Nat) (p : Ops) : Prop :=
  ∀ (u : List String) (st : Nat) (q : Near) (st' : Nat) (tp : Table),
    (∀ c ∈ u, c ∈ p.cols) → toNear cfg fuel p (some u) st = .ok (q, st') →
    semE ec Θ scfg env p = .ok tp →
    G q ∧ ∃ u₁, (∀ c ∈ u, c ∈ u₁) ∧ (∀ c ∈ u₁, c ∈ p.cols) ∧ SoundP Θ ec env q u₁ p.cols tp

theorem TransOK.toP {scfg : SemCfg} {fuel : Nat} {p : Ops} (h : TransOK Θ ec env scfg G cfg fuel p) :
    TransOKP Θ ec env scfg G cfg fuel p := by
  intro u st q st' tp hu ht hs
  obtain ⟨hg, u₁, h1, h2, h3⟩ := h u st q st' tp hu ht hs
  exact ⟨hg, u₁, h1, h2, h3.toP⟩


theorem refMatch_swap (cfg : SemCfg) {jt jt' : JoinType} (hjt : (jt == .cross) = (jt' == .cross)) {onA onB : List String}
    (hlen : onA.isEmpty = onB.isEmpty) (ra rb : Row) :
    refMatch cfg jt onB onA rb ra = refMatch cfg jt' onA onB ra rb := by
  simp only [refMatch, RefSem.keyMatch_symm cfg (keyOf rb onB), hlen, hjt]

namespace SqlE

/-- the rows of the reference RIGHT join of `ta` and `tb` as the swapped LEFT join lists them: matched pairs
**right-row-major**, then the unmatched rows of `tb` -/
def swapJoinTable (a b : Ops) (onA onB : List String) (ta tb : Table) : Table :=
  ⟨(Ops.join a b onA onB .right).cols,
    joinRows (fun rb ra => refMatch SemCfg.ref .right onA onB ra rb)
      (fun y x => (joinRow a.cols b.cols (appendNew a.cols b.cols) x y).select (Ops.join a b onA onB .right).cols)
      true false tb.rows ta.rows⟩

theorem swapJoinTable_equiv (a b : Ops) (onA onB : List String) {ta tb : Table}
    (hta : ta.cols = a.cols) (htb : tb.cols = b.cols) :
    ((semJoin SemCfg.ref .right onA onB ta tb (appendNew a.cols b.cols)).selectCols
      (Ops.join a b onA onB .right).cols) ≈ swapJoinTable a b onA onB ta tb := by
  refine ⟨rfl, ?_⟩
  simp only [Table.selectCols, swapJoinTable, semJoin_eq, hta, htb]
  rw [joinRows_map]
  have hfl : (JoinType.right == .left || JoinType.right == .full || JoinType.right == .outer ||
      (JoinType.right == .cross && SemCfg.ref.crossAsOuter)) = false := rfl
  have hfr : (JoinType.right == .right || JoinType.right == .full || JoinType.right == .outer ||
      (JoinType.right == .cross && SemCfg.ref.crossAsOuter)) = true := rfl
  rw [hfl, hfr]
  exact joinRows_swap _ _ _ _ _ _

theorem swapJoinTable_wf (a b : Ops) (onA onB : List String) (ta tb : Table) :
    (swapJoinTable a b onA onB ta tb).WF := by
  apply wf_of_select
  intro r hr
  simp only [joinRows, ↓reduceIte, Bool.false_eq_true, List.append_nil, List.mem_append, List.mem_flatMap,
    List.mem_map] at hr
  rcases hr with ⟨_, _, _, _, rfl⟩ | ⟨_, _, rfl⟩ <;> exact ⟨_, rfl⟩

/-- SQLite's rendering of a RIGHT join (a LEFT join step with left input `b`, right input `a`, keys swapped,
`COALESCE(a.c, b.c)`) returns, row by row **in order**, the rows of `swapJoinTable`, for every null pattern in the keys. -/
theorem sound_joinStep_swappedW {nl nr : Near} {a b : Ops} {onA onB usg Sl Sr : List String} {ta tb : Table}
    (nm ln rn : String) (key : Option String)
    (hoa : ∀ c ∈ onA, c ∈ a.cols) (hob : ∀ c ∈ onB, c ∈ b.cols) (hlen : onA.isEmpty = onB.isEmpty)
    (husg : ∀ c ∈ usg, c ∈ (Ops.join a b onA onB .right).cols)
    (hl : Sound Θ ec env nl Sl b.cols tb) (hlS : ∀ c ∈ sideCols b.cols usg onA onB, c ∈ Sl)
    (hr : Sound Θ ec env nr Sr a.cols ta) (hrS : ∀ c ∈ sideCols a.cols usg onA onB, c ∈ Sr) :
    Sound Θ ec env
      (.join nm (joinTerms false usg (sideCols b.cols usg onA onB) (sideCols a.cols usg onA onB)) nl
        (sideCols b.cols usg onA onB) ln nr (sideCols a.cols usg onA onB) rn .left onB onA key)
      usg (Ops.join a b onA onB .right).cols (swapJoinTable a b onA onB ta tb) := by
  refine ⟨fun u' hu' force => ?_, fun _ => ⟨_, rfl,
    fun k hk => (mem_join_cols a b onA onB .right k).mpr (joinTerms_keys_sub k hk).symm,
    joinTerms_keys_sup (fun c hc => ((mem_join_cols a b onA onB .right c).mp (husg c hc)).symm)⟩⟩
  obtain ⟨T, hT, hc, hrows⟩ := semNear_join_sound nm _ ln rn key (jt := .left) nofun hl hlS hr hrS
    (fun c hc => mem_sideCols.mpr ⟨hob c hc, Or.inr (Or.inr hc)⟩)
    (fun c hc => mem_sideCols.mpr ⟨hoa c hc, Or.inr (Or.inl hc)⟩) u' force
  have hu'n : ∀ c ∈ u', c ∈ (Ops.join a b onA onB .right).cols := fun c hc => husg c (hu' c hc)
  refine ⟨T, hT, hc, hrows.trans ?_⟩
  rw [swapJoinTable, joinRows_map,
    show refMatch SemCfg.ref .left onB onA = fun rb ra => refMatch SemCfg.ref .right onA onB ra rb from
      funext fun rb => funext fun ra => refMatch_swap _ rfl hlen ra rb]
  refine joinRows_congr_mk (fun y x => ?_) ..
  rw [Row.select_select hu'n, joinRow_eq, select_mkRow _ (fun c hc =>
    mem_appendNew.mpr ((mem_join_cols a b onA onB .right c).mp (hu'n c hc)))]
  exact List.map_congr_left (fun c hc => congrArg (Prod.mk c) (joinTerms_cell false y x (hu' c hc)))

end SqlE

theorem SqlE.nodeOK_join_sqlite_right (hJU : ∀ q : Near, q.isJU = true → G q) (fuel : Nat) (a b : Ops)
    (onA onB : List String) (hemu : cfg.emulateRightFull = true)
    (hoa : ∀ c ∈ onA, c ∈ a.cols) (hob : ∀ c ∈ onB, c ∈ b.cols) (hlen : onA.isEmpty = onB.isEmpty) {ta tb : Table}
    (iha : SqlE.NodeOK Θ ec env G cfg fuel a ta) (ihb : SqlE.NodeOK Θ ec env G cfg fuel b tb) :
    SqlE.NodeOK Θ ec env G cfg (fuel + 1) (.join a b onA onB .right) (SqlE.swapJoinTable a b onA onB ta tb) := by
  intro u st q st' _ h
  cases toNear_succ_inv h with
  | step _ hσ => cases hσ
  | rekey _ hk => cases hk
  | join _ hsides husg hul hur _ hsub hnl hnr =>
    simp only [hemu, Bool.true_and, beq_self_eq_true, ↓reduceIte] at hsides
    cases hsides
    subst husg hul hur
    obtain ⟨_, Sl, hSl, _, hsl⟩ := ihb _ _ _ _ (fun c hc => (mem_sideCols.mp hc).1) hnl
    obtain ⟨_, Sr, hSr, _, hsr⟩ := iha _ _ _ _ (fun c hc => (mem_sideCols.mp hc).1) hnr
    exact ⟨hJU _ rfl, _, subset_joinUsg _ u, hsub,
      SqlE.sound_joinStep_swappedW _ _ _ _ hoa hob hlen hsub hsl hSl hsr hSr⟩

end Sql
end DAVerif
