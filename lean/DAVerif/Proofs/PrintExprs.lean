import DAVerif.Proofs.PrintCalls
import DAVerif.Props.C13
/-!
C12 – the expressions of a pipeline: where they sit (`exprsIn`: with the columns of the node they are evaluated over),
that the builders pass them through unchanged (`build_terms`), and that C13's well-formedness depends on the column
context only through "the columns the term mentions are known" (`wf_withCols`, `wf_of_wfAny`).
-/
namespace DAVerif.C12
open DAVerif Rules26 DAVerif.Expr

def termsOf : Ops → List Term
  | .table _ _ => []
  | .extend s ops _ _ _ _ => termsOf s ++ ops.map (·.2)
  | .project s ops _ => termsOf s ++ ops.map (·.2)
  | .selectRows s e => termsOf s ++ [e]
  | .selectCols s _ | .dropCols s _ | .order s _ _ _ | .rename s _ | .mapCols s _ _ | .convert s _ => termsOf s
  | .join a b _ _ _ | .concat a b _ _ _ => termsOf a ++ termsOf b

def stepTerms : Step → List Term
  | .extend ops _ _ _ => ops.map (·.2)
  | .project ops _ => ops.map (·.2)
  | .selectRows (some e) => [e]
  | _ => []

/-- every expression of the pipeline together with the columns of the node it is evaluated over (the `data_def` the
parser gets when the printed call is evaluated) -/
def exprsIn : Ops → List (List String × Term)
  | .table _ _ => []
  | .extend s ops _ _ _ _ => exprsIn s ++ ops.map (fun kv => (s.cols, kv.2))
  | .project s ops _ => exprsIn s ++ ops.map (fun kv => (s.cols, kv.2))
  | .selectRows s e => exprsIn s ++ [(s.cols, e)]
  | .selectCols s _ | .dropCols s _ | .order s _ _ _ | .rename s _ | .mapCols s _ _ | .convert s _ => exprsIn s
  | .join a b _ _ _ | .concat a b _ _ _ => exprsIn a ++ exprsIn b

theorem exprsIn_terms (p : Ops) (ct : List String × Term) (h : ct ∈ exprsIn p) : ct.2 ∈ termsOf p := by
  induction p with
  | table n cs => simp [exprsIn] at h
  | extend s ops _ _ _ _ ih | project s ops _ ih =>
    simp only [exprsIn, termsOf, List.mem_append, List.mem_map] at h ⊢
    rcases h with h | ⟨kv, hkv, rfl⟩
    · exact Or.inl (ih h)
    · exact Or.inr ⟨kv, hkv, rfl⟩
  | selectRows s e ih =>
    simp only [exprsIn, termsOf, List.mem_append, List.mem_singleton] at h ⊢
    rcases h with h | rfl
    · exact Or.inl (ih h)
    · exact Or.inr rfl
  | selectCols s _ ih | dropCols s _ ih | order s _ _ _ ih | rename s _ ih | mapCols s _ _ ih | convert s _ ih =>
    exact ih h
  | join a b _ _ _ iha ihb | concat a b _ _ _ iha ihb =>
    simp only [exprsIn, termsOf, List.mem_append] at h ⊢
    exact h.imp iha ihb

theorem exprsIn_cols {p : Ops} (h : NF p) (cols : List String) (t : Term) (hm : (cols, t) ∈ exprsIn p) :
    ∀ c ∈ Term.colsRaw t, c ∈ cols := by
  -- the call printed for a node was accepted on the node's source
  have parsed : ∀ {s : Ops} {st : Step} {q : Ops}, st.isNoop = false → build s st = .ok q → Parsed (strip s).cols st :=
    fun hn hb => ((build_eq_ok.mp hb).resolve_left fun h' => by rw [hn] at h'; cases h'.1).1
  induction p with
  | table n cs => simp [exprsIn] at hm
  | extend s ops part order rev w ih =>
    simp only [exprsIn, List.mem_append, List.mem_map, Prod.mk.injEq] at hm
    rcases hm with hm | ⟨kv, hkv, rfl, rfl⟩
    · exact ih h.1 hm
    · exact fun c hc => h.2.2.assignOK.2.1 c (List.mem_flatMap.mpr ⟨kv, hkv, hc⟩)
  | project s ops g ih =>
    simp only [exprsIn, List.mem_append, List.mem_map, Prod.mk.injEq] at hm
    rcases hm with hm | ⟨kv, hkv, rfl, rfl⟩
    · exact ih h.1 hm
    · exact fun c hc => (h.2.1 ▸ parsed rfl h.2.2 : AssignOK s.cols ops).2.1 c (List.mem_flatMap.mpr ⟨kv, hkv, hc⟩)
  | selectRows s e ih =>
    simp only [exprsIn, List.mem_append, List.mem_singleton, Prod.mk.injEq] at hm
    rcases hm with hm | ⟨rfl, rfl⟩
    · exact ih h.1 hm
    · exact h.2.1 ▸ parsed rfl h.2.2
  | selectCols s _ ih | dropCols s _ ih | order s _ _ _ ih | rename s _ ih | mapCols s _ _ ih | convert s _ ih =>
    exact ih h.1 hm
  | join a b _ _ _ iha ihb =>
    simp only [exprsIn, List.mem_append] at hm
    exact hm.elim (iha h.1) (ihb h.2.2.1)
  | concat a b _ _ _ iha ihb =>
    simp only [exprsIn, List.mem_append] at hm
    exact hm.elim (iha h.1) (ihb h.2.2.1)

theorem terms_strip {p : Ops} {t : Term} (h : t ∈ termsOf (strip p)) : t ∈ termsOf p :=
  strip_preserves (P := fun a => t ∈ termsOf a → t ∈ termsOf p) (fun _ _ _ h => h) id h

theorem build_terms {p : Ops} {s : Step} {q : Ops} (h : build p s = .ok q) :
    ∀ t ∈ termsOf q, t ∈ termsOf p ∨ t ∈ stepTerms s ∨ ∃ b ∈ stepArgs s, t ∈ termsOf b := by
  rcases build_eq_ok.mp h with ⟨_, rfl⟩ | ⟨_, hpl⟩
  · exact fun t ht => .inl ht
  intro t ht
  cases hpl with
  | extend | project | selectRows =>
    exact (List.mem_append.mp ht).imp terms_strip fun h => .inl (by simpa [stepTerms] using h)
  | merge _ _ hs hm =>
    -- a merged node: its assignments are some of the lower node's, then the step's
    obtain ⟨rfl, _⟩ := tryMergeOps_eq_some hm
    simp only [termsOf, List.mem_append, List.map_append, List.mem_map] at ht
    rcases ht with ht | ⟨kv, hkv, rfl⟩ | ⟨kv, hkv, rfl⟩
    · exact .inl (terms_strip (hs ▸ List.mem_append_left _ ht))
    · exact .inl (terms_strip (hs ▸ List.mem_append_right _ (List.mem_map_of_mem (List.mem_filter.mp hkv).1)))
    · exact .inr (.inl (List.mem_map_of_mem hkv))
  | selectCols =>
    exact .inl (terms_strip (Ops.selectBase_preserves (P := fun a => t ∈ termsOf a → t ∈ termsOf (strip p))
      (fun _ _ _ h => h) (fun _ _ h => h) (fun _ _ h => h) id ht))
  | join | concat =>
    exact (List.mem_append.mp ht).imp terms_strip fun h => .inr ⟨_, List.mem_singleton.mpr rfl, h⟩
  | _ => exact .inl (terms_strip ht)

def wfAny (t : Term) : Prop := wf (Generated.env (Term.colsRaw t)) t = true

instance (t : Term) : Decidable (wfAny t) := inferInstanceAs (Decidable (_ = true))

theorem shapeOk_withCols (env : Expr.Env) (cols : List String) (op : String) (args : List Term) (i m : Bool) :
    shapeOk { env with cols := cols } op args i m = shapeOk env op args i m := rfl

mutual
theorem wf_withCols (env : Expr.Env) (cols : List String) : ∀ t : Term, wf env t = true →
    (∀ c ∈ Term.colsRaw t, c ∈ cols) → wf { env with cols := cols } t = true
  | .value l, h, _ => by simpa [wf] using h
  | .col c, _, hc => by
      simp only [wf, List.contains_eq_mem, decide_eq_true_eq]
      exact hc c (by simp [Term.colsRaw])
  | .list vs, h, _ => by simpa [wf] using h
  | .dict kvs, h, _ => by simpa [wf] using h
  | .app op args i m, h, hc => by
      simp only [wf, Bool.and_eq_true] at h ⊢
      exact ⟨wfs_withCols env cols args h.1 (by simpa [Term.colsRaw] using hc), by rw [shapeOk_withCols]; exact h.2⟩
theorem wfs_withCols (env : Expr.Env) (cols : List String) : ∀ ts : List Term, wfs env ts = true →
    (∀ c ∈ Term.colsRawList ts, c ∈ cols) → wfs { env with cols := cols } ts = true
  | [], _, _ => by simp [wfs]
  | t :: ts, h, hc => by
      simp only [wfs, Bool.and_eq_true] at h ⊢
      simp only [Term.colsRawList, List.mem_append] at hc
      exact ⟨wf_withCols env cols t h.1 (fun c hcc => hc c (Or.inl hcc)),
        wfs_withCols env cols ts h.2 (fun c hcc => hc c (Or.inr hcc))⟩
end

theorem wfs_cols (c1 c2 : List String) : ∀ ts : List Term, wfs (Generated.env c1) ts = true →
    (∀ c ∈ Term.colsRawList ts, c ∈ c2) → wfs (Generated.env c2) ts = true :=
  wfs_withCols (Generated.env c1) c2

theorem wf_of_wfAny {t : Term} {cols : List String} (h : wfAny t) (hc : ∀ c ∈ Term.colsRaw t, c ∈ cols) :
    wf (Generated.env cols) t = true :=
  wf_withCols (Generated.env (Term.colsRaw t)) cols t h hc

end DAVerif.C12
