import DAVerif.Proofs.RenameBasic
import DAVerif.Proofs.MkForms
/-!
The builder methods (`build` and every constructor / helper it calls), `Ops.tables` and `Ops.usedFromSources` commute
with every node-wise map whose `col` and `tab` are injective: the builders only compare names for equality and
membership and look at an expression only for its columns, its operator and the kinds of its arguments.

A builder call is its raw call on the receiver without its trivial `order_rows` steps (`build_direct`), except where
`extend` merges and `select_columns` collapses; a raw call is all its checks, then its node (`buildRaw_eq` of
Proofs/MkForms.lean).  The checks have the same outcome on both sides (`rawChk_map`), the node is the image of the node
(`nodeOn_map`), and stripping commutes with the map.
-/
namespace DAVerif
namespace Ren
open Function (Injective)

variable {φ : NodeMap} {ρc : ColRen} {ρt : TabRen}

theorem tables_map (p : Ops) :
    (φ.ops p).tables = p.tables.map (fun kv => (φ.tab kv.1, kv.2.map φ.col)) := by
  induction p with
  | table name cs => rfl
  | join a b oa ob jt iha ihb => simp only [NodeMap.ops, Ops.tables, iha, ihb, List.map_append]
  | concat a b idc an bn iha ihb => simp only [NodeMap.ops, Ops.tables, iha, ihb, List.map_append]
  | _ => simp only [NodeMap.ops, Ops.tables, *]

theorem map_pure' {α β : Type} (g : α → β) (a : α) : Except.map g (pure a : Except Err α) = pure (g a) := rfl
theorem map_ok' {α β : Type} (g : α → β) (a : α) : Except.map g (Except.ok a : Except Err α) = Except.ok (g a) := rfl
theorem map_error' {α β : Type} (g : α → β) (e : Err) : Except.map g (Except.error e : Except Err α) = Except.error e := rfl

theorem ok?_bind_ren {α β : Type} (g : α → β) {c' c : Bool} (hcc : c' = c) (e : Err) {k' : Unit → Except Err β}
    {k : Unit → Except Err α} (hk : k' () = (k ()).map g) : (ok? c' e >>= k') = (ok? c e >>= k).map g := by
  subst hcc
  cases c'
  · rfl
  · exact hk

theorem parseChk_map (hc : Injective φ.col) (c : List String) (ops : Assign) :
    parseChk (c.map φ.col) (φ.assign ops) = parseChk c ops := by
  have h1 : (φ.assign ops).all (fun kv => subset (Term.colsRaw kv.2) (c.map φ.col))
      = ops.all (fun kv => subset (Term.colsRaw kv.2) c) := by
    unfold NodeMap.assign
    exact all_map' _ ops _ _ (fun x => by simp only [colsRaw_expr, subset_map hc])
  have h2 : (φ.assign ops).flatMap (fun kv => (Term.colsRaw kv.2).filter (fun c => c != kv.1))
      = (ops.flatMap (fun kv => (Term.colsRaw kv.2).filter (fun c => c != kv.1))).map φ.col := by
    clear h1
    unfold NodeMap.assign
    induction ops with
    | nil => rfl
    | cons a ops ih =>
      simp only [List.map_cons, List.flatMap_cons, List.map_append, colsRaw_expr]
      rw [filter_map' _ (fun c => c != φ.col a.1) (fun c => c != a.1) (fun x => bne_inj hc x a.1), ih]
  simp only [parseChk, h1, h2, NodeMap.assign_keys, nodupB_map hc, disjoint_map hc]

theorem parseAssignments_map (hc : Injective φ.col) (c : List String) (ops : Assign) :
    parseAssignments (c.map φ.col) (φ.assign ops) = (parseAssignments c ops).map φ.assign := by
  rw [parseAssignments_eqC, parseAssignments_eqC, parseChk_map hc]
  cases parseChk c ops <;> rfl

theorem NodeMap.assign_filter_key (hc : Injective φ.col) (ops : Assign) (l : List String) :
    (φ.assign ops).filter (fun kv => (l.map φ.col).contains kv.1)
      = φ.assign (ops.filter (fun kv => l.contains kv.1)) :=
  filter_key_map φ.expr ops (l.map φ.col).contains l.contains (contains_map hc l)

theorem NodeMap.assign_filter_not_key (hc : Injective φ.col) (ops : Assign) (l : List String) :
    (φ.assign ops).filter (fun kv => !(l.map φ.col).contains kv.1)
      = φ.assign (ops.filter (fun kv => !l.contains kv.1)) :=
  filter_key_map φ.expr ops (fun c => !(l.map φ.col).contains c) (fun c => !l.contains c)
    (fun x => congrArg not (contains_map hc l x))

theorem NodeMap.assign_append (φ : NodeMap) (a b : Assign) :
    φ.assign (a ++ b) = φ.assign a ++ φ.assign b := by
  simp only [NodeMap.assign, List.map_append]

theorem NodeMap.assign_isEmpty (φ : NodeMap) (a : Assign) : (φ.assign a).isEmpty = a.isEmpty := by
  simp only [NodeMap.assign, List.isEmpty_map]

theorem map_getD_lookupLast (hc : Injective ρc) (m : List (String × String)) (usg : List String) :
    (usg.map ρc).map (fun c => (lookupLast (m.map (fun kv => (ρc kv.1, ρc kv.2))) c).getD c)
      = (usg.map (fun c => (lookupLast m c).getD c)).map ρc := by
  simp only [List.map_map]
  apply List.map_congr_left
  intro c _
  exact lookupLast_getD_map hc m c

theorem usedFromSources_map (hc : Injective φ.col) (p : Ops) (usg : List String) :
    Ops.usedFromSources (φ.ops p) (usg.map φ.col) = (Ops.usedFromSources p usg).map (·.map φ.col) := by
  cases p with
  | table n cs => rfl
  | extend src ops part od rv w =>
    simp only [NodeMap.ops, Ops.usedFromSources, NodeMap.assign_filter_key hc, NodeMap.assign_isEmpty, NodeMap.assign_keys, colsUsedOps_assign hc,
      cols_map hc, unionL_map hc, filter_contains hc, filter_not_contains hc,
      apply_ite (List.map (fun x => List.map φ.col x)), List.map_cons, List.map_nil]
  | project src ops g =>
    simp only [NodeMap.ops, Ops.usedFromSources, NodeMap.assign_filter_key hc, colsUsedOps_assign hc, unionL_map hc,
      List.map_cons, List.map_nil]
  | selectRows src e =>
    simp only [NodeMap.ops, Ops.usedFromSources, cols_map hc, filter_contains hc, colsUsed_expr hc, unionL_map hc,
      List.map_cons, List.map_nil]
  | selectCols src cs =>
    simp only [NodeMap.ops, Ops.usedFromSources, filter_contains hc, List.map_cons, List.map_nil]
  | dropCols src ds =>
    simp only [NodeMap.ops, Ops.usedFromSources, filter_not_contains hc, List.map_cons, List.map_nil]
  | order src cs rv lim =>
    have h := cols_map hc (.order src cs rv lim)
    simp only [NodeMap.ops] at h
    simp only [NodeMap.ops, Ops.usedFromSources, h, filter_contains hc, unionL_map hc, List.map_cons, List.map_nil]
  | rename src m =>
    simp only [NodeMap.ops, Ops.usedFromSources, map_getD_lookupLast hc, eraseDups_map hc, List.map_cons, List.map_nil]
  | mapCols src m ds =>
    have hswap : (m.map (fun kv => (φ.col kv.1, φ.col kv.2))).map (fun kv => (kv.2, kv.1))
        = (m.map (fun kv => (kv.2, kv.1))).map (fun kv => (φ.col kv.1, φ.col kv.2)) := by
      simp only [List.map_map, Function.comp_def]
    simp only [NodeMap.ops, Ops.usedFromSources, hswap, map_getD_lookupLast hc, eraseDups_map hc, unionL_map hc,
      List.map_cons, List.map_nil]
  | join a b oa ob jt =>
    simp only [NodeMap.ops, Ops.usedFromSources, cols_map hc, unionL_map hc, filter_contains hc, List.map_cons,
      List.map_nil]
  | concat a b idc an bn =>
    simp only [NodeMap.ops, Ops.usedFromSources, cols_map hc, filter_contains hc, List.map_cons, List.map_nil]
  | convert src rm => rfl

theorem impliesWindowed_map (φ : NodeMap) (ops : Assign) : impliesWindowed (φ.assign ops) = impliesWindowed ops := by
  unfold impliesWindowed NodeMap.assign
  apply any_map'
  intro x
  cases x.2 <;> rfl

theorem option_map_ite {α β : Type} (g : α → β) (c : Prop) [Decidable c] (a b : Option α) :
    Option.map g (if c then a else b) = if c then Option.map g a else Option.map g b := by
  split <;> rfl

theorem tryMergeOps_map (hc : Injective φ.col) (ops1 ops2 : Assign) :
    tryMergeOps (φ.assign ops1) (φ.assign ops2)
      = (tryMergeOps ops1 ops2).map φ.assign := by
  simp only [tryMergeOps, NodeMap.assign_keys, inter_map hc, NodeMap.assign_filter_key hc, NodeMap.assign_filter_not_key hc,
    colsUsedOps_assign hc, disjoint_map hc, List.isEmpty_map, option_map_ite, Option.map_none, Option.map_some,
    NodeMap.assign_append]

theorem isValue_expr (φ : NodeMap) (t : Term) : isValue (φ.expr t) = isValue t := by
  cases t <;> rfl

theorem windowOpOk_map (hc : Injective φ.col) (sc : List String) (ordered : Bool) (t : Term) :
    windowOpOk (sc.map φ.col) ordered (φ.expr t) = windowOpOk sc ordered t := by
  cases t with
  | app op args i m =>
    simp only [NodeMap.expr_app, windowOpOk, ← List.map_drop, List.head?_map]
    rw [all_map' φ.expr (args.drop 1) isValue isValue (isValue_expr φ)]
    congr 4
    cases args.head? with
    | none => rfl
    | some a => cases a <;> simp only [Option.map_some, NodeMap.expr, mapTerm, contains_map hc]
  | _ => rfl

theorem projectOpOk_map (φ : NodeMap) (t : Term) : projectOpOk (φ.expr t) = projectOpOk t := by
  cases t with
  | app op args i m =>
    cases args with
    | nil => rfl
    | cons a rest =>
      rw [NodeMap.expr_app]
      cases a <;>
        simp only [NodeMap.expr, mapTerm, projectOpOk, List.length_cons, List.map_cons, List.length_map, List.head?_cons]
  | _ => rfl

theorem subset_nil (b : List String) : subset [] b = true := rfl

theorem PartArg.cols'_rename (f : String → String) (pa : PartArg) : (pa.rename f).cols' = pa.cols'.map f := by
  cases pa <;> rfl

theorem stepWindowed_map (φ : NodeMap) (ops : Assign) (pa : PartArg) (od : List String) :
    stepWindowed (φ.assign ops) (pa.rename φ.col) (od.map φ.col) = stepWindowed ops pa od := by
  cases pa <;> simp only [stepWindowed, PartArg.rename, impliesWindowed_map, List.isEmpty_map]

theorem extendChk_map (hc : Injective φ.col) (sc : List String) (ops : Assign) (pa : PartArg) (od rv : List String) :
    extendChk (sc.map φ.col) (φ.assign ops) (pa.rename φ.col) (od.map φ.col) (rv.map φ.col) = extendChk sc ops pa od rv := by
  have hw : ∀ b, (φ.assign ops).all (fun kv => windowOpOk (sc.map φ.col) b kv.2)
      = ops.all (fun kv => windowOpOk sc b kv.2) := fun b =>
    all_map' _ ops _ _ (fun x => windowOpOk_map hc sc b x.2)
  simp only [extendChk, PartArg.cols'_rename, stepWindowed_map, colsUsedOps_assign hc, subset_map hc, nodupB_map hc,
    NodeMap.assign_keys, ← List.map_append, disjoint_map hc, List.isEmpty_map, hw]

theorem mkExtend_map (hc : Injective φ.col) (src : Ops) (ops : Assign) (partition : PartArg) (order reverse : List String) :
    mkExtend (φ.ops src) (φ.assign ops) (partition.rename φ.col) (order.map φ.col) (reverse.map φ.col)
      = (mkExtend src ops partition order reverse).map φ.ops := by
  rw [mkExtend_eqC, mkExtend_eqC, cols_map hc, extendChk_map hc, PartArg.cols'_rename, stepWindowed_map]
  cases extendChk src.cols ops partition order reverse <;> rfl

theorem mkSelectCols_map (hc : Injective φ.col) (src : Ops) (cs : List String) :
    mkSelectCols (φ.ops src) (cs.map φ.col) = (mkSelectCols src cs).map φ.ops := by
  unfold mkSelectCols
  refine ok?_bind_ren _ (by rw [List.isEmpty_map]) _ ?_
  refine ok?_bind_ren _ (by rw [cols_map hc, subset_map hc]) _ ?_
  refine ok?_bind_ren _ (nodupB_map hc cs) _ ?_
  cases src <;> rfl

theorem pairs_fst (ρ : ColRen) (m : List (String × String)) :
    (m.map (fun kv => (ρ kv.1, ρ kv.2))).map (·.1) = (m.map (·.1)).map ρ := by
  simp only [List.map_map, Function.comp_def]

theorem pairs_snd (ρ : ColRen) (m : List (String × String)) :
    (m.map (fun kv => (ρ kv.1, ρ kv.2))).map (·.2) = (m.map (·.2)).map ρ := by
  simp only [List.map_map, Function.comp_def]

/-- the collision check of `rename_columns` / `map_columns` -/
theorem collisions_ren (hc : Injective ρc) (sc new orig : List String) :
    (((sc.map ρc).filter (fun c => !(inter (new.map ρc) (orig.map ρc)).contains c)).filter
        (fun c => (new.map ρc).contains c)).isEmpty
      = ((sc.filter (fun c => !(inter new orig).contains c)).filter (fun c => new.contains c)).isEmpty := by
  rw [inter_map hc, filter_not_contains hc, filter_contains hc, List.isEmpty_map]

theorem list_beq_map (hc : Injective ρc) (a b : List String) : (a.map ρc == b.map ρc) = (a == b) := by
  induction a generalizing b with
  | nil => cases b <;> rfl
  | cons x a ih =>
    cases b with
    | nil => rfl
    | cons y b =>
      simp only [List.map_cons]
      show (ρc x == ρc y && (a.map ρc == b.map ρc)) = (x == y && (a == b))
      rw [beq_inj hc, ih]

theorem tablesConsistent_ren (hc : Injective ρc) (ht : Injective ρt) (ta tb : List (String × List String)) :
    tablesConsistent (ta.map (fun kv => (ρt kv.1, kv.2.map ρc))) (tb.map (fun kv => (ρt kv.1, kv.2.map ρc)))
      = tablesConsistent ta tb := by
  unfold tablesConsistent
  apply all_map'
  intro x
  apply all_map'
  intro y
  simp only [bne_inj ht, list_beq_map hc]

theorem workColGroup_ren (hc : Injective ρc) (arg cols : List String) :
    workColGroup (arg.map ρc) (cols.map ρc) = workColGroup arg cols := by
  simp only [workColGroup, nodupB_map hc, subset_map hc]

theorem strip_map (p : Ops) : strip (φ.ops p) = φ.ops (strip p) := by
  induction p with
  | order src cs rv lim ih =>
    cases lim with
    | none => exact ih
    | some l => rfl
  | _ => rfl

theorem extendChecks_map (hc : Injective φ.col) (cols : List String) (ops : Assign) (partition : PartArg)
    (order reverse : List String) :
    extendChecks (cols.map φ.col) (φ.assign ops) (partition.rename φ.col) (order.map φ.col) (reverse.map φ.col)
      = extendChecks cols ops partition order reverse := by
  cases partition <;>
    simp only [extendChecks, PartArg.rename, workColGroup_ren hc, NodeMap.assign_keys, disjoint_map hc, subset_map hc,
      List.isEmpty_map]

theorem mergeCond_map (hc : Injective φ.col) (part1 order1 reverse1 : List String) (w : Bool) (ops : Assign)
    (partition : PartArg) (order reverse : List String) :
    mergeCond (part1.map φ.col) (order1.map φ.col) (reverse1.map φ.col) w (φ.assign ops) (partition.rename φ.col)
        (order.map φ.col) (reverse.map φ.col)
      = mergeCond part1 order1 reverse1 w ops partition order reverse := by
  cases partition <;>
    simp only [mergeCond, compatB, PartArg.rename, impliesWindowed_map, list_beq_map hc, List.isEmpty_map]

theorem extendTop_map (hc : Injective φ.col) (p : Ops) (ops : Assign) (partition : PartArg) (order reverse : List String) :
    extendTop (φ.ops p) (φ.assign ops) (partition.rename φ.col) (order.map φ.col) (reverse.map φ.col)
      = (extendTop p ops partition order reverse).map φ.ops := by
  have hnew := mkExtend_map hc p ops partition order reverse
  cases p with
  | extend src ops1 part1 order1 reverse1 w =>
    simp only [NodeMap.ops, extendTop_extend, mergeCond_map hc, tryMergeOps_map hc]
    split
    · cases tryMergeOps ops1 ops with
      | none => exact hnew
      | some newOps => exact mkExtend_map hc src newOps partition order reverse
    · exact hnew
  | _ => exact hnew

theorem renameCols_map (hc : Injective φ.col) (sc : List String) (m : List (String × String)) :
    renameCols (sc.map φ.col) (m.map (fun kv => (φ.col kv.1, φ.col kv.2))) = (renameCols sc m).map φ.col :=
  cols_map hc (.rename (.table "" sc) m)

theorem mapColsCols_map (hc : Injective φ.col) (sc : List String) (m : List (String × String)) (ds : List String) :
    mapColsCols (sc.map φ.col) (m.map (fun kv => (φ.col kv.1, φ.col kv.2))) (ds.map φ.col)
      = (mapColsCols sc m ds).map φ.col :=
  cols_map hc (.mapCols (.table "" sc) m ds)

theorem mapRemap_map (φ : NodeMap) (m : List (String × Option String)) :
    mapRemap (m.map (fun kv => (φ.col kv.1, kv.2.map φ.col))) = (mapRemap m).map (fun kv => (φ.col kv.1, φ.col kv.2)) := by
  induction m with
  | nil => rfl
  | cons a m ih =>
    obtain ⟨k, v⟩ := a
    cases v <;> simp only [mapRemap, List.map_cons, Option.map_none, Option.map_some, List.filterMap_cons] at ih ⊢ <;>
      rw [ih]

theorem mapDels_map (φ : NodeMap) (m : List (String × Option String)) :
    mapDels (m.map (fun kv => (φ.col kv.1, kv.2.map φ.col))) = (mapDels m).map φ.col := by
  rw [mapDels, mapDels, List.filter_map, List.map_map, List.map_map]
  exact congrArg (List.map _) (List.filter_congr (fun kv _ => Option.isNone_map))

theorem isNoop_bstep (φ : NodeMap) (s : Step) : (φ.bstep s).isNoop = s.isNoop := by
  cases s <;> simp only [NodeMap.bstep, Step.isNoop, NodeMap.assign_isEmpty, List.isEmpty_map, Option.isNone_map]

theorem rawChk_map (hc : Injective φ.col) (ht : Injective φ.tab) (p : Ops) (s : Step) :
    rawChk (φ.ops p).cols (φ.ops p).tables (φ.bstep s) = rawChk p.cols p.tables s := by
  rw [cols_map hc, tables_map]
  cases s with
  | extend ops pa od rv =>
    simp only [NodeMap.bstep, rawChk, parseChk_map hc, NodeMap.assign_isEmpty, extendChecks_map hc, extendChk_map hc]
  | project ops g =>
    have hw : (φ.assign ops).all (fun kv => projectOpOk kv.2) = ops.all (fun kv => projectOpOk kv.2) :=
      all_map' _ ops _ _ (fun x => projectOpOk_map φ x.2)
    simp only [NodeMap.bstep, rawChk, parseChk_map hc, projectChecks, projectChk, workColGroup_ren hc,
      NodeMap.assign_isEmpty, NodeMap.assign_keys, disjoint_map hc, List.isEmpty_map, colsUsedOps_assign hc,
      ← List.map_append, subset_map hc, nodupB_map hc, appendNew_map hc, hw]
  | selectRows e =>
    cases e with
    | none => rfl
    | some e => simp only [NodeMap.bstep, Option.map_some, rawChk, parseChk_single_eq, colsRaw_expr, subset_map hc]
  | selectCols cs => simp only [NodeMap.bstep, rawChk, selectChk, List.isEmpty_map, subset_map hc, nodupB_map hc]
  | dropCols cs =>
    simp only [NodeMap.bstep, rawChk, dropChk, List.isEmpty_map, subset_map hc, filter_not_contains hc]
  | order cs rv lim => simp only [NodeMap.bstep, rawChk, orderChk, List.isEmpty_map, subset_map hc]
  | rename m =>
    simp only [NodeMap.bstep, rawChk, renameChk, List.isEmpty_map, pairs_fst, pairs_snd, subset_map hc,
      collisions_ren hc, renameCols_map hc, nodupB_map hc]
  | mapCols m =>
    have h3 : (m.map (fun kv => (φ.col kv.1, kv.2.map φ.col))).map (·.1) = (m.map (·.1)).map φ.col := by
      rw [List.map_map, List.map_map]; rfl
    simp only [NodeMap.bstep, rawChk, mapColsChk, List.isEmpty_map, mapRemap_map, mapDels_map, h3, pairs_snd,
      subset_map hc, collisions_ren hc, mapColsCols_map hc, nodupB_map hc]
  | join b oa ob jt chk =>
    simp only [NodeMap.bstep, rawChk, joinChk, cols_map hc, tables_map, tablesConsistent_ren hc ht, List.length_map,
      subset_map hc, inter_map hc, filter_not_contains hc, List.isEmpty_map]
  | concat b idc an bn =>
    cases b with
    | none => rfl
    | some b =>
      cases idc <;> simp only [NodeMap.bstep, Option.map_some, Option.map_none, rawChk, concatChk, cols_map hc,
        tables_map, tablesConsistent_ren hc ht, subset_map hc, contains_map hc]
  | convert rm =>
    cases rm with
    | none => rfl
    | some rm =>
      simp only [NodeMap.bstep, Option.map_some, rawChk, convertChk, RecMap.rename, subset_map hc, List.isEmpty_map,
        nodupB_map hc]

theorem nodeOn_map (φ : NodeMap) (leaf : Ops) (s : Step) : (φ.bstep s).nodeOn (φ.ops leaf) = φ.ops (s.nodeOn leaf) := by
  cases s with
  | extend ops pa od rv =>
    simp only [NodeMap.bstep, Step.nodeOn, NodeMap.ops, PartArg.cols'_rename, stepWindowed_map]
  | selectRows e => cases e <;> rfl
  | selectCols cs => cases leaf <;> rfl
  | mapCols m => simp only [NodeMap.bstep, Step.nodeOn, NodeMap.ops, mapRemap_map, mapDels_map]
  | concat b idc an bn => cases b <;> rfl
  | convert rm => cases rm <;> rfl
  | _ => rfl

theorem buildRaw_map (hc : Injective φ.col) (ht : Injective φ.tab) (p : Ops) (s : Step) :
    buildRaw (φ.ops p) (φ.bstep s) = (buildRaw p s).map φ.ops := by
  rw [buildRaw_eq, buildRaw_eq, rawChk_map hc ht, rawNodeOf, rawNodeOf, isNoop_bstep, nodeOn_map]
  cases rawChk p.cols p.tables s with
  | error e => rfl
  | ok _ => exact congrArg Except.ok (apply_ite φ.ops _ _ _).symm

theorem extendParsed_map (hc : Injective φ.col) (p : Ops) (ops : Assign) (partition : PartArg) (order reverse : List String) :
    extendParsed (φ.ops p) (φ.assign ops) (partition.rename φ.col) (order.map φ.col) (reverse.map φ.col)
      = (extendParsed p ops partition order reverse).map φ.ops := by
  cases hne : ops.isEmpty
  · rw [extendParsed_strip _ _ _ _ _ ((NodeMap.assign_isEmpty φ ops).trans hne), extendParsed_strip _ _ _ _ _ hne,
      extendPre_eq, extendPre_eq, strip_map, cols_map hc, extendChecks_map hc, extendTop_map hc]
    cases extendChecks p.cols ops partition order reverse <;> rfl
  · rw [List.isEmpty_iff.mp hne]
    exact (extendParsed_nil _ _ _ _).trans (congrArg (Except.map _) (extendParsed_nil p partition order reverse)).symm

theorem selectColsB_map (hc : Injective φ.col) (p : Ops) (cs : List String) :
    selectColsB (φ.ops p) (cs.map φ.col) = (selectColsB p cs).map φ.ops := by
  induction p with
  | order src cs' rv lim ih =>
    cases lim with
    | none => simpa only [NodeMap.ops, selectColsB] using ih
    | some l => exact mkSelectCols_map hc (.order src cs' rv (some l)) cs
  | selectCols src cs0 ih => exact ok?_bind_ren _ (subset_map hc cs cs0) _ ih
  | dropCols src dels ih =>
    exact ok?_bind_ren _ ((congrArg _ (cols_map hc (.dropCols src dels))).trans (subset_map hc cs _)) _ ih
  | _ => exact mkSelectCols_map hc _ cs

theorem build_map (hc : Injective φ.col) (ht : Injective φ.tab) (p : Ops) (s : Step) :
    build (φ.ops p) (φ.bstep s) = (build p s).map φ.ops := by
  cases hn : s.isNoop
  · cases s with
    | extend ops partition order reverse =>
      simp only [NodeMap.bstep, build, cols_map hc, parseAssignments_map hc]
      cases parseAssignments p.cols ops with
      | error e => rfl
      | ok parsed => exact extendParsed_map hc p parsed partition order reverse
    | selectCols cs => exact ok?_bind_ren _ (by rw [List.isEmpty_map]) _ (selectColsB_map hc p cs)
    | _ =>
      rw [build_direct ((isNoop_bstep φ _).trans hn) trivial, build_direct hn trivial, strip_map]
      exact buildRaw_map hc ht _ _
  · rw [build_noop ((isNoop_bstep φ s).trans hn), build_noop hn]
    rfl

theorem buildChain_map (hc : Injective φ.col) (ht : Injective φ.tab) (p : Ops) (steps : List Step) :
    buildChain (φ.ops p) (steps.map φ.bstep) = (buildChain p steps).map φ.ops :=
  foldlM_map φ.ops φ.bstep build build (build_map hc ht) steps p

theorem build_ren (hc : Injective ρc) (ht : Injective ρt) (p : Ops) (s : Step) :
    build (p.ren ρc ρt) (s.ren ρc ρt) = (build p s).map (Ops.ren ρc ρt) := by
  rw [← renMap_ops, ← renMap_bstep]
  exact build_map (φ := renMap ρc ρt) hc ht p s

theorem buildChain_ren (hc : Injective ρc) (ht : Injective ρt) (p : Ops) (steps : List Step) :
    buildChain (p.ren ρc ρt) (steps.map (Step.ren ρc ρt)) = (buildChain p steps).map (Ops.ren ρc ρt) := by
  rw [← renMap_ops, ← renMap_bstep]
  exact buildChain_map (φ := renMap ρc ρt) hc ht p steps

end Ren
end DAVerif
