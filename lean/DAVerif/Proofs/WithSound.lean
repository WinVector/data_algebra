import DAVerif.Proofs.WithForm
/-!
The simulation argument of C04 (`toWithFormG_sound`): the steps `toWithFormG key` emits, evaluated in order, extend the
CTE context by tables that the later CTE references find, so the last step evaluates to the nested query.  The invariant
`Inv` relates the cache to the CTE context: every cache entry names an evaluated CTE that denotes the sub-queries with
its key.  It needs only the semantic faithfulness of the key function (`KeyFaith`): the cache is consulted before the
sub-query is converted, a hit visits nothing below the node, so every cache entry belongs to an emitted step.
-/
namespace DAVerif.Sql
open DAVerif

def Near.sz : Near → Nat
  | .table .. | .cte .. => 1
  | .unary _ _ _ s .. => s.sz + 1
  | .join _ _ l _ _ r .. => l.sz + r.sz + 1
  | .union _ _ l r .. => l.sz + r.sz + 1

theorem mem_bdesc {n : Near} {c : Option (List String)} {f : Bool} {x : Bound} (h : x ∈ bdesc n c f) :
    (x = (n, c, f) ∧ ¬ n.isTable = true) ∨ x ∈ n.desc := by
  by_cases ht : n.isTable = true
  · rw [bdesc_of_isTable _ _ ht] at h; cases h
  · rw [bdesc_of_not_isTable _ _ ht] at h
    exact (List.mem_cons.mp h).imp_left fun h => ⟨h, ht⟩

inductive Near.Child : Near → Bound → Prop
  | unary {name terms agg sub sc sf mg deps k} : Near.Child (.unary name terms agg sub sc sf mg deps k) (sub, sc, false)
  | joinL {name terms l lc ln r rc rn jt oa ob k} :
    Near.Child (.join name terms l lc ln r rc rn jt oa ob k) (l, some lc, false)
  | joinR {name terms l lc ln r rc rn jt oa ob k} :
    Near.Child (.join name terms l lc ln r rc rn jt oa ob k) (r, some rc, false)
  | unionL {name terms l r cs k} : Near.Child (.union name terms l r cs k) (l, some cs, true)
  | unionR {name terms l r cs k} : Near.Child (.union name terms l r cs k) (r, some cs, true)

theorem Near.Child.sz {n : Near} {b : Bound} (h : n.Child b) : b.1.sz < n.sz := by
  cases h <;> simp only [Near.sz] <;> omega

theorem Near.Child.desc_sub {n : Near} {b : Bound} (h : n.Child b) : ∀ x ∈ bdesc b.1 b.2.1 b.2.2, x ∈ n.desc := by
  intro x hx
  cases h
  · exact hx
  · exact List.mem_append_left _ hx
  · exact List.mem_append_right _ hx
  · exact List.mem_append_left _ hx
  · exact List.mem_append_right _ hx

/-- **induction along `x ∈ n.desc`**: `x` is a bound sub-query of `n` that is not table-like, or lies below one -/
theorem desc_rec {P : Near → Bound → Prop} (here : ∀ {n b}, Near.Child n b → ¬ b.1.isTable = true → P n b)
    (below : ∀ {n b x}, Near.Child n b → x ∈ b.1.desc → P b.1 x → P n x) : ∀ n x, x ∈ n.desc → P n x := by
  have step : ∀ {n b x}, Near.Child n b → (∀ y ∈ b.1.desc, P b.1 y) → x ∈ bdesc b.1 b.2.1 b.2.2 → P n x := by
    intro n b x hc ih hx
    rcases mem_bdesc hx with ⟨rfl, ht⟩ | h
    · exact here hc ht
    · exact below hc h (ih x h)
  intro n
  induction n with
  | table => intro x hx; cases hx
  | cte => intro x hx; cases hx
  | unary name terms agg sub sc sf mg deps k ih => exact fun x hx => step .unary ih hx
  | join name terms l lc ln r rc rn jt oa ob k ihl ihr =>
    exact fun x hx => (List.mem_append.mp hx).elim (step .joinL ihl) (step .joinR ihr)
  | union name terms l r cs k ihl ihr =>
    exact fun x hx => (List.mem_append.mp hx).elim (step .unionL ihl) (step .unionR ihr)

theorem desc_sz (n : Near) : ∀ x ∈ n.desc, x.1.sz < n.sz :=
  desc_rec (P := fun n x => x.1.sz < n.sz) (fun hc _ => hc.sz) (fun hc _ h => Nat.lt_trans h hc.sz) n

theorem desc_not_isTable (q : Near) : ∀ x ∈ q.desc, ¬ x.1.isTable = true :=
  desc_rec (P := fun _ x => ¬ x.1.isTable = true) (fun _ ht => ht) (fun _ _ h => h) q

theorem desc_trans (n : Near) : ∀ x ∈ n.desc, ∀ m ∈ x.1.desc, m ∈ n.desc :=
  desc_rec (P := fun n x => ∀ m ∈ x.1.desc, m ∈ n.desc)
    (fun hc _ m hm => hc.desc_sub m (List.mem_append_right _ hm))
    (fun hc _ ih m hm => hc.desc_sub m (List.mem_append_right _ (ih m hm))) n

section Sound
variable (Θ : Interp) (ec : EngineCfg) (env : Env) (key : KeyFn) (q : Near)

/-- denotation of a bound sub-query of a CTE-free tree -/
def den (x : Bound) : Except Err Table := semNear Θ ec env [] x.1 x.2.1 x.2.2

/-- what the soundness of CTE elimination needs of the key function on the query `q`:
* `faith`: bound sub-queries with equal keys denote the same table;
* `closed`: if two bound sub-queries have equal keys, every key occurring below the first also occurs below the
  second (true when equal keys mean "same sub-tree up to the numbering of query names"). -/
structure KeyOK : Prop where
  faith : ∀ x ∈ q.desc, ∀ y ∈ q.desc, bkey key x = bkey key y → den Θ ec env x = den Θ ec env y
  closed : ∀ x ∈ q.desc, ∀ y ∈ q.desc, bkey key x = bkey key y →
    ∀ m ∈ x.1.desc, ∃ m0 ∈ y.1.desc, bkey key m0 = bkey key m

/-- bound sub-queries with equal keys denote the same table -/
def KeyFaith : Prop :=
  ∀ x ∈ q.desc, ∀ y ∈ q.desc, bkey key x = bkey key y → den Θ ec env x = den Θ ec env y

/-- every entry of the cache names an evaluated CTE that denotes the sub-queries of `q` with its key.  `KeyFaith` does
not depend on `ctes` or the cache; it sits inside the `some` case so that without a cache (`none`) the invariant, and
with it `toWithFormG_sound`, asks nothing of the key function. -/
def Inv (ctes : List (String × Table)) : Option Cache → Prop
  | none => True
  | some c => KeyFaith Θ ec env key q ∧
      ∀ e ∈ c, ∃ t, lookupLast ctes e.2 = some t ∧ ∀ x ∈ q.desc, bkey key x = e.1 → den Θ ec env x = .ok t

/-- outcome of `to_with_form` on `near`, started with the CTE context `ctes` and the cache `cache` -/
def TWPost (ctes : List (String × Table)) (cache : Option Cache) (near : Near) : Prop :=
  (∃ extra, runSteps Θ ec env ctes (toWithFormG key cache near).2.1 = .ok (ctes ++ extra) ∧
      (∀ e ∈ extra, e.1 ∈ near.names.tail) ∧
      Inv Θ ec env key q (ctes ++ extra) (toWithFormG key cache near).2.2 ∧
      ∀ c f, semNear Θ ec env (ctes ++ extra) (toWithFormG key cache near).1 c f = semNear Θ ec env [] near c f)
  ∨ (runSteps Θ ec env ctes (toWithFormG key cache near).2.1 = .error .other ∧
      ∀ c f, semNear Θ ec env [] near c f = .error .other)

/-- outcome of `to_with_form_stub` on the container `(near, cols, force)` -/
def STPost (ctes : List (String × Table)) (cache : Option Cache) (near : Near) (cols : Option (List String))
    (force : Bool) : Prop :=
  (∃ extra, runSteps Θ ec env ctes (stubG key cache near cols force).2.1 = .ok (ctes ++ extra) ∧
      (∀ e ∈ extra, e.1 ∈ near.names) ∧
      Inv Θ ec env key q (ctes ++ extra) (stubG key cache near cols force).2.2 ∧
      ∀ more : List (String × Table), (∀ e ∈ more, e.1 ∉ (ctes ++ extra).map (·.1)) →
        semNear Θ ec env (ctes ++ extra ++ more) (stubG key cache near cols force).1 cols force
          = semNear Θ ec env [] near cols force)
  ∨ (runSteps Θ ec env ctes (stubG key cache near cols force).2.1 = .error .other ∧
      semNear Θ ec env [] near cols force = .error .other)

variable {Θ ec env key q}

/-- a CTE reference finds its entry among later entries with other names -/
theorem semNear_cte_append {ctes more : List (String × Table)} {nm : String} {t : Table}
    (hlk : lookupLast ctes nm = some t) (hmore : ∀ e ∈ more, e.1 ∉ ctes.map (·.1)) (cols : Option (List String))
    (f : Bool) : semNear Θ ec env (ctes ++ more) (.cte nm) cols f = .ok t := by
  have hnm : nm ∉ more.map (·.1) := by
    intro hmem
    obtain ⟨e, he, hee⟩ := List.mem_map.mp hmem
    exact hmore e he (hee ▸ lookupLast_some_fst_mem _ _ _ hlk)
  rw [semNear_cte, lookupLast_append_of_notMem _ _ _ hnm, hlk]

/-- on a hit the named CTE has been evaluated and denotes the container -/
theorem Inv.hit {ctes : List (String × Table)} {cache : Option Cache} (h : Inv Θ ec env key q ctes cache) {x : Bound}
    (hx : x ∈ q.desc) {nm : String} (hl : (cache.bind fun c => lookupLast c (bkey key x)) = some nm) :
    ∃ t, lookupLast ctes nm = some t ∧ den Θ ec env x = .ok t := by
  cases cache with
  | none => cases hl
  | some c =>
    obtain ⟨t, hlk, hden⟩ := h.2 _ (lookupLast_mem hl)
    exact ⟨t, hlk, hden x hx rfl⟩

/-- on a miss the container is evaluated under its own, unused name and registered -/
theorem Inv.register {ctes : List (String × Table)} {cache : Option Cache} (h : Inv Θ ec env key q ctes cache) {x : Bound}
    (hx : x ∈ q.desc) {nm : String} (hfresh : nm ∉ ctes.map (·.1)) {t : Table} (hd : den Θ ec env x = .ok t) :
    Inv Θ ec env key q (ctes ++ [(nm, t)]) (cache.map fun c => c ++ [(bkey key x, nm)]) := by
  cases cache with
  | none => trivial
  | some c =>
    refine ⟨h.1, fun e he => ?_⟩
    rcases List.mem_append.mp he with h' | h'
    · obtain ⟨t', hlk, hden⟩ := h.2 e h'
      refine ⟨t', ?_, hden⟩
      rw [lookupLast_append_of_notMem _ _ _ ?_]
      · exact hlk
      · rw [List.map_cons, List.map_nil, List.mem_singleton]
        exact fun he2 => hfresh ((show e.2 = nm from he2) ▸ lookupLast_some_fst_mem _ _ _ hlk)
    · rw [List.mem_singleton.mp h']
      exact ⟨t, lookupLast_append_single _ _ _, fun y hy hye => (h.1 y hy x hx hye).trans hd⟩

/-- `to_with_form_stub` from `to_with_form` on the same node -/
theorem stub_sem (ctes : List (String × Table)) (cache : Option Cache) (near : Near)
    (cols : Option (List String)) (force : Bool)
    (hb : ∀ x ∈ bdesc near cols force, x ∈ q.desc) (hnc : near.noCte = true) (hnd : near.names.Nodup)
    (hdis : ∀ n ∈ near.names, n ∉ ctes.map (·.1)) (hinv : Inv Θ ec env key q ctes cache)
    (htw : TWPost Θ ec env key q ctes cache near) :
    STPost Θ ec env key q ctes cache near cols force := by
  unfold STPost stubG
  by_cases ht : near.isTable = true
  · rw [stubStep_isTable key _ cols force _ ht, toWithFormG_isTable key _ ht]
    refine Or.inl ⟨[], by rw [List.append_nil]; rfl, (fun _ h => nomatch h), by rwa [List.append_nil], fun more _ => ?_⟩
    cases near with
    | table n ts => exact semNear_table_ctes Θ ec env _ _ n ts cols force
    | cte n => cases hnc
    | _ => cases ht
  · have hx : (near, cols, force) ∈ q.desc := hb _ (by rw [bdesc_of_not_isTable _ _ ht]; exact List.mem_cons_self)
    have hn := Near.names_of_not_isTable ht
    cases hl : (cache.bind fun c => lookupLast c (key near cols)) with
    | some nm =>
      -- a hit: the step is replaced by a reference to a CTE evaluated before
      obtain ⟨t, hlk, hden⟩ := hinv.hit hx hl
      rw [stubStep_hit key _ cols force _ ht hl]
      refine Or.inl ⟨[], by rw [List.append_nil]; rfl, (fun _ h => nomatch h), by rwa [List.append_nil], fun more hmore => ?_⟩
      rw [List.append_nil] at hmore ⊢
      rw [semNear_cte_append hlk hmore]
      exact hden.symm
    | none =>
      rw [stubStep_miss key _ cols force _ ht hl, toWithFormG_name,
        any_name_false ht hnd (toWithFormG_names key near hnd cache)]
      simp only [Bool.false_eq_true, if_false]
      cases htw with
      | inr herr =>
        refine Or.inr ⟨?_, herr.2 cols force⟩
        rw [runSteps_append, herr.1]; rfl
      | inl hok =>
        obtain ⟨extra1, hrun, hnames, hinv1, hsem⟩ := hok
        cases hd : semNear Θ ec env [] near cols force with
        | error e =>
          cases semNear_err Θ ec env [] near _ _ _ hd
          refine Or.inr ⟨?_, rfl⟩
          rw [runSteps_append, hrun]
          simp only [bind, Except.bind, runSteps_single, hsem, hd]
        | ok t =>
          have hfresh : near.name ∉ (ctes ++ extra1).map (·.1) := by
            rw [List.map_append, List.mem_append, not_or]
            refine ⟨hdis _ (hn ▸ List.mem_cons_self), fun hmem => ?_⟩
            obtain ⟨e, he, hee⟩ := List.mem_map.mp hmem
            exact Near.name_notMem_tail ht hnd (hee ▸ hnames e he)
          refine Or.inl ⟨extra1 ++ [(near.name, t)], ?_, ?_, ?_, fun more hmore => ?_⟩
          · rw [runSteps_append, hrun]
            simp only [bind, Except.bind, runSteps_single, hsem, hd, pure, Except.pure, List.append_assoc]
          · intro e he
            rw [hn]
            rcases List.mem_append.mp he with h | h
            · exact List.mem_cons_of_mem _ (hnames e h)
            · rw [List.mem_singleton.mp h]; exact List.mem_cons_self
          · rw [← List.append_assoc]
            exact hinv1.register hx hfresh hd
          · rw [← List.append_assoc] at hmore ⊢
            exact semNear_cte_append (lookupLast_append_single _ _ _) hmore cols force

/-- two containers processed one after the other (the two sides of a binary step) -/
theorem pair_sem (ctes : List (String × Table)) (cache : Option Cache) (l r : Near)
    (lc rc : Option (List String)) (fl fr : Bool)
    (hbl : ∀ x ∈ bdesc l lc fl, x ∈ q.desc) (hbr : ∀ x ∈ bdesc r rc fr, x ∈ q.desc)
    (hncl : l.noCte = true) (hncr : r.noCte = true) (hnd : (l.names ++ r.names).Nodup)
    (hdis : ∀ n ∈ l.names ++ r.names, n ∉ ctes.map (·.1)) (hinv : Inv Θ ec env key q ctes cache)
    (ihl : ∀ ctes cache, (∀ n ∈ l.names, n ∉ ctes.map (·.1)) → Inv Θ ec env key q ctes cache → TWPost Θ ec env key q ctes cache l)
    (ihr : ∀ ctes cache, (∀ n ∈ r.names, n ∉ ctes.map (·.1)) → Inv Θ ec env key q ctes cache → TWPost Θ ec env key q ctes cache r) :
    (∃ extra, runSteps Θ ec env ctes (appendUnseen (stubG key cache l lc fl).2.1
          (stubG key (stubG key cache l lc fl).2.2 r rc fr).2.1) = .ok (ctes ++ extra) ∧
        (∀ e ∈ extra, e.1 ∈ l.names ++ r.names) ∧
        Inv Θ ec env key q (ctes ++ extra) (stubG key (stubG key cache l lc fl).2.2 r rc fr).2.2 ∧
        semNear Θ ec env (ctes ++ extra) (stubG key cache l lc fl).1 lc fl = semNear Θ ec env [] l lc fl ∧
        semNear Θ ec env (ctes ++ extra) (stubG key (stubG key cache l lc fl).2.2 r rc fr).1 rc fr
          = semNear Θ ec env [] r rc fr)
    ∨ (runSteps Θ ec env ctes (appendUnseen (stubG key cache l lc fl).2.1
          (stubG key (stubG key cache l lc fl).2.2 r rc fr).2.1) = .error .other ∧
        (semNear Θ ec env [] l lc fl = .error .other ∨ semNear Θ ec env [] r rc fr = .error .other)) := by
  have hndl := (List.nodup_append.mp hnd).1
  have hndr := (List.nodup_append.mp hnd).2.1
  have hlr := (List.nodup_append.mp hnd).2.2
  have hdisl : ∀ n ∈ l.names, n ∉ ctes.map (·.1) := fun n hn => hdis n (List.mem_append_left _ hn)
  rw [(pair_names hnd (stubG_names key hndl cache lc fl) (stubG_names key hndr _ rc fr)).1]
  cases stub_sem ctes cache l lc fl hbl hncl hndl hdisl hinv (ihl ctes cache hdisl hinv) with
  | inr herr =>
    refine Or.inr ⟨?_, Or.inl herr.2⟩
    rw [runSteps_append, herr.1]; rfl
  | inl hok =>
    obtain ⟨extra1, hrun1, hnames1, hinv1, hsem1⟩ := hok
    have hdisr : ∀ n ∈ r.names, n ∉ (ctes ++ extra1).map (·.1) := by
      intro n hn
      rw [List.map_append, List.mem_append, not_or]
      refine ⟨hdis n (List.mem_append_right _ hn), fun hmem => ?_⟩
      obtain ⟨e, he, hee⟩ := List.mem_map.mp hmem
      exact hlr _ (hnames1 e he) n hn hee
    cases stub_sem (ctes ++ extra1) _ r rc fr hbr hncr hndr hdisr hinv1 (ihr (ctes ++ extra1) _ hdisr hinv1) with
    | inr herr =>
      refine Or.inr ⟨?_, Or.inr herr.2⟩
      rw [runSteps_append, hrun1]
      exact herr.1
    | inl hok2 =>
      obtain ⟨extra2, hrun2, hnames2, hinv2, hsem2⟩ := hok2
      refine Or.inl ⟨extra1 ++ extra2, ?_, ?_, ?_, ?_, ?_⟩
      · rw [runSteps_append, hrun1, ← List.append_assoc]
        exact hrun2
      · intro e he
        exact List.mem_append.mpr ((List.mem_append.mp he).imp (hnames1 e) (hnames2 e))
      · rw [← List.append_assoc]; exact hinv2
      · rw [← List.append_assoc]
        exact hsem1 extra2 (fun e he => hdisr _ (hnames2 e he))
      · have := hsem2 [] (fun _ h => nomatch h)
        rwa [List.append_nil, List.append_assoc] at this

/-- **simulation**: `to_with_form` on a sub-tree of `q` -/
theorem tw_sem (near : Near) :
    (∀ x ∈ near.desc, x ∈ q.desc) → near.noCte = true → near.names.Nodup →
    ∀ ctes cache, (∀ n ∈ near.names, n ∉ ctes.map (·.1)) → Inv Θ ec env key q ctes cache →
      TWPost Θ ec env key q ctes cache near := by
  induction near with
  | table n ts =>
    intro _ _ _ ctes cache _ hinv
    exact Or.inl ⟨[], by rw [List.append_nil]; rfl, (fun _ h => nomatch h), by rw [List.append_nil]; exact hinv,
      fun c f => semNear_table_ctes Θ ec env _ _ n ts c f⟩
  | cte n => intro _ h; cases h
  | unary name terms agg sub sc sf mg deps k ih =>
    intro hsub hnc hnd ctes cache hdis hinv
    have hnd' := (List.nodup_cons.mp hnd).2
    have hdis' : ∀ n ∈ sub.names, n ∉ ctes.map (·.1) := fun n hn => hdis n (List.mem_cons_of_mem _ hn)
    have ST := stub_sem ctes cache sub sc false hsub hnc hnd' hdis' hinv
      (ih (fun x hx => hsub x (List.mem_append_right _ hx)) hnc hnd' ctes cache hdis' hinv)
    unfold TWPost
    rw [toWithFormG_unary]
    cases ST with
    | inr herr => exact Or.inr ⟨herr.1, fun c f => semNear_unary_err Θ ec env _ _ _ _ _ _ _ _ _ _ _ _ herr.2⟩
    | inl hok =>
      obtain ⟨extra, hrun, hnames, hinv', hsem⟩ := hok
      refine Or.inl ⟨extra, hrun, hnames, hinv', fun c f => ?_⟩
      refine semNear_unary_congr Θ ec ?_
      have := hsem [] (fun _ h => nomatch h)
      rwa [List.append_nil] at this
  | join name terms l lc ln r rc rn jt oa ob k ihl ihr =>
    intro hsub hnc hnd ctes cache hdis hinv
    have hnd' := (List.nodup_cons.mp hnd).2
    simp only [Near.noCte, Bool.and_eq_true] at hnc
    rw [desc_join] at hsub
    have hbl : ∀ x ∈ bdesc l (some lc) false, x ∈ q.desc := fun x hx => hsub x (List.mem_append_left _ hx)
    have hbr : ∀ x ∈ bdesc r (some rc) false, x ∈ q.desc := fun x hx => hsub x (List.mem_append_right _ hx)
    have P := pair_sem ctes cache l r (some lc) (some rc) false false hbl hbr hnc.1 hnc.2 hnd'
      (fun n hn => hdis n (List.mem_cons_of_mem _ hn)) hinv
      (ihl (fun x hx => hbl x (List.mem_append_right _ hx)) hnc.1 (List.nodup_append.mp hnd').1)
      (ihr (fun x hx => hbr x (List.mem_append_right _ hx)) hnc.2 (List.nodup_append.mp hnd').2.1)
    unfold TWPost
    rw [toWithFormG_join]
    cases P with
    | inr herr => exact Or.inr ⟨herr.1, fun c f => semNear_join_err Θ ec env _ _ _ _ _ _ _ _ _ _ _ _ _ _ _ herr.2⟩
    | inl hok =>
      obtain ⟨extra, hrun, hnames, hinv', hs1, hs2⟩ := hok
      exact Or.inl ⟨extra, hrun, hnames, hinv',
        fun c f => semNear_join_congr Θ ec hs1 hs2⟩
  | union name terms l r cs k ihl ihr =>
    intro hsub hnc hnd ctes cache hdis hinv
    have hnd' := (List.nodup_cons.mp hnd).2
    simp only [Near.noCte, Bool.and_eq_true] at hnc
    rw [desc_union] at hsub
    have hbl : ∀ x ∈ bdesc l (some cs) true, x ∈ q.desc := fun x hx => hsub x (List.mem_append_left _ hx)
    have hbr : ∀ x ∈ bdesc r (some cs) true, x ∈ q.desc := fun x hx => hsub x (List.mem_append_right _ hx)
    have P := pair_sem ctes cache l r (some cs) (some cs) true true hbl hbr hnc.1 hnc.2 hnd'
      (fun n hn => hdis n (List.mem_cons_of_mem _ hn)) hinv
      (ihl (fun x hx => hbl x (List.mem_append_right _ hx)) hnc.1 (List.nodup_append.mp hnd').1)
      (ihr (fun x hx => hbr x (List.mem_append_right _ hx)) hnc.2 (List.nodup_append.mp hnd').2.1)
    unfold TWPost
    rw [toWithFormG_union]
    cases P with
    | inr herr => exact Or.inr ⟨herr.1, fun c f => semNear_union_err Θ ec env _ _ _ _ _ _ _ _ _ herr.2⟩
    | inl hok =>
      obtain ⟨extra, hrun, hnames, hinv', hs1, hs2⟩ := hok
      exact Or.inl ⟨extra, hrun, hnames, hinv',
        fun c f => semNear_union_congr Θ ec hs1 hs2⟩

variable (Θ ec env key q)

/-- **soundness of the WITH form**: semantic faithfulness of the key function suffices (nothing without a cache) -/
theorem toWithFormG_sound (cache : Option Cache) (hc : cache = none ∨ (cache = some [] ∧ KeyFaith Θ ec env key q))
    (hnc : q.noCte = true) (hnd : q.names.Nodup) :
    semWith Θ ec env (toWithFormG key cache q).2.1 (toWithFormG key cache q).1 = semSql Θ ec env q := by
  have h0 : Inv Θ ec env key q [] cache := by
    rcases hc with rfl | ⟨rfl, h2⟩
    · trivial
    · exact ⟨h2, fun _ h => nomatch h⟩
  rw [semWith_eq]
  unfold semSql
  cases tw_sem q (fun _ h => h) hnc hnd [] cache (fun _ _ h => nomatch h) h0 with
  | inr herr => rw [herr.1, herr.2]; rfl
  | inl hok =>
    obtain ⟨extra, hrun, -, -, hsem⟩ := hok
    rw [hrun]
    exact hsem none true

end Sound
end DAVerif.Sql
