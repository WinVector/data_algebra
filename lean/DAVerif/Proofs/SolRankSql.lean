import DAVerif.Proofs.SqlReach
import DAVerif.Proofs.SolRank
import DAVerif.Props.C04merge
import DAVerif.Solutions.ReplicateInterp
/-!
C21, SQL side of `rank_to_average`: `RankSem` for the SQLite-side interpretations, the hypotheses of the translation
theorem (`Props/C04merge.lean`) for the tree the helper builds, and `rankSpec_congr`: the specification reads the
comparison on the rows of the table only, so on null-free order keys the engine's comparison and the Pandas comparison
name the same table.  `Proofs/SolLocfSql.lean` takes the `nullFreeOn_…` lemmas from here.
-/
namespace DAVerif
namespace Sol21Sql
open DAVerif.Sql DAVerif.Sol DAVerif.Solutions DAVerif.Spec21

theorem RankSem.of_win_eq {Θ Θ' : Interp} (h : RankSem Θ) (hw : Θ'.win = Θ.win) : RankSem Θ' where
  rowNumber := by rw [hw]; exact h.rowNumber
  cumsumOnes := by rw [hw]; exact h.cumsumOnes
  mean := by rw [hw]; exact h.mean

theorem rankSem_sql : RankSem ThetaSql.concrete where
  rowNumber := fun cargs vs pos => by
    simp [ThetaSql.concrete, ThetaSql.win, Theta.win, Rat.natCast_add]
  cumsumOnes := fun m pos h =>
    (RefSem.runFold_eq_cumulate _ _ _ (by rw [getD_eq _ (by simpa using h), List.getElem_replicate]; rfl)).trans
      (cumulate_ones m pos h)
  mean := fun cargs vs pos => by
    simp [ThetaSql.concrete, ThetaSql.win, ThetaSql.agg, Theta.agg]

theorem rankSem_sqlSol : RankSem thetaSqlSol := rankSem_sql.of_win_eq rfl

theorem rank_frag (name : String) (cols ob part : List String) (rk tb : String) :
    InFrag (rankTree (.table name cols) ob part rk tb) = true := rfl

theorem rank_maps (name : String) (cols ob part : List String) (rk tb : String) :
    MapsOK (rankTree (.table name cols) ob part rk tb) := rfl

theorem rank_envOK {env : Env} {name : String} {cols : List String} {t0 : Table} (ob part : List String)
    (rk tb : String) (henv : env.lookup name = some t0) (hsub : subset cols t0.cols = true) :
    EnvOK false env (rankTree (.table name cols) ob part rk tb) := by
  intro nc hnc
  have : nc = (name, cols) := by simpa [rankTree, Ops.tables] using hnc
  subst this
  exact ⟨t0, henv, subset_iff.mp hsub, fun h => by cases h⟩

theorem rank_reachable {name : String} {cols orderBy : List String} {partitionBy : Option (List String)}
    {rankCol tbCol : String} {p : Ops}
    (h : rankToAverage (.table name cols) orderBy partitionBy rankCol tbCol = .ok p) : Reachable p := by
  obtain ⟨_, hok⟩ := rankToAverage_ok (plain_table ..) (by intro _ _ _ _ _ _ e; cases e) h
  have hne : cols ≠ [] := by
    intro e
    cases hob : orderBy with
    | nil => exact hok.order_ne hob
    | cons a l =>
      have := hok.order_sub a (by rw [hob]; exact List.mem_cons_self)
      simp only [Ops.cols] at this
      rw [e] at this
      cases this
  simp only [rankToAverage, bind_eq_ok] at h
  obtain ⟨_, _, h⟩ := h
  exact Reachable.buildChain (Reachable.table name cols hne hok.nodup)
    (by intro s hs b hb; simp only [rankToAverageSteps, List.mem_cons, List.not_mem_nil, or_false] at hs
        rcases hs with rfl | rfl | rfl | rfl <;> cases hb) h

theorem nullFreeOn_append {a b : List String} {rows : List Row} (ha : NullFreeOn a rows) (hb : NullFreeOn b rows) :
    NullFreeOn (a ++ b) rows :=
  fun r hr c hc => (List.mem_append.mp hc).elim (ha r hr c) (hb r hr c)

theorem nullFreeOn_selectCols {cs cols : List String} {t0 : Table} (hcs : ∀ c ∈ cs, c ∈ cols)
    (h : NullFreeOn cs t0.rows) : NullFreeOn cs (t0.selectCols cols).rows := by
  intro r hr c hc
  simp only [Table.selectCols, List.mem_map] at hr
  obtain ⟨r0, hr0, rfl⟩ := hr
  rw [Row.select_get_of_mem (hcs c hc)]
  exact h r0 hr0 c hc

theorem rankSpec_congr {le le' : Row → Row → Bool} (part : List String) (rk : String) (t : Table)
    (h : ∀ a ∈ t.rows, ∀ b ∈ t.rows, le a b = le' a b) : rankSpec le part rk t = rankSpec le' part rk t := by
  refine congrArg (Table.mk _) (List.map_congr_left fun r hr => ?_)
  have hl : lessCount le part t.rows r = lessCount le' part t.rows r :=
    List.countP_congr fun s hs => by
      have hs' := (List.mem_filter.mp hs).1
      simp only [strictlyBefore, h s hs' r hr, h r hr s hs']
  have ht : tieCount le part t.rows r = tieCount le' part t.rows r :=
    List.countP_congr fun s hs => by
      have hs' := (List.mem_filter.mp hs).1
      simp only [tiesWith, h s hs' r hr, h r hr s hs']
  simp only [tieGroupMeanRank, hl, ht]

end Sol21Sql
end DAVerif
