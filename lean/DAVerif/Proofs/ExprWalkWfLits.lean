import DAVerif.Proofs.ExprWalkWfBuild
import DAVerif.Proofs.ExprPrint
/-!
C13: the constants and the list and dictionary literals the walker builds are well-formed; every string's `repr` reads
back as the string (`decodeStr_repr`).
-/
namespace DAVerif.C13W
open DAVerif DAVerif.Expr

theorem dsb_raw (q c x : Char) (xs : List Char) (h1 : c ≠ '\\') : decodeStrBody q (c :: x :: xs) =
    if c == q then none else (decodeStrBody q (x :: xs)).map (c :: ·) := by
  rw [decodeStrBody]
  · intro h; cases h
  · intro e cs h
    exact absurd h h1

theorem body_ne (q : Char) (cs : List Char) : ∃ x xs, pyReprStrBody q cs ++ [q] = x :: xs := by
  cases h : pyReprStrBody q cs ++ [q] with
  | nil => simp at h
  | cons x xs => exact ⟨x, xs, rfl⟩

theorem decodeStrBody_repr (q : Char) (hq : q = '\'' ∨ q = '"') :
    ∀ cs : List Char, decodeStrBody q (pyReprStrBody q cs ++ [q]) = some cs
  | [] => by simp [pyReprStrBody, decodeStrBody]
  | c :: cs => by
    have ih := decodeStrBody_repr q hq cs
    simp only [pyReprStrBody]
    split
    · rename_i h; have : c = '\\' := by simpa using h
      subst this
      simp [decodeStrBody, ih]
    split
    · rename_i h0 h; have : c = q := by simpa using h
      subst this
      rcases hq with rfl | rfl <;> simp [decodeStrBody, ih]
    split
    · rename_i h; have : c = '\n' := by simpa using h
      subst this; simp [decodeStrBody, ih]
    split
    · rename_i h; have : c = '\t' := by simpa using h
      subst this; simp [decodeStrBody, ih]
    split
    · rename_i h; have : c = '\r' := by simpa using h
      subst this; simp [decodeStrBody, ih]
    · rename_i h1 h2 h3 h4 h5
      obtain ⟨x, xs, hx⟩ := body_ne q cs
      simp only [List.cons_append, List.nil_append, hx] at ih ⊢
      rw [dsb_raw q c x xs (by simpa using h1), ih]
      simp [h2]

/-- Python's `repr` of a string, read by `ast.literal_eval`, is the string (for every string, in the model) -/
theorem decodeStr_repr (s : String) : decodeStr (pyReprStr s) = some s := by
  unfold decodeStr pyReprStr
  simp only [String.toList_ofList]
  split
  · rename_i q cs heq
    injection heq with hq hcs
    subst hcs
    have hq' : q = '\'' ∨ q = '"' := by
      rw [← hq]; split <;> simp
    simp only [show (q == '\'' || q == '"') = true by rcases hq' with rfl | rfl <;> rfl, ↓reduceIte]
    have := decodeStrBody_repr q hq' s.toList
    simp only [List.append_eq, hq] at this ⊢
    rw [this]
    simp
  · rename_i heq; simp at heq

theorem litOk_str (s : String) : litOk (.str s) = true := by
  simp [litOk, decodeStr_repr]

theorem abs_neg_rat (q : Rat) : (if -q < 0 then - -q else -q) = (if q < 0 then -q else q) := by
  grind

theorem negLit_litOk {l l' : Lit} (hl : litOk l = true) (h : negLit l = .ok l') : litOk l' = true := by
  cases l with
  | none => simp [negLit] at h
  | bool b => simp only [negLit] at h; injection h with h; subst h; rfl
  | int i => simp only [negLit] at h; injection h with h; subst h; rfl
  | flt q =>
    simp only [negLit] at h; injection h with h; subst h
    simp only [litOk] at hl ⊢
    rw [abs_neg_rat]; exact hl
  | nan => simp [litOk] at hl
  | inf => simp [litOk] at hl
  | ninf => simp [litOk] at hl
  | str s => simp [negLit] at h

theorem wfs_values (env : Env) : ∀ lits : List Lit, wfs env (lits.map Term.value) = lits.all litOk
  | [] => by simp [wfs_nil]
  | l :: ls => by simp [wfs_cons, wf_value, wfs_values env ls]

theorem mkList_wf {env : Env} {vs : List Term} {t : Term} (hne : vs ≠ []) (hw : wfs env vs = true)
    (h : mkList vs = .ok t) : wf env t = true := by
  obtain ⟨lits, rfl, rfl, hnone, hcompat⟩ := mkList_ok h
  rw [wfs_values] at hw
  rw [wf]
  simp only [Bool.and_eq_true, Bool.not_eq_true', hw, hnone, hcompat, and_true]
  cases lits with
  | nil => exact absurd rfl hne
  | cons _ _ => rfl

theorem mkKeyValue_ok {k v t : Term} (h : mkKeyValue k v = .ok t) :
    ∃ a b, k = .value a ∧ v = .value b ∧ t = .dict [(a, b)] := by
  unfold mkKeyValue at h
  split at h <;> try contradiction
  injection h with h
  exact ⟨_, _, rfl, rfl, h.symm⟩

/-- the invariant of the fold of `dict.__setitem__`: constants that re-read, no `None` key, no two equal keys -/
def dictInv (d : List (Lit × Lit)) : Bool :=
  d.all (fun kv => litOk kv.1 && litOk kv.2 && !(kv.1 == Lit.none)) && nodupKeys (d.map (·.1))

theorem nodupKeys_append_single : ∀ (ks : List Lit) (k : Lit), nodupKeys ks = true →
    ks.any (fun k' => Term.pyEqLit k' k) = false → nodupKeys (ks ++ [k]) = true
  | [], k, _, _ => by simp [nodupKeys]
  | a :: ks, k, h1, h2 => by
    simp only [nodupKeys, Bool.and_eq_true, Bool.not_eq_true'] at h1
    simp only [List.any_cons, Bool.or_eq_false_iff] at h2
    simp only [List.cons_append, nodupKeys, Bool.and_eq_true, Bool.not_eq_true', List.any_append, List.any_cons,
      List.any_nil, Bool.or_false, Bool.or_eq_false_iff]
    exact ⟨⟨h1.1, h2.1⟩, nodupKeys_append_single ks k h1.2 h2.2⟩

theorem map_fst_replace (d : List (Lit × Lit)) (k v : Lit) :
    (d.map (fun kv => if Term.pyEqLit kv.1 k then (kv.1, v) else kv)).map (·.1) = d.map (·.1) := by
  induction d with
  | nil => rfl
  | cons a d ih =>
    simp only [List.map_cons, ih, List.cons.injEq, and_true]
    split <;> rfl

theorem dictInsert_inv {d : List (Lit × Lit)} {k v : Lit} (hd : dictInv d = true) (hk : litOk k = true)
    (hv : litOk v = true) (hn : (k == Lit.none) = false) : dictInv (dictInsert d k v) = true := by
  simp only [dictInv, Bool.and_eq_true] at hd
  unfold dictInsert
  split
  · simp only [dictInv, Bool.and_eq_true, map_fst_replace, hd.2, and_true]
    rw [List.all_eq_true] at hd ⊢
    intro x hx
    simp only [List.mem_map] at hx
    obtain ⟨y, hy, rfl⟩ := hx
    have := hd.1 y hy
    simp only [Bool.and_eq_true, Bool.not_eq_true'] at this
    split
    · simp [this.1.1, hv, this.2]
    · simp [this.1.1, this.1.2, this.2]
  · rename_i hfresh
    simp only [dictInv, Bool.and_eq_true, List.all_append, hd.1, List.all_cons, hk, hv, hn, Bool.not_false,
      List.all_nil, Bool.and_self, true_and, List.map_append, List.map_cons, List.map_nil]
    apply nodupKeys_append_single _ _ hd.2
    simpa [List.any_map] using hfresh

theorem dictInsert_ne_nil (d : List (Lit × Lit)) (k v : Lit) : dictInsert d k v ≠ [] := by
  unfold dictInsert
  split
  · rename_i h
    cases d with
    | nil => simp at h
    | cons _ _ => simp
  · simp

theorem foldl_dictInsert_inv : ∀ (kvs acc : List (Lit × Lit)), dictInv acc = true →
    kvs.all (fun kv => litOk kv.1 && litOk kv.2 && !(kv.1 == Lit.none)) = true →
    dictInv (kvs.foldl (fun d kv => dictInsert d kv.1 kv.2) acc) = true ∧
      (kvs ≠ [] ∨ acc ≠ [] → kvs.foldl (fun d kv => dictInsert d kv.1 kv.2) acc ≠ [])
  | [], acc, h, _ => by simp [h]
  | kv :: kvs, acc, h, hall => by
    simp only [List.all_cons, Bool.and_eq_true, Bool.not_eq_true'] at hall
    have h1 := dictInsert_inv h hall.1.1.1 hall.1.1.2 hall.1.2
    obtain ⟨h2, h3⟩ := foldl_dictInsert_inv kvs _ h1 hall.2
    exact ⟨h2, fun _ => h3 (Or.inr (dictInsert_ne_nil _ _ _))⟩

theorem mkDict_wf {env : Env} {kvs : List (Lit × Lit)} {t : Term} (hne : kvs ≠ [])
    (hok : kvs.all (fun kv => litOk kv.1 && litOk kv.2) = true)
    (h : mkDict (kvs.map (fun kv => Term.dict [kv])) = .ok t) : wf env t = true := by
  obtain ⟨kvss, comb, hm, hcomb, hnone, hck, hcv, rfl⟩ := mkDict_ok h
  rw [mapM_dictEntries_singletons] at hm
  cases hm
  rw [flatten_singletons] at hcomb hnone
  have hall : kvs.all (fun kv => litOk kv.1 && litOk kv.2 && !(kv.1 == Lit.none)) = true := by
    rw [List.all_eq_true] at hok ⊢
    rw [List.any_eq_false] at hnone
    intro x hx
    simp [hok x hx, hnone x hx]
  obtain ⟨hinv, hnn⟩ := foldl_dictInsert_inv kvs [] (by rfl) hall
  have hnn' := hnn (Or.inl hne)
  rw [← hcomb] at hinv hnn'
  simp only [dictInv, Bool.and_eq_true, List.all_eq_true, Bool.not_eq_true'] at hinv
  rw [wf]
  simp only [Bool.and_eq_true, Bool.not_eq_true']
  refine ⟨⟨⟨⟨⟨?_, List.all_eq_true.2 fun x hx => ?_⟩, List.any_eq_false.2 fun x hx => ?_⟩, hinv.2⟩, hck⟩, hcv⟩
  · cases comb with
    | nil => contradiction
    | cons _ _ => rfl
  · simp [(hinv.1 x hx).1]
  · simp [(hinv.1 x hx).2]

end DAVerif.C13W
