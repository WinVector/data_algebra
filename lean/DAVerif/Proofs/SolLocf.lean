import DAVerif.Proofs.SolRank
import DAVerif.Proofs.SolSem
import DAVerif.Proofs.SolLocfCore
/-!
`last_observed_carried_forward` fills each missing value with the latest earlier non-missing value of its partition:
proved about `semG le` (join configuration of Pandas) for every comparison with `CmpLex` and every interpretation with
`LocfSem`; `sem`, `rowLe` and the functions of `Theta` are the instance at the end.  Rows are addressed by position `j < n`:

1. `use j` = `v.is_null().where(0, 1)`: 0 for a missing value, 1 otherwise;
2. `tb j`  = `_row_number()` over the whole table ordered by `partition_by ++ order_by`: distinct numbers, the same
   as over the input rows (`rk1G le (part ++ ob) rows0`: the flag column is not read);
3. `rank j` = `use.cumsum()` per partition ordered by `order_by ++ [tb]`: the number of non-missing values of the
   partition at or before `j` (`Locf.cnt`, by `TbRows.winTake`);
4. left join with the non-missing rows on `partition_by ++ [rank]`: a row meets the non-missing row of its partition
   with the same count – itself if its value is present, else the latest earlier one (`Proofs/SolLocfCore.lean`).
-/
namespace DAVerif.Sol
open DAVerif DAVerif.Solutions DAVerif.Spec21

theorem list_eq_map_range (l : List Row) : l = (List.range l.length).map (fun j => l.getD j []) := by
  have := zipIdx_eq_map_range l
  have h2 := congrArg (List.map Prod.fst) this
  rw [List.zipIdx_map_fst, List.map_map] at h2
  exact h2

theorem filter_eq_map_range (l : List Row) (p : Row → Bool) :
    l.filter p = ((List.range l.length).filter (fun j => p (l.getD j []))).map (fun j => l.getD j []) := by
  conv => lhs; rw [list_eq_map_range l]
  rw [List.filter_map]
  rfl

/-- the helper's side conditions, plus: `order_by` and `partition_by` name columns of the table (they could also
name the helper's own temporary columns, which the builders would accept; the documentation means table columns) -/
structure LocfCtx (cols ob part : List String) (v use rk tb : String) : Prop extends LocfOK cols ob part v use rk tb where
  ob_sub : ∀ c ∈ ob, c ∈ cols
  part_sub : ∀ c ∈ part, c ∈ cols

/-- the value at position `j` is not missing -/
def nnI (v : String) (rows0 : List Row) (j : Nat) : Bool := !((rows0.getD j []).get v).isNull

def rowsA (cols : List String) (v use : String) (rows0 : List Row) : List Row :=
  addCol (cols ++ [use]) use (fun j => flagVal (nnI v rows0 j)) rows0

set_option linter.unusedSectionVars false
section
variable {cols ob part : List String} {v use rk tb : String} (hc : LocfCtx cols ob part v use rk tb)
  (rows0 : List Row)
include hc

theorem po_sub : ∀ c ∈ part ++ ob, c ∈ cols := fun c h =>
  (List.mem_append.mp h).elim (hc.part_sub c) (hc.ob_sub c)

theorem ne_use {c : String} (h : c ∈ cols) : c ≠ use := fun e => hc.use_new (e ▸ h)
theorem ne_tb {c : String} (h : c ∈ cols) : c ≠ tb := fun e => hc.tb_new (e ▸ h)
theorem ne_rk {c : String} (h : c ∈ cols) : c ≠ rk := fun e => hc.rk_new (e ▸ h)

theorem overA : Over cols rows0 (rowsA cols v use rows0) :=
  (Over.refl cols rows0).addCol _ hc.use_new fun _ h => List.mem_append_left _ h

theorem get_rowsA_use {j : Nat} (hj : j < rows0.length) :
    ((rowsA cols v use rows0).getD j []).get use = flagVal (nnI v rows0 j) :=
  get_addCol_self _ hj (by simp)

theorem cols_use : appendNew cols [use] = cols ++ [use] := appendNew_single hc.use_new

theorem cols_tb : appendNew (cols ++ [use]) [tb] = cols ++ [use, tb] := by
  rw [appendNew_single, List.append_assoc]
  · rfl
  · simp only [List.mem_append, List.mem_singleton, not_or]
    exact ⟨hc.tb_new, fun e => hc.use_ne_tb e.symm⟩

theorem cols_rk : appendNew (cols ++ [use, tb]) [rk] = cols ++ [use, tb, rk] := by
  rw [appendNew_single, List.append_assoc]
  · rfl
  · simp only [List.mem_append, List.mem_cons, List.not_mem_nil, or_false, not_or]
    exact ⟨hc.rk_new, fun e => hc.use_ne_rk e.symm, hc.rk_ne_tb⟩

end

theorem eval_use_eq_one (cv : RecMap → Table → Except Err Table) (use : String) (r : Row) (b : Bool)
    (h : r.get use = flagVal b) :
    (evalCell (Theta.concrete cv) r (binop "==" (.col use) (.value (.int 1))) == Val.bool true) = b := by
  simp only [evalCell, binop, evalTerm, evalArgs, Theta.concrete, Lit.toVal, h]
  cases b <;> decide +kernel

theorem eval_use_term (cv : RecMap → Table → Except Err Table) (v : String) (r : Row) :
    evalCell (Theta.concrete cv) r (useTerm v) = flagVal (!(r.get v).isNull) := by
  simp only [evalCell, useTerm, mcall, evalTerm, evalArgs, Theta.concrete]
  cases r.get v <;> rfl

end DAVerif.Sol

namespace DAVerif.Sol21Sql
open DAVerif DAVerif.Sol DAVerif.Solutions

/-- what `last_observed_carried_forward` needs of the interpretation of its function symbols -/
structure LocfSem (Θ : Interp) : Prop where
  /-- `_row_number()` numbers the window from 1 -/
  rowNumber : ∀ cargs vs pos, Θ.win "_row_number" cargs vs pos = Val.num ((pos + 1 : Nat) : Rat)
  /-- `v.is_null().where(0, 1)` is 0 for a missing value and 1 otherwise -/
  useTerm : ∀ (v : String) (r : Row), evalCell Θ r (useTerm v) = flagVal (!(r.get v).isNull)
  /-- `use == 1` on a 0/1 flag -/
  useEq : ∀ (use : String) (r : Row) (b : Bool), r.get use = flagVal b →
    (evalCell Θ r (binop "==" (.col use) (.value (.int 1))) == Val.bool true) = b
  /-- `cumsum` at a position whose own cell is not missing is the running sum of the non-missing cells -/
  cumsum : ∀ (vs : List Val) (pos : Nat), (vs.getD pos Val.null).isNull = false →
    Θ.win "cumsum" [] vs pos = Theta.cumulate (· + ·) vs pos

theorem locfSem_concrete (cv : RecMap → Table → Except Err Table) : LocfSem (Theta.concrete cv) where
  rowNumber := win_row_number cv
  useTerm := eval_use_term cv
  useEq := eval_use_eq_one cv
  -- the Pandas `cumsum` is `Theta.cumulate (· + ·)` by definition, at every position
  cumsum := fun _ _ _ => rfl

end DAVerif.Sol21Sql

namespace DAVerif.Sol21Sql.Cmp
open DAVerif DAVerif.Sql DAVerif.Sol DAVerif.Solutions DAVerif.Spec21

set_option linter.unusedSectionVars false

/-- after the second marking step: the tie-breaking row number `rk1G le (part ++ ob)` in column `tb` -/
def rowsBG (le : RowCmp) (cols ob part : List String) (v use tb : String) (rows0 : List Row) : List Row :=
  addCol (cols ++ [use, tb]) tb (fun j => Val.num ((rk1G le (part ++ ob) rows0 j : Nat) : Rat)) (rowsA cols v use rows0)

/-- the number of non-missing values of `j`'s partition at or before `j` -/
def cntIG (le : RowCmp) (ob part : List String) (v : String) (rows0 : List Row) (j : Nat) : Nat :=
  Locf.cnt rows0.length (beforeIG le ob rows0 (rk1G le (part ++ ob) rows0)) (sameP part rows0) (nnI v rows0) j

def rowsCG (le : RowCmp) (cols ob part : List String) (v use rk tb : String) (rows0 : List Row) : List Row :=
  addCol (cols ++ [use, tb, rk]) rk (fun j => Val.num ((cntIG le ob part v rows0 j : Nat) : Rat))
    (rowsBG le cols ob part v use tb rows0)

set_option linter.unusedSectionVars false
section
variable {le : RowCmp} (hle : CmpLex le)
variable {cols ob part : List String} {v use rk tb : String} (hc : LocfCtx cols ob part v use rk tb)
  (rows0 : List Row)
include hle hc

theorem overB : Over cols rows0 (rowsBG le cols ob part v use tb rows0) :=
  (overA hc rows0).addCol _ hc.tb_new fun _ h => List.mem_append_left _ h

theorem overC : Over cols rows0 (rowsCG le cols ob part v use rk tb rows0) :=
  (overB hle hc rows0).addCol _ hc.rk_new fun _ h => List.mem_append_left _ h

theorem get_rowsB_use {j : Nat} (hj : j < rows0.length) :
    ((rowsBG le cols ob part v use tb rows0).getD j []).get use = flagVal (nnI v rows0 j) := by
  rw [rowsBG, get_addCol _ _ _ _ _ ((overA hc rows0).length ▸ hj) (by simp), if_neg hc.use_ne_tb]
  exact get_rowsA_use hc rows0 hj

theorem get_rowsC_use {j : Nat} (hj : j < rows0.length) :
    ((rowsCG le cols ob part v use rk tb rows0).getD j []).get use = flagVal (nnI v rows0 j) := by
  rw [rowsCG, get_addCol _ _ _ _ _ ((overB hle hc rows0).length ▸ hj) (by simp), if_neg hc.use_ne_rk]
  exact get_rowsB_use hle hc rows0 hj

theorem get_rowsC_rk {j : Nat} (hj : j < rows0.length) :
    ((rowsCG le cols ob part v use rk tb rows0).getD j []).get rk
      = Val.num ((cntIG le ob part v rows0 j : Nat) : Rat) :=
  get_addCol_self _ ((overB hle hc rows0).length ▸ hj) (by simp)

theorem tbRowsB : TbRows cols tb (rk1G le (part ++ ob) rows0) rows0 (rowsBG le cols ob part v use tb rows0) where
  toOver := overB hle hc rows0
  num := fun hj => get_addCol_self _ ((overA hc rows0).length ▸ hj) (by simp)
  inj := rk1_inj rows0

theorem ordI : Locf.Ord rows0.length (beforeIG le ob rows0 (rk1G le (part ++ ob) rows0)) (sameP part rows0) :=
  (tbRowsB hle hc rows0).ord hle hc.ob_sub part

theorem cumsum_eq_cnt {Θ : Interp}
    (hcum : ∀ (vs : List Val) (pos : Nat), (vs.getD pos Val.null).isNull = false →
      Θ.win "cumsum" [] vs pos = Theta.cumulate (· + ·) vs pos)
    {j : Nat} (hj : j < rows0.length) :
    winValG le Θ (mcall "cumsum" (.col use)) part (ob ++ [tb]) []
      (rowsBG le cols ob part v use tb rows0) j
      = Val.num ((cntIG le ob part v rows0 j : Nat) : Rat) := by
  have hjB : j < (rowsBG le cols ob part v use tb rows0).length := (overB hle hc rows0).length ▸ hj
  simp only [winValG]
  have h1 : opName (mcall "cumsum" (.col use)) = "cumsum" := rfl
  have h2 : constArgs (mcall "cumsum" (.col use)) = [] := rfl
  have h3 : ∀ rows : List Row, argValues (mcall "cumsum" (.col use)) rows = rows.map (fun r => r.get use) :=
    fun _ => rfl
  rw [h1, h2, h3, List.map_map]
  have hnn : (((winSortedG le part (ob ++ [tb]) [] (rowsBG le cols ob part v use tb rows0) j).map
      ((fun r : Row => r.get use) ∘ fun x => x.1)).getD
        (winPosG le part (ob ++ [tb]) [] (rowsBG le cols ob part v use tb rows0) j) Val.null).isNull = false := by
    have hlt := winPos_lt (le := le) (p := part) (o := ob ++ [tb]) (rv := []) hjB
    rw [getD_eq _ (by simpa using hlt)]
    simp only [List.getElem_map, Function.comp]
    rw [winSorted_getElem_winPos hjB, get_rowsB_use hle hc rows0 hj]
    cases nnI v rows0 j <;> rfl
  rw [hcum _ _ hnn]
  -- the flags of the sorted window
  have hflags : (winSortedG le part (ob ++ [tb]) [] (rowsBG le cols ob part v use tb rows0) j).map
      ((fun r : Row => r.get use) ∘ fun x => x.1)
      = (winSortedG le part (ob ++ [tb]) [] (rowsBG le cols ob part v use tb rows0) j).map
          (fun y => flagVal (nnI v rows0 y.2)) := by
    apply List.map_congr_left
    intro y hy
    have hy' := (mem_winPart.mp ((winSorted_perm _ _ _ _ _).mem_iff.mp hy)).1
    obtain ⟨r, k⟩ := y
    obtain ⟨e, hk⟩ := getD_of_mem_zipIdx hy'
    rw [(overB hle hc rows0).length] at hk
    simp only [Function.comp]
    rw [← e, get_rowsB_use hle hc rows0 hk]
  rw [hflags, cumulate_flags _ (fun y => nnI v rows0 y.2) _ (winPos_lt hjB)]
  congr 2
  exact (tbRowsB hle hc rows0).winTake hle hc.ob_sub hc.part_sub hj (nnI v rows0)

end

set_option linter.unusedSectionVars false
section
variable {le : RowCmp} (hle : CmpLex le)
variable {cols ob part : List String} {v use rk tb : String} (hc : LocfCtx cols ob part v use rk tb)
  (rows0 : List Row)
include hle hc

/-- positions of the non-missing rows of `i`'s partition with the same count as `i` -/
def hitsIG (le : RowCmp) (ob part : List String) (v : String) (rows0 : List Row) (i : Nat) : List Nat :=
  Locf.hits rows0.length (beforeIG le ob rows0 (rk1G le (part ++ ob) rows0)) (sameP part rows0) (nnI v rows0) i

/-- the non-missing rows, restricted to the join columns (the `b` side of the join) -/
def rowsSelG (le : RowCmp) (cols ob part : List String) (v use rk tb : String) (rows0 : List Row) : List Row :=
  ((List.range rows0.length).filter (nnI v rows0)).map
    (fun j => ((rowsCG le cols ob part v use rk tb rows0).getD j []).select (part ++ [rk, v]))

theorem keyOf_rowsC_K {j : Nat} (hj : j < rows0.length) :
    keyOf ((rowsCG le cols ob part v use rk tb rows0).getD j []) (part ++ [rk])
      = keyOf (rows0.getD j []) part ++ [Val.num ((cntIG le ob part v rows0 j : Nat) : Rat)] := by
  rw [keyOf_append, keyOf_congr (fun c hcc => (overC hle hc rows0).get hj (hc.part_sub c hcc))]
  simp only [keyOf, Row.vals, List.map_cons, List.map_nil, get_rowsC_rk hle hc rows0 hj]

theorem match_eq_hits {i : Nat} (hi : i < rows0.length) :
    (rowsSelG le cols ob part v use rk tb rows0).filter (fun rb =>
      keyOf ((rowsCG le cols ob part v use rk tb rows0).getD i []) (part ++ [rk]) == keyOf rb (part ++ [rk]))
    = (hitsIG le ob part v rows0 i).map
        (fun j => ((rowsCG le cols ob part v use rk tb rows0).getD j []).select (part ++ [rk, v])) := by
  rw [rowsSelG, List.filter_map, List.filter_filter]
  congr 1
  rw [hitsIG, Locf.hits]
  apply List.filter_congr
  intro j hj
  have hj := List.mem_range.mp hj
  simp only [Function.comp]
  have hsel : keyOf (((rowsCG le cols ob part v use rk tb rows0).getD j []).select (part ++ [rk, v])) (part ++ [rk])
      = keyOf ((rowsCG le cols ob part v use rk tb rows0).getD j []) (part ++ [rk]) := by
    apply keyOf_congr
    intro c hcc
    apply Row.select_get_of_mem
    rcases List.mem_append.mp hcc with h | h
    · exact List.mem_append_left _ h
    · simp only [List.mem_singleton] at h; subst h; simp
  rw [hsel, keyOf_rowsC_K hle hc rows0 hi, keyOf_rowsC_K hle hc rows0 hj]
  rw [Bool.and_comm, Bool.and_assoc]
  congr 1
  rw [Bool.eq_iff_iff]
  simp only [beq_iff_eq, Bool.and_eq_true, sameP, cntIG]
  constructor
  · intro h
    have hlen : (keyOf (rows0.getD i []) part).length = (keyOf (rows0.getD j []) part).length := by
      simp [keyOf, Row.vals]
    obtain ⟨h1, h2⟩ := List.append_inj h hlen
    simp only [List.cons.injEq, Val.num.injEq, and_true] at h2
    exact ⟨h1.symm, by exact_mod_cast h2.symm⟩
  · rintro ⟨h1, h2⟩
    rw [h1, h2]

/-- cells of a row of the join: the left row, with the value column filled from the right row -/
theorem joined_get (i : Nat) (hi : i < rows0.length) (rb : Option Row) {c : String} (hcc : c ∈ cols)
    (hpart : ∀ r, rb = some r → ∀ p ∈ part, r.get p = (rows0.getD i []).get p) :
    (joinRow (cols ++ [use, tb, rk]) (part ++ [rk, v]) (cols ++ [use, tb, rk])
      (some ((rowsCG le cols ob part v use rk tb rows0).getD i [])) rb).get c
    = if c = v then
        (if ((rows0.getD i []).get v).isNull then rb.elim Val.null (fun r => r.get v)
         else (rows0.getD i []).get v)
      else (rows0.getD i []).get c := by
  have hm : c ∈ cols ++ [use, tb, rk] := List.mem_append_left _ hcc
  by_cases hv : c = v
  · rw [if_pos hv, joinRow_get_both _ _ hm hm (by simp [hv]), (overC hle hc rows0).get hi hcc, hv]
  · rw [if_neg hv, joinRow_get_left _ _ hm hm, (overC hle hc rows0).get hi hcc]
    intro r hr hcb _
    have hp : c ∈ part := by simpa [hv, ne_rk hc hcc] using hcb
    rw [hpart r hr c hp, (overC hle hc rows0).get hi hcc]

end

/-- the value the pipeline leaves at position `i` -/
def fillIG (le : RowCmp) (ob part : List String) (v : String) (rows0 : List Row) (i : Nat) : Val :=
  if nnI v rows0 i then (rows0.getD i []).get v
  else match (hitsIG le ob part v rows0 i).head? with
    | some j => (rows0.getD j []).get v
    | none => Val.null

set_option linter.unusedSectionVars false
section
variable {le : RowCmp} (hle : CmpLex le)
variable {cols ob part : List String} {v use rk tb : String} (hc : LocfCtx cols ob part v use rk tb)
  (rows0 : List Row)
include hle hc

theorem locfValue_eq {i : Nat} (hi : i < rows0.length) :
    locfValue (le ob []) (rk1G le (part ++ ob) rows0) part v rows0 i = fillIG le ob part v rows0 i := by
  unfold locfValue fillIG
  simp only [nnI]
  by_cases hn : ((rows0.getD i []).get v).isNull = true
  · simp only [hn, Bool.not_true, Bool.false_eq_true, if_false]
    -- the candidates and the search of the specification are `Locf.cands` and its search, word for word
    exact congrArg (fun o : Option Nat => match o with | some j => (rows0.getD j []).get v | none => Val.null)
      (Locf.find_latest_eq (ordI hle hc rows0) hi (nn := nnI v rows0) (by rw [nnI, hn]; rfl))
  · have hn' : ((rows0.getD i []).get v).isNull = false := by simpa using hn
    simp only [hn', Bool.not_false, if_true]

theorem hitsI_length_le_one (i : Nat) : (hitsIG le ob part v rows0 i).length ≤ 1 :=
  Locf.hits_length_le_one (ordI hle hc rows0) i

/-- the selected output row for position `i`, joined with the first (by `hitsI_length_le_one`: the only) matching
row of the `b` side if there is one, is the promised row -/
theorem out_row {i : Nat} (hi : i < rows0.length) (hwf : ∀ r ∈ rows0, r.keys = cols) :
    (joinRow (cols ++ [use, tb, rk]) (part ++ [rk, v]) (cols ++ [use, tb, rk])
      (some ((rowsCG le cols ob part v use rk tb rows0).getD i []))
      ((hitsIG le ob part v rows0 i).head?.map
        (fun j => ((rowsCG le cols ob part v use rk tb rows0).getD j []).select (part ++ [rk, v])))).select cols
    = (rows0.getD i []).set v (fillIG le ob part v rows0 i) := by
  have hkeys : (rows0.getD i []).keys = cols := hwf _ (by rw [getD_eq [] hi]; exact List.getElem_mem _)
  have hsetkeys : ((rows0.getD i []).set v (fillIG le ob part v rows0 i)).keys = cols := by
    rw [Row.keys_set_of_mem _ _ (by rw [hkeys]; exact hc.v_mem), hkeys]
  -- the matching row, if any, belongs to a position of `i`'s partition
  have hhit : ∀ j, (hitsIG le ob part v rows0 i).head? = some j →
      j < rows0.length ∧ keyOf (rows0.getD j []) part = keyOf (rows0.getD i []) part := by
    intro j hj
    have hjm := List.mem_filter.mp (List.mem_of_mem_head? (Option.mem_def.mpr hj))
    simp only [Bool.and_eq_true, beq_iff_eq, sameP] at hjm
    exact ⟨List.mem_range.mp hjm.1, hjm.2.1.2⟩
  have hpart : ∀ r, (hitsIG le ob part v rows0 i).head?.map
        (fun j => ((rowsCG le cols ob part v use rk tb rows0).getD j []).select (part ++ [rk, v])) = some r →
      ∀ p ∈ part, r.get p = (rows0.getD i []).get p := by
    intro r hr p hp
    cases hh : (hitsIG le ob part v rows0 i).head? with
    | none => rw [hh] at hr; cases hr
    | some j =>
      rw [hh] at hr
      cases hr
      rw [Row.select_get_of_mem (List.mem_append_left _ hp), (overC hle hc rows0).get (hhit j hh).1 (hc.part_sub p hp)]
      exact keyOf_eq_iff.mp (hhit j hh).2 p hp
  rw [← Row.select_self hsetkeys hc.nodup]
  apply Row.select_congr
  intro c hcc
  rw [joined_get hle hc rows0 i hi _ hcc hpart, get_set]
  by_cases hv : c = v
  · simp only [hv, if_true, fillIG, nnI]
    by_cases hn : ((rows0.getD i []).get v).isNull = true
    · simp only [hn, if_true, Bool.not_true, Bool.false_eq_true, if_false]
      cases hh : (hitsIG le ob part v rows0 i).head? with
      | none => rfl
      | some j =>
        simp only [Option.map_some, Option.elim_some]
        rw [Row.select_get_of_mem (by simp), (overC hle hc rows0).get (hhit j hh).1 hc.v_mem]
    · have hn' : ((rows0.getD i []).get v).isNull = false := Bool.eq_false_iff.mpr hn
      simp only [hn', Bool.false_eq_true, if_false, Bool.not_false, if_true]
  · simp only [hv, if_false]

end

/-! The tree is evaluated node by node (`Ev`, `Proofs/SolSem.lean`) over a source `d` that evaluates to `rows0` under the
columns `cols`. -/

set_option linter.unusedSectionVars false
section
variable {le : RowCmp} (hle : CmpLex le)
variable {cols ob part : List String} {v use rk tb : String} (hc : LocfCtx cols ob part v use rk tb)
variable {Θ : Interp} {cfg : SemCfg} {env : Env} {d : Ops}
include hc

theorem ev_locfTree {R : List Row}
    (hM : Ev le Θ cfg env (locfMarked d ob part v use rk tb) (cols ++ [use, tb, rk]) R) :
    Ev le Θ cfg env (locfTree d ob part v use rk tb) cols
      ((semJoin cfg .left (part ++ [rk]) (part ++ [rk]) ⟨cols ++ [use, tb, rk], R⟩
        ⟨part ++ [rk, v], (R.filter fun r => evalCell Θ r (binop "==" (.col use) (.value (.int 1))) == .bool true).map
          (·.select (part ++ [rk, v]))⟩ (cols ++ [use, tb, rk])).rows.map (·.select cols)) := by
  have hbsub : ∀ c ∈ part ++ [rk, v], c ∈ cols ++ [use, tb, rk] := by
    intro c hcc
    rcases List.mem_append.mp hcc with h | h
    · exact List.mem_append_left _ (hc.part_sub c h)
    · simp only [List.mem_cons, List.not_mem_nil, or_false] at h
      rcases h with rfl | rfl
      · simp
      · exact List.mem_append_left _ hc.v_mem
  have hDc : (cols ++ [use, tb, rk]).filter (fun c => !([use, rk, tb].contains c)) = cols := by
    rw [filter_drop_append (fun c hcc => by simp [ne_use hc hcc, ne_rk hc hcc, ne_tb hc hcc])]
    simp
  exact (hM.join ((hM.selectRows _).selectCols _) _ _ .left (joinCols_of_subset hbsub)).dropCols _ hDc

/-! `LocfSem.cumsum` asks for the running sum only at a position whose own cell is not missing: for `Theta.concrete` it
holds at every position by definition, SQLite's running fold differs at missing cells (`RefSem.runFold_eq_cumulate`). -/

variable (hΘ : LocfSem Θ) {rows0 : List Row} (hd : Ev le Θ cfg env d cols rows0)
include hle hΘ hd

theorem ev_locfMarked :
    Ev le Θ cfg env (locfMarked d ob part v use rk tb) (cols ++ [use, tb, rk])
      (rowsCG le cols ob part v use rk tb rows0) := by
  have hA : Ev le Θ cfg env _ (cols ++ [use]) (rowsA cols v use rows0) :=
    (hd.extend1 use (useTerm v) (cols_use hc)).rows_eq
      ((map_set_eq_addCol ..).trans (addCol_congr _ _ _ fun i _ => hΘ.useTerm v _))
  have hB : Ev le Θ cfg env _ (cols ++ [use, tb]) (rowsBG le cols ob part v use tb rows0) :=
    (hA.window1 tb (fcall0 "_row_number") [] (part ++ ob) [] (cols_tb hc)).rows_eq
      (addCol_congr _ _ _ fun j _ => by
        rw [winVal_rowNumber hΘ.rowNumber, rk1_over _ hle (overA hc rows0) (po_sub hc)])
  exact (hB.window1 rk (mcall "cumsum" (.col use)) part (ob ++ [tb]) [] (cols_rk hc)).rows_eq
    (addCol_congr _ _ _ fun i hi => cumsum_eq_cnt hle hc _ hΘ.cumsum ((overB hle hc _).length ▸ hi))

end

section
variable {le : RowCmp} (hle : CmpLex le)
variable {cols ob part : List String} {v use rk tb : String} (hc : LocfCtx cols ob part v use rk tb)
variable {Θ : Interp} (hΘ : LocfSem Θ) {env : Env} {d : Ops} {rows0 : List Row}
include hle hc hΘ

/-- **The tree built by `last_observed_carried_forward`** (join configuration of Pandas), over every view `d` that
evaluates to well-formed rows: the promised rows, up to row order (rows without an earlier non-missing value leave the
left join after the others). -/
theorem sem_locfTree (hd : Ev le Θ SemCfg.pandas env d cols rows0) (hwf : ∀ r ∈ rows0, r.keys = cols) :
    ∃ rows, Ev le Θ SemCfg.pandas env (locfTree d ob part v use rk tb) cols rows ∧
      rows.Perm (locfSpec (le ob []) (rk1G le (part ++ ob) rows0) part v rows0) := by
  refine ⟨_, ev_locfTree hc (ev_locfMarked hle hc hΘ hd), ?_⟩
  -- the `b` side
  have hB : ((rowsCG le cols ob part v use rk tb rows0).filter fun r =>
        evalCell Θ r (binop "==" (.col use) (.value (.int 1))) == .bool true).map (·.select (part ++ [rk, v]))
      = rowsSelG le cols ob part v use rk tb rows0 := by
    rw [filter_eq_map_range, List.map_map, (overC hle hc rows0).length, rowsSelG,
      List.filter_congr (fun j hj => hΘ.useEq use _ _ (get_rowsC_use hle hc rows0 (List.mem_range.mp hj)))]
    rfl
  rw [hB, semJoin_left_rows _ (by simp)]
  -- every marked row meets at most one row of the `b` side: one output row per position
  have hCrows := list_eq_map_range (rowsCG le cols ob part v use rk tb rows0)
  rw [(overC hle hc rows0).length] at hCrows
  have hone : ∀ a ∈ rowsCG le cols ob part v use rk tb rows0,
      ((rowsSelG le cols ob part v use rk tb rows0).filter
        (fun rb => keyOf a (part ++ [rk]) == keyOf rb (part ++ [rk]))).length ≤ 1 := by
    intro a ha
    rw [hCrows] at ha
    obtain ⟨i, hi, rfl⟩ := List.mem_map.mp ha
    rw [match_eq_hits hle hc rows0 (List.mem_range.mp hi), List.length_map]
    exact hitsI_length_le_one hle hc rows0 i
  refine ((leftJoin_perm _ _ _
    (fun ra rb => joinRow (cols ++ [use, tb, rk]) (part ++ [rk, v]) (cols ++ [use, tb, rk]) (some ra) rb)
    hone).map _).trans (List.Perm.of_eq ?_)
  conv => lhs; rw [hCrows]
  rw [List.map_map, List.map_map, locfSpec, zipIdx_eq_map_range, List.map_map]
  apply List.map_congr_left
  intro i hi
  have hi := List.mem_range.mp hi
  simp only [Function.comp]
  rw [match_eq_hits hle hc rows0 hi, List.head?_map, out_row hle hc rows0 hi hwf, locfValue_eq hle hc rows0 hi]

end

end DAVerif.Sol21Sql.Cmp

namespace DAVerif.Sol
open DAVerif DAVerif.Solutions DAVerif.Spec21 DAVerif.Sol21Sql

set_option linter.unusedSectionVars false
section
variable {cols ob part : List String} {v use rk tb : String} (hc : LocfCtx cols ob part v use rk tb)
include hc

theorem sem_locfTree (cv : RecMap → Table → Except Err Table) (env : Env) (name : String) (t0 : Table)
    (henv : env.lookup name = some t0) (hsub : subset cols t0.cols = true) :
    ∃ t, sem (Theta.concrete cv) SemCfg.pandas env (locfTree (.table name cols) ob part v use rk tb) = .ok t ∧
      t.cols = cols ∧
      t.rows.Perm (locfSpec (rowLe ob []) (Cmp.rk1G rowLe (part ++ ob) (t0.selectCols cols).rows) part v
        (t0.selectCols cols).rows) := by
  rw [← Sql.semG_rowLe]
  obtain ⟨rows, h, hp⟩ := Cmp.sem_locfTree Cmp.cmpLex_rowLe hc (locfSem_concrete cv) (Ev.table henv hsub)
    (Table.wf_selectCols _ _)
  exact ⟨_, h.sem, rfl, hp⟩

end

end DAVerif.Sol
