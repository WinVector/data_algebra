import DAVerif.Proofs.RenameNear
import DAVerif.Proofs.RenameSqlSem
import DAVerif.Proofs.WithText
import DAVerif.Proofs.WithFix
/-!
`toWithForm none` commutes with every node-wise map of the tree, the names of the common table expressions being
generated query names; so do the WITH form of a pipeline, for a map the translation cannot see, and the model's
`semWith`, the columns of the tables being renamed by the map.  The recursion is taken in the normal forms of
Proofs/WithForm.lean (`toWithFormG_join`, `stubStep_miss` …): without a cache every container that is not a table is
a miss and the key function is never asked.
-/
namespace DAVerif
namespace Ren

open Function (Injective)
open DAVerif.Sql

variable {ρc : ColRen} {ρt : TabRen}

def NodeMap.step (φ : NodeMap) (st : WithStep) : WithStep :=
  ⟨st.name, φ.near st.near, st.cols.map (·.map φ.col), st.force⟩

def NodeMap.triple (φ : NodeMap) (r : Near × List WithStep × Option Cache) : Near × List WithStep × Option Cache :=
  (φ.near r.1, r.2.1.map φ.step, r.2.2)

theorem appendUnseen_map (φ : NodeMap) (s1 s2 : List WithStep) :
    appendUnseen (s1.map φ.step) (s2.map φ.step) = (appendUnseen s1 s2).map φ.step := by
  unfold appendUnseen
  induction s2 generalizing s1 with
  | nil => rfl
  | cons st s2 ih =>
    simp only [List.map_cons, List.foldl_cons]
    have hany : (s1.map φ.step).any (fun x => x.name == (φ.step st).name) = s1.any (fun x => x.name == st.name) := by
      rw [List.any_map]
      rfl
    rw [hany]
    split
    · exact ih s1
    · have : s1.map φ.step ++ [φ.step st] = (s1 ++ [st]).map φ.step := by simp
      rw [this]
      exact ih _

theorem stubG_cache_none (key : KeyFn) (n : Near) (cols : Option (List String)) (force : Bool) :
    (stubG key none n cols force).2.2 = none :=
  stubStep_cache_none key n cols force rfl (toWithFormG_cache_none key n)

/-- without a cache the key function is never asked: the two sides may use different ones -/
theorem stubG_map (φ : NodeMap) (key' key : KeyFn) (n : Near)
    (ih : toWithFormG key' none (φ.near n) = φ.triple (toWithFormG key none n))
    (cols : Option (List String)) (force : Bool) :
    stubG key' none (φ.near n) (cols.map (·.map φ.col)) force = φ.triple (stubG key none n cols force) := by
  have hname := toWithFormG_name key' none (φ.near n)
  rw [ih] at hname
  have hnone := toWithFormG_cache_none key n
  simp only [stubG, ih]
  by_cases ht : n.isTable = true
  · rw [stubStep_isTable key' _ _ _ _ ((φ.isTable_near n).trans ht), stubStep_isTable key _ _ _ _ ht]
  · rw [φ.name_near n (Bool.eq_false_iff.mpr ht), ← toWithFormG_name key none n] at hname
    rw [stubStep_miss key' none _ _ _ (by rwa [φ.isTable_near]) rfl, stubStep_miss key none _ _ _ ht rfl]
    generalize toWithFormG key none n = r at hname hnone
    obtain ⟨stub, seq, c⟩ := r
    cases hnone
    simp only [NodeMap.triple] at hname
    have hany : (seq.map φ.step).any (fun st => st.name == stub.name) = seq.any (fun st => st.name == stub.name) := by
      rw [List.any_map]
      rfl
    simp only [NodeMap.triple, hname, hany, Option.map_none]
    split
    · rfl
    · simp [NodeMap.step, NodeMap.near]

theorem toWithFormG_map (φ : NodeMap) (key' key : KeyFn) (n : Near) :
    toWithFormG key' none (φ.near n) = φ.triple (toWithFormG key none n) := by
  induction n with
  | table name terms => rfl
  | cte name => rfl
  | unary name terms agg sub subCols suffix mg deps k ih =>
    have hs := stubG_map φ key' key sub ih subCols false
    simp only [NodeMap.near, toWithFormG_unary, φ.isTable_near] at hs ⊢
    rw [hs]
    simp only [NodeMap.triple, NodeMap.near]
    split <;> rfl
  | join name terms l lc ln r rc rn jt oa ob k ihl ihr =>
    have hl := stubG_map φ key' key l ihl (some lc) false
    have hr := stubG_map φ key' key r ihr (some rc) false
    simp only [NodeMap.near, toWithFormG_join, Option.map_some] at hl hr ⊢
    rw [hl, show (φ.triple (stubG key none l (some lc) false)).2.2 = none from stubG_cache_none key l _ _, hr,
      stubG_cache_none key l]
    simp only [NodeMap.triple, appendUnseen_map, NodeMap.near]
  | union name terms l r cols k ihl ihr =>
    have hl := stubG_map φ key' key l ihl (some cols) true
    have hr := stubG_map φ key' key r ihr (some cols) true
    simp only [NodeMap.near, toWithFormG_union, Option.map_some] at hl hr ⊢
    rw [hl, show (φ.triple (stubG key none l (some cols) true)).2.2 = none from stubG_cache_none key l _ _, hr,
      stubG_cache_none key l]
    simp only [NodeMap.triple, appendUnseen_map, NodeMap.near]

theorem toWithForm_map (φ : NodeMap) (n : Near) : toWithForm none (φ.near n) = φ.triple (toWithForm none n) := by
  rw [toWithForm_eq, toWithForm_eq]
  exact toWithFormG_map φ cacheKey cacheKey n

theorem withFormOf_map (cfg : SqlCfg) {φ : NodeMap} (hφ : φ.Blind) (p : Ops) :
    withFormOf cfg (φ.ops p) = (withFormOf cfg p).map (fun ls => (φ.near ls.1, ls.2.map φ.step)) := by
  unfold withFormOf
  rcases map_eq_map_cases (toNearSql_map cfg hφ p) with ⟨e, h1, h2⟩ | ⟨n', n, h1, h2, h⟩
  · rw [h1, h2]
    rfl
  · rw [h1, h2]
    simp only [Except.map, Except.ok.injEq]
    rw [h, NodeMap.near_eraseKeys, toWithForm_map φ n.eraseKeys, NodeMap.triple]

def WithStep.rename (ρc : ColRen) (ρt : TabRen) (st : WithStep) : WithStep :=
  ⟨st.name, st.near.rename ρc ρt, st.cols.map (·.map ρc), st.force⟩

theorem renMap_step : (renMap ρc ρt).step = WithStep.rename ρc ρt := by
  funext st
  rw [NodeMap.step, renMap_near]
  rfl

theorem runSteps_map (Θ : Interp) (ec : EngineCfg) {φ : NodeMap} (hφ : φ.Blind) (env : Env)
    (steps : List WithStep) (ctes : List (String × Table)) :
    runSteps Θ ec (Env.rename φ.col φ.tab env) (ctes.map (fun kv => (kv.1, kv.2.rename φ.col))) (steps.map φ.step)
      = (runSteps Θ ec env ctes steps).map (fun cs => cs.map (fun kv => (kv.1, kv.2.rename φ.col))) := by
  refine foldlM_map _ φ.step _ _ (fun ctes st => ?_) steps ctes
  simp only [NodeMap.step, semNear_map Θ ec hφ env ctes st.near st.cols st.force]
  cases semNear Θ ec env ctes st.near st.cols st.force with
  | error e => rfl
  | ok t => exact congrArg Except.ok (List.map_append (l₂ := [(st.name, t)])).symm

theorem semWith_map (Θ : Interp) (ec : EngineCfg) {φ : NodeMap} (hφ : φ.Blind) (env : Env)
    (steps : List WithStep) (last : Near) :
    semWith Θ ec (Env.rename φ.col φ.tab env) (steps.map φ.step) (φ.near last)
      = (semWith Θ ec env steps last).map (Table.rename φ.col) := by
  have h := runSteps_map Θ ec hφ env steps []
  rw [List.map_nil] at h
  rw [semWith_eq, semWith_eq, h]
  exact map_bind _ _ _ _ _ (fun ctes => semNear_map Θ ec hφ env ctes last none true)

theorem semWith_ren (Θ : Interp) (ec : EngineCfg) (hc : Injective ρc) (ht : Injective ρt) (env : Env)
    (steps : List WithStep) (last : Near) :
    semWith Θ ec (Env.rename ρc ρt env) (steps.map (WithStep.rename ρc ρt)) (last.rename ρc ρt)
      = (semWith Θ ec env steps last).map (Table.rename ρc) := by
  rw [← renMap_near, ← renMap_step]
  exact semWith_map Θ ec (φ := renMap ρc ρt) ⟨hc, ht⟩ env steps last

theorem withFormOf_ren (cfg : SqlCfg) (hc : Injective ρc) (ht : Injective ρt) (p : Ops) :
    withFormOf cfg (p.ren ρc ρt)
      = (withFormOf cfg p).map (fun ls => (ls.1.rename ρc ρt, ls.2.map (WithStep.rename ρc ρt))) := by
  rw [← renMap_ops, ← renMap_near, ← renMap_step]
  exact withFormOf_map cfg (φ := renMap ρc ρt) ⟨hc, ht⟩ p

theorem withMeaning_ren (Θ : Interp) (ec : EngineCfg) (cfg : SqlCfg) (hc : Injective ρc) (ht : Injective ρt)
    (env : Env) (p : Ops) :
    withMeaning Θ ec cfg (Env.rename ρc ρt env) (p.ren ρc ρt)
      = (withMeaning Θ ec cfg env p).map (Table.rename ρc) := by
  unfold withMeaning
  rw [withFormOf_ren cfg hc ht p]
  cases withFormOf cfg p with
  | error e => rfl
  | ok ls => exact semWith_ren Θ ec hc ht env ls.2 ls.1

end Ren
end DAVerif
