import DAVerif.Core.OrderedSet
/-! Lemmas about the OrderedSet model.  The specification-side notion is `dedupFirst` (keep first occurrences);
`addAll_eq` ties the insertion loop to it, and every constructor-like operation goes through `ofList_eq`. -/
namespace DAVerif.OSet

variable {α : Type} [DecidableEq α]

def dedupFirst : List α → List α
  | [] => []
  | x :: xs => x :: (dedupFirst xs).filter (fun y => y ≠ x)

theorem dedupFirst_filter (p : α → Bool) (l : List α) :
    (dedupFirst l).filter p = dedupFirst (l.filter p) := by
  induction l with
  | nil => rfl
  | cons x xs ih =>
    simp only [dedupFirst, List.filter_cons]
    split
    · simp only [dedupFirst, ← ih, List.filter_filter]
      congr 1; congr 1; funext y; exact Bool.and_comm _ _
    · rename_i hx
      rw [← ih, List.filter_filter]
      apply List.filter_congr
      intro y hy
      by_cases hyx : y = x <;> simp [hyx, hx]

@[simp] theorem mem_dedupFirst {x : α} {l : List α} : x ∈ dedupFirst l ↔ x ∈ l := by
  induction l with
  | nil => simp [dedupFirst]
  | cons y ys ih =>
    simp only [dedupFirst, List.mem_cons, List.mem_filter, ih]
    by_cases h : x = y <;> simp [h]

theorem nodup_dedupFirst (l : List α) : (dedupFirst l).Nodup := by
  induction l with
  | nil => simp [dedupFirst]
  | cons y ys ih =>
    simp only [dedupFirst, List.nodup_cons, List.mem_filter]
    refine ⟨by simp, ?_⟩
    exact List.Nodup.sublist List.filter_sublist ih

theorem dedupFirst_of_nodup {l : List α} (h : l.Nodup) : dedupFirst l = l := by
  induction l with
  | nil => rfl
  | cons y ys ih =>
    rw [List.nodup_cons] at h
    simp only [dedupFirst, ih h.2]
    congr 1
    rw [List.filter_eq_self]
    intro a ha; simp; intro e; subst e; exact h.1 ha

theorem addAll_eq (s v : List α) :
    addAll s v = s ++ dedupFirst (v.filter (fun x => !(s.contains x))) := by
  induction v generalizing s with
  | nil => simp [addAll, dedupFirst]
  | cons x v ih =>
    have ih' := ih
    unfold addAll at ih' ⊢
    simp only [List.foldl_cons]
    by_cases hx : x ∈ s
    · simp [add, hx, ih']
    · simp only [add, hx, if_false, ih', List.filter_cons, List.contains_eq_mem, decide_false,
        Bool.not_false, if_true, dedupFirst, List.append_assoc, List.cons_append, List.nil_append]
      rw [dedupFirst_filter, List.filter_filter]
      congr 2
      congr 1
      apply List.filter_congr
      intro y _
      by_cases hyx : y = x <;> simp [hyx, hx]

theorem ofList_eq (v : List α) : ofList v = dedupFirst v := by
  have h : v.filter (fun _ => true) = v := by simp
  simp [ofList, addAll_eq, h]

theorem add_eq_addAll (s : List α) (x : α) : add s x = addAll s [x] := by simp [addAll]

theorem nodup_add {s : List α} (h : s.Nodup) (x : α) : (add s x).Nodup := by
  unfold add; split
  · exact h
  · rename_i hx
    rw [List.nodup_append]
    exact ⟨h, by simp, by intro a ha b hb; simp at hb; subst hb; intro e; subst e; exact hx ha⟩

theorem mem_add {s : List α} {x y : α} : y ∈ add s x ↔ y = x ∨ y ∈ s := by
  unfold add; split
  · rename_i hx; constructor
    · exact Or.inr
    · rintro (rfl | h); exact hx; exact h
  · simp [or_comm]

theorem nodup_discard {s : List α} (h : s.Nodup) (x : α) : (discard s x).Nodup := h.erase x

theorem mem_discard {s : List α} (h : s.Nodup) {x y : α} : y ∈ discard s x ↔ y ∈ s ∧ y ≠ x := by
  unfold discard; rw [h.mem_erase_iff]; exact And.comm

theorem discard_eq_filter {s : List α} (h : s.Nodup) (x : α) :
    discard s x = s.filter (fun y => y ≠ x) := by
  unfold discard; rw [h.erase_eq_filter]; apply List.filter_congr; intro y _; simp [bne, Bool.beq_eq_decide_eq]

theorem nodup_addAll {s : List α} (h : s.Nodup) (v : List α) : (addAll s v).Nodup := by
  induction v generalizing s with
  | nil => exact h
  | cons x v ih => exact ih (nodup_add h x)

theorem mem_addAll {s v : List α} {y : α} : y ∈ addAll s v ↔ y ∈ s ∨ y ∈ v := by
  induction v generalizing s with
  | nil => simp [addAll]
  | cons x v ih =>
    show y ∈ addAll (add s x) v ↔ _
    rw [ih, mem_add, List.mem_cons, or_comm (a := y = x), or_assoc]

theorem nodup_ofList (v : List α) : (ofList v).Nodup := nodup_addAll List.nodup_nil v
theorem mem_ofList {v : List α} {y : α} : y ∈ ofList v ↔ y ∈ v := by simp [ofList, mem_addAll]

theorem nodup_foldl_discard {s : List α} (h : s.Nodup) (o : List α) : (o.foldl discard s).Nodup := by
  induction o generalizing s with
  | nil => exact h
  | cons x o ih => exact ih (nodup_discard h x)

theorem mem_foldl_discard {s : List α} (h : s.Nodup) (o : List α) {y : α} :
    y ∈ o.foldl discard s ↔ y ∈ s ∧ y ∉ o := by
  induction o generalizing s with
  | nil => simp
  | cons x o ih =>
    simp only [List.foldl_cons, ih (nodup_discard h x), mem_discard h, List.mem_cons, not_or, and_assoc]

/-- the guarded add used by `union` and `ordered_union` is just `add` -/
theorem guarded_add : (fun (r : List α) k => if k ∈ r then r else add r k) = add :=
  funext fun r => funext fun k => if h : k ∈ r then (if_pos h).trans (if_pos h : add r k = r).symm else if_neg h

theorem union_eq (s : List α) (args : List (List α)) : union s args = update (ofList s) args := by
  unfold union; rw [guarded_add]; rfl

theorem nodup_update {s : List α} (h : s.Nodup) (args : List (List α)) : (update s args).Nodup := by
  induction args generalizing s with
  | nil => exact h
  | cons a args ih => exact ih (nodup_addAll h a)

theorem mem_update {s : List α} {args : List (List α)} {y : α} :
    y ∈ update s args ↔ y ∈ s ∨ ∃ a ∈ args, y ∈ a := by
  induction args generalizing s with
  | nil => simp [update]
  | cons a args ih =>
    show y ∈ update (addAll s a) args ↔ _
    rw [ih, mem_addAll]; simp only [List.mem_cons, exists_eq_or_imp]; exact or_assoc

theorem pop_spec {s : List α} (h : s.Nodup) {x : α} {s' : List α} (hp : pop s = some (x, s')) :
    s = x :: s' := by
  cases s with
  | nil => simp [pop] at hp
  | cons y ys =>
    simp only [pop, discard, List.erase_cons_head, Option.some.injEq, Prod.mk.injEq] at hp
    rw [hp.1, hp.2]

theorem clearAux_eq (n : Nat) (s : List α) (hn : s.length ≤ n) : clearAux n s = [] := by
  induction n generalizing s with
  | zero => cases s with
    | nil => rfl
    | cons _ _ => simp at hn
  | succ n ih =>
    cases s with
    | nil => simp [clearAux, pop]
    | cons y ys =>
      simp only [clearAux, pop, discard, List.erase_cons_head]
      exact ih ys (by simpa using hn)

theorem clear_eq (s : List α) : clear s = [] := clearAux_eq _ s (Nat.le_refl _)

theorem update_flatten (s : List α) (a : List (List α)) : update s a = addAll s a.flatten := by
  induction a generalizing s with
  | nil => rfl
  | cons o a ih =>
    show update (addAll s o) a = _
    rw [ih]; simp [addAll, List.foldl_append]

theorem addAll_append (s u v : List α) : addAll s (u ++ v) = addAll (addAll s u) v := by
  simp [addAll, List.foldl_append]

theorem add_dedupFirst (l : List α) (x : α) : add (dedupFirst l) x = dedupFirst (l ++ [x]) := by
  rw [← ofList_eq, ← ofList_eq]
  exact (addAll_append [] l [x]).symm

theorem discard_dedupFirst (l : List α) (x : α) :
    discard (dedupFirst l) x = dedupFirst (l.filter (fun y => y ≠ x)) :=
  (discard_eq_filter (nodup_dedupFirst l) x).trans (dedupFirst_filter _ l)

theorem addAll_dedup (t o : List α) : addAll t (dedupFirst o) = addAll t o := by
  rw [addAll_eq, addAll_eq, dedupFirst_filter, dedupFirst_of_nodup (nodup_dedupFirst _)]

theorem ofList_append_ofList (u v : List α) : ofList (u ++ ofList v) = ofList (u ++ v) := by
  show addAll [] (u ++ ofList v) = addAll [] (u ++ v)
  rw [addAll_append, addAll_append, ofList_eq v, addAll_dedup]

theorem ofList_ofList_append (u v : List α) : ofList (ofList u ++ v) = ofList (u ++ v) := by
  show addAll [] (ofList u ++ v) = addAll [] (u ++ v)
  rw [addAll_append, addAll_append]
  exact congrArg (addAll · v) ((ofList_eq (ofList u)).trans (dedupFirst_of_nodup (nodup_ofList u)))

theorem contains_ofList (o : List α) (v : α) : (ofList o).contains v = o.contains v := by
  simp only [List.contains_eq_mem, mem_ofList]

end DAVerif.OSet
