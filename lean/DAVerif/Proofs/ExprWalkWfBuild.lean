import DAVerif.Proofs.ExprWalkWfDefs
import DAVerif.Proofs.ExprWalk
import DAVerif.Proofs.ExprWf
/-!
C13: the recursive definitions of `Proofs/ExprWalkWfDefs.lean` and `wf` unfolded one step (what `ExprWalkWfMain`,
`ExprWalkWfNames` and `ExprWalkWfPrintNames` share), the consequences of `Canon`, and the two-argument builders: the term
that the builder an operator token is remapped to returns is well-formed, given well-formed operands (`opExpr_wf`,
`step_wf`, `call1_wf`).
-/
namespace DAVerif.C13W
open DAVerif DAVerif.Expr

theorem wfs_nil (env : Env) : wfs env [] = true := by rw [wfs]
theorem wfs_cons (env : Env) (a : Term) (as : List Term) : wfs env (a :: as) = (wf env a && wfs env as) := by
  rw [wfs]

theorem wfs_append (env : Env) : ∀ (as bs : List Term), wfs env (as ++ bs) = (wfs env as && wfs env bs)
  | [], bs => by simp [wfs_nil]
  | a :: as, bs => by simp [wfs_cons, wfs_append env as bs, Bool.and_assoc]

theorem wf_value (env : Env) (l : Lit) : wf env (.value l) = litOk l := by rw [wf]

theorem termNames_app (op : String) (args : List Term) (i m : Bool) :
    termNames (.app op args i m) = (if i then [] else [op]) ++ termNamesL args := by rw [termNames]
theorem termNamesL_nil : termNamesL [] = [] := by rw [termNamesL]
theorem termNamesL_cons (a : Term) (as : List Term) : termNamesL (a :: as) = termNames a ++ termNamesL as := by
  rw [termNamesL]

theorem allPL_iff {pn : String → List Cst → Bool} {pt : Token → Bool} :
    ∀ {cs : List Cst}, allPL pn pt cs = true ↔ ∀ c ∈ cs, allP pn pt c = true
  | [] => by simp [allPL]
  | c :: cs => by simp [allPL, allPL_iff (cs := cs)]

theorem ite_ne {α : Type} {c : Prop} [Decidable c] {a b x : α} (ha : a ≠ x) (hb : b ≠ x) :
    (if c then a else b) ≠ x := by
  split <;> assumption

theorem classify_funccall_inv {rule : String} (h : classify rule = .funccall) : rule = "funccall" := by
  by_cases hf : rule = "funccall"
  · exact hf
  · exfalso
    have hf' : (rule == "funccall") = false := by simpa using hf
    unfold classify at h
    simp only [hf', Bool.false_eq_true, ↓reduceIte] at h
    revert h
    repeat (first | exact (by decide +kernel) | apply ite_ne (by decide +kernel))

section canon
variable {env : Env} (hc : Canon env)
include hc

theorem canon_entry {name : String} {kind : MethodKind} (hl : env.methods.lookup name = some kind)
    (hd : isDunder name = false) : kindCanonT env.methods env.opRemap kind = true := by
  unfold Canon tablesCanon at hc
  simp only [Bool.and_eq_true] at hc
  have h := hc.1.1.1.1
  rw [List.all_eq_true] at h
  have := h _ (lookup_mem _ _ _ hl)
  simpa [hd] using this

theorem canon_op {s : String} (hs : s ∈ grammarOps) :
    reachCanonT env.methods env.opRemap (remap env.opRemap s) = true := by
  unfold Canon tablesCanon at hc
  simp only [Bool.and_eq_true] at hc
  have h := hc.1.1.1.2
  rw [List.all_eq_true] at h
  exact h _ hs

theorem canon_pow : reachCanonT env.methods env.opRemap "__pow__" = true := by
  unfold Canon tablesCanon at hc
  simp only [Bool.and_eq_true] at hc
  exact hc.1.1.2

theorem canon_eq : reachCanonT env.methods env.opRemap "__eq__" = true := by
  unfold Canon tablesCanon at hc
  simp only [Bool.and_eq_true] at hc
  exact hc.1.2

theorem canon_tilde : env.methods.lookup (remap env.factorRemap "~") = none := by
  unfold Canon tablesCanon at hc
  simp only [Bool.and_eq_true] at hc
  simpa using hc.2

end canon

theorem remapX_eq (env : Env) (op : String) : remapX env op = remapXT env.opRemap op := rfl

theorem opExpr_wf {env : Env} {op : String} {a b : Term} {i m c : Bool} {t : Term}
    (hcan : binCanonT env.methods env.opRemap op i m c = true) (hca : isColl a = false)
    (hwa : wf env a = true) (hwb : wf env b = true) (h : opExpr env op a b i m c = .ok t) : wf env t = true := by
  cases opExpr_ok h
  have hmk := opExpr_mk h
  refine wf_app_iff.2 ⟨by simpa using ⟨hwa, hwb⟩, ?_⟩
  cases i <;> cases m
  · exact .func hmk
  · simp only [binCanonT, Bool.false_eq_true, ↓reduceIte, Bool.and_eq_true, bne_iff_ne, ne_eq, beq_iff_eq] at hcan
    refine .method ?_
    simp only [callMethod, getMethod_lookup hca hcan.1 hcan.2, ok_bind, applyBound]
    exact h
  · cases hk : karyOps.contains op
    · simp only [binCanonT, ↓reduceIte, Bool.false_or, hk, Bool.and_eq_true, bne_iff_ne, ne_eq, beq_iff_eq] at hcan
      refine .bin hk hcan.1.1 ?_
      simp only [remapX_eq, callMethod, getMethod_lookup hca hcan.1.2 hcan.2, ok_bind, applyBound]
      exact h
    · exact .kary hk hmk
  · unfold mkExpr at hmk
    split at hmk
    · contradiction
    · simp at hmk

theorem step_wf {env : Env} {nm : String} (hcan : reachCanonT env.methods env.opRemap nm = true)
    {res arg : Term} {b : Bound} {t : Term}
    (hg : getMethod env res nm = .ok b) (ha : applyBound env b res [arg] = .ok t)
    (hwr : wf env res = true) (hwa : wf env arg = true) : wf env t = true := by
  obtain ⟨hcoll, hb | ⟨k, hl, hb⟩⟩ := getMethod_ok hg
  · obtain ⟨rfl, _, l, rfl⟩ := hb
    simp [applyBound] at ha
  · subst hb
    simp only [reachCanonT, hl] at hcan
    cases k with
    | uop op inline => simp [applyBound] at ha
    | bin op i m c =>
      simp only [applyBound] at ha
      exact opExpr_wf hcan hcoll hwr hwa ha
    | rbin op => simp at hcan
    | tri op i m => simp [applyBound] at ha
    | special n => simp at hcan
    | unmodelled => simp [applyBound] at ha

theorem call1_wf {env : Env} {nm : String} (hcan : reachCanonT env.methods env.opRemap nm = true)
    {res arg : Term} {t : Term} (h : callMethod env res nm [arg] = .ok t)
    (hwr : wf env res = true) (hwa : wf env arg = true) : wf env t = true := by
  obtain ⟨b, hg, ha⟩ := callMethod_split h
  exact step_wf hcan hg ha hwr hwa

end DAVerif.C13W
