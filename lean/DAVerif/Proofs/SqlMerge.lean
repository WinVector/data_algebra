import DAVerif.Proofs.SqlMergeInv
/-!
C01/C04, the extend merge.  When the translated source is a mergeable step `sub` (`SELECT sterms FROM ssub`, no
suffix), `extend_to_near_sql` does not emit

    ours   = SELECT terms  FROM (SELECT sterms FROM ssub) sub

but writes our non-trivial entries into the dictionary of `sub` and returns

    merged = SELECT mergeDict … terms sterms FROM ssub

provided `contention = ∅`.  `merge_sound`: for every request within our keys, `merged` returns, row by row, what
`ours` returns.  `termsOK_merge`: the merged dictionaries satisfy the invariant of mergeable steps again.

Only two of the three components of `contention` are needed for soundness: `subNT ∩ ourNeeds = ∅` (what our
expressions read – window partition and order columns included – is passed through unchanged by `sub`) and
`ourNT ∩ subNT = ∅` (for pass-through entries of ours that count as non-trivial; there are none in dictionaries built
by `extend_to_near_sql`).  `ourNT ∩ subNeeds = ∅` is conservative: all entries of one SELECT list read the FROM rows,
so overwriting a column that an entry of `sub` reads does not change that entry.
-/
namespace DAVerif
namespace Sql
open DAVerif.Ops (usedFromSources unionL)

theorem mem_needsOf {ds : List (String × List String)} {nt : List String} {x : String} :
    x ∈ needsOf ds nt ↔ ∃ k v, (k, v) ∈ ds ∧ k ∈ nt ∧ x ∈ v := by
  simp only [needsOf, List.mem_flatMap, List.mem_filter, List.contains_eq_mem, decide_eq_true_eq]
  constructor
  · rintro ⟨⟨k, v⟩, ⟨h1, h2⟩, h3⟩; exact ⟨k, v, h1, h2, h3⟩
  · rintro ⟨k, v, h1, h2, h3⟩; exact ⟨(k, v), ⟨h1, h2⟩, h3⟩

private theorem inter_eq_nil {a b : List String} (h : inter a b = []) {x : String} (ha : x ∈ a) : x ∉ b := by
  intro hb
  have : x ∈ inter a b := mem_inter.mpr ⟨ha, hb⟩
  rw [h] at this
  cases this

theorem contention_nil {deps : List (String × List String)} {terms : Terms} {sdeps : List (String × List String)}
    {sterms : Terms} (h : contention deps terms sdeps sterms = []) :
    (∀ x ∈ nonTrivialTerms deps terms, x ∉ nonTrivialTerms sdeps sterms) ∧
    (∀ x ∈ nonTrivialTerms sdeps sterms, x ∉ needsOf deps (nonTrivialTerms deps terms)) := by
  unfold contention at h
  simp only [List.append_eq_nil_iff] at h
  exact ⟨fun x hx => inter_eq_nil h.1.1 hx, fun x hx => inter_eq_nil h.2 hx⟩

private theorem isPass_eq_true {t : STerm} (h : isPass t = true) : t = .pass := by
  cases t <;> first | rfl | cases h

theorem TermsOK.mem_nt {sc : List String} {ts : Terms} {ds : List (String × List String)} (h : TermsOK sc ts ds)
    {k : String} {t : STerm} (hl : lookupLast ts k = some t) (hp : isPass t = false) : k ∈ nonTrivialTerms ds ts := by
  obtain ⟨_, v, hv, _⟩ := h.declared k t hl hp
  refine mem_nonTrivialTerms.mpr ⟨v, lookupLast_mem hv, ?_, Or.inr (Or.inr ⟨t, hl, hp⟩)⟩
  rw [← lookupLast_isSome_iff, hl]; rfl

theorem TermsOK.trivial_of_not_nt {sc : List String} {ts : Terms} {ds : List (String × List String)}
    (h : TermsOK sc ts ds) {x : String} (hx : x ∉ nonTrivialTerms ds ts) :
    lookupLast ts x = none ∨ lookupLast ts x = some .pass := by
  cases hl : lookupLast ts x with
  | none => exact Or.inl rfl
  | some t =>
    right
    cases hp : isPass t with
    | true => rw [isPass_eq_true hp]
    | false => exact absurd (h.mem_nt hl hp) hx

theorem our_reads {S : List String} {terms : Terms} {deps : List (String × List String)} {sterms : Terms}
    {sdeps : List (String × List String)} (hours : TermsOK S terms deps)
    (hcont : contention deps terms sdeps sterms = []) {c : String} {tm : STerm}
    (hc : c ∈ nonTrivialTerms deps terms) (hl : lookupLast terms c = some tm) :
    ∀ x ∈ termReads c tm, x ∈ S ∧ x ∉ nonTrivialTerms sdeps sterms := by
  intro x hx
  obtain ⟨h1, h3⟩ := contention_nil hcont
  refine ⟨hours.inSrc c tm hl x hx, ?_⟩
  cases hp : isPass tm with
  | true =>
    rw [isPass_eq_true hp] at hx
    simp only [termReads, List.mem_singleton] at hx
    subst hx
    exact h1 x hc
  | false =>
    obtain ⟨_, v, hv, hreads⟩ := hours.declared c tm hl hp
    intro hsub
    exact h3 x hsub (mem_needsOf.mpr ⟨c, v, lookupLast_mem hv, hc, hreads x hx⟩)

theorem our_pass {S : List String} {terms : Terms} {deps : List (String × List String)}
    (hours : TermsOK S terms deps) {c : String} {tm : STerm} (hc : c ∉ nonTrivialTerms deps terms)
    (hl : lookupLast terms c = some tm) : tm = .pass := by
  cases hp : isPass tm with
  | true => exact isPass_eq_true hp
  | false => exact absurd (hours.mem_nt hl hp) hc

private theorem zipIdx_map_zipIdx {α β : Type} (l : List α) (F : α × Nat → β) (k : Nat) :
    ((l.zipIdx k).map F).zipIdx k = (l.zipIdx k).map (fun ri => (F ri, ri.2)) := by
  induction l generalizing k with
  | nil => rfl
  | cons a l ih =>
    simp only [List.zipIdx_cons, List.map_cons, List.cons.injEq, true_and]
    exact ih (k + 1)

private theorem map_zipIdx_map_zipIdx {α β γ : Type} (l : List α) (F : α × Nat → β) (G : β × Nat → γ) :
    ((l.zipIdx.map F).zipIdx).map G = l.zipIdx.map (fun ri => G (F ri, ri.2)) := by
  rw [zipIdx_map_zipIdx, List.map_map]
  rfl

/-- the row the step `SELECT sterms FROM …` returns for the output columns `out0` on the FROM row `ri` -/
def subRow (Θ : Interp) (ec : EngineCfg) (idx : List (Row × Nat)) (sterms : Terms) (out0 : List String)
    (ri : Row × Nat) : Row :=
  out0.map (fun c => (c, termVal Θ ec idx ri c (lookT (some sterms) c)))

/-- Plain and windowed entries alike: a window entry of ours written next to the entries of `sub` is evaluated over
the rows of `ssub` instead of the rows of `sub`; these are as many rows, in the same order (no WHERE / GROUP BY /
ORDER BY / LIMIT in a mergeable step), and they agree on every column the entry reads – partition and order
columns included – because `sub` passes those columns through. -/
theorem merge_sound {Θ : Interp} {ec : EngineCfg} {env : Env} {sname nm : String} {sterms terms : Terms}
    {ssub : Near} {scols : Option (List String)} {sdeps deps : List (String × List String)}
    {skey key key' : Option String} {S sc : List String} {mg : Bool}
    (hsub : TermsOK sc sterms sdeps) (hours : TermsOK S terms deps)
    (hcont : contention deps terms sdeps sterms = [])
    {u' : List String} (hu' : ∀ c ∈ u', c ∈ terms.map (·.1)) (force : Bool) {T : Table}
    (hT : semNear Θ ec env [] (.unary nm (some terms) false
        (.unary sname (some sterms) false ssub scols .none true (some sdeps) skey) (some S) .none mg (some deps) key)
        (some u') force = .ok T) :
    ∃ T', semNear Θ ec env []
        (.unary sname (some (mergeDict (nonTrivialTerms deps terms) terms sterms (terms.map (·.1)))) false ssub scols
          .none true (some (mergeDict (nonTrivialTerms deps terms) deps sdeps (terms.map (·.1)))) key')
        (some u') force = .ok T' ∧
      (∀ c ∈ u', c ∈ T'.cols) ∧ T'.rows.map (fun r => r.select u') = T.rows.map (fun r => r.select u') := by
  rw [semNear_unary] at hT
  cases h0 : semNear Θ ec env [] (.unary sname (some sterms) false ssub scols .none true (some sdeps) skey)
      (some S) false with
  | error e => rw [h0] at hT; cases hT
  | ok T0 =>
    rw [h0] at hT
    simp only [Except.bind, Except.ok.injEq] at hT
    subst hT
    rw [semNear_unary] at h0
    cases h00 : semNear Θ ec env [] ssub scols false with
    | error e => rw [h00] at h0; cases h0
    | ok T00 =>
      rw [h00] at h0
      simp only [Except.bind, Except.ok.injEq] at h0
      subst h0
      refine ⟨_, semNear_unary_ok h00 (some u') force, subset_outCols_some (fc := T00.cols), ?_⟩
      simp only
      rw [stepRows_select _ _ _ _ _ (subset_outCols_some (fc := T00.cols)),
        stepRows_select _ _ _ _ _ (subset_outCols_some (fc := outCols (some sterms) (some S) T00.cols))]
      generalize hout0 : outCols (some sterms) (some S) T00.cols = out0
      have hSout : ∀ x ∈ S, x ∈ out0 := by
        intro x hx; rw [← hout0]; exact subset_outCols_some x hx
      unfold stepRows
      simp only [Bool.false_eq_true, ↓reduceIte, limitOf, suffixRows]
      rw [map_zipIdx_map_zipIdx]
      -- the columns on which the rows of `sub` and the rows of its FROM clause agree
      generalize hRdef : S.filter (fun x => !(nonTrivialTerms sdeps sterms).contains x) = R
      have hmemR : ∀ x, x ∈ R ↔ x ∈ S ∧ x ∉ nonTrivialTerms sdeps sterms := by
        intro x; rw [← hRdef]; simp
      have hFget : ∀ ri x, x ∈ out0 → Row.get (subRow Θ ec T00.rows.zipIdx sterms out0 ri) x =
          termVal Θ ec T00.rows.zipIdx ri x (lookT (some sterms) x) := by
        intro ri x hx
        unfold subRow
        rw [get_mkRow, if_pos hx]
      have hrowR : ∀ ri : Row × Nat, Row.select (subRow Θ ec T00.rows.zipIdx sterms out0 ri) R = ri.1.select R := by
        intro ri
        apply Row.select_congr.mpr
        intro x hx
        obtain ⟨hxS, hxn⟩ := (hmemR x).mp hx
        rw [hFget ri x (hSout x hxS)]
        rcases hsub.trivial_of_not_nt hxn with e | e <;> simp only [lookT, e] <;> rfl
      have hagree : (T00.rows.zipIdx.map (subRow Θ ec T00.rows.zipIdx sterms out0)).map (fun r => r.select R) =
          T00.rows.map (fun r => r.select R) := by
        rw [List.map_map, ← zipIdx_map_fun_fst T00.rows (fun r => r.select R) 0]
        apply List.map_congr_left
        intro ri _
        exact hrowR ri
      apply List.map_congr_left
      intro ri _
      apply mkRow_congr
      intro c hc
      change termVal Θ ec T00.rows.zipIdx ri c _ =
        termVal Θ ec (T00.rows.zipIdx.map (subRow Θ ec T00.rows.zipIdx sterms out0)).zipIdx
          (subRow Θ ec T00.rows.zipIdx sterms out0 ri, ri.2) c _
      have hck := hu' c hc
      obtain ⟨tm, htm⟩ := Option.isSome_iff_exists.mp (lookupLast_isSome_iff.mpr hck)
      by_cases hnt : c ∈ nonTrivialTerms deps terms
      · -- our entry was written into the sub step
        have hlm : lookT (some (mergeDict (nonTrivialTerms deps terms) terms sterms (terms.map (·.1)))) c = some tm := by
          simp only [lookT, lookupLast_mergeDict, if_pos hck, if_pos hnt, htm, Option.some_or]
        have hlo : lookT (some terms) c = some tm := htm
        rw [hlm, hlo]
        symm
        apply termVal_reads Θ ec c (some tm) (R := R) _ hagree
        · simp only [projIdx, hrowR]
        · intro x hx
          exact (hmemR x).mpr (our_reads hours hcont hnt htm x hx)
      · -- a pass-through entry of ours: the entry of the sub step stays
        have hpass := our_pass hours hnt htm
        subst hpass
        have hlm : lookT (some (mergeDict (nonTrivialTerms deps terms) terms sterms (terms.map (·.1)))) c =
            lookT (some sterms) c := by
          simp only [lookT, lookupLast_mergeDict, if_pos hck, if_neg hnt, Option.none_or]
        have hlo : lookT (some terms) c = some .pass := htm
        rw [hlm, hlo]
        have hcS : c ∈ S := hours.inSrc c .pass htm c List.mem_cons_self
        show _ = Row.get (subRow Θ ec T00.rows.zipIdx sterms out0 ri) c
        rw [hFget ri c (hSout c hcS)]

/-- `hS`: the columns we request from the sub step are among its keys, part of `Sound.keys` -/
theorem termsOK_merge {S sc : List String} {terms sterms : Terms} {deps sdeps : List (String × List String)}
    (hsub : TermsOK sc sterms sdeps) (hours : TermsOK S terms deps)
    (hcont : contention deps terms sdeps sterms = []) (hS : ∀ x ∈ S, x ∈ sterms.map (·.1)) :
    TermsOK sc (mergeDict (nonTrivialTerms deps terms) terms sterms (terms.map (·.1)))
      (mergeDict (nonTrivialTerms deps terms) deps sdeps (terms.map (·.1))) := by
  have hntkey : ∀ k ∈ nonTrivialTerms deps terms, ∃ tm, lookupLast terms k = some tm := by
    intro k hk
    obtain ⟨_, _, hkey, _⟩ := mem_nonTrivialTerms.mp hk
    exact Option.isSome_iff_exists.mp (lookupLast_isSome_iff.mpr hkey)
  refine ⟨?_, ?_⟩
  · intro k t hl hp
    rw [lookupLast_mergeDict] at hl
    split at hl
    · rename_i hkw
      by_cases hk : k ∈ nonTrivialTerms deps terms
      · obtain ⟨tm, htm⟩ := hntkey k hk
        simp only [if_pos hk, htm, Option.some_or, Option.some.injEq] at hl
        subst hl
        obtain ⟨hex, v, hv, hreads⟩ := hours.declared k tm htm hp
        refine ⟨hex, v, ?_, hreads⟩
        simp only [lookupLast_mergeDict, if_pos hkw, if_pos hk, hv, Option.some_or]
      · simp only [if_neg hk, Option.none_or] at hl
        obtain ⟨hex, v, hv, hreads⟩ := hsub.declared k t hl hp
        refine ⟨hex, v, ?_, hreads⟩
        simp only [lookupLast_mergeDict, if_pos hkw, if_neg hk, Option.none_or, hv]
    · cases hl
  · intro k t hl x hx
    rw [lookupLast_mergeDict] at hl
    split at hl
    · by_cases hk : k ∈ nonTrivialTerms deps terms
      · obtain ⟨tm, htm⟩ := hntkey k hk
        simp only [if_pos hk, htm, Option.some_or, Option.some.injEq] at hl
        subst hl
        obtain ⟨hxS, hxn⟩ := our_reads hours hcont hk htm x hx
        have hxkey := hS x hxS
        rcases hsub.trivial_of_not_nt hxn with e | e
        · exact absurd hxkey (lookupLast_eq_none_iff.mp e)
        · exact hsub.inSrc x .pass e x List.mem_cons_self
      · simp only [if_neg hk, Option.none_or] at hl
        exact hsub.inSrc k t hl x hx
    · cases hl

theorem keys_mergeDict {β : Type} (ourNT : List String) (ours sub : List (String × β)) (weUse : List String)
    (k : String) :
    k ∈ (mergeDict ourNT ours sub weUse).map (·.1) ↔
      k ∈ weUse ∧ ((k ∈ ourNT ∧ k ∈ ours.map (·.1)) ∨ k ∈ sub.map (·.1)) := by
  rw [← lookupLast_isSome_iff, lookupLast_mergeDict, ← lookupLast_isSome_iff, ← lookupLast_isSome_iff]
  by_cases h1 : k ∈ weUse
  · by_cases h2 : k ∈ ourNT
    · simp only [h1, h2, true_and]
      cases lookupLast ours k <;> simp
    · simp [h1, h2]
  · simp [h1]

theorem keys_merge {S : List String} {terms sterms : Terms} {deps : List (String × List String)}
    (hours : TermsOK S terms deps) (hS : ∀ x ∈ S, x ∈ sterms.map (·.1)) (k : String) :
    k ∈ (mergeDict (nonTrivialTerms deps terms) terms sterms (terms.map (·.1))).map (·.1) ↔ k ∈ terms.map (·.1) := by
  rw [keys_mergeDict]
  refine ⟨fun h => h.1, fun hk => ⟨hk, ?_⟩⟩
  by_cases hnt : k ∈ nonTrivialTerms deps terms
  · exact Or.inl ⟨hnt, hk⟩
  · obtain ⟨tm, hl⟩ := Option.isSome_iff_exists.mp (lookupLast_isSome_iff.mpr hk)
    cases our_pass hours hnt hl
    exact Or.inr (hS k (hours.inSrc k .pass hl k List.mem_cons_self))

end Sql
end DAVerif
