import DAVerif.Proofs.SolRows
import DAVerif.Proofs.SemBasic
import DAVerif.Proofs.OpsBasic
/-!
Evaluating a fixed pipeline node by node (C21: the trees of the solution helpers stand on a variable source).
`Ev … p cs rows`: `p` evaluates to the rows `rows` under the columns `cs`, and `cs` are the columns `p` declares.  One
rule per kind of node gives `Ev` of the node from `Ev` of its sources; the declared columns of the node come out of the
same rule as a function of those of the sources (`appendNew`, the filter of `drop_columns`, `joinCols`), so a proof
about a tree applies the rules bottom up and supplies only the facts about names that decide these functions.
-/
namespace DAVerif.Sol
open DAVerif DAVerif.Sql DAVerif.Sol21Sql DAVerif.Sol21Sql.Cmp

/-- `p` evaluates to `⟨cs, rows⟩`, and `cs` are its declared columns -/
structure Ev (le : RowCmp) (Θ : Interp) (cfg : SemCfg) (env : Env) (p : Ops) (cs : List String) (rows : List Row) :
    Prop where
  cols : p.cols = cs
  sem : semG le Θ cfg env p = .ok ⟨cs, rows⟩

theorem flatMap_filter_single {α β : Type} (l : List α) (g : α → List β) (q : β → Bool) (a : α)
    (hnd : l.Nodup) (ha : a ∈ l) (hin : ∀ y ∈ g a, q y = true) (hout : ∀ x ∈ l, x ≠ a → ∀ y ∈ g x, q y = false) :
    (l.flatMap g).filter q = g a := by
  induction l with
  | nil => cases ha
  | cons x l ih =>
    obtain ⟨hx, hnd'⟩ := List.nodup_cons.mp hnd
    rw [List.flatMap_cons, List.filter_append]
    by_cases e : x = a
    · subst e
      have h1 : (g x).filter q = g x := List.filter_eq_self.mpr hin
      have h2 : (l.flatMap g).filter q = [] := by
        rw [List.filter_eq_nil_iff]
        intro y hy
        obtain ⟨z, hz, hyz⟩ := List.mem_flatMap.mp hy
        have : z ≠ x := fun e => hx (e ▸ hz)
        have := hout z (List.mem_cons_of_mem _ hz) this y hyz
        simp [this]
      rw [h1, h2, List.append_nil]
    · have h1 : (g x).filter q = [] := by
        rw [List.filter_eq_nil_iff]
        intro y hy
        have := hout x List.mem_cons_self e y hy
        simp [this]
      have ha' : a ∈ l := by
        rcases List.mem_cons.mp ha with h | h
        · exact absurd h.symm e
        · exact h
      rw [h1, List.nil_append]
      exact ih hnd' ha' (fun z hz hne => hout z (List.mem_cons_of_mem _ hz) hne)

theorem any_eq_filter_nonempty {α : Type} (l : List α) (p : α → Bool) : l.any p = !(l.filter p).isEmpty := by
  induction l with
  | nil => rfl
  | cons a l ih =>
    simp only [List.any_cons, List.filter_cons, ih]
    cases p a <;> simp

theorem flatMap_le_one {α β : Type} (l : List α) (h : α → List β) (g : α → β)
    (hg : ∀ a ∈ l, h a = [] ∨ h a = [g a]) :
    l.flatMap h = (l.filter (fun a => !(h a).isEmpty)).map g := by
  induction l with
  | nil => rfl
  | cons a l ih =>
    rw [List.flatMap_cons, List.filter_cons, ih (fun b hb => hg b (List.mem_cons_of_mem _ hb))]
    rcases hg a List.mem_cons_self with e | e
    · rw [e]; rfl
    · rw [e]; rfl

/-- a left join in which every left row has at most one partner: up to row order, one output row per left row -/
theorem leftJoin_perm {α β γ : Type} (A : List α) (B : List β) (m : α → β → Bool) (mk : α → Option β → γ)
    (h1 : ∀ a ∈ A, (B.filter (m a)).length ≤ 1) :
    (A.flatMap (fun a => (B.filter (m a)).map (fun b => mk a (some b)))
      ++ (A.filter (fun a => !(B.any (m a)))).map (fun a => mk a none)).Perm
    (A.map (fun a => mk a (B.filter (m a)).head?)) := by
  have hp : A.flatMap (fun a => (B.filter (m a)).map (fun b => mk a (some b)))
      = (A.filter (fun a => !((B.filter (m a)).map (fun b => mk a (some b))).isEmpty)).map
          (fun a => mk a (B.filter (m a)).head?) := by
    apply flatMap_le_one
    intro a ha
    have := h1 a ha
    cases hf : B.filter (m a) with
    | nil => exact Or.inl rfl
    | cons b l =>
      rw [hf] at this
      have : l = [] := by
        cases l with
        | nil => rfl
        | cons c l' => simp at this
      subst this
      exact Or.inr rfl
  have hl : (A.filter (fun a => !(B.any (m a)))).map (fun a => mk a none)
      = (A.filter (fun a => !(!((B.filter (m a)).map (fun b => mk a (some b))).isEmpty))).map
          (fun a => mk a (B.filter (m a)).head?) := by
    have hf : A.filter (fun a => !(B.any (m a)))
        = A.filter (fun a => !(!((B.filter (m a)).map (fun b => mk a (some b))).isEmpty)) := by
      apply List.filter_congr
      intro a _
      rw [any_eq_filter_nonempty]
      cases B.filter (m a) <;> rfl
    rw [hf]
    apply List.map_congr_left
    intro a ha
    have := (List.mem_filter.mp ha).2
    cases hf' : B.filter (m a) with
    | nil => rfl
    | cons b l => rw [hf'] at this; simp at this
  rw [hp, hl, ← List.map_append]
  exact (List.filter_append_perm _ _).map _

theorem semJoin_left_rows (K : List String) (hK : K ≠ []) (ta tb : Table) (oc : List String) :
    (semJoin SemCfg.pandas .left K K ta tb oc).rows =
      ta.rows.flatMap (fun ra => (tb.rows.filter (fun rb => keyOf ra K == keyOf rb K)).map
        (fun rb => joinRow ta.cols tb.cols oc (some ra) (some rb)))
      ++ (ta.rows.filter (fun ra => !(tb.rows.any (fun rb => keyOf ra K == keyOf rb K)))).map
        (fun ra => joinRow ta.cols tb.cols oc (some ra) none) := by
  have hne : K.isEmpty = false := by
    cases K with
    | nil => exact absurd rfl hK
    | cons a l => rfl
  have h1 : (JoinType.left == JoinType.cross) = false := by decide
  have h2 : (JoinType.left == JoinType.left) = true := by decide
  have h3 : (JoinType.left == JoinType.right) = false := by decide
  have h4 : (JoinType.left == JoinType.full) = false := by decide
  have h5 : (JoinType.left == JoinType.outer) = false := by decide
  simp only [semJoin, h1, h2, h3, h4, h5, hne, Bool.false_or, Bool.or_false, Bool.false_and, keyMatch, SemCfg.pandas,
    Bool.true_or, Bool.and_true, if_true, Bool.false_eq_true, if_false, List.append_nil, Bool.or_self]

theorem semJoin_inner_rows (cfg : SemCfg) {K : List String} (hK : K ≠ []) (ta tb : Table) (oc : List String) :
    (semJoin cfg .inner K K ta tb oc).rows =
      ta.rows.flatMap fun ra => (tb.rows.filter fun rb => keyMatch cfg (keyOf ra K) (keyOf rb K)).map
        fun rb => joinRow ta.cols tb.cols oc (some ra) (some rb) := by
  have hne : K.isEmpty = false := by
    cases K with
    | nil => exact absurd rfl hK
    | cons a l => rfl
  have h : ∀ jt ∈ [JoinType.left, .right, .full, .outer, .cross], (JoinType.inner == jt) = false := by decide
  simp only [List.forall_mem_cons, List.not_mem_nil, false_imp_iff, implies_true, and_true] at h
  simp only [semJoin, h, hne, Bool.false_or, Bool.false_and, Bool.false_eq_true, if_false, List.append_nil]

namespace Ev
variable {le : RowCmp} {Θ : Interp} {cfg : SemCfg} {env : Env} {p : Ops} {cs : List String} {rows : List Row}

theorem table {n : String} {ks : List String} {t0 : Table} (henv : env.lookup n = some t0)
    (hsub : subset ks t0.cols = true) : Ev le Θ cfg env (.table n ks) ks (t0.rows.map (·.select ks)) :=
  ⟨rfl, semG_table henv hsub⟩

/-- a node with one source, from what the source evaluates to (whatever columns that table names) -/
theorem of_step {n : Ops} (hs : n.sources = [p]) {t : Table} (hsem : semG le Θ cfg env p = .ok t)
    {cs' : List String} {rows' : List Row} (hc : n.cols = cs') (hstep : stepG le Θ n t = .ok ⟨cs', rows'⟩) :
    Ev le Θ cfg env n cs' rows' :=
  ⟨hc, by rw [semG_unary le Θ cfg env hs, hsem]; exact hstep⟩

theorem step (h : Ev le Θ cfg env p cs rows) {n : Ops} (hs : n.sources = [p]) {cs' : List String} {rows' : List Row}
    (hc : n.cols = cs') (hstep : stepG le Θ n ⟨cs, rows⟩ = .ok ⟨cs', rows'⟩) : Ev le Θ cfg env n cs' rows' :=
  of_step hs h.sem hc hstep

theorem selectCols (h : Ev le Θ cfg env p cs rows) (ks : List String) :
    Ev le Θ cfg env (.selectCols p ks) ks (rows.map (·.select ks)) := h.step rfl rfl rfl

theorem selectRows (h : Ev le Θ cfg env p cs rows) (e : Term) :
    Ev le Θ cfg env (.selectRows p e) cs (rows.filter fun r => evalCell Θ r e == .bool true) :=
  h.step rfl h.cols rfl

theorem dropCols (h : Ev le Θ cfg env p cs rows) (dels : List String) {cs' : List String}
    (hc : cs.filter (fun c => !dels.contains c) = cs') :
    Ev le Θ cfg env (.dropCols p dels) cs' (rows.map (·.select cs')) := by
  have hn : (Ops.dropCols p dels).cols = cs' := by rw [← hc, ← h.cols]; rfl
  exact h.step rfl hn (by rw [stepG, hn]; rfl)

theorem extend1 (h : Ev le Θ cfg env p cs rows) (c : String) (e : Term) {cs' : List String}
    (hc : appendNew cs [c] = cs') :
    Ev le Θ cfg env (.extend p [(c, e)] [] [] [] false) cs'
      (rows.map fun r => (r.set c (evalCell Θ r e)).select cs') := by
  have hn : (Ops.extend p [(c, e)] [] [] [] false).cols = cs' := by rw [← hc, ← h.cols]; rfl
  exact h.step rfl hn (by rw [stepG, hn]; rfl)

/-- an `extend` reads only the rows of its source's table, whatever columns that table names -/
theorem window1_of {t : Table} (hp : p.cols = cs) (hsem : semG le Θ cfg env p = .ok t) (c : String) (e : Term)
    (pt o rv : List String) {cs' : List String} (hc : appendNew cs [c] = cs') :
    Ev le Θ cfg env (.extend p [(c, e)] pt o rv true) cs' (addCol cs' c (winValG le Θ e pt o rv t.rows) t.rows) := by
  have hn : (Ops.extend p [(c, e)] pt o rv true).cols = cs' := by rw [← hc, ← hp]; rfl
  exact of_step rfl hsem hn (by rw [stepG, hn, if_pos rfl, semExtendWindowG_single])

theorem window1 (h : Ev le Θ cfg env p cs rows) (c : String) (e : Term) (pt o rv : List String) {cs' : List String}
    (hc : appendNew cs [c] = cs') :
    Ev le Θ cfg env (.extend p [(c, e)] pt o rv true) cs' (addCol cs' c (winValG le Θ e pt o rv rows) rows) :=
  window1_of h.cols h.sem c e pt o rv hc

theorem convert (h : Ev le Θ cfg env p cs rows) (rm : RecMap) {rows' : List Row}
    (hcv : Θ.convert rm ⟨cs, rows⟩ = .ok ⟨rm.produced, rows'⟩) :
    Ev le Θ cfg env (.convert p rm) rm.produced rows' := h.step rfl rfl hcv

theorem rename (h : Ev le Θ cfg env p cs rows) (m : List (String × String)) :
    Ev le Θ cfg env (.rename p m) (cs.map fun c => (lookupLast (m.map fun kv => (kv.2, kv.1)) c).getD c)
      (rows.map fun r => r.rename fun c => (lookupLast (m.map fun kv => (kv.2, kv.1)) c).getD c) := by
  have hn : (Ops.rename p m).cols = cs.map fun c => (lookupLast (m.map fun kv => (kv.2, kv.1)) c).getD c := by
    rw [← h.cols]; rfl
  exact h.step rfl hn (by rw [stepG, hn])

/-- a join: the rows of `semJoin` asked for the declared columns directly -/
theorem join {a b : Ops} {ca cb : List String} {ra rb : List Row} (ha : Ev le Θ cfg env a ca ra)
    (hb : Ev le Θ cfg env b cb rb) (oa ob : List String) (jt : JoinType) {oc : List String} (hc : joinCols ca cb = oc) :
    Ev le Θ cfg env (.join a b oa ob jt) oc (semJoin cfg jt oa ob ⟨ca, ra⟩ ⟨cb, rb⟩ oc).rows := by
  have hn : (Ops.join a b oa ob jt).cols = oc := by rw [cols_join, ha.cols, hb.cols, hc]
  refine ⟨hn, ?_⟩
  have hsub : ∀ c ∈ oc, c ∈ appendNew ca cb := fun c h => mem_appendNew.mpr (mem_joinCols.mp (hc ▸ h))
  simp only [semG, ha.sem, hb.sem, bind, Except.bind, pure, Except.pure, hn, ha.cols, hb.cols]
  rw [semJoin_selectCols _ _ _ _ _ _ hsub]
  rfl

theorem cast (h : Ev le Θ cfg env p cs rows) {cs' : List String} {rows' : List Row} (ec : cs = cs')
    (er : rows = rows') : Ev le Θ cfg env p cs' rows' := ec ▸ er ▸ h

theorem rows_eq (h : Ev le Θ cfg env p cs rows) {rows' : List Row} (e : rows = rows') : Ev le Θ cfg env p cs rows' :=
  h.cast rfl e

end Ev

end DAVerif.Sol
