import DAVerif.Proofs.SqlStep
import DAVerif.Proofs.ToNearStep
/-!
C01/C02: the frame of the translation proof: the induction claim `TransOK`, and what `select_columns` /
`drop_columns` need from the step they modify (`KeyStable`, `ShapeOK`; proved here for tables and unary steps, for
joins and unions in `Proofs/SqlJoin.lean`, `shapeOK_ju`).
-/
namespace DAVerif
namespace Sql
open DAVerif.Ops (usedFromSources unionL)

theorem map_select_mono {l l' : List Row} {S u : List String}
    (h : l.map (fun r => r.select S) = l'.map (fun r => r.select S)) (hu : ∀ c ∈ u, c ∈ S) :
    l.map (fun r => r.select u) = l'.map (fun r => r.select u) :=
  map_transport h (fun _ _ _ _ hab => Row.select_congr.mpr (fun c hc => Row.get_of_select_eq hab (hu c hc)))

theorem sort_transport {le : Row → Row → Bool} {l l' : List Row} {S : List String}
    (h : l.map (fun r => r.select S) = l'.map (fun r => r.select S))
    (hle : ∀ a b : Row, le a b = le (a.select S) (b.select S)) :
    (l.mergeSort le).map (fun r => r.select S) = (l'.mergeSort le).map (fun r => r.select S) := by
  rw [List.map_mergeSort (s := le) (fun a _ b _ => hle a b), List.map_mergeSort (s := le) (fun a _ b _ => hle a b), h]

theorem mergeSort_true {α : Type} (le : α → α → Bool) (h : ∀ a b, le a b = true) (l : List α) :
    l.mergeSort le = l :=
  List.mergeSort_of_pairwise (List.pairwise_of_forall (fun a b => h a b))

theorem select_map_select (l : List Row) {S u : List String} (hu : ∀ c ∈ u, c ∈ S) :
    (l.map (fun r => r.select S)).map (fun r => r.select u) = l.map (fun r => r.select u) := by
  rw [List.map_map]
  exact List.map_congr_left (fun r _ => Row.select_select hu)

/-- value of a SELECT-list entry that is not a window expression -/
def rowVal (Θ : Interp) (r : Row) (k : String) : Option STerm → Val
  | none | some .pass => r.get k
  | some (.ident c) => r.get c
  | some (.expr t _) => evalCell Θ r t
  | some (.coalesce _ c) | some (.qual _ c) => r.get c

def isWinT : Option STerm → Bool
  | some (.expr _ (some _)) => true
  | _ => false

theorem termVal_rowVal (Θ : Interp) (ec : EngineCfg) (idx : List (Row × Nat)) (ri : Row × Nat) (k : String)
    {tm : Option STerm} (h : isWinT tm = false) : termVal Θ ec idx ri k tm = rowVal Θ ri.1 k tm := by
  cases tm with
  | none => rfl
  | some t =>
    cases t with
    | expr e w =>
      cases w with
      | none => rfl
      | some _ => cases h
    | _ => rfl

theorem stepRows_rowwise (Θ : Interp) (ec : EngineCfg) (terms : Option Terms) (sfx : Suffix) (out : List String)
    (rows0 : List Row) (h : ∀ c ∈ out, isWinT (lookT terms c) = false) :
    stepRows Θ ec terms false sfx out rows0 =
      limitOf sfx ((suffixRows Θ ec sfx rows0).map (fun r => out.map (fun c => (c, rowVal Θ r c (lookT terms c))))) := by
  unfold stepRows
  simp only [Bool.false_eq_true, ↓reduceIte]
  congr 1
  rw [← zipIdx_map_fun_fst (suffixRows Θ ec sfx rows0) _ 0]
  apply List.map_congr_left
  intro ri _
  exact mkRow_congr (fun c hc => termVal_rowVal Θ ec _ ri c (h c hc))

theorem stepRows_pass (Θ : Interp) (ec : EngineCfg) (terms : Option Terms) (sfx : Suffix) (out : List String)
    (rows0 : List Row) (h : ∀ c ∈ out, lookT terms c = none ∨ lookT terms c = some .pass) :
    stepRows Θ ec terms false sfx out rows0 =
      limitOf sfx ((suffixRows Θ ec sfx rows0).map (fun r => r.select out)) := by
  rw [stepRows_rowwise]
  · congr 1
    apply List.map_congr_left
    intro r _
    unfold Row.select
    exact mkRow_congr (fun c hc => by rcases h c hc with e | e <;> rw [e] <;> rfl)
  · intro c hc
    rcases h c hc with e | e <;> rw [e] <;> rfl

/-- what `select_columns` / `drop_columns` need from the step `q` they modify -/
def KeyStable (Θ : Interp) (ec : EngineCfg) (env : Env) (q : Near) : Prop :=
  ∀ (ks : List String) (sel : Bool) (q' : Near), setTermKeys q ks sel = some q' →
    (∀ (u' : List String) (force : Bool) (T : Table), (∀ c ∈ u', c ∈ ks) →
      semNear Θ ec env [] q (some u') force = .ok T → (∀ c ∈ u', c ∈ T.cols) →
      ∃ T', semNear Θ ec env [] q' (some u') force = .ok T' ∧ (∀ c ∈ u', c ∈ T'.cols) ∧
        T'.rows.map (fun r => r.select u') = T.rows.map (fun r => r.select u')) ∧
    (ks ≠ [] → q.termKeys ≠ none → q'.termKeys = some ks)

theorem keyStable_of_simple (Θ : Interp) (ec : EngineCfg) (env : Env) {q : Near} (hs : q.isSimple = true) :
    KeyStable Θ ec env q := by
  intro ks sel q' h
  refine ⟨fun u' force T hu hT hc => ?_, fun hne _ => termKeys_setTermKeys h hs hne⟩
  obtain ⟨T', h1, h2, _, h4⟩ := setTermKeys_req h hs hu force hT hc
  exact ⟨T', h1, h2, h4⟩

/-- the shapes of near-SQL the induction ranges over -/
structure ShapeOK (Θ : Interp) (ec : EngineCfg) (env : Env) (G : Near → Prop) : Prop where
  simple : ∀ q, q.isSimple = true → G q
  stable : ∀ q, G q → KeyStable Θ ec env q
  closed : ∀ q ks sel q', G q → setTermKeys q ks sel = some q' → G q'

/-- the induction claim for a pipeline `p` at a given fuel: every successful translation of `p` for a requested
column set `u ⊆ p.cols` is sound for some request set `u₁ ⊇ u` within the declared columns, against the table `p`
evaluates to under the engine's ordering (`semE ec`), and has one of the shapes `G` -/
def TransOK (Θ : Interp) (ec : EngineCfg) (env : Env) (scfg : SemCfg) (G : Near → Prop) (cfg : SqlCfg)
    (fuel : Nat) (p : Ops) : Prop :=
  ∀ (u : List String) (st : Nat) (q : Near) (st' : Nat) (tp : Table),
    (∀ c ∈ u, c ∈ p.cols) → toNear cfg fuel p (some u) st = .ok (q, st') →
    semE ec Θ scfg env p = .ok tp →
    G q ∧ ∃ u₁, (∀ c ∈ u, c ∈ u₁) ∧ (∀ c ∈ u₁, c ∈ p.cols) ∧ Sound Θ ec env q u₁ p.cols tp

theorem Sound.mono {Θ : Interp} {ec : EngineCfg} {env : Env} {q : Near} {u pc pc' : List String}
    {tp tp' : Table} (h : Sound Θ ec env q u pc tp) (hpc : ∀ c ∈ pc, c ∈ pc')
    (htp : ∀ u' : List String, (∀ c ∈ u', c ∈ u) →
      tp'.rows.map (fun r => r.select u') = tp.rows.map (fun r => r.select u')) :
    Sound Θ ec env q u pc' tp' := by
  refine ⟨?_, ?_⟩
  · intro u' hu force
    obtain ⟨T, h1, h2, h4⟩ := h.req u' hu force
    exact ⟨T, h1, h2, h4.trans (htp u' hu).symm⟩
  · intro hne
    obtain ⟨ks, hk, h1, h2⟩ := h.keys hne
    exact ⟨ks, hk, fun k hk' => hpc k (h1 k hk'), h2⟩

theorem Sound.restrict {Θ : Interp} {ec : EngineCfg} {env : Env} {q : Near} {u u₀ pc : List String}
    {tp : Table} (h : Sound Θ ec env q u pc tp) (hu : ∀ c ∈ u₀, c ∈ u) : Sound Θ ec env q u₀ pc tp := by
  refine ⟨fun u' hu' force => h.req u' (fun c hc => hu c (hu' c hc)) force, ?_⟩
  intro hne
  have : u ≠ [] := by
    intro e; subst e
    cases u₀ with
    | nil => exact hne rfl
    | cons x _ => exact absurd (hu x List.mem_cons_self) (by simp)
  obtain ⟨ks, hk, h1, h2⟩ := h.keys this
  exact ⟨ks, hk, h1, fun c hc => h2 c (hu c hc)⟩

theorem Sound.setTermKeys {Θ : Interp} {ec : EngineCfg} {env : Env} {q q' : Near} {S pc pc' : List String}
    {tp tp' : Table} {sel : Bool} (h : Sound Θ ec env q S pc tp) (hst : KeyStable Θ ec env q)
    (hq' : setTermKeys q S sel = some q') (hpc : ∀ c ∈ S, c ∈ pc')
    (htp : ∀ u' : List String, (∀ c ∈ u', c ∈ S) →
      tp'.rows.map (fun r => r.select u') = tp.rows.map (fun r => r.select u')) :
    Sound Θ ec env q' S pc' tp' := by
  obtain ⟨hreq, hkeys⟩ := hst S sel q' hq'
  refine ⟨?_, ?_⟩
  · intro u' hu force
    obtain ⟨T, h1, h2, h4⟩ := h.req u' hu force
    obtain ⟨T', g1, g2, g4⟩ := hreq u' force T hu h1 h2
    exact ⟨T', g1, g2, (g4.trans h4).trans (htp u' hu).symm⟩
  · intro hne
    obtain ⟨ks, hk, _, _⟩ := h.keys hne
    exact ⟨S, hkeys hne (by rw [hk]; simp), hpc, fun c hc => hc⟩

end Sql
end DAVerif
