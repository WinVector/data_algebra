import DAVerif.Expr.Canon
/-!
`wf` through the forms in which an `Expression` is printed: `Printed` is `shapeOk` as a relation (`shapeOk_iff`), one
constructor per printed form with the builder call the form is re-read through; `wf_ind` is the induction principle of a
well-formed term over it.  The proofs that the walker returns well-formed terms build `Printed`, the proofs about the
printed text of a well-formed term (it parses, it walks back, its NAME tokens) take it apart; `shapeOk` is unfolded here
and nowhere else.
-/
namespace DAVerif.Expr

mutual
theorem termBEq_eq : ∀ (a b : Term), termBEq a b = true → a = b
  | a, b, h => by
    cases a <;> cases b <;> simp only [termBEq, beq_iff_eq, Bool.and_eq_true, Bool.false_eq_true] at h
    case app.app o1 a1 i1 m1 o2 a2 i2 m2 =>
      obtain ⟨⟨⟨h1, h2⟩, h3⟩, h4⟩ := h
      rw [h1, h2, h3, termsBEq_eq a1 a2 h4]
    all_goals rw [h]
theorem termsBEq_eq : ∀ (a b : List Term), termsBEq a b = true → a = b
  | [], [], _ => rfl
  | x :: xs, y :: ys, h => by
    simp only [termsBEq, Bool.and_eq_true] at h
    rw [termBEq_eq x y h.1, termsBEq_eq xs ys h.2]
  | [], _ :: _, h | _ :: _, [], h => by simp [termsBEq] at h
end

end DAVerif.Expr

namespace DAVerif.C13W
open DAVerif DAVerif.Expr

mutual
theorem termBEq_refl : ∀ t : Term, termBEq t t = true
  | .value a => by simp [termBEq]
  | .col a => by simp [termBEq]
  | .list a => by simp [termBEq]
  | .dict a => by simp [termBEq]
  | .app o a i m => by simp [termBEq, termsBEq_refl a]
theorem termsBEq_refl : ∀ ts : List Term, termsBEq ts ts = true
  | [] => rfl
  | t :: ts => by simp [termsBEq, termBEq_refl t, termsBEq_refl ts]
end

end DAVerif.C13W

namespace DAVerif.Expr

theorem okEq_iff {r : R Term} {t : Term} : okEq r t = true ↔ r = .ok t := by
  cases r with
  | error e => simp [okEq]
  | ok t' =>
    simp only [okEq, Except.ok.injEq]
    exact ⟨termBEq_eq t' t, fun h => h ▸ C13W.termBEq_refl t'⟩

/-- The forms in which an `Expression` is printed, each with the call its printed form is re-read through: the call
returns the node. -/
inductive Printed (env : Env) : String → List Term → Bool → Bool → Prop
  | func {op args} (h : mkExpr env op args false false = .ok (.app op args false false)) :
      Printed env op args false false
  | method {op a rest} (h : callMethod env a op rest = .ok (.app op (a :: rest) false true)) :
      Printed env op (a :: rest) false true
  | neg {a} (h : callMethod env a (remap env.factorRemap "-") [] = .ok (.app "-" [a] true false)) :
      Printed env "-" [a] true false
  | kary {op a b rest} (hop : karyOps.contains op = true)
      (h : kopExpr env op (a :: b :: rest) = .ok (.app op (a :: b :: rest) true false)) :
      Printed env op (a :: b :: rest) true false
  | bin {op a b} (hk : karyOps.contains op = false) (hop : bin2Ops.contains op = true)
      (h : callMethod env a (remapX env op) [b] = .ok (.app op [a, b] true false)) : Printed env op [a, b] true false

theorem shapeOk_iff {env : Env} {op : String} {args : List Term} {i m : Bool} :
    shapeOk env op args i m = true ↔ Printed env op args i m := by
  constructor
  · intro h
    unfold shapeOk at h
    split at h
    · exact .func (okEq_iff.1 h)
    · simp only [Bool.and_eq_true, beq_iff_eq] at h
      obtain ⟨rfl, h⟩ := h
      exact .neg (okEq_iff.1 h)
    · split at h
      · rename_i hk; exact .kary hk (okEq_iff.1 h)
      · rename_i hk
        simp only [Bool.and_eq_true, List.isEmpty_iff] at h
        obtain ⟨⟨rfl, hop⟩, h⟩ := h
        exact .bin (by simpa using hk) hop (okEq_iff.1 h)
    · exact .method (okEq_iff.1 h)
    · exact .func (okEq_iff.1 h)
    · cases h
  · intro h
    cases h with
    | func h => cases args <;> simp only [shapeOk] <;> exact okEq_iff.2 h
    | @method _ _ rest h => cases rest <;> simp only [shapeOk] <;> exact okEq_iff.2 h
    | neg h => simp only [shapeOk, beq_self_eq_true, Bool.true_and]; exact okEq_iff.2 h
    | kary hop h => simp only [shapeOk, hop, ↓reduceIte]; exact okEq_iff.2 h
    | bin hk hop h =>
      simp only [shapeOk, hk, Bool.false_eq_true, ↓reduceIte, List.isEmpty_nil, hop, Bool.true_and]
      exact okEq_iff.2 h

theorem wfs_iff {env : Env} : ∀ {ts : List Term}, wfs env ts = true ↔ ∀ t ∈ ts, wf env t = true
  | [] => by simp [wfs]
  | t :: ts => by simp [wfs, wfs_iff (ts := ts)]

theorem wf_app_iff {env : Env} {op : String} {args : List Term} {i m : Bool} :
    wf env (.app op args i m) = true ↔ (∀ a ∈ args, wf env a = true) ∧ Printed env op args i m := by
  rw [wf, Bool.and_eq_true, wfs_iff, shapeOk_iff]

section induct
set_option linter.unusedSectionVars false
variable {env : Env} {P : Term → Prop} (value : ∀ l, litOk l = true → P (.value l))
  (col : ∀ c, env.cols.contains c = true → P (.col c)) (list : ∀ vs, wf env (.list vs) = true → P (.list vs))
  (dict : ∀ kvs, wf env (.dict kvs) = true → P (.dict kvs))
  (app : ∀ op args i m, (∀ a ∈ args, P a) → Printed env op args i m → P (.app op args i m))
include value col list dict app

mutual
theorem wf_ind : ∀ t, wf env t = true → P t
  | .value l, h => value l (by rwa [wf] at h)
  | .col c, h => col c (by rwa [wf] at h)
  | .list vs, h => list vs h
  | .dict kvs, h => dict kvs h
  | .app op args i m, h => by
    rw [wf, Bool.and_eq_true] at h
    exact app op args i m (wf_indL args h.1) (shapeOk_iff.1 h.2)
theorem wf_indL : ∀ ts, wfs env ts = true → ∀ a ∈ ts, P a
  | [], _, _, ha => by cases ha
  | t :: ts, h, a, ha => by
    rw [wfs, Bool.and_eq_true] at h
    cases ha with
    | head => exact wf_ind t h.1
    | tail _ ha => exact wf_indL ts h.2 a ha
end

end induct

end DAVerif.Expr
