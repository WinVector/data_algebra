import DAVerif.Proofs.WithForm
/-!
SQL scoping of CTE names (finding D24): in the text `WITH extend_1 AS (…) … FROM "extend_1"` a table reference that is
spelled like an earlier CTE denotes the CTE.  `semWithC` (Sql/WithFormG.lean) is `semWith` with that rule; it agrees
with `semWith` when no table the query reads is named like one of its generated query names.
-/
namespace DAVerif.Sql
open DAVerif

section
variable (Θ : Interp) (ec : EngineCfg)

theorem semNear_env_congr (env1 env2 : Env) (ctes : List (String × Table)) (near : Near) :
    (∀ n ∈ near.tables, List.lookup n env1 = List.lookup n env2) →
      ∀ cols f, semNear Θ ec env1 ctes near cols f = semNear Θ ec env2 ctes near cols f := by
  induction near with
  | table n ts =>
    intro h cols f
    simp only [semNear, h n (by simp [Near.tables])]
  | cte n => intro _ cols f; simp only [semNear]
  | unary name terms agg sub sc sf mg deps k ih => exact fun h cols f => semNear_unary_congr Θ ec (ih h sc false)
  | join name terms l lc ln r rc rn jt oa ob k ihl ihr =>
    exact fun h cols f => semNear_join_congr Θ ec (ihl (fun n hn => h n (List.mem_append_left _ hn)) _ _)
      (ihr (fun n hn => h n (List.mem_append_right _ hn)) _ _)
  | union name terms l r cs k ihl ihr =>
    exact fun h cols f => semNear_union_congr Θ ec (ihl (fun n hn => h n (List.mem_append_left _ hn)) _ _)
      (ihr (fun n hn => h n (List.mem_append_right _ hn)) _ _)

theorem lookup_scopeEnv (env : Env) (ctes : List (String × Table)) (n : String) (h : n ∉ ctes.map (·.1)) :
    List.lookup n (scopeEnv env ctes) = List.lookup n env := by
  unfold scopeEnv
  rw [List.lookup_append]
  have : List.lookup n ctes.reverse = none := by
    rw [List.lookup_eq_none_iff]
    intro p hp
    simp only [List.mem_reverse] at hp
    simp only [bne_iff_ne, ne_eq]
    intro he
    apply h
    simp only [List.mem_map]
    exact ⟨p, hp, he.symm⟩
  rw [this]; rfl

/-- the WITH text evaluated with SQL's scoping equals the scope-free evaluation when no step reads a table named
like a generated query name -/
theorem semWithC_eq_semWith (env : Env) (steps : List WithStep) (last : Near) (N : List String)
    (hn : ∀ st ∈ steps, st.name ∈ N) (ht : ∀ st ∈ steps, ∀ n ∈ st.near.tables, n ∉ N)
    (hl : ∀ n ∈ last.tables, n ∉ N) :
    semWithC Θ ec env steps last = semWith Θ ec env steps last := by
  have main : ∀ (steps : List WithStep) (ctes : List (String × Table)), (∀ e ∈ ctes, e.1 ∈ N) →
      (∀ st ∈ steps, st.name ∈ N) → (∀ st ∈ steps, ∀ n ∈ st.near.tables, n ∉ N) →
      (steps.foldlM (fun (ctes : List (String × Table)) st => do
          let t ← semNear Θ ec (scopeEnv env ctes) ctes st.near st.cols st.force
          return ctes ++ [(st.name, t)]) ctes >>= fun ctes => semNear Θ ec (scopeEnv env ctes) ctes last none true)
        = (runSteps Θ ec env ctes steps >>= fun ctes => semNear Θ ec env ctes last none true) := by
    intro steps
    induction steps with
    | nil =>
      intro ctes hc _ _
      simp only [List.foldlM_nil, runSteps, pure_bind]
      apply semNear_env_congr
      intro n hn'
      apply lookup_scopeEnv
      intro hmem
      simp only [List.mem_map] at hmem
      obtain ⟨e, he, hee⟩ := hmem
      exact hl n hn' (hee ▸ hc e he)
    | cons st rest ih =>
      intro ctes hc hn ht
      have h1 : semNear Θ ec (scopeEnv env ctes) ctes st.near st.cols st.force
          = semNear Θ ec env ctes st.near st.cols st.force := by
        apply semNear_env_congr
        intro n hn'
        apply lookup_scopeEnv
        intro hmem
        simp only [List.mem_map] at hmem
        obtain ⟨e, he, hee⟩ := hmem
        exact ht st List.mem_cons_self n hn' (hee ▸ hc e he)
      simp only [List.foldlM_cons, runSteps, h1, bind_assoc]
      cases hs : semNear Θ ec env ctes st.near st.cols st.force with
      | error e => rfl
      | ok t =>
        simp only [bind, Except.bind, pure, Except.pure]
        have := ih (ctes ++ [(st.name, t)]) (by
            intro e he
            simp only [List.mem_append, List.mem_singleton] at he
            cases he with
            | inl h => exact hc e h
            | inr h => subst h; exact hn st List.mem_cons_self)
          (fun s hs => hn s (List.mem_cons_of_mem _ hs)) (fun s hs => ht s (List.mem_cons_of_mem _ hs))
        simp only [bind, Except.bind, runSteps] at this
        exact this
  have := main steps [] (by simp) hn ht
  rw [semWith_eq]
  unfold semWithC
  exact this

end

theorem mem_appendUnseen (b : List WithStep) : ∀ (a : List WithStep) (x : WithStep), x ∈ appendUnseen a b → x ∈ a ∨ x ∈ b := by
  unfold appendUnseen
  induction b with
  | nil => intro a x h; exact Or.inl (by simpa using h)
  | cons st b ih =>
    intro a x h
    simp only [List.foldl_cons] at h
    split at h
    · cases ih a x h with
      | inl h => exact Or.inl h
      | inr h => exact Or.inr (List.mem_cons_of_mem _ h)
    · cases ih _ x h with
      | inl h =>
        simp only [List.mem_append, List.mem_singleton] at h
        cases h with
        | inl h => exact Or.inl h
        | inr h => subst h; exact Or.inr List.mem_cons_self
      | inr h => exact Or.inr (List.mem_cons_of_mem _ h)

def TablesIn (near : Near) (r : WFRes) : Prop :=
  (∀ n ∈ r.1.tables, n ∈ near.tables) ∧ ∀ st ∈ r.2.1, ∀ n ∈ st.near.tables, n ∈ near.tables

theorem stubStep_tables (key : KeyFn) (cache0 : Option Cache) (near : Near) (cols : Option (List String)) (force : Bool)
    (r : WFRes) (ih : TablesIn near r) : TablesIn near (stubStep key cache0 near cols force r) := by
  by_cases ht : near.isTable = true
  · rw [stubStep_isTable key _ cols force _ ht]; exact ih
  · cases hl : (cache0.bind fun c => lookupLast c (key near cols)) with
    | some nm => rw [stubStep_hit key _ cols force _ ht hl]; exact ⟨(fun _ h => nomatch h), (fun _ h => nomatch h)⟩
    | none =>
      rw [stubStep_miss key _ cols force _ ht hl]
      refine ⟨(fun _ h => nomatch h), fun st hst => ?_⟩
      split at hst
      · exact ih.2 st hst
      · rcases List.mem_append.mp hst with h | h
        · exact ih.2 st h
        · rw [List.mem_singleton.mp h]; exact ih.1

theorem TablesIn.pair {l r : Near} {r1 r2 : WFRes} (h1 : TablesIn l r1) (h2 : TablesIn r r2) {n : Near}
    (hn : n.tables = r1.1.tables ++ r2.1.tables) {q : Near} (hq : q.tables = l.tables ++ r.tables)
    (c : Option Cache) : TablesIn q (n, appendUnseen r1.2.1 r2.2.1, c) := by
  constructor
  · intro t ht
    rw [hq, List.mem_append]
    exact (List.mem_append.mp (hn ▸ ht)).imp (h1.1 t) (h2.1 t)
  · intro st hst t ht
    rw [hq, List.mem_append]
    exact (mem_appendUnseen _ _ _ hst).imp (fun h => h1.2 st h t ht) (fun h => h2.2 st h t ht)

theorem toWithFormG_tables (key : KeyFn) (near : Near) :
    ∀ cache, TablesIn near (toWithFormG key cache near) := by
  induction near with
  | table n ts => intro cache; exact ⟨fun _ h => h, fun _ h => nomatch h⟩
  | cte n => intro cache; exact ⟨fun _ h => h, fun _ h => nomatch h⟩
  | unary name terms agg sub sc sf mg deps k ih =>
    intro cache
    rw [toWithFormG_unary]
    exact stubStep_tables key _ sub sc false _ (ih cache)
  | join name terms l lc ln r rc rn jt oa ob k ihl ihr =>
    intro cache
    rw [toWithFormG_join]
    exact (stubStep_tables key _ l (some lc) false _ (ihl cache)).pair (stubStep_tables key _ r (some rc) false _ (ihr _))
      rfl rfl _
  | union name terms l r cs k ihl ihr =>
    intro cache
    rw [toWithFormG_union]
    exact (stubStep_tables key _ l (some cs) true _ (ihl cache)).pair (stubStep_tables key _ r (some cs) true _ (ihr _))
      rfl rfl _

end DAVerif.Sql
