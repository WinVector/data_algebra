import DAVerif.Proofs.SqlReach
import DAVerif.Proofs.SolLocf
import DAVerif.Proofs.SolRankSql
import DAVerif.Proofs.SqlAllTrans
import DAVerif.Proofs.RefJoin
/-!
C21, SQL side of `last_observed_carried_forward`: `LocfSem` for the SQLite-side interpretations, the scope of the
translation theorem with joins (`Proofs/SqlAllTrans.lean`) for the tree the helper builds, `locfSpec_congr` (as
`rankSpec_congr`), and `Cmp.semG_locfTree_ref`: under the guard "no partition key is missing" the reference
configuration (standard SQL join) gives the table of the Pandas configuration.
-/
namespace DAVerif
namespace Sol21Sql
open DAVerif.Sql DAVerif.Sol DAVerif.Solutions DAVerif.Spec21

set_option linter.unusedSectionVars false

theorem evalCell_useTerm (Θ : Interp) (v : String) (r : Row) :
    evalCell Θ r (useTerm v) = Θ.scalar "where" [ArgV.v (Θ.scalar "is_null" [ArgV.v (r.get v)]),
      ArgV.v (Val.num ((0 : Int) : Rat)), ArgV.v (Val.num ((1 : Int) : Rat))] := rfl

theorem evalCell_useEq (Θ : Interp) (use : String) (r : Row) :
    evalCell Θ r (binop "==" (.col use) (.value (.int 1)))
      = Θ.scalar "==" [ArgV.v (r.get use), ArgV.v (Val.num ((1 : Int) : Rat))] := rfl

theorem LocfSem.of_agree {Θ Θ' : Interp} (h : LocfSem Θ) (hw : Θ'.win = Θ.win)
    (hwhere : ∀ args, Θ'.scalar "where" args = Θ.scalar "where" args)
    (hnull : ∀ args, Θ'.scalar "is_null" args = Θ.scalar "is_null" args)
    (heq : ∀ args, Θ'.scalar "==" args = Θ.scalar "==" args) : LocfSem Θ' where
  rowNumber := by rw [hw]; exact h.rowNumber
  useTerm := fun v r => by rw [evalCell_useTerm, hwhere, hnull, ← evalCell_useTerm]; exact h.useTerm v r
  useEq := fun use r b hb => by rw [evalCell_useEq, heq, ← evalCell_useEq]; exact h.useEq use r b hb
  cumsum := by rw [hw]; exact h.cumsum

theorem sql_is_null (x : Val) : ThetaSql.scalar "is_null" [ArgV.v x] = .bool x.isNull := rfl

theorem sql_where (b : Bool) (x y : Val) :
    ThetaSql.scalar "where" [ArgV.v (.bool b), ArgV.v x, ArgV.v y] = if b then x else y := by
  cases b <;> rfl

theorem locfSem_sql : LocfSem ThetaSql.concrete where
  rowNumber := rankSem_sql.rowNumber
  useTerm := fun v r => by
    simp only [evalCell_useTerm, ThetaSql.concrete, sql_is_null, sql_where]
    cases (r.get v).isNull <;> rfl
  useEq := fun use r b h => by
    rw [evalCell_useEq, h]
    cases b <;> decide +kernel
  cumsum := fun vs pos h => RefSem.runFold_eq_cumulate _ vs pos h

/-- `repScalar` adds `log`, `as_int64`, `concat` and leaves the rest of the interpretation alone -/
theorem locfSem_sqlSol : LocfSem thetaSqlSol :=
  locfSem_sql.of_agree rfl (fun _ => rfl) (fun _ => rfl) (fun _ => rfl)

theorem locf_noConcat (name : String) (cols ob part : List String) (v use rk tb : String) :
    noConcat (locfTree (.table name cols) ob part v use rk tb) = true := rfl

theorem locf_reachable {name : String} {cols orderBy : List String} {partitionBy : Option (List String)}
    {valueCol useCol rankCol tbCol : String} {p : Ops}
    (h : lastObservedCarriedForward (.table name cols) orderBy partitionBy valueCol useCol rankCol tbCol = .ok p) :
    Reachable p := by
  obtain ⟨_, hok⟩ := locf_ok h
  have hne : cols ≠ [] := by
    intro e
    have := hok.v_mem
    rw [e] at this
    cases this
  have hd : Reachable (.table name cols) := Reachable.table name cols hne hok.nodup
  simp only [lastObservedCarriedForward, bind_eq_ok] at h
  obtain ⟨_, _, m, hm, b, hb, hfin⟩ := h
  have rm : Reachable m := Reachable.buildChain hd (by
    intro s hs b hb
    simp only [locfMarkedSteps, List.mem_cons, List.not_mem_nil, or_false] at hs
    rcases hs with rfl | rfl | rfl <;> cases hb) hm
  have rb : Reachable b := Reachable.buildChain rm (by
    intro s hs b hb
    simp only [List.mem_cons, List.not_mem_nil, or_false] at hs
    rcases hs with rfl | rfl <;> cases hb) hb
  exact Reachable.buildChain rm (by
    intro s hs b' hb'
    simp only [List.mem_cons, List.not_mem_nil, or_false] at hs
    rcases hs with rfl | rfl
    · simp only [Step.argOps, List.mem_singleton] at hb'
      exact hb' ▸ rb
    · cases hb') hfin

/-- every dialect configuration: the join is a LEFT join -/
theorem locf_good (cfg : SqlCfg) {env : Env} {name : String} {cols ob part : List String} {v use rk tb : String}
    {t0 : Table} (hr : Reachable (locfTree (.table name cols) ob part v use rk tb))
    (henv : env.lookup name = some t0) (hsub : subset cols t0.cols = true) :
    Good cfg env (locfTree (.table name cols) ob part v use rk tb) := by
  refine ⟨rfl, C26_reachable_wf hr, C01_reachable_sqlwf hr, rfl, C16_reachable_joinwf hr, rfl, ?_, rfl, ?_⟩
  · simp [JoinsNative, joinsNativeb, locfTree, locfMarked]
  · intro nc hnc
    have : nc = (name, cols) := by simpa [locfTree, locfMarked, Ops.tables] using hnc
    subst this
    exact ⟨t0, henv, subset_iff.mp hsub, fun h => by cases h⟩

theorem locfSpec_congr {le le' : Row → Row → Bool} (tb : Nat → Nat) (part : List String) (v : String) (rows : List Row)
    (h : ∀ a ∈ rows, ∀ b ∈ rows, le a b = le' a b) : locfSpec le tb part v rows = locfSpec le' tb part v rows := by
  have hB : ∀ j i, j < rows.length → i < rows.length → locfBefore le tb rows j i = locfBefore le' tb rows j i := by
    intro j i hj hi
    simp only [locfBefore, strictlyBefore, tiesWith, h _ (getD_mem hj) _ (getD_mem hi),
      h _ (getD_mem hi) _ (getD_mem hj)]
  have hC : ∀ i, i < rows.length → locfCandidates le tb part v rows i = locfCandidates le' tb part v rows i :=
    fun i hi => List.filter_congr fun j hj => by rw [hB j i (List.mem_range.mp hj) hi]
  refine List.map_congr_left fun ri hri => ?_
  have hi : ri.2 < rows.length := by
    have := List.mem_zipIdx hri
    omega
  have hmem : ∀ k ∈ locfCandidates le' tb part v rows ri.2, k < rows.length :=
    fun k hk => List.mem_range.mp (List.mem_filter.mp hk).1
  simp only [locfValue, hC _ hi]
  congr 3
  refine Locf.find?_congr_mem fun j hj => ?_
  rw [Bool.eq_iff_iff, List.all_eq_true, List.all_eq_true]
  exact forall₂_congr fun k hk => by rw [hB k j (hmem k hk) (hmem j hj)]

namespace Cmp

/-- under the guard the join keys of the marked rows (`partition_by` cells and the count, a number) are never missing,
so NULL keys that never match (reference configuration) and NULL keys that match (Pandas) give the same join -/
theorem semG_locfTree_ref {le : RowCmp} (hle : CmpLex le) {cols ob part : List String} {v use rk tb : String}
    (hc : LocfCtx cols ob part v use rk tb) {Θ : Interp} (hΘ : LocfSem Θ) {env : Env} {d : Ops} {rows0 : List Row}
    (hr : Ev le Θ SemCfg.ref env d cols rows0) (hp : Ev le Θ SemCfg.pandas env d cols rows0)
    (hnp : NullFreeOn part rows0) :
    semG le Θ SemCfg.ref env (locfTree d ob part v use rk tb)
      = semG le Θ SemCfg.pandas env (locfTree d ob part v use rk tb) := by
  rw [(ev_locfTree hc (ev_locfMarked hle hc hΘ hr)).sem, (ev_locfTree hc (ev_locfMarked hle hc hΘ hp)).sem]
  refine congrArg (fun J : Table => Except.ok (Table.mk cols (J.rows.map (·.select cols))))
    (RefSem.semJoin_pandas_eq_ref _ ?_).symm
  intro ab hab
  left
  have hk : ab.1 ∈ part ++ [rk] := (List.of_mem_zip hab).1
  intro r hr
  rcases List.mem_append.mp hk with h | h
  · exact (overC hle hc _).nullFree hc.part_sub hnp r hr _ h
  · obtain ⟨j, hj, rfl⟩ := List.mem_iff_getElem.mp hr
    rw [List.mem_singleton.mp h, ← getD_eq [] hj, get_rowsC_rk hle hc _ ((overC hle hc _).length ▸ hj)]
    rfl

end Cmp

end Sol21Sql
end DAVerif
