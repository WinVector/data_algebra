import DAVerif.Proofs.MkForms
import DAVerif.Proofs.OpsBasic
import DAVerif.Spec.ColOrder
/-!
`t ≈ᶜ t'` (`Spec/Chain.lean`: same table up to row and column order) and `t ≈ʳ t'` (`Spec/ColOrder.lean`: same rows in
the same order, columns permuted), with their lifts to results.  `≈ᶜ` is `≈` followed by `≈ʳ`, or `≈ʳ` followed by `≈`.
-/
namespace DAVerif

theorem Table.selectCols_self {t : Table} (hw : t.WF) (hn : t.cols.Nodup) : t.selectCols t.cols = t := by
  cases t with
  | mk cols rows =>
    simp only [Table.selectCols, Table.mk.injEq, true_and]
    conv => rhs; rw [← List.map_id rows]
    exact List.map_congr_left (fun r hr => Row.select_self (hw r hr) hn)

theorem Table.rows_select_self {t : Table} (hw : t.WF) (hn : t.cols.Nodup) :
    t.rows.map (fun r => r.select t.cols) = t.rows := congrArg Table.rows (Table.selectCols_self hw hn)

theorem Table.selectCols_selectCols (t : Table) {cs cs' : List String} (h : ∀ c ∈ cs', c ∈ cs) :
    (t.selectCols cs).selectCols cs' = t.selectCols cs' := by
  simp only [Table.selectCols, List.map_map, Table.mk.injEq, true_and]
  exact List.map_congr_left (fun r _ => Row.select_select h)

theorem Table.WF.get_select {t : Table} (hw : t.WF) {cs : List String} (hs : ∀ c, c ∈ cs ↔ c ∈ t.cols)
    {r : Row} (hr : r ∈ t.rows) (c : String) : (r.select cs).get c = r.get c := by
  rw [Row.get_selectC]
  split
  · rfl
  · rename_i h
    have : c ∉ t.cols := fun hc => h (by simpa using (hs c).mpr hc)
    exact (hw.get_null hr this).symm

namespace Table.EquivC

theorem wf_left {t t' : Table} (h : t ≈ᶜ t') : t.WF := h.1
theorem wf_right {t t' : Table} (h : t ≈ᶜ t') : t'.WF := h.2.1
theorem nodup_left {t t' : Table} (h : t ≈ᶜ t') : t.cols.Nodup := h.2.2.1
theorem cols_perm {t t' : Table} (h : t ≈ᶜ t') : t.cols.Perm t'.cols := h.2.2.2.1
theorem nodup_right {t t' : Table} (h : t ≈ᶜ t') : t'.cols.Nodup := h.cols_perm.nodup_iff.mp h.nodup_left
theorem mem_cols {t t' : Table} (h : t ≈ᶜ t') (c : String) : c ∈ t.cols ↔ c ∈ t'.cols := h.cols_perm.mem_iff

theorem equiv_select {t t' : Table} (h : t ≈ᶜ t') : t ≈ t'.selectCols t.cols := ⟨rfl, h.2.2.2.2⟩

theorem refl {t : Table} (hw : t.WF) (hn : t.cols.Nodup) : t ≈ᶜ t :=
  ⟨hw, hw, hn, List.Perm.refl _, by rw [Table.rows_select_self hw hn]⟩

theorem of_equiv {t t' : Table} (h : t ≈ t') (hw : t.WF) (hn : t.cols.Nodup) : t ≈ᶜ t' := by
  have hw' := h.wf hw
  refine ⟨hw, hw', hn, List.Perm.of_eq h.1, ?_⟩
  rw [h.1, Table.rows_select_self hw' (h.1 ▸ hn)]
  exact h.2

theorem selectCols_left {t : Table} (hw : t.WF) {cs : List String} (hn : cs.Nodup) (hp : cs.Perm t.cols) :
    t.selectCols cs ≈ᶜ t :=
  ⟨Table.wf_selectCols t cs, hw, hn, hp, List.Perm.refl _⟩

theorem to_equiv {t t' : Table} (h : t ≈ᶜ t') (hc : t.cols = t'.cols) : t ≈ t' := by
  have := h.equiv_select
  rwa [hc, Table.selectCols_self h.wf_right h.nodup_right] at this

theorem symm {t t' : Table} (h : t ≈ᶜ t') : t' ≈ᶜ t := by
  refine ⟨h.wf_right, h.wf_left, h.nodup_right, h.cols_perm.symm, ?_⟩
  have h1 := (h.2.2.2.2).map (fun r => r.select t'.cols)
  rw [List.map_map] at h1
  have h2 : t'.rows.map ((fun r => r.select t'.cols) ∘ fun r => r.select t.cols) = t'.rows := by
    conv => rhs; rw [← List.map_id t'.rows]
    apply List.map_congr_left
    intro r hr
    simp only [Function.comp, id]
    rw [Row.select_select (fun c hc => (h.mem_cols c).mpr hc)]
    exact Row.select_self (h.wf_right r hr) h.nodup_right
  rw [h2] at h1
  exact h1.symm

theorem trans {t t' t'' : Table} (h : t ≈ᶜ t') (h' : t' ≈ᶜ t'') : t ≈ᶜ t'' := by
  refine ⟨h.wf_left, h'.wf_right, h.nodup_left, h.cols_perm.trans h'.cols_perm, ?_⟩
  refine h.2.2.2.2.trans ?_
  have h1 := (h'.2.2.2.2).map (fun r => r.select t.cols)
  rw [List.map_map] at h1
  refine h1.trans (List.Perm.of_eq ?_)
  apply List.map_congr_left
  intro r _
  simp only [Function.comp]
  exact Row.select_select (fun c hc => (h.mem_cols c).mp hc)

theorem selectCols {t t' : Table} (h : t ≈ᶜ t') {cs : List String} (hs : ∀ c ∈ cs, c ∈ t.cols) :
    t.selectCols cs ≈ t'.selectCols cs := by
  have := h.equiv_select.selectCols cs
  rwa [Table.selectCols_selectCols _ hs] at this

end Table.EquivC

namespace ResEquivC
theorem symm {x y : Except Err Table} : ResEquivC x y → ResEquivC y x := LiftRel.symm fun _ _ => Table.EquivC.symm

theorem trans {x y z : Except Err Table} : ResEquivC x y → ResEquivC y z → ResEquivC x z :=
  LiftRel.comp (R := Table.EquivC) (S := Table.EquivC) (T := Table.EquivC) fun _ _ _ => Table.EquivC.trans

theorem ok_iff {t t' : Table} : ResEquivC (.ok t) (.ok t') ↔ t ≈ᶜ t' := Iff.rfl

theorem of_ok {x y : Except Err Table} {t : Table} (h : ResEquivC x y) (hx : x = .ok t) :
    ∃ t', y = .ok t' ∧ t ≈ᶜ t' := LiftRel.of_ok h hx

theorem of_eq {x y : Except Err Table} (h : x = y) (hw : ∀ t, x = .ok t → t.WF ∧ t.cols.Nodup) :
    ResEquivC x y := LiftRel.of_eq h fun t ht => Table.EquivC.refl (hw t ht).1 (hw t ht).2

theorem bind {x y : Except Err Table} {f g : Table → Except Err Table} (h : ResEquivC x y)
    (hfg : ∀ t t', x = .ok t → y = .ok t' → t ≈ᶜ t' → ResEquivC (f t) (g t')) :
    ResEquivC (x >>= f) (y >>= g) := LiftRel.bind h hfg

theorem to_resEquiv {x y : Except Err Table} (h : ResEquivC x y)
    (hc : ∀ t t', x = .ok t → y = .ok t' → t.cols = t'.cols) : ResEquiv x y :=
  LiftRel.imp h fun t t' hx hy htt => Table.EquivC.to_equiv htt (hc t t' hx hy)
end ResEquivC

namespace Table.EquivR
variable {t t' t'' : Table}

theorem wf_left (h : t ≈ʳ t') : t.WF := h.1
theorem wf_right (h : t ≈ʳ t') : t'.WF := h.2.1
theorem nodup_left (h : t ≈ʳ t') : t.cols.Nodup := h.2.2.1
theorem cols_perm (h : t ≈ʳ t') : t.cols.Perm t'.cols := h.2.2.2.1
theorem rows_eq (h : t ≈ʳ t') : t.rows = t'.rows.map (fun r => r.select t.cols) := h.2.2.2.2
theorem nodup_right (h : t ≈ʳ t') : t'.cols.Nodup := h.cols_perm.nodup_iff.mp h.nodup_left
theorem mem_cols (h : t ≈ʳ t') (c : String) : c ∈ t.cols ↔ c ∈ t'.cols := h.cols_perm.mem_iff

theorem toC (h : t ≈ʳ t') : t ≈ᶜ t' := ⟨h.1, h.2.1, h.2.2.1, h.2.2.2.1, List.Perm.of_eq h.2.2.2.2⟩

theorem eq_select (h : t ≈ʳ t') : t = t'.selectCols t.cols := by
  cases t with
  | mk cols rows => exact congrArg (Table.mk cols) h.rows_eq

theorem refl (hw : t.WF) (hn : t.cols.Nodup) : t ≈ʳ t :=
  ⟨hw, hw, hn, List.Perm.refl _, (Table.rows_select_self hw hn).symm⟩

theorem symm (h : t ≈ʳ t') : t' ≈ʳ t := by
  refine ⟨h.wf_right, h.wf_left, h.nodup_right, h.cols_perm.symm, ?_⟩
  rw [h.rows_eq, List.map_map]
  conv => lhs; rw [← List.map_id t'.rows]
  apply List.map_congr_left
  intro r hr
  simp only [Function.comp, id]
  rw [Row.select_select (fun c hc => (h.mem_cols c).mpr hc)]
  exact (Row.select_self (h.wf_right r hr) h.nodup_right).symm

theorem trans (h : t ≈ʳ t') (h' : t' ≈ʳ t'') : t ≈ʳ t'' := by
  refine ⟨h.wf_left, h'.wf_right, h.nodup_left, h.cols_perm.trans h'.cols_perm, ?_⟩
  rw [h.rows_eq, h'.rows_eq, List.map_map]
  apply List.map_congr_left
  intro r _
  simp only [Function.comp]
  exact Row.select_select (fun c hc => (h.mem_cols c).mp hc)

theorem selectCols_left (hw : t.WF) {cs : List String} (hn : cs.Nodup) (hp : cs.Perm t.cols) :
    t.selectCols cs ≈ʳ t :=
  ⟨Table.wf_selectCols t cs, hw, hn, hp, rfl⟩

theorem eq_of_cols (h : t ≈ʳ t') (hc : t.cols = t'.cols) : t = t' :=
  h.eq_select.trans (hc ▸ Table.selectCols_self h.wf_right h.nodup_right)

end Table.EquivR

namespace ResEquivR

theorem toC {x y : Except Err Table} (h : ResEquivR x y) : ResEquivC x y :=
  LiftRel.imp h fun _ _ _ _ => Table.EquivR.toC

theorem symm : ∀ {x y : Except Err Table}, ResEquivR x y → ResEquivR y x :=
  LiftRel.symm fun _ _ => Table.EquivR.symm

theorem trans {x y z : Except Err Table} : ResEquivR x y → ResEquivR y z → ResEquivR x z :=
  LiftRel.comp (R := Table.EquivR) (S := Table.EquivR) (T := Table.EquivR) fun _ _ _ => Table.EquivR.trans

theorem of_ok {x y : Except Err Table} {t : Table} (h : ResEquivR x y) (hx : x = .ok t) :
    ∃ t', y = .ok t' ∧ t ≈ʳ t' := LiftRel.of_ok h hx

theorem of_eq {x y : Except Err Table} (h : x = y) (hw : ∀ t, x = .ok t → t.WF ∧ t.cols.Nodup) :
    ResEquivR x y := LiftRel.of_eq h fun t ht => Table.EquivR.refl (hw t ht).1 (hw t ht).2

theorem bind {x y : Except Err Table} {f g : Table → Except Err Table} (h : ResEquivR x y)
    (hfg : ∀ t t', x = .ok t → y = .ok t' → t ≈ʳ t' → ResEquivR (f t) (g t')) :
    ResEquivR (x >>= f) (y >>= g) := LiftRel.bind h hfg

theorem eq_of_cols {x y : Except Err Table} (h : ResEquivR x y)
    (hc : ∀ t t', x = .ok t → y = .ok t' → t.cols = t'.cols) : x = y :=
  LiftRel.eq (LiftRel.imp h fun t t' hx hy htt => Table.EquivR.eq_of_cols htt (hc t t' hx hy))

end ResEquivR

theorem Table.EquivC.of_equiv_equivR {t s t' : Table} (h : t ≈ s) (h' : s ≈ʳ t') : t ≈ᶜ t' := by
  refine ⟨h.symm.wf h'.wf_left, h'.wf_right, ?_, ?_, ?_⟩
  · rw [h.1]; exact h'.nodup_left
  · rw [h.1]; exact h'.cols_perm
  · rw [h.1, ← h'.rows_eq]; exact h.2

theorem Table.EquivC.of_R_equiv {t s t' : Table} (h : t ≈ʳ s) (h' : s ≈ t') : t ≈ᶜ t' :=
  ⟨h.wf_left, h'.wf h.wf_right, h.nodup_left, h'.1 ▸ h.cols_perm, h.rows_eq ▸ h'.2.map _⟩

theorem ResEquivC.of_equiv_equivR {x y z : Except Err Table} : ResEquiv x y → ResEquivR y z → ResEquivC x z :=
  LiftRel.comp (R := Table.Equiv) (S := Table.EquivR) (T := Table.EquivC) fun _ _ _ => Table.EquivC.of_equiv_equivR

theorem ResEquivC.of_R_equiv {x y z : Except Err Table} : ResEquivR x y → ResEquiv y z → ResEquivC x z :=
  LiftRel.comp (R := Table.EquivR) (S := Table.Equiv) (T := Table.EquivC) fun _ _ _ => Table.EquivC.of_R_equiv

end DAVerif
