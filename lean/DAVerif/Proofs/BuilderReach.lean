import DAVerif.Proofs.BuilderRules
/-!
C26 – a successful builder call returns a well-formed tree (`Placed.wf`: `WF` is preserved) whose declared columns
are the documented column list of the step, `Rules26.resultCols` (`Placed.cols`; after a merging `extend` only up to
the order of the new columns: `build_extend_ok`).  Both by cases on what an accepted call returns
(`Placed`, `Proofs/Built.lean`).
-/
namespace DAVerif
open Rules26

theorem Placed.wf {a : Ops} {s : Step} {q : Ops} (ha : WF a) (hb : ∀ b ∈ stepArgs s, WF b) (h : Placed a s q) :
    WF q := by
  cases h with
  | extend _ _ _ hc => exact ⟨ha, .of_chk hc⟩
  | merge _ _ ht _ hc => rw [ht] at ha; exact ⟨ha.1, .of_chk hc⟩
  | project hf hc => exact ⟨ha, (projectChk_ok_iff.mp hc).2.1, (projectChecks_ok_iff.mp hf).2.2.1.symm⟩
  | selectRows | order => exact ha
  | selectCols _ hc =>
    obtain ⟨hne, hsub, hnd⟩ := selectChk_ok_iff.mp hc
    exact ⟨Ops.selectBase_preserves (P := WF) (fun _ _ _ h => h) (fun _ _ h => h.1) (fun _ _ h => h.1) ha, hne, hnd,
      hsub⟩
  | dropCols _ hc => exact ⟨ha, (dropChk_ok_iff.mp hc).2⟩
  | rename _ hc => exact ⟨ha, (renameChk_ok_iff.mp hc).2.2⟩
  | mapCols _ hc => exact ⟨ha, (mapColsChk_ok_iff.mp hc).2.2⟩
  | join => exact ⟨ha, hb _ (List.mem_singleton.mpr rfl)⟩
  | concat hc => exact ⟨ha, hb _ (List.mem_singleton.mpr rfl), (concatChk_ok_iff.mp hc).2.2⟩
  | convert hc => exact ⟨ha, (convertChk_ok_iff.mp hc).2⟩

theorem build_wf {p : Ops} (hp : WF p) {s : Step} (hb : ∀ b ∈ stepArgs s, WF b) {q : Ops} (h : build p s = .ok q) :
    WF q := by
  rcases build_eq_ok.mp h with ⟨_, rfl⟩ | ⟨_, hpl⟩
  · exact hp
  · exact hpl.wf hp.stripped hb

theorem resultCols_noop {s : Step} (h : s.isNoop = true) (cols : List String) : resultCols cols s = cols := by
  cases s with
  | extend ops _ _ _ => rw [List.isEmpty_iff.mp h]; exact List.append_nil cols
  | dropCols cs => rw [List.isEmpty_iff.mp h]; exact List.filter_eq_self.mpr fun _ _ => rfl
  | rename m | mapCols m => exact if_pos h
  | selectRows e | order _ _ _ => rfl
  | concat b _ _ _ =>
    cases b with
    | none => rfl
    | some _ => cases h
  | convert rm =>
    cases rm with
    | none => rfl
    | some _ => cases h
  | project _ _ | selectCols _ | join _ _ _ _ _ => cases h

/-- the library's two tests "same set as a's / as b's columns" of a join, in the terms of `resultCols` -/
theorem join_cols_eq (a b : Ops) (oa ob : List String) (t : JoinType) (jt : String) (chk : Bool) (hb : b.cols.Nodup) :
    (Ops.join a b oa ob t).cols = resultCols a.cols (.join b oa ob jt chk) := by
  simp only [Ops.cols, resultCols]
  have hlen : ((appendNew a.cols b.cols).length == a.cols.length) = b.cols.all (fun c => a.cols.contains c) := by
    rw [appendNew_eq_filter hb, Bool.eq_iff_iff]
    simp only [List.length_append, beq_iff_eq, Nat.add_eq_left, List.length_eq_zero_iff, List.filter_eq_nil_iff,
      Bool.not_eq_eq_eq_not, Bool.not_true, List.contains_eq_mem, decide_eq_false_iff_not, Decidable.not_not,
      List.all_eq_true, decide_eq_true_eq]
  have hset : (b.cols.all (fun c => (appendNew a.cols b.cols).contains c)
        && (appendNew a.cols b.cols).all (fun c => b.cols.contains c))
      = a.cols.all (fun c => b.cols.contains c) := by
    rw [Bool.eq_iff_iff]
    simp only [Bool.and_eq_true, List.all_eq_true, List.contains_eq_mem, decide_eq_true_eq, mem_appendNew]
    exact ⟨fun h2 c hc => h2.2 c (Or.inl hc), fun h2 => ⟨fun c hc => Or.inr hc, fun c hc => hc.elim (h2 c) id⟩⟩
  rw [hlen, hset, appendNew_eq_filter hb]

theorem Placed.cols {a : Ops} {s : Step} {q : Ops} (hb : ∀ b ∈ stepArgs s, WF b) (hk : Parsed a.cols s)
    (h : Placed a s q) (hm : ∀ ops pa od rv, s = .extend ops pa od rv → mergeInto a ops pa od rv = none) :
    q.cols = resultCols a.cols s := by
  cases h with
  | extend => simp only [Ops.cols, resultCols]; exact appendNew_eq_filter hk.1
  | merge _ _ ht hmo => exact nomatch ((mergeInto_eq_some.mpr ⟨_, ht, hmo⟩).symm.trans (hm _ _ _ _ rfl))
  | project hf =>
    simp only [Ops.cols, resultCols]
    rw [appendNew_eq_filter hk.1]
    exact congrArg _ (List.filter_eq_self.mpr fun k hk => by simpa using (projectChecks_ok_iff.mp hf).2.2.2 k hk)
  | selectRows | selectCols | dropCols | order | convert => rfl
  | rename hne => rw [rename_cols_eq, resultCols, if_neg (by simpa using hne)]
  | mapCols hne => exact (mapCols_cols_eq a _).trans (by rw [resultCols, if_neg (by simpa using hne)])
  | join => exact join_cols_eq _ _ _ _ _ _ _ (hb _ (List.mem_singleton.mpr rfl)).cols_nodup
  | @concat _ idc => cases idc <;> rfl

theorem build_ok_other {p : Ops} (hp : WF p) {s : Step} (hb : ∀ b ∈ stepArgs s, WF b)
    (hs : ∀ ops pa o r, s ≠ .extend ops pa o r) {q : Ops} (h : build p s = .ok q) :
    WF q ∧ q.cols = resultCols p.cols s := by
  rcases build_eq_ok.mp h with ⟨hn, rfl⟩ | ⟨hk, hpl⟩
  · exact ⟨hp, (resultCols_noop hn _).symm⟩
  · exact ⟨build_wf hp hb h, strip_cols p ▸ hpl.cols hb hk fun _ _ _ _ he => absurd he (hs _ _ _ _)⟩

theorem build_extend_ok {p : Ops} (hp : WF p) {ops : Assign} {partition : PartArg} {order reverse : List String}
    {q : Ops} (h : build p (.extend ops partition order reverse) = .ok q) :
    WF q ∧ q.cols.Perm (resultCols p.cols (.extend ops partition order reverse)) ∧
    (((∀ k ∈ keys ops, k ∉ p.cols) ∨ (∀ src o a b c w, strip p ≠ .extend src o a b c w)) →
      q.cols = resultCols p.cols (.extend ops partition order reverse)) := by
  rcases build_eq_ok.mp h with ⟨hn, rfl⟩ | ⟨hk, hpl⟩
  · exact ⟨hp, .of_eq (resultCols_noop hn _).symm, fun _ => (resultCols_noop hn _).symm⟩
  have hno : ∀ b ∈ stepArgs (.extend ops partition order reverse), WF b := fun _ hb => (List.not_mem_nil hb).elim
  refine ⟨build_wf hp hno h, ?_⟩
  rw [← strip_cols p]
  have hq := hp.stripped
  cases hpl with
  | extend hne hpre hm hc =>
    have := (Placed.extend hne hpre hm hc).cols hno hk fun _ _ _ _ he => by cases he; exact hm
    exact ⟨.of_eq this, fun _ => this⟩
  | merge _ _ ht hm =>
    obtain ⟨rfl, _⟩ := tryMergeOps_eq_some hm
    rw [ht] at hq ⊢
    simp only [resultCols]
    rw [← appendNew_eq_filter hk.1]
    constructor
    · -- both lists are duplicate-free and have the same members
      apply (List.perm_ext_iff_of_nodup (appendNew_nodup hq.1.cols_nodup)
        (appendNew_nodup (appendNew_nodup hq.1.cols_nodup))).mpr
      intro x
      simp only [mem_appendNew, List.map_append, List.mem_append, List.mem_map, List.mem_filter]
      constructor
      · rintro (hx | ⟨kv, ⟨hkv, _⟩, rfl⟩ | hx)
        · exact Or.inl (Or.inl hx)
        · exact Or.inl (Or.inr ⟨kv, hkv, rfl⟩)
        · exact Or.inr hx
      · rintro ((hx | ⟨kv, hkv, rfl⟩) | hx)
        · exact Or.inl hx
        · by_cases hc : kv.1 ∈ keys ops
          · exact Or.inr (Or.inr (List.mem_map.mp hc))
          · exact Or.inr (Or.inl ⟨kv, ⟨hkv, by simpa using hc⟩, rfl⟩)
        · exact Or.inr (Or.inr hx)
    · rintro (hfresh | hnot)
      · -- no name of the step is a column of the prefix: nothing is filtered out
        rw [List.filter_eq_self.mpr fun kv hkv => by
          simpa using fun hc => hfresh _ hc (mem_appendNew.mpr (Or.inr (List.mem_map_of_mem hkv)))]
        simp only [Ops.cols, List.map_append, appendNew_append]
      · exact absurd rfl (hnot _ _ _ _ _ _)

end DAVerif
