import DAVerif.Spec.WithText
import DAVerif.Proofs.WithScope
/-!
The text-level meaning of a WITH query is the model's `semWith` whenever no base table read by the query is named like
one of its common table expressions (`CteNamesFree`): `semWithText_eq_semWith`.  `semWithText` is `semWithC` of
Sql/WithFormG.lean (the same scoping rule, written for C04), so this is `semWithC_eq_semWith` of Proofs/WithScope.lean
with the names of the query's own common table expressions as the names to avoid.
-/
namespace DAVerif
namespace Ren
open DAVerif.Sql

theorem baseTables_eq_tables (n : Near) : n.baseTables = n.tables := by
  induction n with
  | table _ _ | cte _ => rfl
  | unary name terms agg sub subCols suffix mg deps key ih => exact ih
  | join name terms l lc ln r rc rn jt oa ob key ihl ihr | union name terms l r cols key ihl ihr =>
    simp only [Near.baseTables, Near.tables, ihl, ihr]

theorem semWithText_eq_semWith (Θ : Interp) (ec : EngineCfg) (env : Env) (steps : List WithStep) (last : Near)
    (h : CteNamesFree steps last = true) : semWithText Θ ec env steps last = semWith Θ ec env steps last := by
  have hfree : ∀ name ∈ steps.flatMap (fun st => st.near.baseTables) ++ last.baseTables,
      name ∉ steps.map (·.name) := fun name hn hm => by
    have := List.all_eq_true.mp h name hn
    rw [List.contains_iff_mem.mpr hm] at this
    cases this
  exact semWithC_eq_semWith Θ ec env steps last (steps.map (·.name)) (fun st hst => List.mem_map_of_mem hst)
    (fun st hst name hn => hfree name
      (List.mem_append_left _ (List.mem_flatMap.mpr ⟨st, hst, baseTables_eq_tables _ ▸ hn⟩)))
    (fun name hn => hfree name (List.mem_append_right _ (baseTables_eq_tables _ ▸ hn)))

end Ren
end DAVerif
