import DAVerif.Proofs.WithKeyFaithDefs
import DAVerif.Proofs.WithKeyFaithRender1
/-!
C04, cache keys (`C04_key_faithful`), part 2: the model's pipeline renderer `renderOps` is a prefix code on the
pipelines with `RenderOK`, and the CTE-cache keys `ops_key ++ "_" ++ renderStrs columns` can be cancelled.

Hypotheses about the (kernel-opaque) `String.quote`: `QuoteCode` (prefix code) and `QuoteHead` (starts with `"`), see
part 1 for why the second one cannot be avoided.
-/
namespace DAVerif.C04K
open DAVerif DAVerif.Sql

def opsL (p : Ops) : List Char := (renderOps p).toList
def wL (w : Bool) : List Char := if w then ['w'] else []
def limL : Option Nat → List Char
  | none => []
  | some n => 'L' :: natL n
def idL : Option String → List Char
  | none => ['-']
  | some c => quoteL c
def jtL (t : JoinType) : List Char := t.toStr.toList

theorem opsL_table (n : String) (cs : List String) :
    opsL (.table n cs) = 'T' :: '(' :: (quoteL n ++ (strsL cs ++ [')'])) := by
  simp only [opsL, renderOps, String.toList_append, List.append_assoc]; rfl
theorem opsL_extend (s : Ops) (ops : Assign) (p o r : List String) (w : Bool) :
    opsL (.extend s ops p o r w) =
      'E' :: '(' :: (opsL s ++ (assignL ops ++ (strsL p ++ (strsL o ++ (strsL r ++ (wL w ++ [')'])))))) := by
  simp only [opsL, renderOps, String.toList_append, List.append_assoc, wL]
  cases w <;> rfl
theorem opsL_project (s : Ops) (ops : Assign) (g : List String) :
    opsL (.project s ops g) = 'P' :: '(' :: (opsL s ++ (assignL ops ++ (strsL g ++ [')']))) := by
  simp only [opsL, renderOps, String.toList_append, List.append_assoc]; rfl
theorem opsL_selectRows (s : Ops) (e : Term) :
    opsL (.selectRows s e) = 'S' :: '(' :: (opsL s ++ (termL e ++ [')'])) := by
  simp only [opsL, renderOps, String.toList_append, List.append_assoc]; rfl
theorem opsL_selectCols (s : Ops) (cs : List String) :
    opsL (.selectCols s cs) = 'C' :: '(' :: (opsL s ++ (strsL cs ++ [')'])) := by
  simp only [opsL, renderOps, String.toList_append, List.append_assoc]; rfl
theorem opsL_dropCols (s : Ops) (cs : List String) :
    opsL (.dropCols s cs) = 'D' :: '(' :: (opsL s ++ (strsL cs ++ [')'])) := by
  simp only [opsL, renderOps, String.toList_append, List.append_assoc]; rfl
theorem opsL_order (s : Ops) (cs r : List String) (l : Option Nat) :
    opsL (.order s cs r l) = 'O' :: '(' :: (opsL s ++ (strsL cs ++ (strsL r ++ (limL l ++ [')'])))) := by
  cases l with
  | none => simp only [opsL, renderOps, String.toList_append, List.append_assoc, limL]; rfl
  | some n =>
    have hL : (toString "L").toList = ['L'] := rfl
    simp only [opsL, renderOps, String.toList_append, List.append_assoc, limL, hL, List.cons_append, List.nil_append]
    rfl
theorem opsL_rename (s : Ops) (m : List (String × String)) :
    opsL (.rename s m) = 'R' :: '(' :: (opsL s ++ (strsL (m.map (fun kv => kv.1 ++ "=" ++ kv.2)) ++ [')'])) := by
  simp only [opsL, renderOps, String.toList_append, List.append_assoc]; rfl
theorem opsL_mapCols (s : Ops) (m : List (String × String)) (d : List String) :
    opsL (.mapCols s m d) =
      'M' :: '(' :: (opsL s ++ (strsL (m.map (fun kv => kv.1 ++ "=" ++ kv.2)) ++ (strsL d ++ [')']))) := by
  simp only [opsL, renderOps, String.toList_append, List.append_assoc]; rfl
theorem opsL_join (a b : Ops) (oa ob : List String) (t : JoinType) :
    opsL (.join a b oa ob t) = 'J' :: '(' :: (opsL a ++ (opsL b ++ (strsL oa ++ (strsL ob ++ (jtL t ++ [')']))))) := by
  simp only [opsL, renderOps, String.toList_append, List.append_assoc]; rfl
theorem opsL_concat (a b : Ops) (i : Option String) (an bn : String) :
    opsL (.concat a b i an bn) = 'U' :: '(' :: (opsL a ++ (opsL b ++ (idL i ++ (quoteL an ++ (quoteL bn ++ [')']))))) := by
  cases i with
  | none => simp only [opsL, renderOps, String.toList_append, List.append_assoc, idL]; rfl
  | some c => simp only [opsL, renderOps, String.toList_append, List.append_assoc, idL]; rfl
theorem opsL_convert (s : Ops) (rm : RecMap) :
    opsL (.convert s rm) = 'V' :: '(' :: (opsL s ++ (quoteL rm.repr ++ [')'])) := by
  simp only [opsL, renderOps, String.toList_append, List.append_assoc]; rfl

/-- kind of a node / of the first character of its text -/
def okind : Ops → Nat
  | .table .. => 0 | .extend .. => 1 | .project .. => 2 | .selectRows .. => 3 | .selectCols .. => 4 | .dropCols .. => 5
  | .order .. => 6 | .rename .. => 7 | .mapCols .. => 8 | .join .. => 9 | .concat .. => 10 | .convert .. => 11
def ockind (c : Char) : Nat :=
  if c = 'T' then 0 else if c = 'E' then 1 else if c = 'P' then 2 else if c = 'S' then 3 else if c = 'C' then 4
  else if c = 'D' then 5 else if c = 'O' then 6 else if c = 'R' then 7 else if c = 'M' then 8 else if c = 'J' then 9
  else if c = 'U' then 10 else 11

theorem opsL_kind (a : Ops) : ∃ c t, opsL a = c :: t ∧ ockind c = okind a := by
  cases a with
  | table n cs => exact ⟨_, _, opsL_table n cs, rfl⟩
  | extend s ops p o r w => exact ⟨_, _, opsL_extend s ops p o r w, rfl⟩
  | project s ops g => exact ⟨_, _, opsL_project s ops g, rfl⟩
  | selectRows s e => exact ⟨_, _, opsL_selectRows s e, rfl⟩
  | selectCols s cs => exact ⟨_, _, opsL_selectCols s cs, rfl⟩
  | dropCols s cs => exact ⟨_, _, opsL_dropCols s cs, rfl⟩
  | order s cs r l => exact ⟨_, _, opsL_order s cs r l, rfl⟩
  | rename s m => exact ⟨_, _, opsL_rename s m, rfl⟩
  | mapCols s m d => exact ⟨_, _, opsL_mapCols s m d, rfl⟩
  | join a b oa ob t => exact ⟨_, _, opsL_join a b oa ob t, rfl⟩
  | concat a b i an bn => exact ⟨_, _, opsL_concat a b i an bn, rfl⟩
  | convert s rm => exact ⟨_, _, opsL_convert s rm, rfl⟩

theorem opsL_kind_eq {a b : Ops} {r1 r2 : List Char} (h : opsL a ++ r1 = opsL b ++ r2) : okind a = okind b := by
  obtain ⟨c, t, hc, hk⟩ := opsL_kind a
  obtain ⟨c', t', hc', hk'⟩ := opsL_kind b
  rw [hc, hc'] at h
  simp only [List.cons_append, List.cons.injEq] at h
  rw [← hk, ← hk', h.1]

theorem wL_cancel {w w' : Bool} {r1 r2 : List Char} (h : wL w ++ ')' :: r1 = wL w' ++ ')' :: r2) : w = w' ∧ r1 = r2 := by
  have hne : ∀ (r t : List Char), ')' :: r ≠ 'w' :: t := fun _ _ h => absurd (List.cons.inj h).1 (by decide)
  obtain ⟨hw, hr⟩ := optC_cancel (hne r1) (hne r2) h
  exact ⟨hw, (List.cons.inj hr).2⟩

theorem limL_cancel {l l' : Option Nat} {r1 r2 : List Char} (h : limL l ++ ')' :: r1 = limL l' ++ ')' :: r2) :
    l = l' ∧ r1 = r2 := by
  cases l with
  | none =>
    cases l' with
    | none => simp only [limL, List.nil_append, List.cons.injEq, true_and] at h; exact ⟨rfl, h⟩
    | some m =>
      simp only [limL, List.nil_append, List.cons_append, List.cons.injEq] at h
      exact absurd h.1 (by decide)
  | some n =>
    cases l' with
    | none =>
      simp only [limL, List.nil_append, List.cons_append, List.cons.injEq] at h
      exact absurd h.1 (by decide)
    | some m =>
      simp only [limL, List.cons_append, List.cons.injEq, true_and] at h
      obtain ⟨rfl, hr⟩ := natL_cancel n m _ _ (ND_cons (by decide) _) (ND_cons (by decide) _) h
      simp only [List.cons.injEq, true_and] at hr
      exact ⟨rfl, hr⟩

theorem idL_cancel (hq : QuoteCode) (hh : QuoteHead) {i i' : Option String} {r1 r2 : List Char}
    (h : idL i ++ r1 = idL i' ++ r2) : i = i' ∧ r1 = r2 := by
  cases i with
  | none =>
    cases i' with
    | none => simp only [idL, List.cons_append, List.nil_append, List.cons.injEq, true_and] at h; exact ⟨rfl, h⟩
    | some c =>
      obtain ⟨t, ht⟩ := hh c
      simp only [idL, quoteL, ht, List.cons_append, List.nil_append, List.cons.injEq] at h
      exact absurd h.1 (by decide)
  | some d =>
    cases i' with
    | none =>
      obtain ⟨t, ht⟩ := hh d
      simp only [idL, quoteL, ht, List.cons_append, List.nil_append, List.cons.injEq] at h
      exact absurd h.1 (by decide)
    | some c =>
      simp only [idL, quoteL] at h
      obtain ⟨rfl, hr⟩ := hq d c r1 r2 h
      exact ⟨rfl, hr⟩

/-- the join type named by the first letter of a text -/
def jtOfHead : List Char → JoinType
  | 'I' :: _ => .inner | 'L' :: _ => .left | 'R' :: _ => .right | 'O' :: _ => .outer | 'F' :: _ => .full
  | _ => .cross

theorem jtOfHead_jtL (t : JoinType) (r : List Char) : jtOfHead (jtL t ++ r) = t := by cases t <;> rfl

theorem jtL_cancel {t t' : JoinType} {r1 r2 : List Char} (h : jtL t ++ ')' :: r1 = jtL t' ++ ')' :: r2) :
    t = t' ∧ r1 = r2 := by
  have ht : t = t' := by rw [← jtOfHead_jtL t (')' :: r1), h, jtOfHead_jtL]
  subst ht
  exact ⟨rfl, (List.cons.inj (List.append_cancel_left h)).2⟩

theorem eqJoin_inj {a b : String × String} (ha : eqFreeStr a.1 = true) (hb : eqFreeStr b.1 = true)
    (h : a.1 ++ "=" ++ a.2 = b.1 ++ "=" ++ b.2) : a = b := by
  have h' := congrArg String.toList h
  have he : ("=" : String).toList = ['='] := by decide
  simp only [String.toList_append, he, List.append_assoc, List.cons_append, List.nil_append] at h'
  simp only [eqFreeStr, Bool.not_eq_true', List.contains_eq_mem, decide_eq_false_iff_not] at ha hb
  obtain ⟨h1, h2⟩ := split_first _ _ ha hb h'
  exact Prod.ext (String.toList_injective h1) (String.toList_injective h2)

theorem map_eqJoin_inj (m1 m2 : List (String × String)) (h1 : m1.all (fun kv => eqFreeStr kv.1) = true)
    (h2 : m2.all (fun kv => eqFreeStr kv.1) = true)
    (h : m1.map (fun kv => kv.1 ++ "=" ++ kv.2) = m2.map (fun kv => kv.1 ++ "=" ++ kv.2)) : m1 = m2 :=
  Code.map_inj_on (fun _ _ ha hb => eqJoin_inj ha hb) (List.all_eq_true.mp h1) (List.all_eq_true.mp h2) h

theorem opsL_cancel (hq : QuoteCode) (hh : QuoteHead) (a : Ops) : ∀ (b : Ops) (r1 r2 : List Char),
    RenderOK a → RenderOK b → opsL a ++ r1 = opsL b ++ r2 → a = b ∧ r1 = r2 := by
  induction a with
  | table n cs =>
    intro b r1 r2 ha hb h
    have hk := opsL_kind_eq h
    cases b with
    | table n' cs' =>
      rw [opsL_table, opsL_table] at h
      simp only [List.cons_append, List.append_assoc, List.nil_append, List.cons.injEq, true_and] at h
      obtain ⟨rfl, e1⟩ := hq n n' _ _ h
      obtain ⟨rfl, e2⟩ := strsL_cancel hq hh e1
      simp only [List.cons.injEq, true_and] at e2
      exact ⟨rfl, e2⟩
    | _ => cases hk
  | extend s ops p o r w ih =>
    intro b r1 r2 ha hb h
    have hk := opsL_kind_eq h
    cases b with
    | extend s' ops' p' o' r' w' =>
      rw [opsL_extend, opsL_extend] at h
      simp only [List.cons_append, List.append_assoc, List.nil_append, List.cons.injEq, true_and] at h
      obtain ⟨rfl, e1⟩ := ih s' _ _ ha hb h
      obtain ⟨rfl, e2⟩ := assignL_cancel hq hh e1
      obtain ⟨rfl, e3⟩ := strsL_cancel hq hh e2
      obtain ⟨rfl, e4⟩ := strsL_cancel hq hh e3
      obtain ⟨rfl, e5⟩ := strsL_cancel hq hh e4
      obtain ⟨rfl, e6⟩ := wL_cancel e5
      exact ⟨rfl, e6⟩
    | _ => cases hk
  | project s ops g ih =>
    intro b r1 r2 ha hb h
    have hk := opsL_kind_eq h
    cases b with
    | project s' ops' g' =>
      rw [opsL_project, opsL_project] at h
      simp only [List.cons_append, List.append_assoc, List.nil_append, List.cons.injEq, true_and] at h
      obtain ⟨rfl, e1⟩ := ih s' _ _ ha hb h
      obtain ⟨rfl, e2⟩ := assignL_cancel hq hh e1
      obtain ⟨rfl, e3⟩ := strsL_cancel hq hh e2
      simp only [List.cons.injEq, true_and] at e3
      exact ⟨rfl, e3⟩
    | _ => cases hk
  | selectRows s e ih =>
    intro b r1 r2 ha hb h
    have hk := opsL_kind_eq h
    cases b with
    | selectRows s' e' =>
      rw [opsL_selectRows, opsL_selectRows] at h
      simp only [List.cons_append, List.append_assoc, List.nil_append, List.cons.injEq, true_and] at h
      obtain ⟨rfl, e1⟩ := ih s' _ _ ha hb h
      obtain ⟨rfl, e2⟩ := termL_cancel hq e e' _ _ (ND_cons (by decide) _) (ND_cons (by decide) _) e1
      simp only [List.cons.injEq, true_and] at e2
      exact ⟨rfl, e2⟩
    | _ => cases hk
  | selectCols s cs ih =>
    intro b r1 r2 ha hb h
    have hk := opsL_kind_eq h
    cases b with
    | selectCols s' cs' =>
      rw [opsL_selectCols, opsL_selectCols] at h
      simp only [List.cons_append, List.append_assoc, List.nil_append, List.cons.injEq, true_and] at h
      obtain ⟨rfl, e1⟩ := ih s' _ _ ha hb h
      obtain ⟨rfl, e2⟩ := strsL_cancel hq hh e1
      simp only [List.cons.injEq, true_and] at e2
      exact ⟨rfl, e2⟩
    | _ => cases hk
  | dropCols s cs ih =>
    intro b r1 r2 ha hb h
    have hk := opsL_kind_eq h
    cases b with
    | dropCols s' cs' =>
      rw [opsL_dropCols, opsL_dropCols] at h
      simp only [List.cons_append, List.append_assoc, List.nil_append, List.cons.injEq, true_and] at h
      obtain ⟨rfl, e1⟩ := ih s' _ _ ha hb h
      obtain ⟨rfl, e2⟩ := strsL_cancel hq hh e1
      simp only [List.cons.injEq, true_and] at e2
      exact ⟨rfl, e2⟩
    | _ => cases hk
  | order s cs r l ih =>
    intro b r1 r2 ha hb h
    have hk := opsL_kind_eq h
    cases b with
    | order s' cs' r' l' =>
      rw [opsL_order, opsL_order] at h
      simp only [List.cons_append, List.append_assoc, List.nil_append, List.cons.injEq, true_and] at h
      obtain ⟨rfl, e1⟩ := ih s' _ _ ha hb h
      obtain ⟨rfl, e2⟩ := strsL_cancel hq hh e1
      obtain ⟨rfl, e3⟩ := strsL_cancel hq hh e2
      obtain ⟨rfl, e4⟩ := limL_cancel e3
      exact ⟨rfl, e4⟩
    | _ => cases hk
  | rename s m ih =>
    intro b r1 r2 ha hb h
    have hk := opsL_kind_eq h
    cases b with
    | rename s' m' =>
      replace ha := Bool.and_eq_true_iff.mp ha
      replace hb := Bool.and_eq_true_iff.mp hb
      rw [opsL_rename, opsL_rename] at h
      simp only [List.cons_append, List.append_assoc, List.nil_append, List.cons.injEq, true_and] at h
      obtain ⟨rfl, e1⟩ := ih s' _ _ ha.1 hb.1 h
      obtain ⟨hm, e2⟩ := strsL_cancel hq hh e1
      have hm' := map_eqJoin_inj m m' ha.2 hb.2 hm
      subst hm'
      simp only [List.cons.injEq, true_and] at e2
      exact ⟨rfl, e2⟩
    | _ => cases hk
  | mapCols s m d ih =>
    intro b r1 r2 ha hb h
    have hk := opsL_kind_eq h
    cases b with
    | mapCols s' m' d' =>
      replace ha := Bool.and_eq_true_iff.mp ha
      replace hb := Bool.and_eq_true_iff.mp hb
      rw [opsL_mapCols, opsL_mapCols] at h
      simp only [List.cons_append, List.append_assoc, List.nil_append, List.cons.injEq, true_and] at h
      obtain ⟨rfl, e1⟩ := ih s' _ _ ha.1 hb.1 h
      obtain ⟨hm, e2⟩ := strsL_cancel hq hh e1
      have hm' := map_eqJoin_inj m m' ha.2 hb.2 hm
      subst hm'
      obtain ⟨rfl, e3⟩ := strsL_cancel hq hh e2
      simp only [List.cons.injEq, true_and] at e3
      exact ⟨rfl, e3⟩
    | _ => cases hk
  | join a1 a2 oa ob t ih1 ih2 =>
    intro b r1 r2 ha hb h
    have hk := opsL_kind_eq h
    cases b with
    | join b1 b2 oa' ob' t' =>
      replace ha := Bool.and_eq_true_iff.mp ha
      replace hb := Bool.and_eq_true_iff.mp hb
      rw [opsL_join, opsL_join] at h
      simp only [List.cons_append, List.append_assoc, List.nil_append, List.cons.injEq, true_and] at h
      obtain ⟨rfl, e1⟩ := ih1 b1 _ _ ha.1 hb.1 h
      obtain ⟨rfl, e2⟩ := ih2 b2 _ _ ha.2 hb.2 e1
      obtain ⟨rfl, e3⟩ := strsL_cancel hq hh e2
      obtain ⟨rfl, e4⟩ := strsL_cancel hq hh e3
      obtain ⟨rfl, e5⟩ := jtL_cancel e4
      exact ⟨rfl, e5⟩
    | _ => cases hk
  | concat a1 a2 i an bn ih1 ih2 =>
    intro b r1 r2 ha hb h
    have hk := opsL_kind_eq h
    cases b with
    | concat b1 b2 i' an' bn' =>
      replace ha := Bool.and_eq_true_iff.mp ha
      replace hb := Bool.and_eq_true_iff.mp hb
      rw [opsL_concat, opsL_concat] at h
      simp only [List.cons_append, List.append_assoc, List.nil_append, List.cons.injEq, true_and] at h
      obtain ⟨rfl, e1⟩ := ih1 b1 _ _ ha.1 hb.1 h
      obtain ⟨rfl, e2⟩ := ih2 b2 _ _ ha.2 hb.2 e1
      obtain ⟨rfl, e3⟩ := idL_cancel hq hh e2
      obtain ⟨rfl, e4⟩ := hq an an' _ _ e3
      obtain ⟨rfl, e5⟩ := hq bn bn' _ _ e4
      simp only [List.cons.injEq, true_and] at e5
      exact ⟨rfl, e5⟩
    | _ => cases hk
  | convert s rm ih =>
    intro b r1 r2 ha
    cases ha

/-- **`renderOps` is a prefix code** on the pipelines with `RenderOK` -/
theorem renderOps_cancel (hq : QuoteCode) (hh : QuoteHead) {a b : Ops} (ha : RenderOK a) (hb : RenderOK b)
    {r1 r2 : List Char} (h : (renderOps a).toList ++ r1 = (renderOps b).toList ++ r2) : a = b ∧ r1 = r2 :=
  opsL_cancel hq hh a b r1 r2 ha hb h

theorem kinds_noparen : ∀ k ∈ kinds, '(' ∉ k.toList := by decide +kernel

theorem strsL_inj (hq : QuoteCode) (hh : QuoteHead) {a b : List String} (h : strsL a = strsL b) : a = b :=
  (strsL_cancel hq hh (r1 := []) (r2 := []) (by rw [h])).1

/-- the text of an `ops_key`: kind, `(`, the pipeline, then `)` or `,[term keys])` -/
theorem isKeyOf_toList {n : Ops} {k : String} (hk : IsKeyOf n k) :
    ∃ kind ∈ kinds, ∃ tl, k.toList = kind.toList ++ '(' :: (opsL n ++ tl) ∧
      (tl = [')'] ∨ ∃ ks, tl = ',' :: (strsL ks ++ [')'])) := by
  obtain ⟨kind, hkind, h | ⟨ks, h⟩⟩ := hk
  · refine ⟨kind, hkind, [')'], ?_, Or.inl rfl⟩
    rw [h]
    simp only [String.toList_append, List.append_assoc, opsL]
    rfl
  · refine ⟨kind, hkind, ',' :: (strsL ks ++ [')']), ?_, Or.inr ⟨ks, rfl⟩⟩
    rw [h]
    simp only [String.toList_append, List.append_assoc, opsL, strsL]
    rfl

/-- **Cancellation of CTE-cache keys**: equal keys `ops_key ++ "_" ++ columns` come from the same pipeline and the same
column list (pipelines with `RenderOK`; `QuoteCode`, `QuoteHead`: the two assumptions on `String.quote`). -/
theorem cacheKey_cancel (hq : QuoteCode) (hh : QuoteHead) {n1 n2 : Ops} (h1 : RenderOK n1) (h2 : RenderOK n2)
    {k1 k2 : String} (hk1 : IsKeyOf n1 k1) (hk2 : IsKeyOf n2 k2) {c1 c2 : List String}
    (h : k1 ++ ("_" ++ renderStrs c1) = k2 ++ ("_" ++ renderStrs c2)) : n1 = n2 ∧ c1 = c2 := by
  obtain ⟨kind1, hkind1, tl1, e1, ht1⟩ := isKeyOf_toList hk1
  obtain ⟨kind2, hkind2, tl2, e2, ht2⟩ := isKeyOf_toList hk2
  have h' := congrArg String.toList h
  have hu : ("_" : String).toList = ['_'] := by decide
  simp only [String.toList_append, e1, e2, hu, List.append_assoc, List.cons_append, List.nil_append] at h'
  obtain ⟨_, h''⟩ := split_first _ _ (kinds_noparen kind1 hkind1) (kinds_noparen kind2 hkind2) h'
  obtain ⟨rfl, h3⟩ := opsL_cancel hq hh n1 n2 _ _ h1 h2 h''
  refine ⟨rfl, ?_⟩
  rcases ht1 with rfl | ⟨ks1, rfl⟩ <;> rcases ht2 with rfl | ⟨ks2, rfl⟩ <;>
    simp only [List.cons_append, List.nil_append, List.append_assoc, List.cons.injEq, true_and] at h3
  · exact strsL_inj hq hh (by exact h3)
  · exact absurd h3.1 (by decide)
  · exact absurd h3.1 (by decide)
  · obtain ⟨_, h4⟩ := strsL_cancel hq hh h3
    simp only [List.cons.injEq, true_and] at h4
    exact strsL_inj hq hh (by exact h4)

end DAVerif.C04K
