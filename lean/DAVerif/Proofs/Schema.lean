import DAVerif.Schema.Schema
import DAVerif.Proofs.OSet
import DAVerif.Proofs.EvalRead
/-! What each loop of the data_schema checker finds, as an `iff` per loop: the lemmas `Props/C22.lean` rests on. -/
namespace DAVerif.Schema
set_option linter.unusedSectionVars false

variable {T : Type} [U : TypeUniverse T]

theorem lookup_some_mem {β : Type} {l : List (String × β)} {k : String} {v : β}
    (h : l.lookup k = some v) : (k, v) ∈ l := by
  obtain ⟨l₁, l₂, rfl, -⟩ := List.lookup_eq_some_iff.mp h
  exact List.mem_append_right _ List.mem_cons_self

theorem lookup_none_iff {β : Type} {l : List (String × β)} {k : String} :
    l.lookup k = none ↔ k ∉ l.map Prod.fst := by
  rw [List.lookup_eq_none_iff]
  constructor
  · intro h hm
    obtain ⟨p, hp, rfl⟩ := List.mem_map.mp hm
    exact bne_iff_ne.mp (h p hp) rfl
  · exact fun h p hp => bne_iff_ne.mpr fun e => h (e ▸ List.mem_map_of_mem hp)

theorem lookup_of_mem_nodup {β : Type} {l : List (String × β)} {k : String} {v : β}
    (hn : (l.map Prod.fst).Nodup) (h : (k, v) ∈ l) : l.lookup k = some v := by
  induction l with
  | nil => cases h
  | cons p l ih =>
    obtain ⟨k', v'⟩ := p
    rw [List.map_cons, List.nodup_cons] at hn
    rcases List.mem_cons.mp h with e | hm
    · cases e; exact List.lookup_cons_self
    · have hne : (k == k') = false :=
        beq_false_of_ne (by rintro rfl; exact hn.1 (List.mem_map.mpr ⟨(k, v), hm, rfl⟩))
      rw [List.lookup_cons, hne]
      exact ih hn.2 hm

theorem zip_fst_eq_take {β : Type} (names : List String) (vs : List β) :
    (names.zip vs).map Prod.fst = names.take vs.length := by
  induction names generalizing vs with
  | nil => simp
  | cons n names ih => cases vs <;> simp [ih]

theorem zip_fst_nodup {β : Type} {names : List String} (hn : names.Nodup) (vs : List β) :
    ((names.zip vs).map Prod.fst).Nodup :=
  zip_fst_eq_take names vs ▸ hn.sublist (List.take_sublist _ _)

theorem take_zip_eq {β : Type} (names : List String) (vs : List β) (n : Nat) (h : vs.length ≤ n) :
    (names.take n).zip vs = names.zip vs := by
  induction names generalizing vs n with
  | nil => simp
  | cons a names ih =>
    cases vs with
    | nil => simp
    | cons v vs =>
      cases n with
      | zero => simp at h
      | succ n => simp [ih vs n (Nat.le_of_succ_le_succ h)]

theorem checkSpec_ty {t : T} {v : Value T} : checkSpec (.ty t) v = none ↔ isinstance v t = true := by
  show (if isinstance v t then none else some Msg.wrongType) = none ↔ _
  cases isinstance v t <;> simp

theorem checkSpec_oneOf {ts : List T} {v : Value T} :
    checkSpec (.oneOf ts) v = none ↔ ∃ t ∈ ts, isinstance v t = true := by
  show (if ts.any (fun t => isinstance v t) then none else some Msg.notOneOf) = none ↔ _
  rw [← List.any_eq_true]
  cases ts.any fun t => isinstance v t <;> simp

theorem checkSpec_frame {cols : List (String × NSpec T)} {f : Frame T} :
    checkSpec (.frame cols) (.frame f) = none ↔ checkCols cols f = [] := by
  show (match checkCols cols f with | [] => none | i :: is => some (Msg.columns (i :: is))) = none ↔ _
  cases checkCols cols f <;> simp

theorem checkSpec_of_isNone {ns : NSpec T} (h : ns.isNone = true) (v : Value T) : checkSpec ns v = none := by
  cases ns <;> first | rfl | cases h

theorem firstBad_nil (bad : Scalar T → Bool) (c : String) (cells : List (Scalar T)) :
    firstBad bad c cells = [] ↔ ∀ x ∈ cells, x.isNull = false → bad x = false := by
  induction cells with
  | nil => exact iff_of_true rfl fun _ h => absurd h List.not_mem_nil
  | cons x xs ih =>
    show (if x.isNull then firstBad bad c xs else if bad x then [.badCell c] else firstBad bad c xs) = [] ↔ _
    rw [List.forall_mem_cons, ← ih]
    cases x.isNull <;> cases bad x <;> simp

/-- The two short cuts of the code change nothing: `spec_i is None` (`hu`: nothing fails such a specification
anyway) and `d.shape[0] > 0` (a rectangular frame without rows has no cells). -/
theorem columnIssues_nil {bad : Scalar T → Bool} {unc : Bool} (hu : unc = true → ∀ x, bad x = false)
    {f : Frame T} (hr : f.Rect) (c : String) :
    columnIssues bad unc f c = [] ↔
      (∃ cells, f.column c = some cells) ∧
      ∀ cells x, f.column c = some cells → x ∈ cells → x.isNull = false → bad x = false := by
  unfold columnIssues
  cases hc : f.column c with
  | none => exact iff_of_false nofun fun h => nomatch h.1
  | some cells =>
    have key : (if !unc && decide (f.nrows > 0) then firstBad bad c cells else []) = [] ↔
        ∀ x ∈ cells, x.isNull = false → bad x = false := by
      split
      · exact firstBad_nil bad c cells
      · rename_i h
        refine iff_of_true rfl fun x hx _ => ?_
        cases unc with
        | true => exact hu rfl x
        | false =>
          have h0 : cells.length = 0 := by simpa [hr _ (lookup_some_mem hc)] using h
          cases List.eq_nil_of_length_eq_zero h0; cases hx
    exact key.trans ⟨fun h => ⟨⟨cells, rfl⟩, fun _ x e => Option.some.inj e ▸ h x⟩, fun h x => h.2 cells x rfl⟩

theorem checkCols_nil {cols : List (String × NSpec T)} {f : Frame T} (hr : f.Rect) :
    checkCols cols f = [] ↔
      ∀ p ∈ cols, (∃ cells, f.column p.1 = some cells) ∧
        ∀ cells x, f.column p.1 = some cells → x ∈ cells → x.isNull = false →
          checkSpec p.2 (.scalar x) = none := by
  induction cols with
  | nil => exact iff_of_true rfl nofun
  | cons p cols ih =>
    have hu : p.2.isNone = true → ∀ x : Scalar T, (checkSpec p.2 (.scalar x)).isSome = false :=
      fun h x => by rw [checkSpec_of_isNone h]; rfl
    rw [checkCols, List.append_eq_nil_iff, ih, columnIssues_nil hu hr, List.forall_mem_cons]
    simp only [Option.isSome_eq_false_iff, Option.isNone_iff_eq_none]

variable [DecidableEq T]

theorem mem_normalizeSet {ms : List (Atom T)} {t : T} :
    t ∈ normalizeSet ms ↔ ∃ a ∈ ms, a.declared = some t := by
  simp [normalizeSet, OSet.mem_ofList, List.mem_filterMap]

theorem normalizeCols_eq_map (cols : List (String × Spec T)) :
    normalizeCols cols = cols.map fun p => (p.1, normalize p.2) := by
  induction cols with
  | nil => rfl
  | cons p cols ih => rw [normalizeCols, ih]; rfl

theorem normalizeCols_fst (cols : List (String × Spec T)) :
    (normalizeCols cols).map Prod.fst = cols.map Prod.fst := by
  rw [normalizeCols_eq_map, List.map_map]; rfl

theorem posIssues_nil (specs : List (String × NSpec T)) (pairs : List (String × Value T)) :
    posIssues specs pairs = [] ↔
      ∀ p ∈ pairs, ∀ s, specs.lookup p.1 = some s → checkSpec s p.2 = none := by
  induction pairs with
  | nil => exact iff_of_true rfl fun _ h => absurd h List.not_mem_nil
  | cons p pairs ih =>
    obtain ⟨k, v⟩ := p
    rw [posIssues, List.append_eq_nil_iff, ih, List.forall_mem_cons]
    refine and_congr_left' ?_
    cases specs.lookup k with
    | none => exact iff_of_true rfl nofun
    | some s => cases checkSpec s v <;> simp

theorem kwIssues_nil (seen : List String) (kwargs : List (String × Value T)) (specs : List (String × NSpec T)) :
    kwIssues seen kwargs specs = [] ↔
      ∀ p ∈ specs, p.1 ∉ seen → ∃ v, kwargs.lookup p.1 = some v ∧ checkSpec p.2 v = none := by
  induction specs with
  | nil => exact iff_of_true rfl fun _ h => absurd h List.not_mem_nil
  | cons p specs ih =>
    obtain ⟨k, s⟩ := p
    rw [kwIssues, List.append_eq_nil_iff, ih, List.forall_mem_cons]
    refine and_congr_left' ?_
    by_cases hs : k ∈ seen
    · simp [hs]
    · cases kwargs.lookup k with
      | none => simp [hs]
      | some v => cases checkSpec s v <;> simp [hs]

theorem argIssues_nil {specs : List (String × NSpec T)} {names : List String} {args : List (Value T)}
    {kwargs : List (String × Value T)} (hn : names.Nodup) (hs : (specs.map Prod.fst).Nodup)
    (hlen : args.length ≤ names.length) :
    argIssues specs names args kwargs = .ok [] ↔
      ∀ p ∈ specs, ∃ v, ((names.zip args).lookup p.1).or (kwargs.lookup p.1) = some v ∧ checkSpec p.2 v = none := by
  simp only [argIssues, Nat.not_lt.mpr hlen, if_false, Except.ok.injEq, List.append_eq_nil_iff, posIssues_nil,
    kwIssues_nil, ← zip_fst_eq_take]
  constructor
  · rintro ⟨hpos, hkw⟩ p hm
    cases hl : (names.zip args).lookup p.1 with
    | some v => exact ⟨v, rfl, hpos (p.1, v) (lookup_some_mem hl) p.2 (lookup_of_mem_nodup hs hm)⟩
    | none => exact hkw p hm (lookup_none_iff.mp hl)
  · intro h
    refine ⟨fun p hp s hls => ?_, fun p hp hk => ?_⟩
    · obtain ⟨v', hv', hc⟩ := h (p.1, s) (lookup_some_mem hls)
      rw [lookup_of_mem_nodup (zip_fst_nodup hn args) hp] at hv'
      cases hv'; exact hc
    · obtain ⟨v, hv, hc⟩ := h p hp
      rw [lookup_none_iff.mpr hk] at hv
      exact ⟨v, hv, hc⟩

theorem checkReturn_ok_iff {sw : Bool} {spec : NSpec T} {r : Value T} :
    checkReturn sw spec r = .ok () ↔ (sw = true → checkSpec spec r = none) := by
  unfold checkReturn
  cases sw <;> cases checkSpec spec r <;> simp

end DAVerif.Schema
