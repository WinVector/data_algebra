import DAVerif.Proofs.WithKeyFaithNode
import DAVerif.Proofs.WithNames
import DAVerif.Proofs.WithSound
/-!
C04, cache keys of the translation: **every bound sub-query of a translated tree is a sound translation of the
operator node its `ops_key` names** (`BoundOK`), for the columns it is bound with.

The claim is proved for every pipeline in scope at once, by induction on the fuel and by cases on the way the node is
translated (`toNear_succ_inv`, as `toNear_names` of Proofs/WithNames.lean); the soundness of each recursive call is the
translation theorem `SqlE.transOK_fragJ_all` (C01), transported to the named node with `keyNode_rows`.  The labelled side
of a `concat_rows` with id column, which the builders construct during the translation, is a pipeline in scope
(`Good.labelled`): the induction hypothesis applies to it as to a source.
-/
namespace DAVerif.C04K
open DAVerif DAVerif.Sql

section
variable (Θ : Interp) (ec : EngineCfg) (env : Env)

/-- the bound sub-query `x = (near, columns, force_sql)`: the `ops_key` of `near` is a key text of an operator node
`n` in scope, and `near` is a sound translation of `n` for the bound columns (`Sql.Sound`: bound with any sub-list of
them it evaluates to the rows of the table of `n`, in order, on those columns) -/
def BoundOK (x : Bound) : Prop :=
  ∃ (n : Ops) (k : String) (c pc : List String) (tp : Table),
    x.1.key = some k ∧ IsKeyOf n k ∧ RenderOK n ∧ x.2.1 = some c ∧
    semE ec Θ SemCfg.ref env n = .ok tp ∧ Sound Θ ec env x.1 c pc tp

/-- the induction claim for one call of the translation -/
def NodeClaim (cfg : SqlCfg) (fuel : Nat) (m : Ops) : Prop :=
  ∀ (u : List String) (st : Nat) (q : Near) (st' : Nat), (∀ c ∈ u, c ∈ m.cols) →
    toNear cfg fuel m (some u) st = .ok (q, st') →
    (q.isTable = true ∨ ∃ k, q.key = some k ∧ IsKeyOf (keyNode m u) k) ∧ ∀ x ∈ q.desc, BoundOK Θ ec env x

variable {Θ ec env} {cfg : SqlCfg}

theorem child_ok_core {q : Near} {n : Ops} {u pc : List String} {tn : Table}
    (hA : q.isTable = true ∨ ∃ k, q.key = some k ∧ IsKeyOf n k) (hB : ∀ x ∈ q.desc, BoundOK Θ ec env x)
    (hr : RenderOK n) (hn : semE ec Θ SemCfg.ref env n = .ok tn) (hs : Sound Θ ec env q u pc tn) (f : Bool) :
    ∀ x ∈ bdesc q (some u) f, BoundOK Θ ec env x := by
  intro x hx
  rcases hA with ht | ⟨k, hk, hkn⟩
  · rw [bdesc_of_isTable _ _ ht] at hx; cases hx
  · rcases mem_bdesc hx with ⟨rfl, -⟩ | hx'
    · exact ⟨n, k, u, pc, tn, hk, hkn, hr, rfl, hn, hs⟩
    · exact hB x hx'

theorem child_ok {fuel : Nat} {m : Ops} (hg : Good cfg env m) (hr : RenderOK m)
    (hclaim : NodeClaim Θ ec env cfg fuel m) {u : List String} {st st' : Nat} {q : Near}
    (hu : ∀ c ∈ u, c ∈ m.cols) (h : toNear cfg fuel m (some u) st = .ok (q, st')) (f : Bool) :
    ∀ x ∈ bdesc q (some u) f, BoundOK Θ ec env x := by
  obtain ⟨hA, hB⟩ := hclaim u st q st' hu h
  have hgn := keyNode_good m u hg
  obtain ⟨tm, htm⟩ := semG_ok_fragJ (sqlRowLe ec) Θ SemCfg.ref env m hg.frag false hg.env
  obtain ⟨tn, htn⟩ := semG_ok_fragJ (sqlRowLe ec) Θ SemCfg.ref env (keyNode m u) hgn.frag false hgn.env
  obtain ⟨_, u₁, hu₁, _, hsound⟩ :=
    SqlE.transOK_fragJ_all Θ ec env cfg hg fuel u st q st' tm hu h htm
  have hs : Sound Θ ec env q u m.cols tn :=
    (hsound.restrict hu₁).mono (fun c hc => hc) (keyNode_rows Θ ec m u tm tn hg hu htm htn)
  exact child_ok_core hA hB (keyNode_renderOK m u hr) htn hs f

/-- the `ops_key` of an emitted step names the node -/
theorem stepSpec_key {p : Ops} {σ : StepSpec} {usg : List String} (hσ : stepSpec p usg = some σ) :
    (∃ k, σ.key = some k ∧ IsKeyOf p k) ∧ keyNode p usg = p := by
  cases p with
  | table | extend | selectCols | dropCols | join | concat | convert => cases hσ
  | order => cases hσ; exact ⟨⟨_, rfl, isKeyOf_order _⟩, rfl⟩
  | project => cases hσ; exact ⟨⟨_, rfl, "project", by decide, Or.inr ⟨_, rfl⟩⟩, rfl⟩
  | selectRows => cases hσ; exact ⟨⟨_, rfl, "select", by decide, Or.inr ⟨_, rfl⟩⟩, rfl⟩
  | rename => cases hσ; exact ⟨⟨_, rfl, "rename", by decide, Or.inr ⟨_, rfl⟩⟩, rfl⟩
  | mapCols => cases hσ; exact ⟨⟨_, rfl, "map_columns", by decide, Or.inr ⟨_, rfl⟩⟩, rfl⟩

/-- a re-keyed step keeps the `ops_key` of the source's step -/
theorem keyNode_rekey {p src : Ops} {S : List String} {sel : Bool} {usg : List String} (hp : p.sources = [src])
    (hk : rekeySpec p usg = some (S, sel)) : keyNode p usg = keyNode src S := by
  cases p <;> cases hk <;> cases hp <;> rfl

theorem keyNode_extend {src : Ops} {ops : Assign} {part order rev : List String} {w : Bool} {u : List String}
    (hne : (extSubops ops (extUsg u part order rev)).isEmpty = false) :
    keyNode (.extend src ops part order rev w) u = .extend src ops part order rev w := by
  simp only [keyNode, hne, Bool.false_eq_true, if_false]

/-- the sides of a join step are the sources of the node, in this order or (RIGHT join on SQLite) swapped -/
theorem join_sides {a b l r : Ops} {onA onB oa ob : List String} {jt jt' : JoinType} {lf : Bool} {c : Prop}
    [Decidable c]
    (h : (if c then (b, a, onB, onA, JoinType.left, false) else (a, b, onA, onB, jt, true)) = (l, r, oa, ob, jt', lf)) :
    l ∈ [a, b] ∧ r ∈ [a, b] := by
  split at h <;> cases h
  · exact ⟨List.mem_cons_of_mem _ List.mem_cons_self, List.mem_cons_self⟩
  · exact ⟨List.mem_cons_self, List.mem_cons_of_mem _ List.mem_cons_self⟩

theorem concat_plain {a b : Ops} {idc : Option String} {an bn : String} (hg : Good cfg env (.concat a b idc an bn)) :
    idc = none ∨ (noTrivTop a = true ∧ noTrivTop b = true) := by
  cases idc with
  | none => exact Or.inl rfl
  | some c => exact Or.inr (Bool.and_eq_true_iff.mp (and_right hg.label))

/-- one side `x` of a `concat_rows`, translated as it is or labelled (`x'`), bound with the columns `uj` -/
theorem concat_side_ok {x x' : Ops} {idc : Option String} {name : String} {fuel : Nat} (hg : Good cfg env x)
    (hr : RenderOK x) (ih : ∀ m, Good cfg env m → RenderOK m → NodeClaim Θ ec env cfg fuel m)
    (hx' : labelSide x idc name = .ok x') (hplain : idc = none ∨ noTrivTop x = true)
    (hc : ∀ c, idc = some c → c ∉ x.cols) {uj : List String} (huj : ∀ y ∈ uj, y ∈ x.cols ∨ some y = idc)
    {st st' : Nat} {nl : Near} (h : toNear cfg fuel x' (some uj) st = .ok (nl, st')) :
    ∀ y ∈ bdesc nl (some uj) true, BoundOK Θ ec env y := by
  cases idc with
  | none =>
    cases hx'
    exact child_ok hg hr (ih x hg hr) (fun y hy => (huj y hy).resolve_right nofun) h true
  | some c =>
    have hstrip := strip_eq_of_noTrivTop (hplain.resolve_left nofun)
    obtain ⟨hg', -, hcols⟩ := hg.labelled hstrip (hc c rfl) hx'
    have hr' : RenderOK x' := label_preserves (fun _ _ => Iff.rfl) hg.wf hstrip (hc c rfl) hx' hr
    exact child_ok hg' hr' (ih x' hg' hr')
      (fun y hy => (hcols y).mpr ((huj y hy).imp_right Option.some.inj)) h true


variable (Θ ec env cfg)

/-- **every call of the translation on a pipeline in scope satisfies the claim**: the result is table-like or its
`ops_key` names `keyNode m u`, and every bound sub-query of the result is a sound translation of the node its key
names, for the columns it is bound with -/
theorem nodeClaim_all : ∀ (fuel : Nat) (m : Ops), Good cfg env m → RenderOK m → NodeClaim Θ ec env cfg fuel m := by
  intro fuel
  induction fuel with
  | zero => exact fun m _ _ _ _ _ _ _ h => absurd h toNear_zero_ne_ok
  | succ fuel ih =>
    intro m hg hr u st q st' hu h
    have child : ∀ {x : Ops} {r : List String} {s s1 : Nat} {sub : Near} (f : Bool), Good cfg env x ∧ RenderOK x →
        (∀ c ∈ r, c ∈ x.cols) → toNear cfg fuel x (some r) s = .ok (sub, s1) →
        ∀ y ∈ bdesc sub (some r) f, BoundOK Θ ec env y :=
      fun f hx hrc hsub => child_ok hx.1 hx.2 (ih _ hx.1 hx.2) hrc hsub f
    have src : ∀ {x : Ops}, x ∈ m.sources → Good cfg env x ∧ RenderOK x := fun hx => ⟨hg.source hx, hr.source hx⟩
    have h' := toNear_succ_inv h
    rw [Option.getD_some] at h'
    cases h' with
    | table => exact ⟨Or.inl rfl, fun _ hx => nomatch hx⟩
    | tableRef => exact ⟨Or.inr ⟨_, rfl, "table", by decide, Or.inr ⟨_, rfl⟩⟩, fun _ hx => nomatch hx⟩
    | step hp hσ hsub =>
      obtain ⟨⟨k, hk, hkp⟩, hkn⟩ := stepSpec_key hσ
      exact ⟨Or.inr ⟨k, hk, hkn.symm ▸ hkp⟩,
        child false (src (hp ▸ List.mem_cons_self)) (stepSpec_req hp hσ hg.sqlwf hu) hsub⟩
    | rekey hp hk hsub hq =>
      have hs := src (hp ▸ List.mem_cons_self)
      obtain ⟨hA, hB⟩ := ih _ hs.1 hs.2 _ _ _ _ (rekeySpec_req hp hk hg.wf hu).1 hsub
      obtain ⟨-, -, e1, e2, e3⟩ := setTermKeys_keep hq
      rw [e1, e2, e3, keyNode_rekey hp hk]
      exact ⟨hA, hB⟩
    | extPrune he hsub =>
      have hs := src List.mem_cons_self
      have := ih _ hs.1 hs.2 _ _ _ _ (extend_pass_req hg.wf.2 hu he).1 hsub
      simpa only [keyNode, he, if_true] using this
    | extNew hU hS hne _ hsub =>
      subst hU hS
      exact ⟨Or.inr ⟨_, rfl, by rw [keyNode_extend hne]; exact ⟨"extend", by decide, Or.inr ⟨_, rfl⟩⟩⟩,
        child false (src List.mem_cons_self) (extFacts hg.wf.2 hu hne).Ssrc hsub⟩
    | extMerge hU hS hne _ _ hsub =>
      subst hU hS
      -- the merged step has the bound sub-queries of the step it is merged into
      exact ⟨Or.inr ⟨_, rfl, by rw [keyNode_extend hne]; exact ⟨"extend", by decide, Or.inr ⟨_, rfl⟩⟩⟩, fun x hx =>
        child false (src List.mem_cons_self) (extFacts hg.wf.2 hu hne).Ssrc hsub x (List.mem_append_right _ hx)⟩
    | join _ hsides husg hul hur _ _ hl hr' =>
      subst husg hul hur
      have hlr := join_sides hsides
      refine ⟨Or.inr ⟨_, rfl, "join", by decide, Or.inr ⟨_, rfl⟩⟩, fun x hx => ?_⟩
      rw [desc_join] at hx
      exact (List.mem_append.mp hx).elim (child false (src hlr.1) (fun c hc => (mem_sideCols.mp hc).1) hl x)
        (child false (src hlr.2) (fun c hc => (mem_sideCols.mp hc).1) hr' x)
    | joinFull hemu =>
      rcases hg.of_join.2.2.2 with h | h
      · rw [h] at hemu; cases hemu
      · exact absurd rfl h.2
    | concat husg _ hab huj ha hb hl hr' =>
      subst husg
      have hpl := concat_plain hg
      refine ⟨Or.inr ⟨_, rfl, "concat", by decide, Or.inr ⟨_, rfl⟩⟩, fun x hx => ?_⟩
      rw [desc_union] at hx
      rcases List.mem_append.mp hx with hx | hx
      · exact concat_side_ok (src List.mem_cons_self).1 (src List.mem_cons_self).2 ih ha (hpl.imp_right And.left)
          hg.wf.2.2 (fun y hy => ((huj y).mp hy).imp_left And.left) hl x hx
      · have hb' := src (List.mem_cons_of_mem _ List.mem_cons_self)
        exact concat_side_ok hb'.1 hb'.2 ih hb (hpl.imp_right And.right)
          (fun c hc hh => hg.wf.2.2 c hc (subset_iff.mp (and_right hg.jwf) c hh))
          (fun y hy => ((huj y).mp hy).imp_left fun h => hab y h.1 h.2) hr' x hx

theorem toNearSql_boundOK {p : Ops} (hg : Good cfg env p) (hr : RenderOK p) {q : Near}
    (h : toNearSql cfg p = .ok q) : ∀ x ∈ q.desc, BoundOK Θ ec env x := by
  obtain ⟨st', hrun⟩ := toNearSql_ok h
  rw [toNear_getD] at hrun
  exact (nodeClaim_all Θ ec env cfg _ p hg hr p.cols 0 q st' (fun c hc => hc) hrun).2

end
end DAVerif.C04K
