import DAVerif.Proofs.Merge
import DAVerif.Proofs.Valid
/-!
Semantic soundness of the builder simplifications (C06), one lemma per simplification, over `applyStep`, the
operator of a node on a materialised first source: a node built on the receiver without its `order_rows` steps
without limit (`sem_strip`, `strip_apply_equiv`), the `select_columns` collapse (`select_collapse_sound`,
`select_collapse_exact`), the `extend` merge (`merge_sem`, from `Proofs/Merge.lean`).
-/
namespace DAVerif

variable {Θ : Interp} {cfg : SemCfg} {env : Env}

theorem sem_table_self (Θ : Interp) (cfg : SemCfg) (env : Env) (n : String) {t : Table} (hw : t.WF)
    (hn : t.cols.Nodup) : sem Θ cfg ((n, t) :: env) (.table n t.cols) = .ok t := by
  simp only [sem, List.lookup_cons, beq_self_eq_true, subset_refl, if_true, Table.selectCols_self hw hn]

theorem sem_env_congr (Θ : Interp) (cfg : SemCfg) {env env' : Env} (p : Ops)
    (h : ∀ k ∈ p.tables.map (·.1), env.lookup k = env'.lookup k) : sem Θ cfg env p = sem Θ cfg env' p := by
  induction p with
  | table n cs => simp only [sem, h n (by simp [Ops.tables])]
  | join a b _ _ _ iha ihb | concat a b _ _ _ iha ihb =>
    simp only [sem]
    rw [iha (fun k hk => h k (by simp only [Ops.tables, List.map_append, List.mem_append]; exact Or.inl hk)),
      ihb (fun k hk => h k (by simp only [Ops.tables, List.map_append, List.mem_append]; exact Or.inr hk))]
  | extend _ _ _ _ _ _ ih | project _ _ _ ih | selectRows _ _ ih | selectCols _ _ ih | dropCols _ _ ih
  | order _ _ _ _ ih | rename _ _ ih | mapCols _ _ _ ih | convert _ _ ih => simp only [sem, ih h]

theorem sem_cons_fresh (Θ : Interp) (cfg : SemCfg) (env : Env) (n : String) (t : Table) (b : Ops)
    (hn : n ∉ b.tables.map (·.1)) : sem Θ cfg ((n, t) :: env) b = sem Θ cfg env b := by
  apply sem_env_congr
  intro k hk
  have : (k == n) = false := by
    simp only [beq_eq_false_iff_ne, ne_eq]
    rintro rfl
    exact hn hk
  simp only [List.lookup_cons, this]

theorem semOrder_none_equiv (cs rv : List String) (t : Table) : semOrder cs rv none t ≈ t :=
  ⟨rfl, sortRows_perm cs rv t.rows⟩

/-! `Ops.strip`, with which `Props/C06.lean` states `trivial_order_elim_sound`, is the builders' `strip`
(`Ops.strip_eq`). -/

namespace Ops

def strip : Ops → Ops
  | .order src _ _ none => strip src
  | p => p

@[simp] theorem strip_order_none (src : Ops) (cs rv : List String) : strip (.order src cs rv none) = strip src := rfl

theorem strip_eq : ∀ (p : Ops), p.strip = DAVerif.strip p
  | .order src _ _ none => strip_eq src
  | .order _ _ _ (some _) => rfl
  | .table .. | .extend .. | .project .. | .selectRows .. | .selectCols .. | .dropCols .. | .rename ..
  | .mapCols .. | .join .. | .concat .. | .convert .. => rfl

theorem strip_strip (p : Ops) : p.strip.strip = p.strip := by
  simp only [strip_eq, strip_idem]

end Ops

theorem orderB_strip (self : Ops) (cs rv : List String) (lim : Option Nat) :
    orderB self cs rv lim = mkOrder self.strip cs rv lim :=
  Ops.strip_eq self ▸ orderB_eq self cs rv lim

/-- the semantic part of `trivial_order_elim_sound` (`Props/C06.lean`) -/
theorem sem_strip (Θ : Interp) (cfg : SemCfg) (env : Env) (p : Ops) :
    ResEquiv (sem Θ cfg env (strip p)) (sem Θ cfg env p) := by
  induction p with
  | order s cs rv lim ih =>
    cases lim with
    | some n => exact ResEquiv.refl _
    | none =>
      simp only [strip, sem]
      cases hs : sem Θ cfg env s with
      | error e =>
        rw [hs] at ih
        have := ih.symm.of_error rfl
        rw [this]; exact rfl
      | ok t =>
        rw [hs] at ih
        obtain ⟨t0, h0, ht⟩ := ih.symm.of_ok rfl
        rw [h0]
        exact ht.symm.trans (semOrder_none_equiv cs rv t).symm
  | _ => exact ResEquiv.refl _

theorem NodeScope.perm {N : Ops} {rows rows' : List Row} (h : NodeScope Θ N rows) (hp : rows.Perm rows') :
    NodeScope Θ N rows' := by
  cases N with
  | extend s ops part od rv w => exact fun hw => (h hw).perm hp
  | order s cs rv lim =>
    cases lim with
    | none => trivial
    | some n => exact LimitOK.perm h hp
  | project s ops g => exact h
  | _ => trivial

/-- `column_names` of a node from the column names of its sources -/
def nodeCols (N : Ops) (ca cb : List String) : List String :=
  match N with
  | .table _ cs => cs
  | .extend _ ops _ _ _ _ => appendNew ca (ops.map (·.1))
  | .project _ ops g => appendNew g (ops.map (·.1))
  | .selectRows _ _ => ca
  | .selectCols _ cs => cs
  | .dropCols _ ds => ca.filter (fun c => !ds.contains c)
  | .order _ _ _ _ => ca
  | .rename _ m => ca.map (renameFn m)
  | .mapCols _ m ds => (ca.filter (fun c => !ds.contains c)).map (mapFn m)
  | .join _ _ _ _ _ => joinCols ca cb
  | .concat _ _ idc _ _ => concatCols ca idc
  | .convert _ rm => rm.produced

def optCols : Option Ops → List String
  | some b => b.cols
  | none => []

theorem cols_eq_nodeCols (N : Ops) : N.cols = nodeCols N N.srcA.cols (optCols N.srcB) := by
  cases N with
  | concat a b idc an bn => exact cols_concat a b idc an bn
  | _ => rfl

theorem nodeCols_nodup {N : Ops} {ca cb : List String} (hT : ∀ n cs, N ≠ .table n cs) (hc : NodeColsOK N ca)
    (ha : ca.Nodup) (hb : cb.Nodup) : (nodeCols N ca cb).Nodup := by
  cases N with
  | table n cs => exact absurd rfl (hT n cs)
  | extend => exact appendNew_nodup ha
  | project => exact appendNew_nodup hc
  | selectCols => exact hc.1
  | dropCols => exact nodup_filter _ ha
  | join => exact nodup_joinCols ha hb
  | selectRows | order => exact ha
  | rename | mapCols | concat | convert => exact hc

theorem nodeColsOK_of_nodeOk {p : Ops} (hn : p.nodeOk = true) (ha : p.srcA.cols.Nodup) :
    NodeColsOK p p.srcA.cols := by
  cases p with
  | project s ops g => exact (projectChk_ok_iff.mp (Ops.nodeOk_project.mp hn).1).2.1
  | selectCols s cs =>
    obtain ⟨_, hsub, hnd⟩ := selectChk_ok_iff.mp (Ops.nodeOk_selectCols.mp hn)
    exact ⟨hnd, hsub⟩
  | rename s m => exact (renameChk_ok_iff.mp (Ops.nodeOk_rename.mp hn).2).2.2
  | mapCols s m ds => exact (mapNodeChk_ok_iff.mp (Ops.nodeOk_mapCols.mp hn).2).2.2.2
  | concat a b idc an bn =>
    have hid := (concatChk_ok_iff.mp (Ops.nodeOk_concat.mp hn)).2.2
    cases idc with
    | none => exact ha
    | some c =>
      exact List.nodup_append.mpr ⟨ha, List.pairwise_singleton _ c, fun x hx y hy e =>
        hid c rfl (List.mem_singleton.mp hy ▸ e ▸ hx)⟩
  | convert s rm => exact (convertChk_ok_iff.mp (Ops.nodeOk_convert.mp hn)).2.2
  | _ => trivial

theorem Ops.valid_cols_nodup {p : Ops} : p.valid = true → p.cols.Nodup := by
  induction p using Ops.srcInduction with
  | table n cs => exact nodupB_iff.mp
  | node p hT iha ihb =>
    intro hv
    have ha := iha (Ops.valid_srcA hv)
    rw [cols_eq_nodeCols]
    refine nodeCols_nodup hT (nodeColsOK_of_nodeOk (Ops.valid_nodeOk hv) ha) ha ?_
    cases hB : p.srcB with
    | none => exact List.nodup_nil
    | some b => exact ihb b hB (valid_srcB hv hB)

theorem nodeColsOK_of_valid {p : Ops} (hv : p.valid = true) : NodeColsOK p p.srcA.cols :=
  nodeColsOK_of_nodeOk (Ops.valid_nodeOk hv) (Ops.valid_cols_nodup (Ops.valid_srcA hv))

theorem sem_wf_nodup (hΘ : ConvertOK Θ) {p : Ops} (hv : p.valid = true) {t : Table}
    (h : sem Θ cfg env p = .ok t) : t.WF ∧ t.cols.Nodup :=
  ⟨sem_wf hΘ h, by rw [sem_cols hΘ h]; exact Ops.valid_cols_nodup hv⟩

def Ops.reSrc : Ops → Ops → Ops
  | .table n cs, _ => .table n cs
  | .extend _ ops p o r w, a => .extend a ops p o r w
  | .project _ ops g, a => .project a ops g
  | .selectRows _ e, a => .selectRows a e
  | .selectCols _ cs, a => .selectCols a cs
  | .dropCols _ ds, a => .dropCols a ds
  | .order _ cs rv lim, a => .order a cs rv lim
  | .rename _ m, a => .rename a m
  | .mapCols _ m ds, a => .mapCols a m ds
  | .join _ b oa ob jt, a => .join a b oa ob jt
  | .concat _ b idc an bn, a => .concat a b idc an bn
  | .convert _ rm, a => .convert a rm

theorem applyNode_reSrc (Θ : Interp) (cfg : SemCfg) (N a : Ops) (ta tb : Table) :
    applyNode Θ cfg (N.reSrc a) ta tb = applyNode Θ cfg N ta tb := by
  cases N <;> rfl

theorem NodeScope_reSrc (Θ : Interp) (N a : Ops) (rows : List Row) :
    NodeScope Θ (N.reSrc a) rows = NodeScope Θ N rows := by
  cases N with
  | order s cs rv lim => cases lim <;> rfl
  | _ => rfl

theorem NodeColsOK_reSrc (N a : Ops) (cs : List String) : NodeColsOK (N.reSrc a) cs = NodeColsOK N cs := by
  cases N <;> rfl

theorem nodeCols_reSrc (N a : Ops) (ca cb : List String) : nodeCols (N.reSrc a) ca cb = nodeCols N ca cb := by
  cases N <;> rfl

theorem reSrc_srcB (N a : Ops) : (N.reSrc a).srcB = N.srcB := by cases N <;> rfl

theorem reSrc_srcA {N : Ops} (a : Ops) (hT : ∀ n cs, N ≠ .table n cs) : (N.reSrc a).srcA = a := by
  cases N with
  | table n cs => exact absurd rfl (hT n cs)
  | _ => rfl

theorem reSrc_ne_table {N : Ops} (a : Ops) (hT : ∀ n cs, N ≠ .table n cs) : ∀ n cs, N.reSrc a ≠ .table n cs := by
  cases N with
  | table n cs => exact absurd rfl (hT n cs)
  | _ => intro _ _ h; cases h

def applyStep (Θ : Interp) (cfg : SemCfg) (env : Env) (N : Ops) (t : Table) : Except Err Table :=
  match N.srcB with
  | none => applyNode Θ cfg N t t
  | some b => sem Θ cfg env b >>= fun tb => applyNode Θ cfg N t tb

theorem applyStep_reSrc (N a : Ops) (t : Table) :
    applyStep Θ cfg env (N.reSrc a) t = applyStep Θ cfg env N t := by
  simp only [applyStep, reSrc_srcB, applyNode_reSrc]

theorem sem_eq_applyStep (hΘ : ConvertOK Θ) (N : Ops) (hT : ∀ n cs, N ≠ .table n cs) :
    sem Θ cfg env N = sem Θ cfg env N.srcA >>= applyStep Θ cfg env N := by
  cases hb : N.srcB with
  | none =>
    rw [sem_eq_applyNode_unary Θ hΘ cfg env N hb hT]
    exact except_bind_congr fun t _ => by simp only [applyStep, hb]
  | some b =>
    rw [sem_eq_applyNode_binary Θ hΘ cfg env N b hb]
    exact except_bind_congr fun t _ => by simp only [applyStep, hb]

def SrcBEquivC (Θ : Interp) (cfg : SemCfg) (env env' : Env) : Option Ops → Option Ops → Prop
  | none, none => True
  | some b, some b' => ResEquivC (sem Θ cfg env b) (sem Θ cfg env' b')
  | _, _ => False

theorem applyStep_congrC (hC : ConvertInvariant Θ) {env' : Env} {N N' : Ops} {t t' : Table}
    (happ : ∀ ta tb, applyNode Θ cfg N ta tb = applyNode Θ cfg N' ta tb)
    (hB : SrcBEquivC Θ cfg env env' N.srcB N'.srcB) (h : t ≈ᶜ t') (hs : NodeScope Θ N t.rows)
    (hc : NodeColsOK N t.cols) :
    ResEquivC (applyStep Θ cfg env N t) (applyStep Θ cfg env' N' t') := by
  unfold applyStep
  cases hN : N.srcB <;> cases hN' : N'.srcB <;> rw [hN, hN'] at hB
  · exact happ _ _ ▸ applyNode_congrC Θ cfg hC N h h hs hc
  · exact hB.elim
  · exact hB.elim
  · exact ResEquivC.bind hB fun tb tb' _ _ htb => happ _ _ ▸ applyNode_congrC Θ cfg hC N h htb hs hc

theorem convert_equiv (hΘ : ConvertOK Θ) (hC : ConvertInvariant Θ) {rm : RecMap} {t t' : Table}
    (hn : rm.produced.Nodup) (h : t ≈ t') (hw : t.WF) (hc : t.cols.Nodup) :
    ResEquiv (Θ.convert rm t) (Θ.convert rm t') :=
  (hC rm t t' hn (Table.EquivC.of_equiv h hw hc)).to_resEquiv
    fun a b ha hb => (hΘ rm t a ha).1.trans (hΘ rm t' b hb).1.symm

theorem strip_apply_equiv (hΘ : ConvertOK Θ) (hC : ConvertInvariant Θ) {self : Ops} (hv : self.valid = true)
    (N : Ops) (hs : ∀ t, sem Θ cfg env self = .ok t → NodeScope Θ N t.rows)
    (hc : ∀ t, sem Θ cfg env self = .ok t → NodeColsOK N t.cols) :
    ResEquiv (sem Θ cfg env (strip self) >>= applyStep Θ cfg env N)
      (sem Θ cfg env self >>= applyStep Θ cfg env N) := by
  refine (ResEquiv.bind (sem_strip Θ cfg env self).symm fun t t' ht htt => ?_).symm
  have hconv : ConvertAt ResEquiv Θ N t t' := by
    have hcN := hc t ht
    cases N with
    | convert s rm => exact convert_equiv hΘ hC hcN htt (sem_wf_nodup hΘ hv ht).1 (sem_wf_nodup hΘ hv ht).2
    | _ => trivial
  unfold applyStep
  cases N.srcB with
  | none => exact applyNode_equiv Θ cfg N htt htt (hs t ht) hconv
  | some b =>
    exact ResEquiv.bind (ResEquiv.refl _) fun tb tb' _ htb => applyNode_equiv Θ cfg N htt htb (hs t ht) hconv

/-- **`select_collapse_sound`.**  The hypothesis `hg` is what `select_columns` checks on its way down, in the
library after fix D4 of DESIGN.md. -/
theorem select_collapse_sound (Θ : Interp) (cfg : SemCfg) (env : Env) (self : Ops) (cs : List String)
    (hg : self.selectGuards.all (fun g => subset cs g) = true) :
    ResEquiv (sem Θ cfg env self.selectBase >>= fun t => .ok (t.selectCols cs))
      (sem Θ cfg env self >>= fun t => .ok (t.selectCols cs)) := by
  induction self with
  | order s cs' rv lim ih =>
    cases lim with
    | some n => exact ResEquiv.refl _
    | none =>
      simp only [Ops.selectBase, sem]
      refine (ih hg).trans ?_
      cases hs : sem Θ cfg env s with
      | error e => exact rfl
      | ok t => exact ((semOrder_none_equiv cs' rv t).selectCols cs).symm
  | selectCols s cs0 ih =>
    simp only [Ops.selectGuards, List.all_cons, Bool.and_eq_true] at hg
    simp only [Ops.selectBase, sem]
    refine (ih hg.2).trans ?_
    cases hs : sem Θ cfg env s with
    | error e => exact rfl
    | ok t =>
      show ResEquiv (.ok (t.selectCols cs)) (.ok ((t.selectCols cs0).selectCols cs))
      rw [Table.selectCols_selectCols _ (subset_iff.mp hg.1)]
      exact ResEquiv.refl _
  | dropCols s ds ih =>
    simp only [Ops.selectGuards, List.all_cons, Bool.and_eq_true] at hg
    simp only [Ops.selectBase, sem]
    refine (ih hg.2).trans ?_
    cases hs : sem Θ cfg env s with
    | error e => exact rfl
    | ok t =>
      show ResEquiv (.ok (t.selectCols cs)) (.ok ((t.selectCols _).selectCols cs))
      rw [Table.selectCols_selectCols _ (subset_iff.mp hg.1)]
      exact ResEquiv.refl _
  | _ => exact ResEquiv.refl _

def Ops.noTrivialOrderTop : Ops → Bool
  | .order _ _ _ none => false
  | .selectCols s _ => noTrivialOrderTop s
  | .dropCols s _ => noTrivialOrderTop s
  | _ => true

theorem strip_of_noTrivialOrderTop {p : Ops} (h : p.noTrivialOrderTop = true) : strip p = p := by
  apply strip_of_not_trivial
  cases p with
  | order s cs rv lim => cases lim with
    | none => cases h
    | some n => rfl
  | _ => rfl

theorem select_collapse_exact (Θ : Interp) (cfg : SemCfg) (env : Env) (self : Ops) (cs : List String)
    (hg : self.selectGuards.all (fun g => subset cs g) = true) (hno : self.noTrivialOrderTop = true) :
    (sem Θ cfg env self.selectBase >>= fun t => .ok (t.selectCols cs)) =
      (sem Θ cfg env self >>= fun t => (.ok (t.selectCols cs) : Except Err Table)) := by
  induction self with
  | order s cs' rv lim ih =>
    cases lim with
    | some n => rfl
    | none => cases hno
  | selectCols s cs0 ih =>
    simp only [Ops.selectGuards, List.all_cons, Bool.and_eq_true] at hg
    simp only [Ops.selectBase, sem]
    rw [ih hg.2 hno, bind_assoc]
    apply except_bind_congr
    intro t _
    show (Except.ok (t.selectCols cs) : Except Err Table) = .ok ((t.selectCols cs0).selectCols cs)
    rw [Table.selectCols_selectCols _ (subset_iff.mp hg.1)]
  | dropCols s ds ih =>
    simp only [Ops.selectGuards, List.all_cons, Bool.and_eq_true] at hg
    simp only [Ops.selectBase, sem]
    rw [ih hg.2 hno, bind_assoc]
    apply except_bind_congr
    intro t _
    show (Except.ok (t.selectCols cs) : Except Err Table) = .ok ((t.selectCols _).selectCols cs)
    rw [Table.selectCols_selectCols _ (subset_iff.mp hg.1)]
  | _ => rfl

theorem merge_cols {sc : List String} {o1 ops o : Assign} (hm : tryMergeOps o1 ops = some o) (c : String) :
    c ∈ appendNew sc (o.map (·.1)) ↔ c ∈ appendNew sc (o1.map (·.1)) ∨ c ∈ ops.map (·.1) := by
  simp only [mem_appendNew, (tryMergeOps_spec hm).2.2.2.2 c, or_assoc]

/-- The trailing `selectCols`: the merged node may declare its columns in another order than the two steps one
after the other (a column assigned by both). -/
theorem merge_sem (hΘ : ConvertOK Θ) {src leaf : Ops} {o1 ops o : Assign} {pa : PartArg} {od rv : List String}
    {w1 : Bool} (hq : (Ops.extend src o1 pa.cols' od rv w1).valid = true) (hm : tryMergeOps o1 ops = some o)
    (hw : stepWindowed ops pa od = w1) (hchk : extendChk src.cols o pa od rv = .ok ()) :
    sem Θ cfg env (.extend src o pa.cols' od rv (stepWindowed o pa od)) =
      (sem Θ cfg env (.extend src o1 pa.cols' od rv w1) >>= fun t =>
        applyNode Θ cfg (.extend leaf ops pa.cols' od rv (stepWindowed ops pa od)) t t >>= fun t2 =>
          .ok (t2.selectCols (appendNew src.cols (o.map (·.1))))) := by
  obtain ⟨hd, hdis, hunion, ho2, hkeys⟩ := tryMergeOps_spec hm
  have hn := valid_extend hq
  obtain ⟨c1, _, _, _, c5, c6, _, _, _⟩ := extendChk_ok_iff.mp hchk
  have hww : stepWindowed o pa od = w1 :=
    stepWindowed_merge hunion ho2 (fun h1 => hn.flag (by rw [h1]; rfl)) hw
  rw [sem_eq_applyNode_unary Θ hΘ cfg env _ rfl (by intro _ _ hh; cases hh),
    sem_eq_applyNode_unary Θ hΘ cfg env (.extend src o1 pa.cols' od rv w1) rfl
      (by intro _ _ hh; cases hh)]
  simp only [Ops.srcA, bind_assoc]
  apply except_bind_congr
  intro t ht
  have hc : t.cols = src.cols := sem_cols hΘ ht
  have hmem1 : ∀ c, c ∈ appendNew src.cols (o1.map (·.1)) ↔ c ∈ src.cols ∨ c ∈ o1.map (·.1) := by
    intro c; rw [mem_appendNew]
  have hu : ∀ c ∈ Term.colsUsedOps ops, c ∈ appendNew src.cols (o1.map (·.1)) := by
    intro c hcu
    obtain ⟨kv, hkv, hcr⟩ := mem_colsUsedOps.mp hcu
    exact (hmem1 c).mpr (Or.inl (c1 c (mem_colsUsedOps.mpr ⟨kv, ho2 kv hkv, hcr⟩)))
  have h1 : ∀ c ∈ appendNew src.cols (o.map (·.1)),
      c ∈ appendNew src.cols (o1.map (·.1)) ∨ c ∈ ops.map (·.1) := fun c => (merge_cols hm c).mp
  have h2 : ∀ c ∈ appendNew src.cols (o.map (·.1)),
      c ∈ appendNew (appendNew src.cols (o1.map (·.1))) (ops.map (·.1)) := fun c hcc => mem_appendNew.mpr (h1 c hcc)
  simp only [applyNode, hww, hw]
  cases w1 with
  | false =>
    simp only [Bool.false_eq_true, if_false, ok_bind, hc]
    exact congrArg _ (merge_ops_sound Θ hm t _ _ _ hu h1 h2)
  | true =>
    simp only [if_true, ok_bind, hc]
    exact congrArg _ (merge_ops_sound_window Θ hm pa.cols' od rv t _ _ _ hu
      (fun c hcc => (hmem1 c).mpr (Or.inl (c5 c hcc)))
      (fun c hcc => (hmem1 c).mpr (Or.inl (c6 c hcc)))
      (disjoint_iff.mpr fun x hx hxx => disjoint_iff.mp hn.keys_disj x hx (List.mem_append_left _ hxx)) h1 h2)

end DAVerif
