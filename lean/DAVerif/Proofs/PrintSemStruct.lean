import DAVerif.Proofs.C07Total
/-!
C12 without the guard, structural part: `Ops.replaceLeaves [] p` is what evaluating the printed text of `p` computes
(`Proofs/PrintSem.lean`), and C07's theorems on the structure and totality of `replace_leaves` hold for every
replacement map; the empty one replaces nothing.
-/
namespace DAVerif.C12S
open DAVerif

theorem leavesOK_nil (p : Ops) : LeavesOK [] p := fun _ _ _ h => nomatch h

theorem flatMap_leafTables_nil (l : List (String × List String)) : l.flatMap (leafTables []) = l :=
  List.flatMap_singleton' l

theorem replaceId_struct (p : Ops) (hv : p.valid = true) (q : Ops) (hq : Ops.replaceLeaves [] p = .ok q) :
    q.valid = true ∧ q.tables = p.tables ∧ q.cols.Perm p.cols := by
  have h := replaceLeaves_struct [] p hv (leavesOK_nil p) q hq
  rwa [flatMap_leafTables_nil] at h

theorem replaceId_total (p : Ops) (hv : p.valid = true) : ∃ q, Ops.replaceLeaves [] p = .ok q :=
  replaceLeaves_total [] p hv (leavesOK_nil p) (by rw [flatMap_leafTables_nil]; exact valid_tables_consistent hv)

end DAVerif.C12S
