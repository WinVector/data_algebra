import DAVerif.Proofs.CDataCollapse
/-!
Helper lemmas for C17, part 4: table equivalence, the two forms of the same records cell by cell, `RecordMap.transform`
in terms of the record view, `inverse`.
-/
namespace DAVerif.CData
open List

theorem equiv_of_perm_proj {t t' : Table} {cs : List String} (h1 : t.cols.Perm cs) (h2 : t'.cols.Perm cs)
    (h : (t.rows.map (proj cs)).Perm (t'.rows.map (proj cs))) : t ≈ₜ t' :=
  ⟨h1.trans h2.symm, perm_map_of_proj₂ (fun r => proj_proj r fun _ hc => h1.mem_iff.1 hc) h⟩

theorem equiv_of_isRows {s : Spec} {U : List Row} {t t' : Table} (h : IsRows s U t) (h' : IsRows s U t')
    (hc : t.cols.Perm s.rowColumns) (hc' : t'.cols.Perm s.rowColumns) : t ≈ₜ t' :=
  equiv_of_perm_proj hc hc' (h.2.trans h'.2.symm)

theorem equiv_of_isBlocks {s : Spec} {U : List Row} {t t' : Table} (h : IsBlocks s U t) (h' : IsBlocks s U t')
    (hc : t.cols.Perm s.blockColumns) (hc' : t'.cols.Perm s.blockColumns) : t ≈ₜ t' :=
  equiv_of_perm_proj hc hc' (h.2.trans h'.2.symm)

theorem isRows_self {s : Spec} {t : Table} (h : t.cols.Perm s.rowColumns) : IsRows s t.rows t :=
  ⟨fun _ hc => h.symm.mem_iff.1 hc, Perm.refl _⟩

theorem IsBlocks.row {s : Spec} {U : List Row} {t : Table} (h : IsBlocks s U t) {x : Row} (hx : x ∈ t.rows) :
    ∃ cr ∈ s.ct.rows, ∃ u ∈ U, proj s.blockColumns x = bRow s cr u := by
  have := h.2.mem_iff.1 (mem_map_of_mem (f := proj s.blockColumns) hx)
  rw [eRows_eq] at this
  exact mem_eRows.1 this

theorem IsBlocks.mem_keys {s : Spec} (f : Facts s) {U : List Row} {t : Table} (h : IsBlocks s U t) (k : List Val) :
    k ∈ t.rows.map (keyOf s.recordKeys) ↔ k ∈ U.map (keyOf s.recordKeys) := by
  rw [mem_map, mem_map]
  constructor
  · rintro ⟨x, hx, rfl⟩
    obtain ⟨cr, _, u, hu, e⟩ := h.row hx
    exact ⟨u, hu, by rw [← keyOf_rk_bRow cr u, ← e, keyOf_proj x rk_sub_bc]⟩
  · rintro ⟨u, hu, rfl⟩
    obtain ⟨cr, hcr⟩ := exists_mem_of_ne_nil _ f.rows_ne
    have := h.2.symm.mem_iff.1 (by rw [eRows_eq]; exact mem_eRows.2 ⟨cr, hcr, u, hu, rfl⟩)
    obtain ⟨x, hx, e⟩ := mem_map.1 this
    exact ⟨x, hx, by rw [← keyOf_proj x rk_sub_bc, e, keyOf_rk_bRow]⟩

theorem IsBlocks.cell {s : Spec} (f : Facts s) {U : List Row} (hU : RecKeys s.recordKeys U) {t : Table}
    (h : IsBlocks s U t) {x u cr : Row} (hx : x ∈ t.rows) (hu : u ∈ U) (hcr : cr ∈ s.ct.rows)
    (hxu : keyOf s.recordKeys x = keyOf s.recordKeys u) (hxc : keyOf s.ctKeys x = keyOf s.ctKeys cr)
    {vc : String} (hvc : vc ∈ s.valueCols) : look x vc = look u (contentName cr vc) := by
  obtain ⟨cr', hcr', u', hu', e⟩ := h.row hx
  have e1 : keyOf s.recordKeys u' = keyOf s.recordKeys u := by
    rw [← keyOf_rk_bRow cr' u', ← e, keyOf_proj x rk_sub_bc, hxu]
  have e2 : keyOf s.ctKeys cr' = keyOf s.ctKeys cr := by
    rw [← keyOf_ck_bRow f cr' u', ← e, keyOf_proj x (ck_sub_bc f), hxc]
  obtain rfl := inj_of_nodup_map hU.2 _ hu' _ hu e1
  obtain rfl := inj_of_nodup_map f.key_nodup _ hcr' _ hcr e2
  rw [← look_proj x (vc_sub_bc vc hvc), e, look_bRow_vc f _ _ hvc]

/-- C17's record view (record key ↦ content key ↦ value) for any row table and block table that carry the same
records; `C17_blocks_to_rows_meaning` is the instance `r = blocksToRows s t`. -/
theorem rows_blocks_cells {s : Spec} (f : Facts s) {U : List Row} (hU : RecKeys s.recordKeys U) {t r : Table}
    (hB : IsBlocks s U t) (hR : IsRows s U r) :
    (r.rows.map (keyOf s.recordKeys)).Perm (dedup (t.rows.map (keyOf s.recordKeys))) ∧
      ∀ row ∈ r.rows, ∀ x ∈ t.rows, keyOf s.recordKeys x = keyOf s.recordKeys row →
        ∀ cr ∈ s.ct.rows, keyOf s.ctKeys x = keyOf s.ctKeys cr →
          ∀ vc ∈ s.valueCols, look row (contentName cr vc) = look x vc := by
  constructor
  · refine (perm_map_of_proj₂ (fun x => keyOf_proj x rk_sub_rc) hR.2).trans
      ((perm_ext_iff_of_nodup hU.2 (nodup_dedup _)).2 fun k => ?_)
    rw [mem_dedup, hB.mem_keys f]
  · intro row hrow x hx hxk cr hcr hxc vc hvc
    obtain ⟨u, hu, e⟩ := mem_map.1 (hR.2.mem_iff.1 (mem_map_of_mem (f := proj s.rowColumns) hrow))
    have hname : contentName cr vc ∈ s.rowColumns := (mem_rowColumns f).2 (Or.inr (contentName_mem hcr hvc))
    rw [← proj_eq_iff.1 e _ hname]
    refine (hB.cell f hU hx hu hcr (hxk.trans ?_) hxc hvc).symm
    exact keyOf_congr fun c hc => (proj_eq_iff.1 e c (rk_sub_rc c hc)).symm

theorem RecKeys.of_sameSet {ks ks' : List String} {U : List Row} (h : RecKeys ks U) (h1 : ∀ k ∈ ks', k ∈ ks)
    (h2 : ∀ k ∈ ks, k ∈ ks') : RecKeys ks' U := by
  refine ⟨fun r hr => noNull_keyOf_sub h1 (h.1 r hr), ?_⟩
  apply nodup_map_of_inj (nodup_of_nodup_map _ h.2)
  intro a ha b hb e
  exact inj_of_nodup_map h.2 _ ha _ hb (keyOf_sub h2 e)

theorem IsRows.mono {s s' : Spec} {U : List Row} {t : Table} (h : IsRows s U t)
    (hsub : ∀ c ∈ s'.rowColumns, c ∈ s.rowColumns) : IsRows s' U t :=
  ⟨fun _ hc => h.1 _ (hsub _ hc), perm_map_of_proj₂ (fun r => proj_proj r hsub) h.2⟩

theorem normSide_good {s : Spec} (g : s.Good) : normSide (some s) true = .ok (some s) := by
  unfold normSide
  have h2 : ¬ s.ct.rows.length ≤ 1 := by have := g.multi; omega
  simp [g.strict, h2]

theorem mkMap_both_inv {a b : Spec} (ga : a.Good) (gb : b.Good) {m : RecordMap}
    (h : mkMap (some a) (some b) true = .ok m) :
    m = ⟨some a, some b, true⟩ ∧ (∀ k ∈ b.recordKeys, k ∈ a.recordKeys) ∧ (∀ k ∈ a.recordKeys, k ∈ b.recordKeys) ∧
    (∀ k ∈ b.rawContent, k ∈ a.rawContent) := by
  unfold mkMap at h
  rw [normSide_good ga, normSide_good gb] at h
  obtain ⟨-, h⟩ := of_ite_error h
  obtain ⟨h1, h⟩ := of_ite_error h
  obtain ⟨h2, h⟩ := of_ite_error h
  obtain ⟨h3, h⟩ := of_ite_error h
  cases h
  rw [contentKeys_eq ga.facts, contentKeys_eq gb.facts] at h2
  exact ⟨rfl, Decidable.not_not.1 h1, Decidable.not_not.1 fun hn => h3 ⟨rfl, hn⟩, Decidable.not_not.1 h2⟩

theorem mkMap_both_ok {a b : Spec} (ga : a.Good) (gb : b.Good)
    (h1 : ∀ k ∈ b.recordKeys, k ∈ a.recordKeys) (h2 : ∀ k ∈ a.recordKeys, k ∈ b.recordKeys)
    (h3 : ∀ k ∈ b.contentKeys, k ∈ a.contentKeys) :
    mkMap (some a) (some b) true = .ok ⟨some a, some b, true⟩ := by
  have hn : a.contentKeys.Nodup := by rw [contentKeys_eq ga.facts]; exact ga.facts.content_nodup
  unfold mkMap
  rw [normSide_good ga, normSide_good gb]
  show (if decide (¬ a.contentKeys.Nodup) = true then _ else _) = _
  rw [if_neg (by rw [decide_eq_true_eq]; exact not_not_intro hn)]
  simp only
  rw [if_neg (not_not_intro h1), if_neg (not_not_intro h3), if_neg fun h => h.2 h2]

theorem mkMap_in_ok {a : Spec} (ga : a.Good) : mkMap (some a) none true = .ok ⟨some a, none, true⟩ := by
  unfold mkMap
  rw [normSide_good ga]
  have hn : a.contentKeys.Nodup := by rw [contentKeys_eq ga.facts]; exact ga.facts.content_nodup
  simp [hn, normSide]

theorem mkMap_out_ok' {b : Spec} (gb : b.Good) : mkMap none (some b) true = .ok ⟨none, some b, true⟩ := by
  unfold mkMap
  rw [normSide_good gb]
  simp [normSide]

theorem mkMap_none_none (st : Bool) : mkMap none none st = .error .ValueError := rfl

theorem good_has_side {m : RecordMap} (gm : m.Good) : m.blocksIn ≠ none ∨ m.blocksOut ≠ none := by
  obtain ⟨bi, bo, st⟩ := m
  cases bi with
  | some a => exact Or.inl (by simp)
  | none =>
    cases bo with
    | some b => exact Or.inr (by simp)
    | none => exact nomatch (mkMap_none_none st).symm.trans gm.valid

theorem Spec.Good.of_some {s : Spec} (g : s.Good) : ∀ a, some s = some a → a.Good := fun _ h => Option.some.inj h ▸ g

theorem good_of_none : ∀ a : Spec, none = some a → a.Good := fun _ h => nomatch h

theorem mkMap_good {i o : Option Spec} (gi : ∀ a, i = some a → a.Good) (go : ∀ b, o = some b → b.Good)
    {m : RecordMap} (h : mkMap i o true = .ok m) : m = ⟨i, o, true⟩ ∧ m.Good := by
  have e : m = ⟨i, o, true⟩ := by
    cases i with
    | none =>
      cases o with
      | none => exact nomatch (mkMap_none_none true).symm.trans h
      | some b => rw [mkMap_out_ok' (go b rfl)] at h; cases h; rfl
    | some a =>
      cases o with
      | none => rw [mkMap_in_ok (gi a rfl)] at h; cases h; rfl
      | some b => exact (mkMap_both_inv (gi a rfl) (go b rfl) h).1
  subst e
  exact ⟨rfl, h, rfl, gi, go⟩

/-- the map read backwards (what `inverse` builds from a strict map) -/
def RecordMap.flip (m : RecordMap) : RecordMap := ⟨m.blocksOut, m.blocksIn, m.strict⟩

theorem flip_recordKeys {m : RecordMap} (gm : m.Good) :
    (∀ k ∈ m.flip.recordKeys, k ∈ m.recordKeys) ∧ (∀ k ∈ m.recordKeys, k ∈ m.flip.recordKeys) := by
  obtain ⟨bi, bo, st⟩ := m
  obtain rfl : st = true := gm.strict
  cases bi <;> cases bo
  case some.some a b =>
    obtain ⟨_, k1, k2, _⟩ := mkMap_both_inv (gm.goodIn a rfl) (gm.goodOut b rfl) gm.valid
    exact ⟨k1, k2⟩
  all_goals exact ⟨fun _ hk => hk, fun _ hk => hk⟩

/-- the records a table carries on the incoming side of a map -/
def InRep (m : RecordMap) (U : List Row) (t : Table) : Prop :=
  match m.blocksIn, m.blocksOut with
  | some a, _ => IsBlocks a U t
  | none, some b => IsRows b U t
  | none, none => False

def OutRep (m : RecordMap) (U : List Row) (t : Table) : Prop :=
  InRep m.flip U t ∧ t.cols.Perm m.flip.columnsNeeded

theorem equiv_of_inRep {m : RecordMap} {U : List Row} {t t' : Table} (h : InRep m U t) (h' : InRep m U t')
    (hc : t.cols.Perm m.columnsNeeded) (hc' : t'.cols.Perm m.columnsNeeded) : t ≈ₜ t' := by
  obtain ⟨bi, bo, st⟩ := m
  cases bi with
  | some a => exact equiv_of_isBlocks h h' hc hc'
  | none =>
    cases bo with
    | some b => exact equiv_of_isRows h h' hc hc'
    | none => exact h.elim

theorem conforms_cols {m : RecordMap} {t : Table} (ht : Conforms m t) : t.cols.Perm m.columnsNeeded := by
  obtain ⟨bi, bo, st⟩ := m
  cases bi with
  | some a => exact ht.1
  | none =>
    cases bo with
    | some b => exact ht.1
    | none => exact ht.elim

theorem transform_of_cols {m : RecordMap} {x : Table} (h : ∀ c ∈ m.columnsNeeded, c ∈ x.cols) :
    m.transform x =
      match (match m.blocksIn with | some a => blocksToRows a x | none => .ok x) with
      | .error e => .error e
      | .ok y => match m.blocksOut with
        | some b => rowsToBlocks b y
        | none => .ok y := by
  unfold RecordMap.transform
  split
  · rename_i hn; exact absurd h hn
  · rfl

theorem transform_spec {m : RecordMap} (gm : m.Good) {U : List Row} (hU : RecKeys m.recordKeys U) {t : Table}
    (ht : InRep m U t) : ∃ r, m.transform t = .ok r ∧ OutRep m U r := by
  obtain ⟨bi, bo, st⟩ := m
  obtain rfl : st = true := gm.strict
  cases bi with
  | none =>
    cases bo with
    | none => exact ht.elim
    | some b =>
      obtain ⟨r, hr, h1, h2⟩ := rowsToBlocks_spec (gm.goodOut b rfl) hU ht
      refine ⟨r, ?_, h1, h2⟩
      rw [transform_of_cols (m := ⟨none, some b, true⟩) ht.1]
      exact hr
  | some a =>
    have ga := gm.goodIn a rfl
    obtain ⟨r, hr, h1, h2⟩ := blocksToRows_spec ga hU ht
    cases bo with
    | none =>
      refine ⟨r, ?_, h1, h2⟩
      rw [transform_of_cols (m := ⟨some a, none, true⟩) ht.1]
      simp only [hr]
    | some b =>
      have gb := gm.goodOut b rfl
      obtain ⟨_, k1, k2, k3⟩ := mkMap_both_inv ga gb gm.valid
      have hsub : ∀ c ∈ b.rowColumns, c ∈ a.rowColumns := by
        intro c hc
        rcases (mem_rowColumns gb.facts).1 hc with h | h
        · exact (mem_rowColumns ga.facts).2 (Or.inl (k1 c h))
        · exact (mem_rowColumns ga.facts).2 (Or.inr (k3 c h))
      obtain ⟨r2, hr2, h3, h4⟩ := rowsToBlocks_spec gb (hU.of_sameSet k1 k2) (h1.mono hsub)
      refine ⟨r2, ?_, h3, h4⟩
      rw [transform_of_cols (m := ⟨some a, some b, true⟩) ht.1]
      simp only [hr]
      exact hr2

theorem conforms_rep {m : RecordMap} (gm : m.Good) {t : Table} (ht : Conforms m t) :
    ∃ U, RecKeys m.recordKeys U ∧ InRep m U t := by
  obtain ⟨bi, bo, st⟩ := m
  cases bi with
  | none =>
    cases bo with
    | none => exact ht.elim
    | some b => exact ⟨t.rows, ht.2, isRows_self ht.1⟩
  | some a => exact collapse_spec (gm.goodIn a rfl) ht

theorem inverse_spec {m mi : RecordMap} (gm : m.Good) (h : m.inverse = .ok mi) : mi = m.flip ∧ mi.Good := by
  obtain ⟨bi, bo, st⟩ := m
  obtain rfl : st = true := gm.strict
  exact mkMap_good gm.goodOut gm.goodIn h

end DAVerif.CData
