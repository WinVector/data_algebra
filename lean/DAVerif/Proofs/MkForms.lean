import DAVerif.Proofs.Builders
/-!
Normal forms of the node constructors `mk*` of `Ops/Builder.lean`: each is a check that only reads the
*column names* of its sources (and, for join / concat, their table descriptions), followed by the node.
From them the raw builder call as all its checks (`rawChk`), then its node, and `build` as the raw call on the
receiver without its skipped `order_rows` steps when no simplification applies (`build_direct`).
-/
namespace DAVerif
open Rules26

theorem ok_bind {α β : Type} (a : α) (f : α → Except Err β) : ((Except.ok a : Except Err α) >>= f) = f a := rfl

def extendChk (sc : List String) (ops : Assign) (pa : PartArg) (od rv : List String) : Except Err Unit := do
  ok? (subset (Term.colsUsedOps ops) sc) .keyError
  ok? (nodupB pa.cols') .valueError
  ok? (nodupB od) .valueError
  ok? (nodupB rv) .valueError
  ok? (subset pa.cols' sc) .valueError
  ok? (subset od sc) .valueError
  ok? (subset rv od) .valueError
  ok? (disjoint (ops.map (·.1)) (pa.cols' ++ od ++ rv)) .valueError
  ok? (!stepWindowed ops pa od || ops.all (fun kv => windowOpOk sc (!od.isEmpty) kv.2)) .valueError

theorem mkExtend_eqC (src : Ops) (ops : Assign) (pa : PartArg) (od rv : List String) :
    mkExtend src ops pa od rv = extendChk src.cols ops pa od rv >>= fun _ =>
      .ok (.extend src ops pa.cols' od rv (stepWindowed ops pa od)) := by
  unfold mkExtend extendChk
  cases pa <;> simp only [PartArg.cols', stepWindowed, bind_assoc, forIn_ok?]
  · generalize (impliesWindowed ops || false || !od.isEmpty) = w
    cases w <;> rfl
  · generalize (impliesWindowed ops || true || !od.isEmpty) = w
    cases w <;> rfl
  · rename_i cs
    generalize (impliesWindowed ops || !cs.isEmpty || !od.isEmpty) = w
    cases w <;> rfl

theorem mkExtend_of_chk {a : Ops} {ops : Assign} {pa : PartArg} {od rv : List String}
    (h : extendChk a.cols ops pa od rv = .ok ()) :
    mkExtend a ops pa od rv = .ok (.extend a ops pa.cols' od rv (stepWindowed ops pa od)) := by
  rw [mkExtend_eqC, h]; rfl

def projectChk (sc : List String) (ops : Assign) (g : List String) : Except Err Unit := do
  ok? (subset (g ++ Term.colsUsedOps ops) sc) .keyError
  ok? (nodupB g) .valueError
  ok? (!(appendNew g (ops.map (·.1))).isEmpty) .assertionError
  ok? (ops.all (fun kv => projectOpOk kv.2)) .valueError

theorem mkProject_eq (src : Ops) (ops : Assign) (g : List String) :
    mkProject src ops g = projectChk src.cols ops g >>= fun _ => .ok (.project src ops g) := by
  unfold mkProject projectChk
  simp only [bind_assoc, forIn_ok?]
  rfl

def selectChk (sc cs : List String) : Except Err Unit := do
  ok? (!cs.isEmpty) .valueError
  ok? (subset cs sc) .keyError
  ok? (nodupB cs) .assertionError

/-- the node `SelectColumnsNode` constructs: a selection directly over a selection skips it -/
def selectNode (src : Ops) (cs : List String) : Ops :=
  match src with
  | .selectCols s _ => .selectCols s cs
  | _ => .selectCols src cs

theorem mkSelectCols_eq (src : Ops) (cs : List String) :
    mkSelectCols src cs = selectChk src.cols cs >>= fun _ => .ok (selectNode src cs) := by
  unfold mkSelectCols selectChk selectNode
  simp only [bind_assoc]
  cases src <;> rfl

theorem Ops.selectBase_not_select : ∀ (p : Ops) (s : Ops) (cs : List String), p.selectBase ≠ .selectCols s cs
  | .order src _ _ none, s, cs => by simp only [Ops.selectBase]; exact Ops.selectBase_not_select src s cs
  | .selectCols src _, s, cs => by simp only [Ops.selectBase]; exact Ops.selectBase_not_select src s cs
  | .dropCols src _, s, cs => by simp only [Ops.selectBase]; exact Ops.selectBase_not_select src s cs
  | .order _ _ _ (some _), _, _ => by simp [Ops.selectBase]
  | .table .., _, _ | .extend .., _, _ | .project .., _, _ | .selectRows .., _, _
  | .rename .., _, _ | .mapCols .., _, _ | .join .., _, _ | .concat .., _, _ | .convert .., _, _ => by
    simp [Ops.selectBase]

theorem selectNode_selectBase (p : Ops) (cs : List String) :
    selectNode p.selectBase cs = .selectCols p.selectBase cs := by
  have := Ops.selectBase_not_select p
  cases h : p.selectBase with
  | selectCols s cs0 => exact absurd h (this s cs0)
  | _ => rfl

def dropChk (sc ds : List String) : Except Err Unit := do
  ok? (subset ds sc) .keyError
  ok? (!(sc.filter (fun c => !ds.contains c)).isEmpty) .valueError

theorem mkDropCols_eq (src : Ops) (ds : List String) :
    mkDropCols src ds = dropChk src.cols ds >>= fun _ => .ok (.dropCols src ds) := by
  unfold mkDropCols dropChk
  simp only [bind_assoc]
  rfl

def orderChk (sc cs rv : List String) : Except Err Unit := do
  ok? (subset cs sc) .valueError
  ok? (subset rv cs) .valueError

theorem mkOrder_eq (src : Ops) (cs rv : List String) (lim : Option Nat) :
    mkOrder src cs rv lim = orderChk src.cols cs rv >>= fun _ => .ok (.order src cs rv lim) := by
  unfold mkOrder orderChk
  simp only [bind_assoc]
  rfl

/-- the column names a `rename_columns` node declares over source columns `sc` -/
def renameCols (sc : List String) (m : List (String × String)) : List String :=
  sc.map (fun c => (lookupLast (m.map (fun kv => (kv.2, kv.1))) c).getD c)

def renameChk (sc : List String) (m : List (String × String)) : Except Err Unit := do
  ok? (subset (m.map (·.2)) sc) .valueError
  ok? (((sc.filter (fun c => !(inter (m.map (·.1)) (m.map (·.2))).contains c)).filter
    (fun c => (m.map (·.1)).contains c)).isEmpty) .valueError
  ok? (nodupB (renameCols sc m)) .assertionError

theorem mkRename_eq (src : Ops) (m : List (String × String)) :
    mkRename src m = renameChk src.cols m >>= fun _ => .ok (.rename src m) := by
  unfold mkRename renameChk
  simp only [bind_assoc]
  rfl

def mapRemap (m : List (String × Option String)) : List (String × String) :=
  m.filterMap (fun kv => kv.2.map (fun v => (kv.1, v)))
def mapDels (m : List (String × Option String)) : List String :=
  (m.filter (fun kv => kv.2.isNone)).map (·.1)

/-- the column names a `map_columns` node declares over source columns `sc` -/
def mapColsCols (sc : List String) (remap : List (String × String)) (dels : List String) : List String :=
  (sc.filter (fun c => !dels.contains c)).map (fun c => (lookupLast remap c).getD c)

def mapColsChk (sc : List String) (m : List (String × Option String)) : Except Err Unit := do
  ok? (subset (m.map (·.1)) sc) .valueError
  ok? (((sc.filter (fun c => !(inter ((mapRemap m).map (·.2)) (m.map (·.1))).contains c)).filter
    (fun c => ((mapRemap m).map (·.2)).contains c)).isEmpty) .valueError
  ok? (!(mapColsCols sc (mapRemap m) (mapDels m)).isEmpty) .assertionError
  ok? (nodupB (mapColsCols sc (mapRemap m) (mapDels m))) .assertionError

theorem mkMapCols_eq (src : Ops) (m : List (String × Option String)) :
    mkMapCols src m = mapColsChk src.cols m >>= fun _ => .ok (.mapCols src (mapRemap m) (mapDels m)) := by
  unfold mkMapCols mapColsChk
  simp only [bind_assoc]
  rfl

/-- the constructor checks of a `map_columns` node, from the node's own fields (`remap`, `dels`) -/
def mapNodeChk (sc : List String) (remap : List (String × String)) (dels : List String) : Except Err Unit := do
  ok? (subset (remap.map (·.1) ++ dels) sc) .valueError
  ok? (((sc.filter (fun c => !(inter (remap.map (·.2)) (remap.map (·.1) ++ dels)).contains c)).filter
    (fun c => (remap.map (·.2)).contains c)).isEmpty) .valueError
  ok? (!(mapColsCols sc remap dels).isEmpty) .assertionError
  ok? (nodupB (mapColsCols sc remap dels)) .assertionError

theorem mem_map_fst_iff (m : List (String × Option String)) (c : String) :
    c ∈ m.map (·.1) ↔ c ∈ (mapRemap m).map (·.1) ∨ c ∈ mapDels m := by
  simp only [mapRemap, mapDels, List.mem_map, List.mem_filterMap, List.mem_filter]
  constructor
  · rintro ⟨⟨k, v⟩, hkv, rfl⟩
    cases v with
    | none => exact Or.inr ⟨(k, none), ⟨hkv, rfl⟩, rfl⟩
    | some v => exact Or.inl ⟨(k, v), ⟨(k, some v), hkv, rfl⟩, rfl⟩
  · rintro (⟨_, ⟨⟨k, v⟩, hkv, he⟩, rfl⟩ | ⟨kv, ⟨hkv, _⟩, rfl⟩)
    · cases v with
      | none => cases he
      | some v => cases he; exact ⟨(k, some v), hkv, rfl⟩
    · exact ⟨kv, hkv, rfl⟩

theorem mapColsChk_eq (sc : List String) (m : List (String × Option String)) :
    mapColsChk sc m = mapNodeChk sc (mapRemap m) (mapDels m) := by
  have hset : ∀ c, c ∈ m.map (·.1) ↔ c ∈ (mapRemap m).map (·.1) ++ mapDels m := by
    intro c; rw [List.mem_append]; exact mem_map_fst_iff m c
  simp only [mapColsChk, mapNodeChk, subset_congr_left hset, inter_congr_right hset]

theorem mapRemap_mapDels_isEmpty (m : List (String × Option String)) :
    ((mapRemap m).isEmpty && (mapDels m).isEmpty) = m.isEmpty := by
  cases m with
  | nil => rfl
  | cons kv m =>
    obtain ⟨k, v⟩ := kv
    cases v <;> simp [mapRemap, mapDels]

theorem mapRemap_canon (mp : List (String × String)) (ds : List String) :
    mapRemap (mp.map (fun kv => (kv.1, some kv.2)) ++ ds.map (fun d => (d, none))) = mp := by
  induction mp with
  | cons a l ih => exact congrArg (a :: ·) ih
  | nil =>
    induction ds with
    | nil => rfl
    | cons d l ih => exact ih

theorem mapDels_canon (mp : List (String × String)) (ds : List String) :
    mapDels (mp.map (fun kv => (kv.1, some kv.2)) ++ ds.map (fun d => (d, none))) = ds := by
  induction mp with
  | cons a l ih => exact ih
  | nil =>
    induction ds with
    | nil => rfl
    | cons d l ih => exact congrArg (d :: ·) ih

/-- the constructor's check of a `map_columns` node on the argument `replace_leaves` passes to the builder -/
theorem mapColsChk_canon (sc : List String) (mp : List (String × String)) (ds : List String) :
    mapColsChk sc (mp.map (fun kv => (kv.1, some kv.2)) ++ ds.map (fun d => (d, none))) = mapNodeChk sc mp ds := by
  rw [mapColsChk_eq, mapRemap_canon, mapDels_canon]

def joinChk (ca cb : List String) (ta tb : List (String × List String)) (onA onB : List String) (jt : String)
    (check : Bool) : Except Err JoinType := do
  ok? (tablesConsistent ta tb) .valueError
  ok? (onA.length == onB.length) .assertionError
  ok? (subset onA ca) .keyError
  ok? (subset onB cb) .keyError
  ok? (!check || ((inter ca cb).filter (fun c => !(inter onA onB).contains c)).isEmpty) .keyError
  match JoinType.parse jt with
  | none => throw .keyError
  | some t =>
    ok? (!(t == .cross && !onA.isEmpty)) .valueError
    return t

theorem mkJoin_eq (a b : Ops) (onA onB : List String) (jt : String) (check : Bool) :
    mkJoin a b onA onB jt check = joinChk a.cols b.cols a.tables b.tables onA onB jt check >>= fun t =>
      .ok (.join a b onA onB t) := by
  unfold mkJoin joinChk
  simp only [bind_assoc]
  cases check <;> cases JoinType.parse jt with
    | none => rfl
    | some t => simp only [bind_assoc, pure_bind]; rfl

def concatChk (ca cb : List String) (ta tb : List (String × List String)) (idc : Option String) :
    Except Err Unit := do
  ok? (tablesConsistent ta tb) .valueError
  ok? (subset ca cb && subset cb ca) .valueError
  ok? (match idc with | some c => !ca.contains c | none => true) .valueError

theorem mkConcat_eq (a b : Ops) (idc : Option String) (an bn : String) :
    mkConcat a b idc an bn = concatChk a.cols b.cols a.tables b.tables idc >>= fun _ =>
      .ok (.concat a b idc an bn) := by
  unfold mkConcat concatChk
  simp only [bind_assoc]
  cases idc <;> rfl

def convertChk (sc : List String) (rm : RecMap) : Except Err Unit := do
  ok? (subset rm.needed sc) .valueError
  ok? (!rm.produced.isEmpty) .assertionError
  ok? (nodupB rm.produced) .assertionError

theorem mkConvert_eq (src : Ops) (rm : RecMap) :
    mkConvert src rm = convertChk src.cols rm >>= fun _ => .ok (.convert src rm) := by
  unfold mkConvert convertChk
  simp only [bind_assoc]
  rfl

/-- the checks of `parse_assignments_in_context` -/
def parseChk (cols : List String) (ops : Assign) : Except Err Unit := do
  ok? (nodupB (ops.map (·.1))) .valueError
  ok? (ops.all (fun kv => subset (Term.colsRaw kv.2) cols)) .nameError
  ok? (disjoint (ops.map (·.1))
    (ops.flatMap (fun kv => (Term.colsRaw kv.2).filter (fun c => c != kv.1)))) .valueError

theorem parseAssignments_eqC (cols : List String) (ops : Assign) :
    parseAssignments cols ops = parseChk cols ops >>= fun _ => .ok ops := by
  unfold parseAssignments parseChk
  simp only [forIn_ok?, bind_assoc]
  rfl

theorem parseAssignments_okC {cols : List String} {ops parsed : Assign}
    (h : parseAssignments cols ops = .ok parsed) :
    parsed = ops ∧ (ops.map (·.1)).Nodup ∧ (∀ kv ∈ ops, ∀ c ∈ Term.colsRaw kv.2, c ∈ cols) := by
  rw [parseAssignments_eqC] at h
  simp only [parseChk, bind_assoc, ok?_bind_ok, Except.ok.injEq] at h
  obtain ⟨h1, h2, _, h4⟩ := h
  refine ⟨h4.symm, nodupB_iff.mp h1, ?_⟩
  intro kv hkv c hc
  exact subset_iff.mp (List.all_eq_true.mp h2 kv hkv) c hc

/-- what `parse_assignments_in_context` checks -/
def AssignOK (cols : List String) (ops : Assign) : Prop :=
  (keys ops).Nodup ∧ (∀ c ∈ usedBy ops, c ∈ cols) ∧ ∀ kv ∈ ops, ∀ c ∈ Term.colsRaw kv.2, c ≠ kv.1 → c ∉ keys ops

theorem parseChk_ok_iff {cols : List String} {ops : Assign} : parseChk cols ops = .ok () ↔ AssignOK cols ops := by
  simp only [parseChk, AssignOK, ok?_bind_ok, ok?_eq_ok, nodupB_iff, List.all_eq_true, subset_iff, disjoint_iff,
    List.mem_flatMap, List.mem_filter, bne_iff_ne, ne_eq, not_exists, not_and, and_imp, forall_exists_index]
  exact and_congr_right fun _ => and_congr ⟨fun h c kv hkv hc => h kv hkv c hc, fun h kv hkv c hc => h c kv hkv hc⟩
    ⟨fun h kv hkv c hc hne hm => h c hm kv hkv hc hne, fun h c hm kv hkv hc hne => h kv hkv c hc hne hm⟩

theorem parseAssignments_ok_iff {cols : List String} {ops : Assign} :
    parseAssignments cols ops = .ok ops ↔ AssignOK cols ops := by
  rw [parseAssignments_eqC, bind_ok_node, parseChk_ok_iff]
  exact and_iff_left rfl

theorem parseAssignments_of_ok {cols : List String} {ops : Assign} (h : AssignOK cols ops) :
    parseAssignments cols ops = .ok ops :=
  parseAssignments_ok_iff.mpr h

/-- the one-entry dictionary `select_rows` parses: only the column check can fail, whatever the entry is called -/
theorem parseChk_single_eq (cols : List String) (k : String) (e : Term) :
    parseChk cols [(k, e)] = ok? (subset (Term.colsRaw e) cols) .nameError := by
  have h : disjoint [k] ((Term.colsRaw e).filter (fun c => c != k) ++ []) = true := by
    simp [disjoint]
  have h2 : nodupB [k] = true := by simp [nodupB, List.eraseDups_cons]
  simp only [parseChk, List.map_cons, List.map_nil, List.all_cons, List.all_nil, Bool.and_true, List.flatMap_cons,
    List.flatMap_nil, h, h2]
  cases subset (Term.colsRaw e) cols <;> rfl

theorem parseChk_single {cols : List String} {k : String} {e : Term} :
    parseChk cols [(k, e)] = .ok () ↔ ∀ c ∈ Term.colsRaw e, c ∈ cols := by
  rw [parseChk_single_eq, ok?_eq_ok, subset_iff]

theorem extendPre_ok_iff {cols : List String} {ops : Assign} {pa : PartArg} {od rv : List String} :
    extendPre cols ops pa od rv = .ok () ↔
      (pa.cols'.Nodup ∧ ∀ c ∈ pa.cols', c ∈ cols) ∧ (od.Nodup ∧ ∀ c ∈ od, c ∈ cols) ∧
      (rv.Nodup ∧ ∀ c ∈ rv, c ∈ cols) ∧ (∀ k ∈ keys ops, k ∉ pa.cols') ∧ (∀ c ∈ pa.cols', c ∉ od) ∧
      (∀ k ∈ keys ops, k ∉ od) ∧ ∀ c ∈ rv, c ∈ od := by
  simp only [extendPre, partCols_eq, workColGroup, bind_assoc, ok?_bind_ok, ok?_eq_ok, nodupB_iff, subset_iff,
    disjoint_iff, and_assoc, keys]

theorem extendChk_ok_iff {sc : List String} {ops : Assign} {pa : PartArg} {od rv : List String} :
    extendChk sc ops pa od rv = .ok () ↔
      (∀ c ∈ Term.colsUsedOps ops, c ∈ sc) ∧ pa.cols'.Nodup ∧ od.Nodup ∧ rv.Nodup ∧ (∀ c ∈ pa.cols', c ∈ sc) ∧
      (∀ c ∈ od, c ∈ sc) ∧ (∀ c ∈ rv, c ∈ od) ∧ (∀ k ∈ keys ops, k ∉ pa.cols' ++ od ++ rv) ∧
      (stepWindowed ops pa od = true → ∀ kv ∈ ops, windowOpOk sc (!od.isEmpty) kv.2 = true) := by
  simp only [extendChk, ok?_bind_ok, ok?_eq_ok, nodupB_iff, subset_iff, disjoint_iff, keys, Bool.or_eq_true,
    Bool.not_eq_true', List.all_eq_true]
  cases stepWindowed ops pa od <;> simp

theorem projectChecks_ok_iff {cols : List String} {ops : Assign} {g : List String} :
    projectChecks cols ops g = .ok () ↔
      g.Nodup ∧ (∀ c ∈ g, c ∈ cols) ∧ (ops ≠ [] ∨ g ≠ []) ∧ ∀ k ∈ keys ops, k ∉ g := by
  simp only [projectChecks, workColGroup, bind_assoc, ok?_bind_ok, ok?_eq_ok, nodupB_iff, subset_iff, disjoint_iff,
    keys, Bool.not_eq_true', Bool.and_eq_false_iff, List.isEmpty_eq_false_iff]

theorem projectChk_ok_iff {sc : List String} {ops : Assign} {g : List String} :
    projectChk sc ops g = .ok () ↔
      (∀ c ∈ g ++ Term.colsUsedOps ops, c ∈ sc) ∧ g.Nodup ∧ appendNew g (keys ops) ≠ [] ∧
      ∀ kv ∈ ops, projectOpOk kv.2 = true := by
  simp only [projectChk, ok?_bind_ok, ok?_eq_ok, nodupB_iff, subset_iff, keys, Bool.not_eq_true',
    List.isEmpty_eq_false_iff, List.all_eq_true]

theorem selectChk_ok_iff {sc cs : List String} :
    selectChk sc cs = .ok () ↔ cs ≠ [] ∧ (∀ c ∈ cs, c ∈ sc) ∧ cs.Nodup := by
  simp only [selectChk, ok?_bind_ok, ok?_eq_ok, nodupB_iff, subset_iff, Bool.not_eq_true', List.isEmpty_eq_false_iff]

theorem dropChk_ok_iff {sc ds : List String} :
    dropChk sc ds = .ok () ↔ (∀ c ∈ ds, c ∈ sc) ∧ sc.filter (fun c => !ds.contains c) ≠ [] := by
  simp only [dropChk, ok?_bind_ok, ok?_eq_ok, subset_iff, Bool.not_eq_true', List.isEmpty_eq_false_iff]

theorem orderChk_ok_iff {sc cs rv : List String} :
    orderChk sc cs rv = .ok () ↔ (∀ c ∈ cs, c ∈ sc) ∧ ∀ c ∈ rv, c ∈ cs := by
  simp only [orderChk, ok?_bind_ok, ok?_eq_ok, subset_iff]

/-- the collision check of `rename_columns` / `map_columns`: a source column that is a new name (`new`) is itself
renamed or deleted (`orig`) -/
theorem collision_iff {sc new orig : List String} :
    ((sc.filter (fun c => !(inter new orig).contains c)).filter (fun c => new.contains c)).isEmpty = true ↔
      ∀ c ∈ sc, c ∈ new → c ∈ orig := by
  simp only [List.isEmpty_iff, List.filter_eq_nil_iff, List.mem_filter, List.contains_eq_mem, mem_inter,
    Bool.not_eq_eq_eq_not, Bool.not_true, decide_eq_false_iff_not, decide_eq_true_eq, not_and, and_imp]
  exact ⟨fun h c hc hn => Classical.byContradiction fun ho => h c hc (fun _ => ho) hn,
    fun h c hc hno hn => hno hn (h c hc hn)⟩

theorem renameChk_ok_iff {sc : List String} {m : List (String × String)} :
    renameChk sc m = .ok () ↔ (∀ kv ∈ m, kv.2 ∈ sc) ∧ (∀ c ∈ sc, c ∈ m.map (·.1) → c ∈ m.map (·.2)) ∧
      (renameCols sc m).Nodup := by
  simp only [renameChk, ok?_bind_ok, ok?_eq_ok, nodupB_iff, subset_iff, collision_iff, List.forall_mem_map]

theorem mapColsChk_ok_iff {sc : List String} {m : List (String × Option String)} :
    mapColsChk sc m = .ok () ↔ (∀ kv ∈ m, kv.1 ∈ sc) ∧
      (∀ c ∈ sc, c ∈ (mapRemap m).map (·.2) → c ∈ m.map (·.1)) ∧
      mapColsCols sc (mapRemap m) (mapDels m) ≠ [] ∧ (mapColsCols sc (mapRemap m) (mapDels m)).Nodup := by
  simp only [mapColsChk, ok?_bind_ok, ok?_eq_ok, nodupB_iff, subset_iff, collision_iff, List.forall_mem_map,
    Bool.not_eq_true', List.isEmpty_eq_false_iff]

theorem tablesConsistent_iff {ta tb : List (String × List String)} :
    tablesConsistent ta tb = true ↔ ∀ x ∈ ta, ∀ y ∈ tb, x.1 = y.1 → x.2 = y.2 := by
  simp only [tablesConsistent, List.all_eq_true, Bool.or_eq_true, bne_iff_ne, ne_eq, beq_iff_eq]
  exact ⟨fun h x hx y hy e => (h x hx y hy).resolve_left fun ne => ne e,
    fun h x hx y hy => (Decidable.em (x.1 = y.1)).elim (fun e => .inr (h x hx y hy e)) .inl⟩

theorem mapNodeChk_ok_iff {sc : List String} {remap : List (String × String)} {dels : List String} :
    mapNodeChk sc remap dels = .ok () ↔ (∀ c ∈ remap.map (·.1) ++ dels, c ∈ sc) ∧
      (∀ c ∈ sc, c ∈ remap.map (·.2) → c ∈ remap.map (·.1) ++ dels) ∧
      mapColsCols sc remap dels ≠ [] ∧ (mapColsCols sc remap dels).Nodup := by
  simp only [mapNodeChk, ok?_bind_ok, ok?_eq_ok, nodupB_iff, subset_iff, collision_iff, Bool.not_eq_true',
    List.isEmpty_eq_false_iff]

theorem joinChk_ok_iff {ca cb : List String} {ta tb : List (String × List String)} {oa ob : List String}
    {jt : String} {chk : Bool} {t : JoinType} :
    joinChk ca cb ta tb oa ob jt chk = .ok t ↔
      tablesConsistent ta tb = true ∧ oa.length = ob.length ∧ (∀ c ∈ oa, c ∈ ca) ∧ (∀ c ∈ ob, c ∈ cb) ∧
      (chk = true → ∀ c ∈ ca, c ∈ cb → c ∈ oa ∧ c ∈ ob) ∧ JoinType.parse jt = some t ∧
      (t = .cross → oa = []) := by
  simp only [joinChk, ok?_bind_ok, beq_iff_eq, subset_iff]
  refine and_congr_right fun _ => and_congr_right fun _ => and_congr_right fun _ => and_congr_right fun _ =>
    and_congr ?_ ?_
  · cases chk
    · simp
    · simp only [Bool.not_true, Bool.false_or, List.isEmpty_iff, List.filter_eq_nil_iff, mem_inter,
        Bool.not_eq_eq_eq_not, Bool.not_true, List.contains_eq_mem, decide_eq_false_iff_not, Decidable.not_not,
        and_imp, true_imp_iff]
  · cases JoinType.parse jt with
    | none => exact ⟨fun h => (nomatch h), fun h => (nomatch h.1)⟩
    | some t' =>
      simp only [ok?_bind_ok, pure_ok, Option.some.injEq]
      constructor
      · rintro ⟨h, rfl⟩
        exact ⟨rfl, fun hc => by simpa [hc] using h⟩
      · rintro ⟨rfl, h⟩
        refine ⟨?_, rfl⟩
        cases t' <;> first | rfl | simpa using h rfl

theorem concatChk_ok_iff {ca cb : List String} {ta tb : List (String × List String)} {idc : Option String} :
    concatChk ca cb ta tb idc = .ok () ↔
      tablesConsistent ta tb = true ∧ ((∀ c ∈ ca, c ∈ cb) ∧ ∀ c ∈ cb, c ∈ ca) ∧ ∀ c, idc = some c → c ∉ ca := by
  simp only [concatChk, ok?_bind_ok, ok?_eq_ok, Bool.and_eq_true, subset_iff]
  cases idc <;> simp

theorem convertChk_ok_iff {sc : List String} {rm : RecMap} :
    convertChk sc rm = .ok () ↔ (∀ c ∈ rm.needed, c ∈ sc) ∧ rm.produced ≠ [] ∧ rm.produced.Nodup := by
  simp only [convertChk, ok?_bind_ok, ok?_eq_ok, nodupB_iff, subset_iff, Bool.not_eq_true', List.isEmpty_eq_false_iff]

/-- the calls that return their receiver: those with empty arguments -/
def Step.isNoop : Step → Bool
  | .extend ops _ _ _ => ops.isEmpty
  | .selectRows e => e.isNone
  | .dropCols cs => cs.isEmpty
  | .order cs _ lim => cs.isEmpty && lim.isNone
  | .rename m => m.isEmpty
  | .mapCols m => m.isEmpty
  | .concat b _ _ _ => b.isNone
  | .convert rm => rm.isNone
  | .project .. | .selectCols _ | .join .. => false

/-- the node of a step over `leaf` (for `join`: with the join type the checks accept) -/
def Step.nodeOn (leaf : Ops) : Step → Ops
  | .extend ops pa od rv => .extend leaf ops pa.cols' od rv (stepWindowed ops pa od)
  | .project ops g => .project leaf ops g
  | .selectRows (some e) => .selectRows leaf e
  | .selectCols cs => selectNode leaf cs
  | .dropCols cs => .dropCols leaf cs
  | .order cs rv lim => .order leaf cs rv lim
  | .rename m => .rename leaf m
  | .mapCols m => .mapCols leaf (mapRemap m) (mapDels m)
  | .join b oa ob jt _ => .join leaf b oa ob ((JoinType.parse jt).getD .inner)
  | .concat (some b) idc an bn => .concat leaf b idc an bn
  | .convert (some rm) => .convert leaf rm
  | .selectRows none | .concat none .. | .convert none => leaf

/-- the node `buildRaw` returns when it accepts -/
def rawNodeOf (leaf : Ops) (s : Step) : Ops := if s.isNoop then leaf else s.nodeOn leaf

theorem rawNodeOf_noop {s : Step} (h : s.isNoop = true) (leaf : Ops) : rawNodeOf leaf s = leaf := if_pos h

theorem rawNodeOf_node {s : Step} (h : s.isNoop = false) (leaf : Ops) : rawNodeOf leaf s = s.nodeOn leaf :=
  if_neg (by rw [h]; exact Bool.false_ne_true)

/-- all the checks of a raw builder call, as a function of the receiver's column names `sc` and (join / concat)
table descriptions `ta` -/
def rawChk (sc : List String) (ta : List (String × List String)) : Step → Except Err Unit
  | .extend ops pa od rv => parseChk sc ops >>= fun _ =>
      if ops.isEmpty then .ok () else extendChecks sc ops pa od rv >>= fun _ => extendChk sc ops pa od rv
  | .project ops g => parseChk sc ops >>= fun _ => projectChecks sc ops g >>= fun _ => projectChk sc ops g
  | .selectRows none => .ok ()
  | .selectRows (some e) => parseChk sc [("expr", e)]
  | .selectCols cs => ok? (!cs.isEmpty) .valueError >>= fun _ => selectChk sc cs
  | .dropCols cs => if cs.isEmpty then .ok () else dropChk sc cs
  | .order cs rv lim => if cs.isEmpty && lim.isNone then .ok () else orderChk sc cs rv
  | .rename m => if m.isEmpty then .ok () else renameChk sc m
  | .mapCols m => if m.isEmpty then .ok () else mapColsChk sc m
  | .join b oa ob jt chk => joinChk sc b.cols ta b.tables oa ob jt chk >>= fun _ => .ok ()
  | .concat none _ _ _ => .ok ()
  | .concat (some b) idc _ _ => concatChk sc b.cols ta b.tables idc
  | .convert none => .ok ()
  | .convert (some rm) => convertChk sc rm

theorem joinChk_parse {ca cb : List String} {ta tb : List (String × List String)} {oa ob : List String}
    {jt : String} {chk : Bool} {t : JoinType} (h : joinChk ca cb ta tb oa ob jt chk = .ok t) :
    JoinType.parse jt = some t :=
  (joinChk_ok_iff.mp h).2.2.2.2.2.1

theorem ok_or_bind_ok {α : Type} (c : Bool) (x : Except Err Unit) (a b : α) :
    (if c then .ok a else x >>= fun _ => .ok b) =
      (if c then .ok () else x) >>= fun _ => (.ok (if c then a else b) : Except Err α) := by
  cases c <;> rfl

theorem buildRaw_eq (leaf : Ops) (s : Step) :
    buildRaw leaf s = rawChk leaf.cols leaf.tables s >>= fun _ => .ok (rawNodeOf leaf s) := by
  cases s with
  | extend ops pa od rv =>
    cases h : ops.isEmpty <;>
      simp only [buildRaw, rawChk, rawNodeOf, Step.isNoop, Step.nodeOn, parseAssignments_eqC, mkExtend_eqC, h,
        bind_assoc, ok_bind, Bool.false_eq_true, if_false, if_true] <;> rfl
  | project ops g =>
    simp only [buildRaw, rawChk, rawNodeOf, Step.isNoop, Step.nodeOn, parseAssignments_eqC, mkProject_eq,
      bind_assoc, ok_bind, Bool.false_eq_true, if_false]
  | selectRows e =>
    cases e with
    | none => rfl
    | some e =>
      simp only [buildRaw, rawChk, parseAssignments_eqC, bind_assoc, ok_bind]
      rfl
  | selectCols cs =>
    simp only [buildRaw, rawChk, rawNodeOf, Step.isNoop, Step.nodeOn, mkSelectCols_eq, bind_assoc,
      Bool.false_eq_true, if_false]
  | dropCols cs =>
    simp only [buildRaw, rawChk, mkDropCols_eq]
    exact ok_or_bind_ok _ _ _ _
  | order cs rv lim =>
    simp only [buildRaw, rawChk, mkOrder_eq]
    exact ok_or_bind_ok _ _ _ _
  | rename m =>
    simp only [buildRaw, rawChk, mkRename_eq]
    exact ok_or_bind_ok _ _ _ _
  | mapCols m =>
    simp only [buildRaw, rawChk, mkMapCols_eq]
    exact ok_or_bind_ok _ _ _ _
  | join b oa ob jt chk =>
    simp only [buildRaw, rawChk, mkJoin_eq, bind_assoc, ok_bind]
    cases h : joinChk leaf.cols b.cols leaf.tables b.tables oa ob jt chk with
    | error e => rfl
    | ok t => simp only [ok_bind, rawNodeOf, Step.isNoop, Step.nodeOn, joinChk_parse h]; rfl
  | concat b idc an bn =>
    cases b with
    | none => rfl
    | some b => simp only [buildRaw, rawChk, mkConcat_eq]; rfl
  | convert rm =>
    cases rm with
    | none => rfl
    | some rm => simp only [buildRaw, rawChk, mkConvert_eq]; rfl

theorem build_noop {s : Step} (hn : s.isNoop = true) (p : Ops) : build p s = .ok p := by
  cases s with
  | extend ops pa od rv =>
    cases ops with
    | nil =>
      have hp : parseAssignments p.cols [] = .ok [] := rfl
      simp only [build, hp, ok_bind, extendParsed_nil]
    | cons _ _ => cases hn
  | selectRows e =>
    cases e with
    | none => rfl
    | some _ => cases hn
  | concat b idc an bn =>
    cases b with
    | none => rfl
    | some _ => cases hn
  | convert rm =>
    cases rm with
    | none => rfl
    | some _ => cases hn
  | dropCols cs | order cs rv lim | rename m | mapCols m =>
    simp only [Step.isNoop] at hn
    simp only [build, hn, if_true]
  | project ops g | selectCols cs | join b oa ob jt chk => cases hn

theorem rawChk_noop {s : Step} (hn : s.isNoop = true) (sc : List String) (ta : List (String × List String)) :
    rawChk sc ta s = .ok () := by
  cases s with
  | extend ops pa od rv =>
    cases ops with
    | nil => rfl
    | cons _ _ => cases hn
  | selectRows e =>
    cases e with
    | none => rfl
    | some _ => cases hn
  | concat b idc an bn =>
    cases b with
    | none => rfl
    | some _ => cases hn
  | convert rm =>
    cases rm with
    | none => rfl
    | some _ => cases hn
  | dropCols cs | order cs rv lim | rename m | mapCols m =>
    simp only [Step.isNoop] at hn
    simp only [rawChk, hn, if_true]
  | project ops g | selectCols cs | join b oa ob jt chk => cases hn

theorem build_node {s : Step} (hn : s.isNoop = false) (he : ∀ ops pa od rv, s ≠ .extend ops pa od rv)
    (hs : ∀ cs, s ≠ .selectCols cs) (p : Ops) : build p s = buildRaw (strip p) s := by
  cases s with
  | extend ops pa od rv => exact absurd rfl (he ops pa od rv)
  | selectCols cs => exact absurd rfl (hs cs)
  | project ops g => simp only [build, buildRaw, projectParsed_strip, strip_cols]
  | selectRows e =>
    cases e with
    | none => cases hn
    | some e => simp only [build, buildRaw, selectRowsB_eq, strip_cols]
  | dropCols cs =>
    simp only [Step.isNoop] at hn
    simp only [build, buildRaw, hn, Bool.false_eq_true, if_false, dropColsB_eq]
  | order cs rv lim =>
    simp only [Step.isNoop] at hn
    simp only [build, buildRaw, hn, Bool.false_eq_true, if_false, orderB_eq]
  | rename m =>
    simp only [Step.isNoop] at hn
    simp only [build, buildRaw, hn, Bool.false_eq_true, if_false, renameB_eq]
  | mapCols m =>
    simp only [Step.isNoop] at hn
    simp only [build, buildRaw, hn, Bool.false_eq_true, if_false, mapColsB_eq]
  | join b oa ob jt chk => simp only [build, buildRaw, joinB_eq]
  | concat b idc an bn =>
    cases b with
    | none => cases hn
    | some b => simp only [build, buildRaw, concatB_eq]
  | convert rm =>
    cases rm with
    | none => cases hn
    | some rm => simp only [build, buildRaw, convertB_eq]

theorem build_strip {s : Step} (hn : s.isNoop = false) (p : Ops) : build (strip p) s = build p s := by
  cases s with
  | extend ops pa od rv =>
    have hne : ops.isEmpty = false := hn
    simp only [build, parseAssignments_eqC, bind_assoc, ok_bind, extendParsed_strip _ _ _ _ _ hne, strip_cols,
      strip_idem]
  | selectCols cs =>
    have e : selectColsB p cs = selectColsB (strip p) cs :=
      strip_rec (f := fun q => selectColsB q cs) (g := fun q => selectColsB q cs) (fun _ _ _ => rfl)
        (fun _ _ => rfl) p
    simp only [build, e]
  | _ =>
    rw [build_node hn (fun _ _ _ _ h => by cases h) (fun _ h => by cases h),
      build_node hn (fun _ _ _ _ h => by cases h) (fun _ h => by cases h), strip_idem]

theorem buildRaw_ok_node {leaf : Ops} {s : Step} {N : Ops} (h : buildRaw leaf s = .ok N) :
    N = rawNodeOf leaf s := by
  rw [buildRaw_eq] at h
  obtain ⟨_, _, h2⟩ := bind_eq_ok.mp h
  cases h2; rfl

theorem buildRaw_ok_chk {leaf : Ops} {s : Step} {N : Ops} (h : buildRaw leaf s = .ok N) :
    rawChk leaf.cols leaf.tables s = .ok () := by
  rw [buildRaw_eq] at h
  obtain ⟨_, h1, _⟩ := bind_eq_ok.mp h
  exact h1

/-- no simplification applies to the call `s` on the (stripped) receiver `p`: an `extend` does not meet an `extend`
node it could merge into, a `select_columns` does not meet column selections / deletions to look through -/
def Direct (p : Ops) : Step → Prop
  | .extend ops pa od rv => ∀ src o1 p1 od1 rv1 w1, p = .extend src o1 p1 od1 rv1 w1 →
      mergeCond p1 od1 rv1 w1 ops pa od rv = false
  | .selectCols _ => p.selectBase = p
  | _ => True

theorem extendTop_direct {p : Ops} {ops : Assign} {pa : PartArg} {od rv : List String}
    (hd : Direct p (.extend ops pa od rv)) : extendTop p ops pa od rv = mkExtend p ops pa od rv := by
  cases p with
  | extend src o1 p1 od1 rv1 w1 =>
    rw [extendTop_extend, hd src o1 p1 od1 rv1 w1 rfl]
    rfl
  | _ => rfl

theorem build_direct {p : Ops} {s : Step} (hn : s.isNoop = false) (hd : Direct (strip p) s) :
    build p s = buildRaw (strip p) s := by
  cases s with
  | extend ops pa od rv =>
    have hne : ops.isEmpty = false := hn
    simp only [build, buildRaw, parseAssignments_eqC, bind_assoc, ok_bind, hne, Bool.false_eq_true, if_false,
      extendParsed_strip _ _ _ _ _ hne, extendPre_eq, extendTop_direct hd, strip_cols]
  | selectCols cs =>
    have hb : (strip p).selectBase = strip p := hd
    have hg := ((strip p).selectBase_fixed).1
    rw [hb] at hg
    rw [← build_strip hn p, build, buildRaw, selectColsB_eq, hg, hb]
    rfl
  | _ => exact build_node hn (fun _ _ _ _ h => by cases h) (fun _ h => by cases h) p

theorem build_direct_ok {p q : Ops} {s : Step} (hn : s.isNoop = false) (hd : Direct (strip p) s)
    (h : build p s = .ok q) : q = s.nodeOn (strip p) ∧ rawChk p.cols p.tables s = .ok () := by
  rw [build_direct hn hd] at h
  refine ⟨(buildRaw_ok_node h).trans (rawNodeOf_node hn _), ?_⟩
  rw [← strip_cols, ← strip_tables]
  exact buildRaw_ok_chk h

end DAVerif
