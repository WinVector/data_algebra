import DAVerif.Proofs.SqlAllTrans
import DAVerif.Proofs.WithKeyFaithDefs
/-!
C04, cache keys of the translation: **which operator node an `ops_key` names**.

`toNear cfg fuel m (some u)` returns either a table-like node or a step whose `ops_key` contains the rendered text of
the node `keyNode m u`: the node `m` itself, unless `m` is passed through (`select_columns`, `drop_columns`, an `extend`
none of whose assignments is requested) – then it is the node the source's translation names.  On the columns `u`
the table of `keyNode m u` has the rows of the table of `m` (`keyNode_rows`).
-/
namespace DAVerif.C04K
open DAVerif DAVerif.Sql
open DAVerif.Ops (usedFromSources unionL)

/-- the operator node named by the `ops_key` of the step `toNear cfg fuel m (some u)` returns -/
def keyNode : Ops → List String → Ops
  | n@(.extend src ops part order rev _), u =>
    if (extSubops ops (extUsg u part order rev)).isEmpty then keyNode src (extUsg u part order rev) else n
  | n@(.selectCols src cs), u => keyNode src (cs.filter (fun c => ((usedFromSources n u).headD []).contains c))
  | n@(.dropCols src _), u => keyNode src ((usedFromSources n u).headD [])
  | n, _ => n

section
variable {cfg : SqlCfg} {env : Env}

theorem RenderOK.source {p s : Ops} (h : RenderOK p) (hs : s ∈ p.sources) : RenderOK s := by
  cases p with
  | table => cases hs
  | convert => cases h
  | rename | mapCols => cases List.mem_singleton.mp hs; exact and_left h
  | join | concat =>
    rcases mem_pair.mp hs with rfl | rfl
    · exact and_left h
    · exact and_right h
  | _ => cases List.mem_singleton.mp hs; exact h

/-- what passes to the sources of a node passes to the node its `ops_key` names -/
theorem keyNode_preserves {P : Ops → Prop} (hsrc : ∀ {p s : Ops}, P p → s ∈ p.sources → P s) :
    ∀ (m : Ops) (u : List String), P m → P (keyNode m u) := by
  intro m
  induction m with
  | extend src ops part order rev w ih =>
    intro u h
    simp only [keyNode]
    split
    · exact ih _ (hsrc h List.mem_cons_self)
    · exact h
  | selectCols src cs ih | dropCols src cs ih => exact fun u h => ih _ (hsrc h List.mem_cons_self)
  | _ => exact fun u h => h

theorem keyNode_good (m : Ops) (u : List String) (h : Good cfg env m) : Good cfg env (keyNode m u) :=
  keyNode_preserves Good.source m u h

theorem keyNode_renderOK (m : Ops) (u : List String) (h : RenderOK m) : RenderOK (keyNode m u) :=
  keyNode_preserves RenderOK.source m u h

theorem extend_pass_req {src : Ops} {ops : Assign} {part order rev : List String} {w : Bool} {u : List String}
    (hext : ExtOK src.cols ops part order rev w)
    (hu : ∀ c ∈ u, c ∈ (Ops.extend src ops part order rev w).cols)
    (hempty : (extSubops ops (extUsg u part order rev)).isEmpty = true) :
    (∀ c ∈ extUsg u part order rev, c ∈ src.cols) ∧ (∀ c ∈ extUsg u part order rev, c ∉ ops.map (·.1)) ∧
      (∀ c ∈ u, c ∈ extUsg u part order rev) :=
  have h := extUsg_pruned (extUsg_cols hext hu) hempty
  ⟨fun c hc => (h c hc).1, fun c hc => (h c hc).2, fun _ hc => mem_usg.mpr (Or.inl hc)⟩

variable (Θ : Interp) (ec : EngineCfg)

/-- **on the requested columns the table of the named node has the rows of the node's table** -/
theorem keyNode_rows : ∀ (m : Ops) (u : List String) (tm tn : Table), Good cfg env m → (∀ c ∈ u, c ∈ m.cols) →
    semE ec Θ SemCfg.ref env m = .ok tm → semE ec Θ SemCfg.ref env (keyNode m u) = .ok tn →
    ∀ u' : List String, (∀ c ∈ u', c ∈ u) →
      tn.rows.map (fun r => r.select u') = tm.rows.map (fun r => r.select u') := by
  intro m
  induction m with
  | extend src ops part order rev w ih =>
    intro u tm tn hg hu hm hn u' hu'
    simp only [keyNode] at hn
    split at hn
    · rename_i hempty
      obtain ⟨ts, hts, hstep⟩ := semG_unary_ok rfl hm
      cases hstep
      obtain ⟨h1, h2, h3⟩ := extend_pass_req hg.wf.2 hu hempty
      rw [ih _ ts tn (hg.source List.mem_cons_self) h1 hts hn u' (fun c hc => h3 c (hu' c hc))]
      refine (extRef_passrows Θ ec src ops part order rev w ts ?_).symm
      intro c hc
      have hcu := h3 c (hu' c hc)
      refine ⟨?_, h2 c hcu⟩
      simp only [Ops.cols]
      exact mem_appendNew.mpr (Or.inl (h1 c hcu))
    · rw [hm] at hn; cases hn; rfl
  | selectCols src cs ih | dropCols src cs ih =>
    intro u tm tn hg hu hm hn u' hu'
    simp only [keyNode] at hn
    simp only [semG] at hm
    obtain ⟨ts, hts, rfl⟩ := bind_pure_ok hm
    obtain ⟨h1, h3⟩ := rekeySpec_req rfl rfl hg.wf hu
    rw [ih _ ts tn (hg.source List.mem_cons_self) h1 hts hn u' (fun c hc => h3 c (hu' c hc))]
    simp only [Table.selectCols, List.map_map]
    apply List.map_congr_left
    intro r _
    exact (Row.select_select (fun c hc => hu c (hu' c hc))).symm
  | _ =>
    intro u tm tn hg hu hm hn u' hu'
    simp only [keyNode] at hn
    rw [hm] at hn; cases hn; rfl

end
end DAVerif.C04K
