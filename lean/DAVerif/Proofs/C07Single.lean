import DAVerif.Proofs.C07Sem
/-!
C07, the structure of the pipeline `replace_leaves` returns (validity, table descriptions, declared columns): for
any replacement map (`replaceLeaves_struct`), then for `act_on` (one table key, replaced everywhere by one
pipeline; `replaceSingle`), where an evaluation error of the replacing pipeline propagates as well
(`replaceSingle_error`).
-/
namespace DAVerif

variable {Θ : Interp} {cfg : SemCfg} {env : Env}

theorem joinCols_perm {ca ca' cb cb' : List String} (ha : ca.Nodup) (ha' : ca'.Nodup) (hb : cb.Nodup)
    (hb' : cb'.Nodup) (h1 : ca.Perm ca') (h2 : cb.Perm cb') : (joinCols ca cb).Perm (joinCols ca' cb') :=
  perm_of_mem_iff (nodup_joinCols ha hb) (nodup_joinCols ha' hb')
    (fun c => by rw [mem_joinCols, mem_joinCols, h1.mem_iff, h2.mem_iff])

theorem nodeCols_perm (N : Ops) {ca ca' cb cb' : List String} (ha : ca.Nodup) (hb : cb.Nodup)
    (h1 : ca.Perm ca') (h2 : cb.Perm cb') : (nodeCols N ca cb).Perm (nodeCols N ca' cb') := by
  cases N with
  | extend s ops _ _ _ _ =>
    exact appendNew_perm ha (h1.nodup_iff.mp ha) (fun c => by rw [h1.mem_iff])
  | dropCols s ds => exact h1.filter _
  | rename s m => exact h1.map _
  | mapCols s m ds => exact (h1.filter _).map _
  | join a b oa ob jt => exact joinCols_perm ha (h1.nodup_iff.mp ha) hb (h2.nodup_iff.mp hb) h1 h2
  | concat a b idc an bn => exact concatCols_perm h1 idc
  | selectRows s e => exact h1
  | order s cs rv lim => exact h1
  | table n cs => exact List.Perm.refl _
  | project s ops g => exact List.Perm.refl _
  | selectCols s cs => exact List.Perm.refl _
  | convert s rm => exact List.Perm.refl _

theorem tables_ne_nil (p : Ops) : p.tables ≠ [] := by
  induction p using Ops.srcInduction with
  | table n cs => exact List.cons_ne_nil _ _
  | node p hT iha _ =>
    rw [tables_node p hT]
    exact fun h => iha (List.append_eq_nil_iff.mp h).1

theorem shape_cols {p p' base N P : Ops} (hv : p.valid = true)
    (h : BuildShape p p' base N) (hp'v : p'.valid = true) (hT : ∀ n cs, N ≠ .table n cs)
    (hsame : ∀ ca cb, nodeCols N ca cb = nodeCols P ca cb)
    {cb : List String} (hcb : cb = optCols N.srcB) :
    p'.cols.Perm (nodeCols P p.cols cb) := by
  cases h with
  | ident hN _ => obtain ⟨n, cs, rfl⟩ := hN; exact absurd rfl (hT n cs)
  | plain hp _ =>
    rw [hp, cols_eq_nodeCols, reSrc_srcA _ hT, reSrc_srcB, nodeCols_reSrc, strip_cols, ← hcb, hsame]
  | merge leaf hst hm _ hp hN =>
    subst hN hp
    rw [← hsame]
    refine perm_of_mem_iff (Ops.valid_cols_nodup hp'v) (appendNew_nodup (Ops.valid_cols_nodup hv)) fun c => ?_
    rw [← strip_cols p, hst]
    exact (merge_cols hm c).trans mem_appendNew.symm
  | select leaf cs _ hp hN =>
    subst hN hp
    rw [← hsame]
    exact List.Perm.refl _

def leafTables (m : List (String × Ops)) (kc : String × List String) : List (String × List String) :=
  match lookupLast m kc.1 with
  | some r => r.tables
  | none => [kc]

def LeavesOK (m : List (String × Ops)) (p : Ops) : Prop :=
  ∀ kc ∈ p.tables, ∀ r, lookupLast m kc.1 = some r → r.valid = true ∧ r.cols.Perm kc.2

theorem LeavesOK.srcA {m : List (String × Ops)} {p : Ops} (hT : ∀ n cs, p ≠ .table n cs) (h : LeavesOK m p) :
    LeavesOK m p.srcA :=
  fun kc hkc => h kc (tables_srcA hT kc hkc)

theorem LeavesOK.srcB {m : List (String × Ops)} {p b : Ops} (hT : ∀ n cs, p ≠ .table n cs) (hB : p.srcB = some b)
    (h : LeavesOK m p) : LeavesOK m b :=
  fun kc hkc => h kc (tables_srcB hT hB kc hkc)

theorem replaceLeaves_struct (m : List (String × Ops)) (p : Ops) : p.valid = true → LeavesOK m p →
    ∀ q, Ops.replaceLeaves m p = .ok q →
      q.valid = true ∧ q.tables = p.tables.flatMap (leafTables m) ∧ q.cols.Perm p.cols := by
  induction p using Ops.srcInduction with
  | table n cs =>
    intro hv hl q hq
    have hleaf := hl (n, cs) (List.mem_singleton.mpr rfl)
    simp only [Ops.replaceLeaves] at hq
    simp only [Ops.tables, List.flatMap_singleton, leafTables]
    cases hm : lookupLast m n with
    | none => rw [hm] at hq; cases hq; exact ⟨hv, rfl, .refl _⟩
    | some r => rw [hm] at hq; cases hq; exact ⟨(hleaf q hm).1, rfl, (hleaf q hm).2⟩
  | node p hT iha ihb =>
    intro hv hl q hq
    obtain ⟨a', ha', h⟩ := replace_node hv hT hq
    obtain ⟨ha'v, hta, hca⟩ := iha (Ops.valid_srcA hv) (hl.srcA hT) a' ha'
    -- a node with one source and a node with two, in one form: what is known about the second source, if any
    have : q.valid = true ∧ ∃ base N, BuildShape a' q base N ∧ SameOp N p ∧
        optTables N.srcB = (optTables p.srcB).flatMap (leafTables m) ∧
        (optCols N.srcB).Nodup ∧ (optCols N.srcB).Perm (optCols p.srcB) := by
      rcases h with ⟨hB, h⟩ | ⟨b, b', hB, hb', h⟩
      · obtain ⟨hqv, base, N, hshape, hNB, hsame⟩ := h ha'v
        rw [hB]
        refine ⟨hqv, base, N, hshape, hsame, ?_⟩
        rw [hNB]
        exact ⟨rfl, List.nodup_nil, .refl _⟩
      · obtain ⟨hb'v, htb, hcb⟩ := ihb b hB (valid_srcB hv hB) (hl.srcB hT hB) b' hb'
        obtain ⟨hqv, base, N, hshape, hNB, hsame⟩ := h ha'v hb'v
        rw [hB]
        refine ⟨hqv, base, N, hshape, hsame, ?_⟩
        rw [hNB]
        exact ⟨htb, Ops.valid_cols_nodup hb'v, hcb⟩
    obtain ⟨hqv, base, N, hshape, ⟨_, _, _, hcols, hNT, _⟩, htb, hnb, hcb⟩ := this
    refine ⟨hqv, ?_, ?_⟩
    · rw [shape_tables hshape, hta, htb, tables_node p hT, List.flatMap_append]
    · rw [cols_eq_nodeCols p]
      exact (shape_cols (P := p) ha'v hshape hqv hNT hcols rfl).trans
        (nodeCols_perm p (Ops.valid_cols_nodup ha'v) hnb hca hcb)

def SingleConcl (r p q : Ops) : Prop :=
  q.valid = true ∧ (∀ x, x ∈ q.tables ↔ x ∈ r.tables) ∧ q.cols.Perm p.cols ∧
    ∀ (Θ : Interp) (cfg : SemCfg) (env : Env), ConvertOK Θ → ConvertInvariant Θ →
      ∀ e, sem Θ cfg env r = .error e → sem Θ cfg env q = .error e

def SingleStmt (k : String) (r p : Ops) : Prop :=
  p.valid = true → (∀ kc ∈ p.tables, kc.1 = k ∧ r.cols.Perm kc.2) →
    ∀ q, Ops.replaceLeaves [(k, r)] p = .ok q → SingleConcl r p q

theorem shape_sem_error (hΘ : ConvertOK Θ) (hC : ConvertInvariant Θ) {p p' base N : Ops}
    (hv : p.valid = true) (hshape : BuildShape p p' base N) (hp'v : p'.valid = true) {e : Err}
    (he : sem Θ cfg env p = .error e) :
    sem Θ cfg env p' = .error e := by
  have := shape_sem_apply (Θ := Θ) (cfg := cfg) (env := env) hΘ hC hv hshape hp'v
    (by intro t ht; rw [he] at ht; cases ht) (by intro t ht; rw [he] at ht; cases ht)
  rw [he] at this
  cases hq' : sem Θ cfg env p' with
  | error e' => rw [hq'] at this; exact congrArg _ this
  | ok t => rw [hq'] at this; exact this.elim

theorem leavesOK_single {k : String} {r p : Ops} (hr : r.valid = true)
    (hl : ∀ kc ∈ p.tables, kc.1 = k ∧ r.cols.Perm kc.2) : LeavesOK [(k, r)] p := by
  intro kc hkc r' h
  obtain ⟨hk, hp⟩ := hl kc hkc
  rw [lookupLast_singleton, hk, beq_self_eq_true, if_pos rfl] at h
  cases h
  exact ⟨hr, hp⟩

/-- `←` needs that `p` has a table description at all (`tables_ne_nil`). -/
theorem mem_leafTables_single {k : String} {r p : Ops} (hl : ∀ kc ∈ p.tables, kc.1 = k ∧ r.cols.Perm kc.2)
    {x : String × List String} : x ∈ p.tables.flatMap (leafTables [(k, r)]) ↔ x ∈ r.tables := by
  have hleaf : ∀ kc ∈ p.tables, leafTables [(k, r)] kc = r.tables := fun kc hkc => by
    rw [leafTables, lookupLast_singleton, (hl kc hkc).1, beq_self_eq_true, if_pos rfl]
  rw [List.mem_flatMap]
  constructor
  · rintro ⟨kc, hkc, hx⟩
    rwa [hleaf kc hkc] at hx
  · intro hx
    obtain ⟨kc, hkc⟩ := List.exists_mem_of_ne_nil _ (tables_ne_nil p)
    exact ⟨kc, hkc, by rwa [hleaf kc hkc]⟩

/-- Idea: what is evaluated first is a replaced table description. -/
theorem replaceSingle_error {k : String} {r : Ops} (hr : r.valid = true) (hΘ : ConvertOK Θ)
    (hC : ConvertInvariant Θ) {e : Err} (he : sem Θ cfg env r = .error e) (p : Ops) : p.valid = true →
    (∀ kc ∈ p.tables, kc.1 = k ∧ r.cols.Perm kc.2) → ∀ q, Ops.replaceLeaves [(k, r)] p = .ok q →
    sem Θ cfg env q = .error e := by
  induction p using Ops.srcInduction with
  | table n cs =>
    intro _ hl q hq
    obtain rfl : n = k := (hl (n, cs) (List.mem_singleton.mpr rfl)).1
    rw [Ops.replaceLeaves, lookupLast_singleton, beq_self_eq_true, if_pos rfl] at hq
    cases hq
    exact he
  | node p hT iha _ =>
    intro hv hl q hq
    have hok := leavesOK_single hr hl
    have hla := fun kc hkc => hl kc (tables_srcA hT kc hkc)
    obtain ⟨a', ha', h⟩ := replace_node hv hT hq
    have ha'v := (replaceLeaves_struct _ _ (Ops.valid_srcA hv) (hok.srcA hT) a' ha').1
    have hea := iha (Ops.valid_srcA hv) hla a' ha'
    rcases h with ⟨_, h⟩ | ⟨b, b', hB, hb', h⟩
    · obtain ⟨hqv, base, N, hshape, hNB, _⟩ := h ha'v
      exact shape_sem_error hΘ hC ha'v hshape hqv hea
    · have hb'v := (replaceLeaves_struct _ _ (valid_srcB hv hB) (hok.srcB hT hB) b' hb').1
      obtain ⟨hqv, base, N, hshape, hNB, _⟩ := h ha'v hb'v
      exact shape_sem_error hΘ hC ha'v hshape hqv hea

/-- What `C07_dom_cod`, `actOn_key` (`Props/C07.lean`) and the error case of `compose_sem_valid` read off. -/
theorem replaceSingle {k : String} {r : Ops} (hr : r.valid = true) (p : Ops) : SingleStmt k r p := by
  intro hv hl q hq
  obtain ⟨hqv, hqt, hqc⟩ := replaceLeaves_struct _ p hv (leavesOK_single hr hl) q hq
  exact ⟨hqv, fun x => hqt ▸ mem_leafTables_single hl, hqc,
    fun Θ cfg env hΘ hC e he => replaceSingle_error hr hΘ hC he p hv hl q hq⟩

end DAVerif
