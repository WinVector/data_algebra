import DAVerif.Proofs.SqlAllTrans
/-!
C01/C04: the translation does not fail on well-formed pipelines of the fragment whose tables are present
(`toNear_total_frag`), for every dialect configuration.

Where `to_near_sql_implementation_` can raise: the guards of the table and extend cases (the requested columns are
declared columns), and the `KeyError` of `select_columns` / `drop_columns` when a requested key is missing from the
term dictionary of the step they modify.  The latter needs the invariant of the translation (`Sound.keys`: the keys
of a translated sub-query include everything requested), hence the main induction (`SqlE.transOK_fragJ_all`).
-/
namespace DAVerif
namespace Sql
open DAVerif.Ops (usedFromSources unionL)
open Rules26 (usedBy keys)

variable {Θ : Interp} {ec : EngineCfg} {env : Env} {scfg : SemCfg} {cfg : SqlCfg} {G : Near → Prop}

def TransTot (cfg : SqlCfg) (fuel : Nat) (p : Ops) : Prop :=
  ∀ (u : List String) (st : Nat), (∀ c ∈ u, c ∈ p.cols) → ∃ q st', toNear cfg fuel p (some u) st = .ok (q, st')

private theorem bind_total {α : Type} {x : M α} {f : α → M Near} {st : Nat} {a : α} {st1 : Nat}
    (hx : x st = .ok (a, st1)) (hf : ∃ q st', f a st1 = .ok (q, st')) : ∃ q st', (x >>= f) st = .ok (q, st') := by
  obtain ⟨q, st', h⟩ := hf
  exact ⟨q, st', bindM_ok.mpr ⟨a, st1, hx, h⟩⟩

private theorem pure_total (a : Near) (st : Nat) : ∃ q st', (pure a : M Near) st = .ok (q, st') := ⟨a, st, rfl⟩

private theorem fresh_total (X : Nat → Near) (st : Nat) :
    ∃ q st', (do let i ← fresh; return X i : M Near) st = .ok (q, st') :=
  bind_total (fresh_ok.mpr rfl) (pure_total _ _)

theorem transTot_table (fuel : Nat) (name : String) (cs : List String) : TransTot cfg (fuel + 1) (.table name cs) := by
  intro u st hu
  rw [toNear]
  simp only [Option.getD_some]
  have hg : subset u cs = true := subset_iff.mpr hu
  apply bind_total (a := ()) (st1 := st) (by rw [hg]; rfl)
  split
  · exact fresh_total _ _
  · exact pure_total _ _

theorem transTot_step {p src : Ops} (fuel : Nat) (hp : p.sources = [src]) (hs : ∀ u, ∃ σ, stepSpec p u = some σ)
    (hsq : SqlWF p) (ih : TransTot cfg fuel src) : TransTot cfg (fuel + 1) p := by
  intro u st hu
  obtain ⟨σ, hσ⟩ := hs u
  obtain ⟨sub, st1, h1⟩ := ih σ.req st (stepSpec_req hp hσ hsq hu)
  rw [toNear_step (u := some u) fuel hp hσ]
  exact ⟨_, _, stepM_ok.mpr ⟨sub, st1, h1, rfl⟩⟩

theorem transTot_extend (fuel : Nat) (src : Ops) (ops : Assign) (part order rev : List String) (w : Bool)
    (hext : ExtOK src.cols ops part order rev w) (ih : TransTot cfg fuel src) :
    TransTot cfg (fuel + 1) (.extend src ops part order rev w) := by
  intro u st hu
  have husgn := extUsg_cols hext hu
  rw [toNear_extend_eq]
  split
  · rename_i hempty
    exact ih _ st (fun c hc => (extUsg_pruned husgn hempty c hc).1)
  · rename_i hnonempty
    have hF := extFacts hext hu (Bool.eq_false_iff.mpr hnonempty)
    have hg1 : (!(extUsg u part order rev).isEmpty) = true := by
      obtain ⟨kv, hkv⟩ := List.exists_mem_of_ne_nil (extSubops ops (extUsg u part order rev))
        (fun e => hnonempty (by rw [e]; rfl))
      have := (List.mem_filter.mp hkv).2
      cases hx : extUsg u part order rev with
      | nil => rw [hx] at this; cases this
      | cons a l => rfl
    obtain ⟨sub, st3, h5⟩ := ih _ st hF.Ssrc
    apply bind_total (a := ()) (st1 := st) (by rw [hg1]; rfl)
    apply bind_total (a := ()) (st1 := st) (by rw [subset_iff.mpr husgn]; rfl)
    apply bind_total h5
    rcases extEmit_cases cfg _ _ _ sub _ with e | ⟨_, _, _, _, _, _, _, _, _, _, e⟩ <;> rw [e]
    · exact fresh_total _ _
    · exact pure_total _ _

theorem setTermKeys_total {q : Near} {ks : List String} (sel : Bool)
    (hk : ks ≠ [] → ∃ tk, q.termKeys = some tk ∧ ∀ c ∈ ks, c ∈ tk) : ∃ q', setTermKeys q ks sel = some q' := by
  by_cases hne : ks = []
  · subst hne
    cases q with
    | unary n ts => cases ts <;> cases sel <;> exact ⟨_, rfl⟩
    | _ => exact ⟨_, rfl⟩
  · obtain ⟨tk, htk, hsub⟩ := hk hne
    have hne' : ks.isEmpty = false := by simpa using hne
    cases q with
    | cte => cases htk
    | unary n ts =>
      cases ts with
      | none => cases htk
      | some ts =>
        cases htk
        simp only [setTermKeys, hne', Bool.false_eq_true, ↓reduceIte, subset_iff.mpr hsub]
        exact ⟨_, rfl⟩
    | _ =>
      cases htk
      simp only [setTermKeys, hne', Bool.false_eq_true, ↓reduceIte, subset_iff.mpr hsub]
      exact ⟨_, rfl⟩

theorem transTot_rekey {p src : Ops} (fuel : Nat) (hp : p.sources = [src]) (hs : ∀ u, ∃ r, rekeySpec p u = some r)
    (hwf : WF p) (hT : TransOK Θ ec env scfg G cfg fuel src) (hsem : ∃ ts, semE ec Θ scfg env src = .ok ts)
    (ih : TransTot cfg fuel src) : TransTot cfg (fuel + 1) p := by
  intro u st hu
  obtain ⟨ts, hts⟩ := hsem
  obtain ⟨⟨S, sel⟩, hk⟩ := hs u
  obtain ⟨hSsrc, _⟩ := rekeySpec_req hp hk hwf hu
  obtain ⟨sub, st1, h1⟩ := ih S st hSsrc
  obtain ⟨_, S₁, hS₁, _, hsound⟩ := hT S st sub st1 ts hSsrc h1 hts
  obtain ⟨q', hq⟩ := setTermKeys_total sel (fun hne => by
    obtain ⟨tk, t1, _, t3⟩ := hsound.keys (ne_nil_of_subset hS₁ hne)
    exact ⟨tk, t1, fun c hc => t3 c (hS₁ c hc)⟩)
  rw [toNear_rekey (u := some u) fuel hp hk]
  exact ⟨q', st1, rekeyM_ok.mpr ⟨sub, h1, hq⟩⟩

private theorem transTot_fuel {p src : Ops} (hsz : p.size = src.size + 1)
    (h : ∀ fuel, TransTot cfg fuel src → TransTot cfg (fuel + 1) p)
    (ih : ∀ fuel, src.size ≤ fuel → TransTot cfg fuel src) : ∀ fuel, p.size ≤ fuel → TransTot cfg fuel p
  | 0, hle => by omega
  | fuel + 1, hle => h fuel (ih fuel (by omega))

/-- **`to_near_sql_implementation_` does not fail** (fragment, every dialect configuration): for a well-formed
pipeline whose tables are present with the declared columns, every fuel that is at least the size of the pipeline
and every request within the declared columns, the translation returns a query. -/
theorem toNear_total_frag (Θ : Interp) (ec : EngineCfg) (env : Env) (cfg : SqlCfg) (p : Ops) :
    InFrag p = true → WF p → SqlWF p → MapsOK p → EnvOK false env p → ∀ fuel : Nat, p.size ≤ fuel →
      TransTot cfg fuel p := by
  have hT : ∀ src, InFrag src = true → WF src → SqlWF src → MapsOK src → EnvOK false env src → ∀ fuel,
      TransOK Θ ec env SemCfg.ref (fun q => q.isJU = true) cfg fuel src := fun src hf hwf hsq hmp he fuel =>
    SqlE.transOK_fragJ_all Θ ec env cfg (.of_frag hf hwf hsq hmp he) fuel
  induction p with
  | table name cs =>
    intro _ _ _ _ _ fuel hsz
    cases fuel with
    | zero => cases hsz
    | succ fuel => exact transTot_table fuel name cs
  | extend src ops part od rv w ih =>
    intro hf hwf hsq hmp he
    exact transTot_fuel rfl (fun fuel => transTot_extend fuel src ops part od rv w hwf.2) (ih hf hwf.1 hsq hmp he)
  | project src _ _ ih | selectRows src _ ih | order src _ _ _ ih | rename src _ ih | mapCols src _ _ ih =>
    intro hf hwf hsq hmp he
    have hs := Good.source (Good.of_frag (cfg := cfg) hf hwf hsq hmp he) (s := src) List.mem_cons_self
    exact transTot_fuel rfl (fun fuel => transTot_step fuel rfl (fun _ => ⟨_, rfl⟩) hsq)
      (ih hf hs.wf hs.sqlwf hs.maps hs.env)
  | selectCols src _ ih | dropCols src _ ih =>
    intro hf hwf hsq hmp he
    have hs := Good.source (Good.of_frag (cfg := cfg) hf hwf hsq hmp he) (s := src) List.mem_cons_self
    exact transTot_fuel rfl (fun fuel => transTot_rekey fuel rfl (fun _ => ⟨_, rfl⟩) hwf
        (hT src hf hs.wf hs.sqlwf hs.maps hs.env fuel)
        (semG_ok_fragJ (sqlRowLe ec) Θ SemCfg.ref env src hs.frag false hs.env))
      (ih hf hs.wf hs.sqlwf hs.maps hs.env)
  | join | concat | convert => intro hf; cases hf

end Sql
end DAVerif
