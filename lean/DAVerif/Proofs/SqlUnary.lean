import DAVerif.Proofs.SqlStepReads
/-!
C01/C02: one lemma per node kind, "if the translation of the source satisfies the induction claim, so does the
translation of the node": table, select_rows, order_rows, select_columns / drop_columns here, project in `SqlUnary2`,
rename and map_columns in `SqlUnary3`, extend in `SqlMergeMain`.  For the five nodes that emit a step around the
translated source, `SqlE.nodeOK_step` takes the clause of `toNear` (`toNear_step`), applies the claim of the source and
binds the sub-query once; what is left to each of their lemmas is that the emitted SELECT step, on the rows of the source
table, computes the operator (the frame `sound_step`).

The reference table is a parameter: `SqlE.NodeOK … fuel p tp` says that every successful translation of `p` is `Sound`
against the fixed table `tp`, and the lemmas go from `NodeOK fuel src ts` to `NodeOK (fuel+1) (node src) (op ts)` for
every table `ts`; `TransOK … fuel p` is the claim for the table `semE ec … p`.  The main induction
(`Proofs/SqlAllTrans.lean`) needs this below an emulated RIGHT / FULL join (SQLite): there the SQL of a sub-pipeline
returns the rows of its table in another order, and what the steps above it compute is the operator applied to the
permuted table.
-/
namespace DAVerif
namespace Sql
open DAVerif.Ops (usedFromSources unionL)

variable {Θ : Interp} {ec : EngineCfg} {env : Env} {scfg : SemCfg} {G : Near → Prop} {cfg : SqlCfg}

theorem ne_nil_of_subset {u' u : List String} (h : ∀ c ∈ u', c ∈ u) (hne : u' ≠ []) : u ≠ [] := by
  intro e; subst e
  cases u' with
  | nil => exact hne rfl
  | cons x _ => exact absurd (h x List.mem_cons_self) (by simp)

theorem not_contains_iff {l : List String} {c : String} : (!l.contains c) = true ↔ c ∉ l := by simp

namespace SqlE

/-- the induction claim `TransOK` against a fixed reference table `tp` -/
def NodeOK (Θ : Interp) (ec : EngineCfg) (env : Env) (G : Near → Prop) (cfg : SqlCfg) (fuel : Nat) (p : Ops)
    (tp : Table) : Prop :=
  ∀ (u : List String) (st : Nat) (q : Near) (st' : Nat),
    (∀ c ∈ u, c ∈ p.cols) → toNear cfg fuel p (some u) st = .ok (q, st') →
    G q ∧ ∃ u₁, (∀ c ∈ u, c ∈ u₁) ∧ (∀ c ∈ u₁, c ∈ p.cols) ∧ Sound Θ ec env q u₁ p.cols tp

theorem nodeOK_zero (Θ : Interp) (ec : EngineCfg) (env : Env) (G : Near → Prop) (cfg : SqlCfg) (p : Ops) (tp : Table) :
    NodeOK Θ ec env G cfg 0 p tp :=
  fun _ _ _ _ _ h => absurd h toNear_zero_ne_ok

theorem transOK_of_node {fuel : Nat} {p : Ops}
    (h : ∀ tp, semE ec Θ scfg env p = .ok tp → NodeOK Θ ec env G cfg fuel p tp) :
    TransOK Θ ec env scfg G cfg fuel p :=
  fun u st q st' tp hu ht htp => h tp htp u st q st' hu ht

theorem NodeOK.congr {fuel : Nat} {p : Ops} {tp tp' : Table} (h : NodeOK Θ ec env G cfg fuel p tp)
    (hrows : ∀ u' : List String, (∀ c ∈ u', c ∈ p.cols) →
      tp'.rows.map (fun r => r.select u') = tp.rows.map (fun r => r.select u')) :
    NodeOK Θ ec env G cfg fuel p tp' := by
  intro u st q st' hu ht
  obtain ⟨hg, u₁, h1, h2, hs⟩ := h u st q st' hu ht
  exact ⟨hg, u₁, h1, h2, hs.mono (fun c hc => hc) (fun u' hu' => hrows u' (fun c hc => h2 c (hu' c hc)))⟩

end SqlE

theorem TransOK.node {fuel : Nat} {p : Ops} {tp : Table} (h : TransOK Θ ec env scfg G cfg fuel p)
    (htp : semE ec Θ scfg env p = .ok tp) : SqlE.NodeOK Θ ec env G cfg fuel p tp :=
  fun u st q st' hu ht => h u st q st' tp hu ht htp

theorem semNear_table {name : String} {t : Table} (hl : env.lookup name = some t) (ts u' : List String) (force : Bool)
    (hsub : ∀ c ∈ u', c ∈ t.cols) :
    semNear Θ ec env [] (.table name ts) (some u') force = .ok t ∨
      (u' ≠ [] ∧ semNear Θ ec env [] (.table name ts) (some u') force = .ok (t.selectCols u')) := by
  rw [semNear]
  simp only [hl, Option.getD_some]
  cases force
  · exact Or.inl rfl
  · by_cases he : u' = []
    · subst he; exact Or.inl rfl
    · have : u'.isEmpty = false := by simpa using he
      simp only [↓reduceIte, this, Bool.false_eq_true, subset_iff.mpr hsub]
      exact Or.inr ⟨he, trivial⟩

theorem sound_passStep {sub : Near} {S K u pc : List String} {T0 ts tp : Table} {sfx : Suffix}
    (nm : String) (mg : Bool) (dp : Option (List (String × List String))) (key : Option String)
    (hbind : semNear Θ ec env [] sub (some S) false = .ok T0)
    (g4 : T0.rows.map (fun r => r.select S) = ts.rows.map (fun r => r.select S))
    (hsfx : ∀ x ∈ sfxReads sfx, x ∈ S)
    (hKS : ∀ c ∈ K, c ∈ S) (huK : ∀ c ∈ u, c ∈ K) (hKpc : ∀ c ∈ K, c ∈ pc)
    (hrows : ∀ u' : List String, (∀ c ∈ u', c ∈ u) →
      limitOf sfx ((suffixRows Θ ec sfx ts.rows).map (fun r => r.select u')) = tp.rows.map (fun r => r.select u')) :
    Sound Θ ec env (.unary nm (mkTerms (K.map (fun k => (k, STerm.pass)))) false sub (some S) sfx mg dp key)
      u pc tp := by
  have hl : ∀ c ∈ K, lookT (some (K.map (fun k => (k, STerm.pass)))) c = some .pass := fun c hc => by
    simp only [lookT, lookupLast_map_const, if_pos hc]
  refine sound_step nm mg dp key hbind g4 hsfx (fun c hc x hx => ?_) (by rw [keys_map_const]; exact huK)
    (by rw [keys_map_const]; exact hKpc) fun u' hu' => ?_
  · rw [hl c (huK c hc)] at hx
    cases List.mem_singleton.mp hx
    exact hKS c (huK c hc)
  · rw [stepRows_pass _ _ _ _ _ _ fun c hc => Or.inr (hl c (huK c (hu' c hc)))]
    exact hrows u' hu'

namespace SqlE

theorem nodeOK_table (hG : ShapeOK Θ ec env G) (fuel : Nat) (name : String) (cs : List String) {t : Table}
    (hl : env.lookup name = some t) (hsub : ∀ c ∈ cs, c ∈ t.cols) :
    NodeOK Θ ec env G cfg fuel (.table name cs) (t.selectCols cs) := by
  cases fuel with
  | zero => exact nodeOK_zero _ _ _ _ _ _ _
  | succ fuel =>
  intro u st q st' hu h
  have hrows : ∀ u' : List String, (∀ c ∈ u', c ∈ u) →
      t.rows.map (fun r => r.select u') = (t.selectCols cs).rows.map (fun r => r.select u') :=
    fun u' hu' => (select_map_select t.rows fun c hc => hu c (hu' c hc)).symm
  cases toNear_succ_inv h with
  | step _ hσ => cases hσ
  | rekey _ hk => cases hk
  | tableRef =>
    -- strict subset: wrapped in a `table_reference` step
    have hsubq : semNear Θ ec env [] (.table name (cs.filter (fun c => u.contains c))) (some u) false = .ok t := by
      rw [semNear]; simp only [hl]; rfl
    exact ⟨hG.simple _ rfl, u, fun c hc => hc, hu,
      sound_passStep (ts := t) _ _ _ _ hsubq rfl nofun (fun c hc => hc) (fun c hc => hc) hu hrows⟩
  | table =>
    refine ⟨hG.simple _ rfl, u, fun c hc => hc, hu, fun u' hu' force => ?_, fun _ => ?_⟩
    · have hu't : ∀ c ∈ u', c ∈ t.cols := fun c hc => hsub c (hu c (hu' c hc))
      rcases semNear_table (Θ := Θ) (ec := ec) hl (cs.filter (fun c => u.contains c)) u' force hu't with h | ⟨_, h⟩
      · exact ⟨t, h, hu't, hrows u' hu'⟩
      · refine ⟨_, h, fun c hc => hc, ?_⟩
        simp only [Table.selectCols]
        rw [select_map_select _ (fun c hc => hc)]
        exact hrows u' hu'
    · exact ⟨_, rfl, fun k hk => (List.mem_filter.mp hk).1,
        fun c hc => List.mem_filter.mpr ⟨hu c hc, by simpa using hc⟩⟩

end SqlE

namespace SqlE

/-- the nodes that emit a step around the translated source (`stepSpec`): project, select_rows, order_rows,
map_columns, rename_columns -/
theorem nodeOK_step (hG : ShapeOK Θ ec env G) (fuel : Nat) {p src : Ops} (hp : p.sources = [src])
    (hs : ∀ u, ∃ σ, stepSpec p u = some σ) {ts tp : Table} (ih : NodeOK Θ ec env G cfg fuel src ts)
    (hreq : ∀ (u : List String) (σ : StepSpec), (∀ c ∈ u, c ∈ p.cols) → stepSpec p u = some σ →
      ∀ c ∈ σ.req, c ∈ src.cols)
    (hstep : ∀ (u : List String) (σ : StepSpec), (∀ c ∈ u, c ∈ p.cols) → stepSpec p u = some σ →
      (∀ c ∈ σ.req, c ∈ src.cols) → ∀ (sub : Near) (T0 : Table) (i : Nat),
        semNear Θ ec env [] sub (some σ.req) false = .ok T0 →
        T0.rows.map (fun r => r.select σ.req) = ts.rows.map (fun r => r.select σ.req) →
        Sound Θ ec env (σ.near sub i) u p.cols tp) :
    NodeOK Θ ec env G cfg (fuel + 1) p tp := by
  intro u st q st' hu h
  obtain ⟨σ, hσ⟩ := hs u
  rw [toNear_step (u := some u) fuel hp hσ] at h
  obtain ⟨sub, st1, h1, e⟩ := stepM_ok.mp h
  cases e
  have hSsrc := hreq u σ hu hσ
  obtain ⟨_, S₁, hS₁, _, hsound⟩ := ih σ.req st sub st1 hSsrc h1
  obtain ⟨T0, g1, _, g4⟩ := hsound.req σ.req hS₁ false
  exact ⟨hG.simple _ rfl, u, fun c hc => hc, hu, hstep u σ hu hσ hSsrc sub T0 st1 g1 g4⟩

end SqlE

namespace SqlE

theorem nodeOK_selectRows (hG : ShapeOK Θ ec env G) (fuel : Nat) (src : Ops) (e : Term)
    (hsq : SqlWF (.selectRows src e)) {ts : Table}
    (ih : NodeOK Θ ec env G cfg fuel src ts) :
    NodeOK Θ ec env G cfg (fuel + 1) (.selectRows src e) (semSelectRows Θ e ts) :=
  nodeOK_step hG fuel rfl (fun _ => ⟨_, rfl⟩) ih (fun _ _ hu hσ => stepSpec_req rfl hσ hsq hu)
      fun u σ hu hσ _ sub T0 i g1 g4 => by
    cases hσ
    dsimp only [StepSpec.near] at g1 g4 ⊢
    generalize hSdef : ((Ops.selectRows src e).usedFromSources u).headD [] = S at g1 g4
    have hS : S = unionL (src.cols.filter (fun c => u.contains c)) (Term.colsUsed e) := hSdef.symm
    have huS : ∀ c ∈ u, c ∈ S := fun c hc =>
      hS ▸ mem_unionL.mpr (Or.inl (List.mem_filter.mpr ⟨hu c hc, by simpa using hc⟩))
    have heS : ∀ c ∈ Term.colsRaw e, c ∈ S := fun c hc =>
      hS ▸ mem_unionL.mpr (Or.inr (by simpa [Term.colsUsed] using hc))
    exact sound_passStep _ _ _ _ g1 g4 heS huS (fun c hc => hc) hu fun _ _ => rfl

end SqlE

theorem order_rows (ts : Table) (u' cs rev : List String) (lim : Option Nat) :
    limitOf (if (cs.isEmpty && lim.isNone) = true then Suffix.none else Suffix.orderBy cs rev lim)
        ((suffixRows Θ ec (if (cs.isEmpty && lim.isNone) = true then Suffix.none else Suffix.orderBy cs rev lim)
          ts.rows).map (fun r => r.select u'))
      = (semOrderG (sqlRowLe ec) cs rev lim ts).rows.map (fun r => r.select u') := by
  by_cases hcond : (cs.isEmpty && lim.isNone) = true
  · rw [if_pos hcond]
    simp only [Bool.and_eq_true, List.isEmpty_iff, Option.isNone_iff_eq_none] at hcond
    obtain ⟨rfl, rfl⟩ := hcond
    simp only [limitOf, suffixRows, semOrderG]
    rw [mergeSort_true (fun a b => sqlRowLe ec [] rev a b) (fun _ _ => rfl)]
  · rw [if_neg hcond]
    cases lim with
    | none => rfl
    | some n => exact (List.map_take ..).symm

theorem order_rows_agree {L : List Row} {ts : Table} {S u' cs rev : List String} {lim : Option Nat}
    (hL : L.map (fun r => r.select S) = ts.rows.map (fun r => r.select S))
    (hcsS : ∀ c ∈ cs, c ∈ S) (hu'S : ∀ c ∈ u', c ∈ S) :
    limitOf (if (cs.isEmpty && lim.isNone) = true then Suffix.none else Suffix.orderBy cs rev lim)
        ((suffixRows Θ ec (if (cs.isEmpty && lim.isNone) = true then Suffix.none else Suffix.orderBy cs rev lim) L).map
          (fun r => r.select u'))
      = (semOrderG (sqlRowLe ec) cs rev lim ts).rows.map (fun r => r.select u') := by
  rw [← order_rows ts u' cs rev lim, map_select_mono (suffixRows_reads _ (fun x hx => ?_) hL) hu'S]
  split at hx
  · cases hx
  · exact hcsS x hx

namespace SqlE

theorem nodeOK_order (hG : ShapeOK Θ ec env G) (fuel : Nat) (src : Ops) (cs rev : List String) (lim : Option Nat)
    (hcs : ∀ c ∈ cs, c ∈ src.cols) {ts : Table}
    (ih : NodeOK Θ ec env G cfg fuel src ts) :
    NodeOK Θ ec env G cfg (fuel + 1) (.order src cs rev lim) (semOrderG (sqlRowLe ec) cs rev lim ts) :=
  nodeOK_step hG fuel rfl (fun _ => ⟨_, rfl⟩) ih
    (fun _ _ _ hσ c hc => by cases hσ; exact (List.mem_filter.mp hc).1)
    fun u σ hu hσ _ sub T0 i g1 g4 => by
    cases hσ
    dsimp only [StepSpec.near] at g1 g4 ⊢
    generalize hSdef : (Ops.order src cs rev lim).cols.filter
      (fun c => (((Ops.order src cs rev lim).usedFromSources u).headD []).contains c) = S at g1 g4
    have hmemS : ∀ c, c ∈ S ↔ c ∈ src.cols ∧ (c ∈ u ∨ c ∈ cs) := fun c => by
      rw [← hSdef]
      exact mem_filter_contains.trans (and_congr_right fun h1 => mem_unionL.trans
        (or_congr_left (mem_filter_contains.trans (and_iff_right h1))))
    refine sound_passStep _ _ _ _ g1 g4 (fun c hc => ?_) (fun c hc => hc)
      (fun c hc => (hmemS c).mpr ⟨hu c hc, Or.inl hc⟩) (fun c hc => ((hmemS c).mp hc).1)
      fun u' _ => order_rows ts u' cs rev lim
    split at hc
    · cases hc
    · exact (hmemS c).mpr ⟨hcs c hc, Or.inr hc⟩

end SqlE

theorem transOK_order (hG : ShapeOK Θ ec env G) (fuel : Nat) (src : Ops) (cs rev : List String) (lim : Option Nat)
    (hcs : ∀ c ∈ cs, c ∈ src.cols)
    (ih : TransOK Θ ec env scfg G cfg fuel src) :
    TransOK Θ ec env scfg G cfg (fuel + 1) (.order src cs rev lim) :=
  SqlE.transOK_of_node fun _ htp => by
    simp only [semG] at htp
    obtain ⟨ts, hts, rfl⟩ := bind_pure_ok htp
    exact SqlE.nodeOK_order hG fuel src cs rev lim hcs (ih.node hts)

namespace SqlE

/-- `select_columns` and `drop_columns` translate their source for the request `S` and keep the keys `S` of its step
(`rekeySpec`) -/
theorem nodeOK_rekey (hG : ShapeOK Θ ec env G) (fuel : Nat) {p src : Ops} (hp : p.sources = [src])
    (hs : ∀ u, ∃ r, rekeySpec p u = some r) (hwf : WF p)
    (hSp : ∀ u S sel, rekeySpec p u = some (S, sel) → (∀ c ∈ u, c ∈ p.cols) → ∀ c ∈ S, c ∈ p.cols) {ts : Table}
    (ih : NodeOK Θ ec env G cfg fuel src ts) :
    NodeOK Θ ec env G cfg (fuel + 1) p (ts.selectCols p.cols) := by
  intro u st q st' hu h
  obtain ⟨⟨S, sel⟩, hk⟩ := hs u
  rw [toNear_rekey (u := some u) fuel hp hk] at h
  obtain ⟨sub, h1, hq⟩ := rekeyM_ok.mp h
  obtain ⟨hSsrc, huS⟩ := rekeySpec_req hp hk hwf hu
  have hSp := hSp u S sel hk hu
  obtain ⟨hGsub, S₁, hS₁, _, hsound⟩ := ih S st sub _ hSsrc h1
  refine ⟨hG.closed _ _ _ _ hGsub hq, S, huS, hSp, ?_⟩
  apply Sound.setTermKeys (hsound.restrict hS₁) (hG.stable _ hGsub) hq hSp
  intro u' hu'
  exact select_map_select ts.rows (fun c hc => hSp c (hu' c hc))

end SqlE

end Sql
end DAVerif
