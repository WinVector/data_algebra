import DAVerif.Sql.ToNearSql
/-!
The state monad `M` of the NearSQL translation (a counter over `Except Err`): what a successful `>>=`, `pure`,
`fresh`, `liftE` and `guardM` returned, the two shapes most cases of `toNear` have (`stepM_ok`, `rekeyM_ok`), and the run
behind `toNearSql` (`toNearSql_ok`).
-/
namespace DAVerif
namespace Sql

theorem bindM_ok {α β : Type} {x : M α} {f : α → M β} {st : Nat} {r : β × Nat} :
    (x >>= f) st = .ok r ↔ ∃ a st1, x st = .ok (a, st1) ∧ f a st1 = .ok r := by
  simp only [bind, StateT.bind]
  cases hx : x st with
  | error e => simp [Except.bind]
  | ok as =>
    obtain ⟨a, s⟩ := as
    simp only [Except.bind, Except.ok.injEq, Prod.mk.injEq]
    constructor
    · intro h; exact ⟨a, s, ⟨rfl, rfl⟩, h⟩
    · rintro ⟨_, _, ⟨rfl, rfl⟩, h⟩; exact h

theorem pureM_ok {α : Type} {a : α} {st : Nat} {r : α × Nat} : (pure a : M α) st = .ok r ↔ r = (a, st) := by
  simp only [pure, StateT.pure, Except.pure, Except.ok.injEq]
  exact eq_comm

theorem fresh_ok {st : Nat} {r : Nat × Nat} : fresh st = .ok r ↔ r = (st, st + 1) := by
  simp only [fresh, bind, StateT.bind, get, getThe, MonadStateOf.get, StateT.get, set, StateT.set, pure, StateT.pure,
    Except.pure, Except.bind, Except.ok.injEq]
  exact eq_comm

theorem guardM_ok {c : Bool} {e : Err} {st : Nat} {r : Unit × Nat} :
    guardM c e st = .ok r ↔ c = true ∧ r = ((), st) := by
  cases c <;> simp [guardM, liftE, ok?, Except.map, eq_comm]

theorem liftE_ok {α : Type} {e : Except Err α} {s : Nat} {r : α × Nat} :
    liftE e s = .ok r ↔ ∃ a, e = .ok a ∧ r = (a, s) := by
  cases e with
  | error e => simp [liftE, Except.map]
  | ok a =>
    simp only [liftE, Except.map, Except.ok.injEq, exists_eq_left']
    exact eq_comm

theorem liftE_error_ne_ok {α : Type} {e : Err} {st : Nat} {r : α × Nat} :
    (liftE (.error e) : M α) st ≠ .ok r := by
  simp [liftE, Except.map]

theorem stepM_ok {m : M Near} {X : Near → Nat → Near} {st : Nat} {r : Near × Nat} :
    (do let sub ← m; let i ← fresh; return X sub i : M Near) st = .ok r ↔
      ∃ sub st1, m st = .ok (sub, st1) ∧ r = (X sub st1, st1 + 1) := by
  constructor
  · intro h
    obtain ⟨sub, st1, h1, h2⟩ := bindM_ok.mp h
    obtain ⟨i, st2, h3, h4⟩ := bindM_ok.mp h2
    cases fresh_ok.mp h3
    exact ⟨sub, st1, h1, pureM_ok.mp h4⟩
  · rintro ⟨sub, st1, h1, rfl⟩
    exact bindM_ok.mpr ⟨sub, st1, h1, bindM_ok.mpr ⟨st1, st1 + 1, fresh_ok.mpr rfl, pureM_ok.mpr rfl⟩⟩

theorem rekeyM_ok {m : M Near} {f : Near → Option Near} {st : Nat} {r : Near × Nat} :
    (do let sub ← m; match f sub with | some q => pure q | none => liftE (.error .keyError) : M Near) st = .ok r ↔
      ∃ sub, m st = .ok (sub, r.2) ∧ f sub = some r.1 := by
  rw [bindM_ok]
  constructor
  · rintro ⟨sub, st1, h, h2⟩
    cases hf : f sub with
    | none => rw [hf] at h2; exact absurd h2 liftE_error_ne_ok
    | some q => rw [hf] at h2; cases pureM_ok.mp h2; exact ⟨sub, h, hf⟩
  · rintro ⟨sub, h, hf⟩
    exact ⟨sub, r.2, h, by rw [hf]; rfl⟩

theorem toNearSql_ok {cfg : SqlCfg} {p : Ops} {q : Near} (h : toNearSql cfg p = .ok q) :
    ∃ st', toNear cfg (6 * p.size + 6) p none 0 = .ok (q, st') := by
  unfold toNearSql at h
  cases hr : (toNear cfg (6 * p.size + 6) p none).run 0 with
  | error e => rw [hr] at h; cases h
  | ok r =>
    rw [hr] at h
    cases h
    exact ⟨r.2, hr⟩

end Sql
end DAVerif
