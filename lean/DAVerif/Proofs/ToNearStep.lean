import DAVerif.Proofs.SqlBasic
import DAVerif.Proofs.SqlMonad
/-!
The one place where the translation `toNear` (Sql/ToNearSql.lean) is unfolded.  The pieces its clauses are made of are
named functions (`extUsg` … `extEmit` for `extend`, `joinUsg`, `sideCols`, `joinTerms` for a join, `fullSim` for the
FULL-join emulation, `labelSide` for a side of a `concat_rows`).  `project`, `select_rows`, `order_rows`, `map_columns`,
`rename_columns` have one shape: translate the source for `σ.req`, draw a number, put the step `σ.near sub i` on top
(`stepSpec`, `toNear_step`); `select_columns` and `drop_columns` translate the source and re-key its step (`rekeySpec`,
`toNear_rekey`).  Proofs that run the translation (totality, the commutation with node-wise maps) use these equations.
Proofs about every successful translation case on `toNear_succ_inv`: a successful run with `fuel + 1` is one of the ten
ways `ToNearStep cfg R` lists, `R` being the runs with `fuel` it rests on.
-/
namespace DAVerif
namespace Sql
open DAVerif.Ops (usedFromSources unionL)
open Rules26 (usedBy keys)

variable {cfg : SqlCfg}

/-- what the merge does to a dictionary of the sub step (`terms`, `declared_term_dependencies`): our non-trivial
entries are assigned (`subsql.terms[k] = terms[k]`), then the keys we do not use are deleted -/
def mergeDict {β : Type} (ourNT : List String) (ours sub : List (String × β)) (weUse : List String) :
    List (String × β) :=
  (ourNT.foldl (fun d k => match lookupLast ours k with | some t => dictSet d k t | none => d) sub).filter
    (fun kv => weUse.contains kv.1)

/-- `set().union(*[deps[k] for k in nt])` -/
def needsOf (ds : List (String × List String)) (nt : List String) : List String :=
  (ds.filter (fun kv => nt.contains kv.1)).flatMap (·.2)

/-- `contention` of `extend_to_near_sql`: `deps`/`terms` are ours, `sdeps`/`sterms` those of the sub step -/
def contention (deps : List (String × List String)) (terms : Terms) (sdeps : List (String × List String))
    (sterms : Terms) : List String :=
  inter (nonTrivialTerms deps terms) (nonTrivialTerms sdeps sterms) ++
    inter (nonTrivialTerms deps terms) (needsOf sdeps (nonTrivialTerms sdeps sterms)) ++
    inter (nonTrivialTerms sdeps sterms) (needsOf deps (nonTrivialTerms deps terms))

def extUsg (u part order rev : List String) : List String := unionL (unionL (unionL u part) order) rev

def extSubops (ops : Assign) (usg : List String) : Assign := ops.filter (fun kv => usg.contains kv.1)

def extIsWin (part order : List String) (w : Bool) : Bool := w || !part.isEmpty || !order.isEmpty

def extWin (part order rev : List String) (w : Bool) : Option Win :=
  if extIsWin part order w then some ⟨part, order, rev⟩ else none

def extWindowVars (part order : List String) (w : Bool) : List String :=
  if extIsWin part order w then unionL part order else []

def extOrig (ops : Assign) (usg : List String) : List String :=
  usg.filter (fun k => !((extSubops ops usg).map (·.1)).contains k)

/-- `terms` -/
def extTerms (ops : Assign) (usg : List String) (win : Option Win) : Terms :=
  (extOrig ops usg).map (fun k => (k, STerm.pass)) ++ (extSubops ops usg).map (fun kv => (kv.1, STerm.expr kv.2 win))

/-- `declared_term_dependencies` -/
def extDeps (ops : Assign) (usg wv : List String) : List (String × List String) :=
  (extOrig ops usg).map (fun k => (k, [k])) ++ (extSubops ops usg).map (fun kv => (kv.1, unionL (Term.colsUsed kv.2) wv))

def extFallback (n : Ops) (i : Nat) (terms : Terms) (deps : List (String × List String)) (sub : Near)
    (subusing : List String) : Near :=
  .unary s!"extend_{i}" (mkTerms terms) false sub (some subusing) .none true (some deps)
    (keyOfNode "extend" n (terms.map (·.1)))

def extMerged (n : Ops) (sname : String) (sterms : Terms) (sagg : Bool) (ssub : Near) (scols : Option (List String))
    (sdeps : List (String × List String)) (terms : Terms) (deps : List (String × List String)) : Near :=
  .unary sname (some (mergeDict (nonTrivialTerms deps terms) terms sterms (terms.map (·.1)))) sagg ssub scols .none true
    (some (mergeDict (nonTrivialTerms deps terms) deps sdeps (terms.map (·.1))))
    (keyOfNode "extend" n ((mergeDict (nonTrivialTerms deps terms) terms sterms (terms.map (·.1))).map (·.1)))

/-- what `extend_to_near_sql` does once the source is translated to `sub`: with `allow_extend_merges`, a mergeable
source step without suffix and empty `contention` our entries are written into `sub`; otherwise a new step is
emitted -/
def extEmit (cfg : SqlCfg) (n : Ops) (terms : Terms) (deps : List (String × List String)) (sub : Near)
    (subusing : List String) : M Near :=
  match cfg.merges, sub with
  | true, .unary sname (some sterms) sagg ssub scols .none true (some sdeps) _ =>
    if (contention deps terms sdeps sterms).isEmpty then
      return extMerged n sname sterms sagg ssub scols sdeps terms deps
    else do
      let i ← fresh
      return extFallback n i terms deps sub subusing
  | _, _ => do
    let i ← fresh
    return extFallback n i terms deps sub subusing

theorem toNear_extend_eq (fuel : Nat) (src : Ops) (ops : Assign) (part order rev : List String) (w : Bool)
    (u : List String) :
    toNear cfg (fuel + 1) (.extend src ops part order rev w) (some u) =
      (if (extSubops ops (extUsg u part order rev)).isEmpty then toNear cfg fuel src (some (extUsg u part order rev))
      else do
        guardM (!(extUsg u part order rev).isEmpty) .valueError
        guardM (subset (extUsg u part order rev) (Ops.extend src ops part order rev w).cols) .keyError
        let sub ← toNear cfg fuel src
          (some (((Ops.extend src ops part order rev w).usedFromSources (extUsg u part order rev)).headD []))
        extEmit cfg (.extend src ops part order rev w) (extTerms ops (extUsg u part order rev) (extWin part order rev w))
          (extDeps ops (extUsg u part order rev) (extWindowVars part order w)) sub
          (((Ops.extend src ops part order rev w).usedFromSources (extUsg u part order rev)).headD [])) := by
  rw [toNear]
  dsimp only [Option.getD_some]
  refine ite_congr rfl (fun _ => rfl) (fun _ => ?_)
  refine bind_congr fun _ => bind_congr fun _ => bind_congr fun sub => ?_
  -- both sides are now a `match cfg.merges, sub with …` over the same dictionaries
  unfold extTerms extDeps extOrig extSubops extWin extWindowVars extIsWin extUsg extEmit
  generalize List.headD _ _ = S
  generalize List.map (fun k => (k, STerm.pass)) _ ++ _ = terms
  generalize List.map (fun k => (k, [k])) _ ++ _ = deps
  generalize cfg.merges = m
  generalize Ops.extend _ _ _ _ _ _ = n
  split
  · refine ite_congr rfl (fun _ => congrArg pure ?_) (fun _ => rfl)
    unfold extMerged mergeDict
    congr <;> funext d k <;> split <;> simp only [*]
  · rename_i hneg
    split
    · exact (hneg _ _ _ _ _ _ _ rfl rfl).elim
    · rfl

theorem extEmit_cases (cfg : SqlCfg) (n : Ops) (terms : Terms) (deps : List (String × List String)) (sub : Near)
    (S : List String) :
    extEmit cfg n terms deps sub S = (do let i ← fresh; return extFallback n i terms deps sub S) ∨
      (cfg.merges = true ∧ ∃ sname sterms sagg ssub scols sdeps skey,
        sub = .unary sname (some sterms) sagg ssub scols .none true (some sdeps) skey ∧
        contention deps terms sdeps sterms = [] ∧
        extEmit cfg n terms deps sub S = pure (extMerged n sname sterms sagg ssub scols sdeps terms deps)) := by
  unfold extEmit
  split
  · rename_i hm
    split
    · rename_i hc
      exact Or.inr ⟨hm, _, _, _, _, _, _, _, rfl, List.isEmpty_iff.mp hc, rfl⟩
    · exact Or.inl rfl
  · exact Or.inl rfl

/-- the request a join works with: a consumer that needs no column still gets one (fix D33) -/
def joinUsg (n : Ops) (u : List String) : List String := if u.isEmpty then n.cols.take 1 else u

def sideCols (sc usg onA onB : List String) : List String :=
  sc.filter (fun c => (unionL (unionL usg onA) onB).contains c)

/-- the SELECT list of a join step: `COALESCE` for the requested columns both sides offer, qualified pass-through
for the columns only one side offers -/
def joinTerms (leftFirst : Bool) (usg ul ur : List String) : Terms :=
  (((ur.filter (fun c => ul.contains c)).filter (fun c => usg.contains c)).map (fun c => (c, STerm.coalesce leftFirst c)))
  ++ (ul.filter (fun c => !(ur.filter (fun c => ul.contains c)).contains c)).map (fun c => (c, STerm.qual true c))
  ++ (ur.filter (fun c => !(ur.filter (fun c => ul.contains c)).contains c)).map (fun c => (c, STerm.qual false c))

theorem mem_sideCols {sc usg onA onB : List String} {c : String} :
    c ∈ sideCols sc usg onA onB ↔ c ∈ sc ∧ (c ∈ usg ∨ c ∈ onA ∨ c ∈ onB) := by
  simp only [sideCols, List.mem_filter, List.contains_iff_mem, mem_unionL, or_assoc]

theorem subset_joinUsg (n : Ops) (u : List String) : ∀ c ∈ u, c ∈ joinUsg n u := by
  intro c hc
  unfold joinUsg
  split
  · rename_i he
    have : u = [] := by simpa using he
    subst this; cases hc
  · exact hc

theorem concat_used_left (a b : Ops) (idc : Option String) (an bn : String) (usg : List String) :
    ((Ops.concat a b idc an bn).usedFromSources usg).headD [] = a.cols.filter (fun c => usg.contains c) := rfl

theorem concat_used_right (a b : Ops) (idc : Option String) (an bn : String) (usg : List String) :
    (((Ops.concat a b idc an bn).usedFromSources usg).drop 1).headD [] = b.cols.filter (fun c => usg.contains c) := rfl

/-- the builder calls of `_emit_full_join_as_complex` -/
def fullSim (a b : Ops) (K : List String) : Except Err Ops := do
  let ka ← build a (.project [] K)
  let kb ← build b (.project [] K)
  let ks ← build ka (.concat (some kb) none "a" "b")
  let ks ← build ks (.project [] K)
  let j1 ← build ks (.join a K K "left" false)
  build j1 (.join b K K "left" false)

theorem toNear_sqlite_full_eq (hemu : cfg.emulateRightFull = true) (fuel : Nat) (a b : Ops) (onA onB : List String)
    (u : Option (List String)) :
    toNear cfg (fuel + 1) (.join a b onA onB .full) u = (do
      guardM (!onA.isEmpty) .assertionError
      guardM (onA == onB) .assertionError
      let sim ← liftE (fullSim a b onA)
      toNear cfg fuel sim (some (u.getD (Ops.join a b onA onB .full).cols))) := by
  rw [toNear]
  have e2 : (JoinType.full == JoinType.full) = true := rfl
  simp only [hemu, e2, Bool.and_true, ↓reduceIte]
  rfl

/-- what a node that puts a step of its own on the translated source asks of its source (`req`), and that step -/
structure StepSpec where
  pfx : String
  req : List String
  terms : Option Terms
  agg : Bool
  sfx : Suffix
  key : Option String

def StepSpec.near (σ : StepSpec) (sub : Near) (i : Nat) : Near :=
  .unary (toString (σ.pfx ++ "_") ++ toString i) σ.terms σ.agg sub (some σ.req) σ.sfx false none σ.key

/-- `project`, `select_rows`, `order_rows`, `map_columns`, `rename_columns` for the request `usg` -/
def stepSpec : Ops → List String → Option StepSpec
  | n@(.project _ ops group), usg0 =>
    let subops0 := ops.filter (fun kv => usg0.contains kv.1)
    -- fix D14
    let pr : Assign × List String :=
      if subops0.isEmpty && group.isEmpty && !ops.isEmpty then (ops.take 1, usg0 ++ (ops.take 1).map (·.1))
      else (subops0, usg0)
    let terms : Terms := pr.1.map (fun kv => (kv.1, STerm.expr kv.2 none)) ++
      (group.filter (fun g => !(pr.1.map (·.1)).contains g)).map (fun g => (g, STerm.pass))
    some ⟨"project", (usedFromSources n pr.2).headD [], mkTerms terms, true,
      if group.isEmpty then .none else .groupBy group, keyOfNode "project" n (terms.map (·.1))⟩
  | n@(.selectRows _ e), usg =>
    some ⟨"select_rows", (usedFromSources n usg).headD [], mkTerms (usg.map (fun k => (k, STerm.pass))), false,
      .whereE e, keyOfNode "select" n usg⟩
  | n@(.order _ cs reverse limit), usg =>
    let S := n.cols.filter (fun c => ((usedFromSources n usg).headD []).contains c)
    some ⟨"order_rows", S, mkTerms (S.map (fun k => (k, STerm.pass))), false,
      if cs.isEmpty && limit.isNone then .none else .orderBy cs reverse limit, some ("order(" ++ renderOps n ++ ")")⟩
  | n@(.mapCols _ m dels), usg =>
    let S := (usedFromSources n usg).headD []
    let terms : Terms := (S.filter (fun c => !(m.map (·.2) ++ m.map (·.1) ++ dels).contains c)).foldl
      (fun d c => dictSet d c STerm.pass) (m.foldl (fun d kv => dictSet d kv.2 (STerm.ident kv.1)) [])
    some ⟨"map_columns", S, mkTerms terms, false, .none, keyOfNode "map_columns" n (terms.map (·.1))⟩
  | n@(.rename _ m), usg =>
    let S := (usedFromSources n usg).headD []
    let terms : Terms := (S.filter (fun c => !(m.map (·.2) ++ m.map (·.1)).contains c)).foldl
      (fun d c => dictSet d c STerm.pass) (m.foldl (fun d kv => dictSet d kv.1 (STerm.ident kv.2)) [])
    some ⟨"rename", S, mkTerms terms, false, .none, keyOfNode "rename" n (terms.map (·.1))⟩
  | _, _ => none

theorem toNear_step {cfg : SqlCfg} {p src : Ops} {σ : StepSpec} {u : Option (List String)} (fuel : Nat)
    (hp : p.sources = [src]) (hσ : stepSpec p (u.getD p.cols) = some σ) :
    toNear cfg (fuel + 1) p u = (do
      let sub ← toNear cfg fuel src (some σ.req)
      let i ← fresh
      return σ.near sub i) := by
  cases p <;> cases hσ <;> cases hp <;> rfl

/-- `select_columns`, `drop_columns` for the request `usg`: the request to the source, which is also the list of keys
the step of the source keeps, and whether a `SELECT *` gets its columns named -/
def rekeySpec : Ops → List String → Option (List String × Bool)
  | n@(.selectCols _ cs), usg => some (cs.filter (fun c => ((usedFromSources n usg).headD []).contains c), true)
  | n@(.dropCols _ _), usg => some ((usedFromSources n usg).headD [], false)
  | _, _ => none

theorem toNear_rekey {cfg : SqlCfg} {p src : Ops} {S : List String} {sel : Bool} {u : Option (List String)}
    (fuel : Nat) (hp : p.sources = [src]) (hk : rekeySpec p (u.getD p.cols) = some (S, sel)) :
    toNear cfg (fuel + 1) p u = (do
      let sub ← toNear cfg fuel src (some S)
      match setTermKeys sub S sel with
      | some q => pure q
      | none => liftE (.error .keyError)) := by
  cases p <;> cases hk <;> cases hp <;> rfl

/-- a side of a `concat_rows` as it is translated: the side itself or, with an id column, the side with the label
column the builders put on it (`extend({id_column: '"name"'})`) -/
def labelSide (x : Ops) (idc : Option String) (name : String) : Except Err Ops :=
  match idc with
  | none => .ok x
  | some c => build x (.extend [(c, .value (.str name))] .none [] [])

/-- `R x r s q s'`: the pipeline `x` (a source, the emulation pipeline of a FULL
join, a labelled side) is translated for the request `r`, from the name counter `s`, to `q`, leaving the counter at
`s'`.  `ToNearStep cfg R p usg s q s'`: so is the node `p` for the request `usg` (`using`, or all columns). -/
inductive ToNearStep (cfg : SqlCfg) (R : Ops → List String → Nat → Near → Nat → Prop) :
    Ops → List String → Nat → Near → Nat → Prop
  | table {name cs usg s} (hcols : ∀ c ∈ usg, c ∈ cs)
      (hb : (!usg.isEmpty && !(subset usg cs && subset cs usg)) = false) :
      ToNearStep cfg R (.table name cs) usg s (.table name (cs.filter (fun c => usg.contains c))) s
  | tableRef {name cs usg s} (hcols : ∀ c ∈ usg, c ∈ cs)
      (hb : (!usg.isEmpty && !(subset usg cs && subset cs usg)) = true) :
      ToNearStep cfg R (.table name cs) usg s
        (.unary s!"table_reference_{s}" (mkTerms (usg.map (fun k => (k, STerm.pass)))) false
          (.table name (cs.filter (fun c => usg.contains c))) (some usg) .none false none
          (keyOfNode "table" (.table name cs) usg)) (s + 1)
  | step {p src σ usg sub s s1} (hp : p.sources = [src]) (hσ : stepSpec p usg = some σ)
      (hsub : R src σ.req s sub s1) : ToNearStep cfg R p usg s (σ.near sub s1) (s1 + 1)
  | rekey {p src S sel usg sub q s s1} (hp : p.sources = [src]) (hk : rekeySpec p usg = some (S, sel))
      (hsub : R src S s sub s1) (hq : setTermKeys sub S sel = some q) : ToNearStep cfg R p usg s q s1
  | extPrune {src ops part order rev w usg q s s'}
      (he : (extSubops ops (extUsg usg part order rev)).isEmpty = true)
      (hsub : R src (extUsg usg part order rev) s q s') :
      ToNearStep cfg R (.extend src ops part order rev w) usg s q s'
  | extNew {src ops part order rev w usg U S sub s s1} (hU : extUsg usg part order rev = U)
      (hS : ((Ops.extend src ops part order rev w).usedFromSources U).headD [] = S)
      (hne : (extSubops ops U).isEmpty = false) (hcols : ∀ c ∈ U, c ∈ (Ops.extend src ops part order rev w).cols)
      (hsub : R src S s sub s1) :
      ToNearStep cfg R (.extend src ops part order rev w) usg s
        (extFallback (.extend src ops part order rev w) s1 (extTerms ops U (extWin part order rev w))
          (extDeps ops U (extWindowVars part order w)) sub S) (s1 + 1)
  | extMerge {src ops part order rev w usg U S sname sterms sagg ssub scols sdeps skey s s1}
      (hU : extUsg usg part order rev = U)
      (hS : ((Ops.extend src ops part order rev w).usedFromSources U).headD [] = S)
      (hne : (extSubops ops U).isEmpty = false) (hcols : ∀ c ∈ U, c ∈ (Ops.extend src ops part order rev w).cols)
      (hm : cfg.merges = true)
      (hsub : R src S s (.unary sname (some sterms) sagg ssub scols .none true (some sdeps) skey) s1)
      (hc : contention (extDeps ops U (extWindowVars part order w)) (extTerms ops U (extWin part order rev w)) sdeps
        sterms = []) :
      ToNearStep cfg R (.extend src ops part order rev w) usg s
        (extMerged (.extend src ops part order rev w) sname sterms sagg ssub scols sdeps
          (extTerms ops U (extWin part order rev w)) (extDeps ops U (extWindowVars part order w))) s1
  | join {a b l r onA onB oa ob usg0 usg ul ur jt jt' lf nl nr s s1 s2}
      (hfull : (cfg.emulateRightFull && jt == .full) = false)
      (hsides : (if (cfg.emulateRightFull && jt == .right) = true then (b, a, onB, onA, JoinType.left, false)
        else (a, b, onA, onB, jt, true)) = (l, r, oa, ob, jt', lf))
      (husg : joinUsg (.join a b onA onB jt) usg0 = usg) (hul : sideCols l.cols usg onA onB = ul)
      (hur : sideCols r.cols usg onA onB = ur) (hne : usg ≠ [])
      (hcols : ∀ c ∈ usg, c ∈ (Ops.join a b onA onB jt).cols)
      (hl : R l ul (s + 1) nl s1) (hr : R r ur s1 nr s2) :
      ToNearStep cfg R (.join a b onA onB jt) usg0 s
        (.join s!"natural_join_{s}" (joinTerms lf usg ul ur) nl ul s!"join_source_left_{s}" nr ur
          s!"join_source_right_{s}" jt' oa ob
          (keyOfNode "join" (.join a b onA onB jt) ((joinTerms lf usg ul ur).map (·.1)))) s2
  | joinFull {a b onA onB usg sim q s s'} (hemu : cfg.emulateRightFull = true) (hne : onA ≠ []) (heq : onA = onB)
      (hsim : fullSim a b onA = .ok sim) (hsub : R sim usg s q s') :
      ToNearStep cfg R (.join a b onA onB .full) usg s q s'
  | concat {a b idc an bn usg0 usg uj a' b' nl nr s s1 s2} (husg : joinUsg (.concat a b idc an bn) usg0 = usg)
      (hcols : ∀ c ∈ usg, c ∈ (Ops.concat a b idc an bn).cols)
      (hab : ∀ x ∈ a.cols, x ∈ usg → x ∈ b.cols)
      (huj : ∀ x, x ∈ uj ↔ (x ∈ a.cols ∧ x ∈ usg) ∨ some x = idc)
      (ha : labelSide a idc an = .ok a') (hb : labelSide b idc bn = .ok b')
      (hl : R a' uj s nl s1) (hr : R b' uj s1 nr s2) :
      ToNearStep cfg R (.concat a b idc an bn) usg0 s
        (.union s!"concat_rows_{s2}" uj nl nr uj (keyOfNode "concat" (.concat a b idc an bn) uj)) (s2 + 1)

theorem toNear_zero_ne_ok {p : Ops} {u : Option (List String)} {st : Nat} {r : Near × Nat} :
    toNear cfg 0 p u st ≠ .ok r := by
  rw [toNear]; exact liftE_error_ne_ok

theorem toNear_getD (fuel : Nat) (p : Ops) (u : Option (List String)) :
    toNear cfg fuel p u = toNear cfg fuel p (some (u.getD p.cols)) := by
  cases u with
  | some _ => rfl
  | none => cases fuel with
    | zero => rfl
    | succ fuel => cases p <;> rfl

theorem toNear_succ_inv {fuel : Nat} {p : Ops} {u : Option (List String)} {s s' : Nat} {q : Near}
    (h : toNear cfg (fuel + 1) p u s = .ok (q, s')) :
    ToNearStep cfg (fun x r s q s' => toNear cfg fuel x (some r) s = .ok (q, s')) p (u.getD p.cols) s q s' := by
  cases p with
  | project | selectRows | order | mapCols | rename =>
    rw [toNear_step fuel rfl rfl] at h
    obtain ⟨sub, s1, hsub, e⟩ := stepM_ok.mp h
    cases e
    exact .step rfl rfl hsub
  | selectCols | dropCols =>
    rw [toNear_rekey fuel rfl rfl] at h
    obtain ⟨sub, hsub, hq⟩ := rekeyM_ok.mp h
    exact .rekey rfl rfl hsub hq
  | convert => rw [toNear] at h; exact absurd h liftE_error_ne_ok
  | table name cs =>
    rw [toNear] at h
    obtain ⟨_, _, h1, h⟩ := bindM_ok.mp h
    obtain ⟨hsub, e⟩ := guardM_ok.mp h1
    cases e
    split at h
    · rename_i hb
      obtain ⟨i, _, hi, h⟩ := bindM_ok.mp h
      cases fresh_ok.mp hi
      cases pureM_ok.mp h
      exact .tableRef (subset_iff.mp hsub) hb
    · rename_i hb
      cases pureM_ok.mp h
      exact .table (subset_iff.mp hsub) (Bool.eq_false_iff.mpr hb)
  | extend src ops part order rev w =>
    rw [toNear_getD, toNear_extend_eq] at h
    split at h
    · rename_i he
      exact .extPrune he h
    · rename_i hne
      obtain ⟨_, _, h1, h⟩ := bindM_ok.mp h
      cases (guardM_ok.mp h1).2
      obtain ⟨_, _, h2, h⟩ := bindM_ok.mp h
      obtain ⟨hcols, e⟩ := guardM_ok.mp h2
      cases e
      obtain ⟨sub, s1, hsub, h⟩ := bindM_ok.mp h
      rcases extEmit_cases cfg _ _ _ sub _ with e | ⟨hm, _, _, _, _, _, _, _, rfl, hc, e⟩ <;> rw [e] at h
      · obtain ⟨i, _, hi, h⟩ := bindM_ok.mp h
        cases fresh_ok.mp hi
        cases pureM_ok.mp h
        exact .extNew rfl rfl (Bool.eq_false_iff.mpr hne) (subset_iff.mp hcols) hsub
      · cases pureM_ok.mp h
        exact .extMerge rfl rfl (Bool.eq_false_iff.mpr hne) (subset_iff.mp hcols) hm hsub hc
  | join a b onA onB jt =>
    rw [toNear] at h
    split at h
    · rename_i hf
      obtain ⟨hemu, hjt⟩ := Bool.and_eq_true_iff.mp hf
      cases eq_of_beq hjt
      obtain ⟨_, _, h1, h⟩ := bindM_ok.mp h
      obtain ⟨hne, e⟩ := guardM_ok.mp h1
      cases e
      obtain ⟨_, _, h2, h⟩ := bindM_ok.mp h
      obtain ⟨heq, e⟩ := guardM_ok.mp h2
      cases e
      obtain ⟨sim, _, h3, h⟩ := bindM_ok.mp h
      obtain ⟨_, hsim, e⟩ := liftE_ok.mp h3
      cases e
      exact .joinFull hemu (by simpa using hne) (by simpa using heq) hsim h
    · rename_i hf
      obtain ⟨i, _, h1, h⟩ := bindM_ok.mp h
      cases fresh_ok.mp h1
      obtain ⟨_, _, h2, h⟩ := bindM_ok.mp h
      obtain ⟨hne, e⟩ := guardM_ok.mp h2
      cases e
      obtain ⟨_, _, h3, h⟩ := bindM_ok.mp h
      obtain ⟨hcols, e⟩ := guardM_ok.mp h3
      cases e
      obtain ⟨nl, s1, hl, h⟩ := bindM_ok.mp h
      obtain ⟨nr, s2, hr, h⟩ := bindM_ok.mp h
      cases pureM_ok.mp h
      exact .join (Bool.eq_false_iff.mpr hf) rfl rfl rfl rfl (by simpa [joinUsg] using hne) (subset_iff.mp hcols) hl hr
  | concat a b idc an bn =>
    rw [toNear] at h
    simp only [concat_used_left, concat_used_right] at h
    obtain ⟨_, _, h1, h⟩ := bindM_ok.mp h
    obtain ⟨hcols, e⟩ := guardM_ok.mp h1
    cases e
    obtain ⟨_, _, h2, h⟩ := bindM_ok.mp h
    obtain ⟨hlr, e⟩ := guardM_ok.mp h2
    cases e
    have hab : ∀ x ∈ a.cols, x ∈ joinUsg (.concat a b idc an bn) (u.getD (Ops.concat a b idc an bn).cols) →
        x ∈ b.cols :=
      fun x hx hu => (mem_filter_contains.mp (subset_iff.mp (Bool.and_eq_true_iff.mp hlr).1 x
        (mem_filter_contains.mpr ⟨hx, hu⟩))).1
    cases idc with
    | none =>
      obtain ⟨nl, s1, hl, h⟩ := bindM_ok.mp h
      obtain ⟨nr, s2, hr, h⟩ := bindM_ok.mp h
      obtain ⟨i, _, hi, h⟩ := bindM_ok.mp h
      cases fresh_ok.mp hi
      cases pureM_ok.mp h
      refine .concat rfl (subset_iff.mp hcols) hab (fun x => ?_) rfl rfl hl hr
      rw [mem_filter_contains]
      exact ⟨Or.inl, fun h => h.elim id nofun⟩
    | some c =>
      obtain ⟨a', _, h3, h⟩ := bindM_ok.mp h
      obtain ⟨_, hba, e⟩ := liftE_ok.mp h3
      cases e
      obtain ⟨nl, s1, hl, h⟩ := bindM_ok.mp h
      obtain ⟨b', _, h5, h⟩ := bindM_ok.mp h
      obtain ⟨_, hbb, e⟩ := liftE_ok.mp h5
      cases e
      obtain ⟨nr, s2, hr, h⟩ := bindM_ok.mp h
      obtain ⟨i, _, hi, h⟩ := bindM_ok.mp h
      cases fresh_ok.mp hi
      cases pureM_ok.mp h
      refine .concat rfl (subset_iff.mp hcols) hab (fun x => ?_) hba hbb hl hr
      rw [mem_unionL, mem_filter_contains, List.mem_singleton, Option.some.injEq]
      rfl

theorem stepSpec_req {p src : Ops} {σ : StepSpec} {usg : List String} (hp : p.sources = [src])
    (hσ : stepSpec p usg = some σ) (hsq : SqlWF p) (hu : ∀ c ∈ usg, c ∈ p.cols) :
    ∀ c ∈ σ.req, c ∈ src.cols := by
  intro c hc
  cases p with
  | table | extend | selectCols | dropCols | join | concat | convert => cases hσ
  | selectRows s e =>
    cases hσ; cases hp
    obtain ⟨_, he⟩ := SqlWF.selectRows_iff.mp hsq
    rcases mem_unionL.mp hc with hc | hc
    · exact (List.mem_filter.mp hc).1
    · exact he c (List.mem_eraseDups.mp hc)
  | order s cs rv lim => cases hσ; cases hp; exact (List.mem_filter.mp hc).1
  | project s ops group =>
    cases hσ; cases hp
    obtain ⟨_, hg, hused, _⟩ := SqlWF.project_iff.mp hsq
    rcases mem_unionL.mp hc with hc | hc
    · exact hg c hc
    · obtain ⟨kv, hkv, hx⟩ := mem_colsUsedOps.mp hc
      exact hused c (List.mem_flatMap.mpr ⟨kv, (List.mem_filter.mp hkv).1, hx⟩)
  | rename s m =>
    cases hσ; cases hp
    obtain ⟨_, hR1, _⟩ := SqlWF.rename_iff.mp hsq
    obtain ⟨c', hc', rfl⟩ := List.mem_map.mp (List.mem_eraseDups.mp hc)
    cases hl : lookupLast m c' with
    | some o => exact hR1 _ (lookupLast_mem hl)
    | none =>
      obtain ⟨c0, hc0, e⟩ := List.mem_map.mp (hu c' hc')
      cases hr : lookupLast (m.map (fun kv => (kv.2, kv.1))) c0 with
      | none => rw [hr] at e; exact e ▸ hc0
      | some nw =>
        rw [hr] at e
        obtain ⟨kv, hkv, e2⟩ := List.mem_map.mp (lookupLast_mem hr)
        exact absurd (List.mem_map.mpr ⟨kv, hkv, ((Prod.mk.inj e2).2).trans e⟩) (lookupLast_eq_none_iff.mp hl)
  | mapCols s m dels =>
    cases hσ; cases hp
    obtain ⟨_, hM1, hM1', _⟩ := SqlWF.mapCols_iff.mp hsq
    rcases mem_unionL.mp hc with hc | hc
    · obtain ⟨c', hc', rfl⟩ := List.mem_map.mp (List.mem_eraseDups.mp hc)
      cases hl : lookupLast (m.map (fun kv => (kv.2, kv.1))) c' with
      | some o =>
        obtain ⟨kv, hkv, e2⟩ := List.mem_map.mp (lookupLast_mem hl)
        exact (Prod.mk.inj e2).2 ▸ hM1 kv hkv
      | none =>
        obtain ⟨c0, hc0, e⟩ := List.mem_map.mp (hu c' hc')
        cases hr : lookupLast m c0 with
        | none => rw [hr] at e; exact e ▸ (List.mem_filter.mp hc0).1
        | some nw =>
          rw [hr] at e
          refine absurd ?_ (lookupLast_eq_none_iff.mp hl)
          rw [List.map_map]
          exact List.mem_map.mpr ⟨(c0, nw), lookupLast_mem hr, e⟩
    · exact hM1' c hc

theorem rekeySpec_req {p src : Ops} {S : List String} {sel : Bool} {usg : List String} (hp : p.sources = [src])
    (hk : rekeySpec p usg = some (S, sel)) (hwf : WF p) (hu : ∀ c ∈ usg, c ∈ p.cols) :
    (∀ c ∈ S, c ∈ src.cols) ∧ ∀ c ∈ usg, c ∈ S := by
  cases p with
  | table | extend | project | selectRows | order | rename | mapCols | join | concat | convert => cases hk
  | selectCols s cs =>
    cases hk; cases hp
    exact ⟨fun c hc => hwf.2.2.2 c (List.mem_filter.mp hc).1,
      fun c hc => mem_filter_contains.mpr ⟨hu c hc, mem_filter_contains.mpr ⟨hu c hc, hc⟩⟩⟩
  | dropCols s dels =>
    cases hk; cases hp
    exact ⟨fun c hc => (List.mem_filter.mp (hu c (List.mem_filter.mp hc).1)).1,
      fun c hc => List.mem_filter.mpr ⟨hc, (List.mem_filter.mp (hu c hc)).2⟩⟩

end Sql
end DAVerif
