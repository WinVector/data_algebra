import DAVerif.Proofs.ExprWalkWfMain
import DAVerif.Generated.ExprTables
/-!
C13: the guard `floatsInScope` of `C13_walk_wf` is necessary *in the model*.

The float model of `Expr/Lex.lean` reads a FLOAT token to its exact decimal value (a rational) and prints a value by
its exact decimal expansion, generating at most 400 digits.  A token such as `1e-801` is read to `10^-801`, whose model
spelling `0.000…0e-400` (400 zeros) reads back as `0`: the constant is not `litOk`, the walked term not `wf`.
This is a limit of the *model* (its stated scope is: values exactly representable in binary64 with at most 15
significant digits), not of the code: Python reads `1e-801` to `0.0`, prints `0.0`, and the round trip holds
(checked on the real parser).

The spelling is computed on lists of characters (`reprFloatChars`, `decodeFloatChars`, equal to the string functions by
`toList_reprFloat`, `decodeFloat_eq`): `decide +kernel` evaluates the list functions, with no `String.ofList` /
`String.toList` in between.
-/
namespace DAVerif.Expr
open DAVerif.C13W

def reprFloatChars (q : Rat) : List Char :=
  let neg := q < 0
  let a := if neg then -q else q
  let sign := if neg then ['-'] else []
  if a = 0 then sign ++ ['0', '.', '0'] else
  let e := decExp a
  if e < -4 || e ≥ 16 then
    let m : Rat := if e ≥ 0 then a / ((10 : Rat) ^ e.toNat) else a * ((10 : Rat) ^ (-e).toNat)
    let ip := m.floor.toNat
    let fd := fracDigits 400 (m - ip)
    let mant := (toString ip).toList ++ (if fd.isEmpty then [] else '.' :: fd)
    let ea := e.natAbs
    let es := (if ea < 10 then ['0'] else []) ++ (toString ea).toList
    sign ++ mant ++ ['e'] ++ (if e < 0 then ['-'] else ['+']) ++ es
  else
    let ip := a.floor.toNat
    let fd := fracDigits 400 (a - ip)
    sign ++ (toString ip).toList ++ ['.'] ++ (if fd.isEmpty then ['0'] else fd)

theorem toList_reprFloat (q : Rat) : (reprFloat q).toList = reprFloatChars q := by
  simp only [reprFloat, reprFloatChars, apply_ite String.toList, String.toList_append, String.toList_ofList]
  rfl

def decodeFloatChars (cs : List Char) : Option Rat :=
  let ip := cs.takeWhile isDigit
  let r1 := cs.dropWhile isDigit
  let (fp, r2) := match r1 with
    | '.' :: t => (t.takeWhile isDigit, t.dropWhile isDigit)
    | _ => ([], r1)
  if ip.isEmpty && fp.isEmpty then none else
  let mant : Rat := (digitsToNat ip : Rat) + (digitsToNat fp : Rat) / ((10 : Rat) ^ fp.length)
  match r2 with
  | [] => some mant
  | c :: t =>
    if c == 'e' || c == 'E' then
      let (sg, ds) := match t with
        | '+' :: d => (false, d)
        | '-' :: d => (true, d)
        | d => (false, d)
      if ds ≠ [] && ds.all isDigit then
        let ex := digitsToNat ds
        some (if sg then mant / ((10 : Rat) ^ ex) else mant * ((10 : Rat) ^ ex))
      else none
    else none

theorem decodeFloat_eq (s : String) : decodeFloat s = decodeFloatChars s.toList := rfl

theorem litOk_flt (q : Rat) :
    litOk (.flt q) = (let a := if q < 0 then -q else q; decodeFloatChars (reprFloatChars a) == some a) := by
  simp only [litOk, decodeFloat_eq, toList_reprFloat]

/-- A FLOAT token whose value does not re-read from its model spelling: the one-token text is accepted by the parser
model and the walker, all other guards hold, and the walked constant is not well-formed. -/
theorem float_token_not_wf (env : Env) {s : String} {q : Rat} (h : decodeFloat s = some q)
    (hq : litOk (.flt q) = false) :
    ∃ c, parseToks [⟨.float, s⟩] = .ok c ∧ gram c = true ∧ noDunderCall c = true ∧ calleeIsName c = true ∧
      floatsInScope c = false ∧ walkedWf env c = some false := by
  refine ⟨.node "number" [.tok ⟨.float, s⟩], rfl, gram_wrapper classify_number _, rfl, rfl, ?_, ?_⟩
  · simp [floatsInScope, allP, allPL, floatTokOk, h, hq]
  · simp [walkedWf, walk, classify_number, walkTok, h, Except.toOption, wf, hq]

theorem decodeFloat_1em801 : decodeFloat "1e-801" = some ((1 : Rat) / 10 ^ 801) := by decide +kernel

/-- the model spelling of `10^-801` is `0.` followed by 400 zeros and `e-400`, which reads back as `0` -/
theorem litOk_1em801 : litOk (.flt ((1 : Rat) / 10 ^ 801)) = false := by
  have hrepr : reprFloatChars ((1 : Rat) / 10 ^ 801) = '0' :: '.' :: List.replicate 400 '0' ++ "e-400".toList := by
    decide +kernel
  have hread : decodeFloatChars ('0' :: '.' :: List.replicate 400 '0' ++ "e-400".toList) = some 0 := by
    decide +kernel
  rw [litOk_flt]
  simp only [show ¬ ((1 : Rat) / 10 ^ 801 < 0) by decide +kernel, if_false, hrepr, hread]
  decide +kernel

/-- **Guard `floatsInScope` is necessary (model scope).** The one-token text `1e-801` is accepted by the parser model
and the walker, all other guards hold, and the walked constant is not well-formed. -/
theorem C13_walk_wf_float_necessary :
    ∃ c, parseToks [⟨.float, "1e-801"⟩] = .ok c ∧ gram c = true ∧ noDunderCall c = true ∧ calleeIsName c = true ∧
      floatsInScope c = false ∧ walkedWf (Generated.env []) c = some false :=
  float_token_not_wf _ decodeFloat_1em801 litOk_1em801

end DAVerif.Expr
