import DAVerif.Proofs.SqlMergeMain
import DAVerif.Proofs.SqlJoinSqlite
import DAVerif.Proofs.SqlFullTrans
import DAVerif.Proofs.SqlNestedScope
import DAVerif.Proofs.SqlOrder
/-!
C01/C02/C16: the main induction of the translation proof, once for every dialect configuration (`cfg.merges`, i.e.
`allow_extend_merges`, on or off; RIGHT / FULL joins native or emulated), and the theorems about `to_sql` at the root
for pipelines whose joins the dialect renders natively.

Every pipeline `p` in the structural scope `InScope` has a table `tp'`, the rows as the SQL lists them (`Lists`), against
which every translation of `p` is `Sound` with list equality (`NodeOK`) and keeps the invariant of mergeable steps
(`NodeM`). When the dialect renders every join of `p` natively, `tp'` is the table of `p` under the engine's row ordering
(`semE ec`), with no hypothesis on data or `Θ` (stage A of C01); within the data-side scope `ScopeE` it is the table of
the reference semantics `sem` up to row order (emulated joins anywhere, `Proofs/SqlNested.lean`).

The induction (`claim_all`) is on the fuel, over all pipelines in scope at once: the translation of SQLite's FULL join
re-enters `toNear` on the pipeline `fullSimOps a b K` the builders construct, which is not a sub-pipeline.
-/
namespace DAVerif
namespace Sql
namespace SqlE
open DAVerif.Ops (usedFromSources unionL)
open Rules26 (usedBy keys partCols windowedSituation)

variable {Θ : Interp} {ec : EngineCfg} {env : Env} {G : Near → Prop} {cfg : SqlCfg}

/-- a join step (any join not emulated through the key union) and a `UNION ALL` step are never marked `mergeable`: an
`extend` on top of a join / concat is a new step -/
theorem nodeM_join (fuel : Nat) (a b : Ops) (onA onB : List String) {jt : JoinType}
    (hnf : ¬ (cfg.emulateRightFull = true ∧ jt = .full)) : NodeM cfg (fuel + 1) (.join a b onA onB jt) :=
  fun _ _ _ _ _ h => (toNear_succ_inv h).mergeInv (fun _ _ _ _ _ _ => nofun) rfl
    (fun _ _ _ _ e hemu => absurd ⟨hemu, by cases e; rfl⟩ hnf)

theorem nodeM_concat (fuel : Nat) (a b : Ops) (idc : Option String) (an bn : String) :
    NodeM cfg (fuel + 1) (.concat a b idc an bn) :=
  nodeM_plain fuel rfl

structure Lists (Θ : Interp) (ec : EngineCfg) (env : Env) (cfg : SqlCfg) (p : Ops) (tp' : Table) : Prop where
  native : JoinsNative cfg p → semE ec Θ SemCfg.ref env p = .ok tp'
  equiv : ScopeE Θ env cfg p → ∀ tp, semG rowLe Θ SemCfg.ref env p = .ok tp → tp ≈ tp'
  cols : tp'.cols = p.cols
  wf : tp'.WF

namespace Lists

theorem table {name : String} {cs : List String} {t : Table} (hl : env.lookup name = some t)
    (hsub : ∀ c ∈ cs, c ∈ t.cols) : Lists Θ ec env cfg (.table name cs) (t.selectCols cs) := by
  have e : ∀ le : RowCmp, semG le Θ SemCfg.ref env (.table name cs) = .ok (t.selectCols cs) := fun le => by
    simp only [semG, hl, subset_iff.mpr hsub, ↓reduceIte]
  exact ⟨fun _ => e _, fun _ tp h => .of_eq (Except.ok.inj ((e _).symm.trans h)).symm, rfl, Table.wf_selectCols _ _⟩

theorem unary {p src : Ops} (hs : p.sources = [src]) (hf : InFragJ p = true) {ts' tp' : Table}
    (h : Lists Θ ec env cfg src ts') (hstep : stepG (sqlRowLe ec) Θ p ts' = .ok tp') : Lists Θ ec env cfg p tp' := by
  have hm : src ∈ p.sources := hs ▸ List.mem_cons_self
  obtain ⟨hc, hw⟩ := stepG_cols_wf (sqlRowLe ec) Θ hs (Or.inl hf) ⟨h.cols, h.wf⟩ hstep
  refine ⟨fun hn => ?_, fun hsc tp htp => ?_, hc, hw⟩
  · rw [semE, semG_unary _ Θ _ env hs, ← semE, h.native (JoinsNative.source hn hm)]
    exact hstep
  · obtain ⟨ts, hts, hst⟩ := semG_unary_ok hs htp
    obtain ⟨tq, htq, e⟩ := (stepG_equiv ec Θ SemCfg.ref env hs hsc.aggs (Or.inl hf) hsc.wins hsc.sql
      (semG_rowLe Θ _ env src ▸ hts) (h.equiv (hsc.source hm) ts hts)).of_ok hst
    cases hstep.symm.trans htq
    exact e

theorem join {a b : Ops} (oa ob : List String) (jt : JoinType) {ta' tb' : Table} (ha : Lists Θ ec env cfg a ta')
    (hb : Lists Θ ec env cfg b tb') :
    Lists Θ ec env cfg (.join a b oa ob jt)
      ((semJoin SemCfg.ref jt oa ob ta' tb' (appendNew a.cols b.cols)).selectCols (Ops.join a b oa ob jt).cols) := by
  refine ⟨fun hn => ?_, fun hsc tp htp => ?_, rfl, Table.wf_selectCols _ _⟩
  · rw [semE, semG, ← semE, ha.native (JoinsNative.source hn List.mem_cons_self),
      hb.native (JoinsNative.source hn (List.mem_cons_of_mem _ List.mem_cons_self))]
    rfl
  · obtain ⟨ta, tb, hta, htb, rfl⟩ := semG_join_ok htp
    exact (semJoin_equiv SemCfg.ref jt oa ob (ha.equiv (hsc.source List.mem_cons_self) ta hta)
      (hb.equiv (hsc.source (List.mem_cons_of_mem _ List.mem_cons_self)) tb htb) _).selectCols _

theorem not_native {a b : Ops} {oa ob : List String} {jt : JoinType} (hemu : cfg.emulateRightFull = true)
    (hjt : jt = .right ∨ jt = .full) : ¬ JoinsNative cfg (.join a b oa ob jt) := fun hn => by
  have := and_right hn
  rw [hemu] at this
  rcases hjt with rfl | rfl <;> cases this

/-- SQLite's RIGHT join lists the reference RIGHT join right-row-major -/
theorem right {a b : Ops} (oa ob : List String) (hemu : cfg.emulateRightFull = true) {ta' tb' : Table}
    (ha : Lists Θ ec env cfg a ta') (hb : Lists Θ ec env cfg b tb') :
    Lists Θ ec env cfg (.join a b oa ob .right) (swapJoinTable a b oa ob ta' tb') := by
  refine ⟨fun hn => absurd hn (not_native hemu (Or.inl rfl)), fun hsc tp htp => ?_, rfl, ?_⟩
  · exact ((join oa ob .right ha hb).equiv hsc tp htp).trans (swapJoinTable_equiv a b oa ob ha.cols hb.cols)
  · exact swapJoinTable_wf a b oa ob ta' tb'

theorem full {a b : Ops} {K : List String} (hemu : cfg.emulateRightFull = true) (hK : K ≠ [])
    (hKa : ∀ c ∈ K, c ∈ a.cols) (hKb : ∀ c ∈ K, c ∈ b.cols) (hg : Good ⟨false, false⟩ env (.join a b K K .full))
    (hgs : Good ⟨false, false⟩ env (fullSimOps a b K)) {tsim' : Table} (h : Lists Θ ec env cfg (fullSimOps a b K) tsim') :
    Lists Θ ec env cfg (.join a b K K .full)
      ⟨(Ops.join a b K K .full).cols, tsim'.rows.map (fun r => r.select (Ops.join a b K K .full).cols)⟩ := by
  refine ⟨fun hn => absurd hn (not_native hemu (Or.inr rfl)), fun hsc tp htp => ⟨?_, ?_⟩, rfl, ?_⟩
  · exact (semG_cols_wf_fragJ _ Θ SemCfg.ref env _ hg.frag tp htp).1
  · obtain ⟨ta, tb, hta, htb, rfl⟩ := semG_join_ok htp
    have hsa := hsc.source (s := a) List.mem_cons_self
    have hsb := hsc.source (s := b) (List.mem_cons_of_mem _ List.mem_cons_self)
    obtain ⟨tsim, htsim⟩ := semG_ok_fragJ rowLe Θ SemCfg.ref env _ hgs.frag false hgs.env
    have hfa := (hg.source (s := a) List.mem_cons_self).frag
    have hfb := (hg.source (s := b) (List.mem_cons_of_mem _ List.mem_cons_self)).frag
    have hperm := fullSimOps_rows_perm hK hKa hKb hfa hfb hta htb htsim
      ((hsc.full.2.2 hemu rfl).1 ta (semG_rowLe Θ _ env a ▸ hta)) ((hsc.full.2.2 hemu rfl).2 tb (semG_rowLe Θ _ env b ▸ htb))
      _ (fun c hc => hc)
    have h1 := hperm.symm.trans ((h.equiv (scopeE_fullSim K hsa hsb) tsim htsim).2.map _)
    simp only [Table.selectCols] at h1 ⊢
    rwa [select_map_select _ (fun c hc => hc)] at h1
  · exact wf_of_select _ _ fun r hr => by
      obtain ⟨r0, _, rfl⟩ := List.mem_map.mp hr
      exact ⟨_, rfl⟩

theorem concat {a b : Ops} (idc : Option String) (an bn : String) {ta' tb' : Table} (ha : Lists Θ ec env cfg a ta')
    (hb : Lists Θ ec env cfg b tb') :
    Lists Θ ec env cfg (.concat a b idc an bn) (semConcat idc an bn ta' tb' (Ops.concat a b idc an bn).cols) := by
  refine ⟨fun hn => ?_, fun hsc tp htp => ?_, rfl, semConcat_wf _ _ _ _ _ _⟩
  · rw [semE, semG, ← semE, ha.native (JoinsNative.source hn List.mem_cons_self),
      hb.native (JoinsNative.source hn (List.mem_cons_of_mem _ List.mem_cons_self))]
    rfl
  · obtain ⟨ta, tb, hta, htb, rfl⟩ := semG_concat_ok htp
    exact semConcat_equiv idc an bn (ha.equiv (hsc.source List.mem_cons_self) ta hta)
      (hb.equiv (hsc.source (List.mem_cons_of_mem _ List.mem_cons_self)) tb htb) _

end Lists

theorem Lists.exists {p : Ops} (hg : Good ⟨false, false⟩ env p) : ∃ tp', Lists Θ ec env cfg p tp' := by
  induction p using Ops.sources_induction with
  | table name cs =>
    obtain ⟨t, hl, hsub, _⟩ := hg.env (name, cs) (List.mem_singleton.mpr rfl)
    exact ⟨_, .table hl hsub⟩
  | un p src hs ih =>
    obtain ⟨ts', h⟩ := ih (hg.source (hs ▸ List.mem_cons_self))
    obtain ⟨tp', hstep⟩ := stepG_ok (le := sqlRowLe ec) (Θ := Θ) hs hg.frag ts'
    exact ⟨tp', h.unary hs hg.frag hstep⟩
  | bin p a b hs iha ihb =>
    obtain ⟨ta', ha⟩ := iha (hg.source (hs ▸ List.mem_cons_self))
    obtain ⟨tb', hb⟩ := ihb (hg.source (hs ▸ List.mem_cons_of_mem _ List.mem_cons_self))
    cases p <;> cases hs
    · exact ⟨_, .join _ _ _ ha hb⟩
    · exact ⟨_, .concat _ _ _ ha hb⟩

/-- The labelled side of a `concat_rows` with id column. `hSrc` asks of the source of `a` what `hA` asks of `a`: when `a`
is an un-windowed extend node the builder merges the label assignment into it, and the labelled side is an extend node
on that source. -/
theorem labelNodeOK_listed {a : Ops} {c name : String} (hwf : WF a) (hfs : InFragJ a = true) (hstrip : strip a = a)
    (hc : c ∉ a.cols) (fuel : Nat)
    (hA : ∃ ta', Lists Θ ec env cfg a ta' ∧ ∀ ops part od rv w, ExtOK a.cols ops part od rv w →
      NodeOK Θ ec env G cfg fuel (.extend a ops part od rv w) (extRef Θ ec a ops part od rv w ta'))
    (hSrc : ∀ src ops1 p o r w, a = .extend src ops1 p o r w →
      ∃ ts', Lists Θ ec env cfg src ts' ∧ ∀ ops part od rv w', ExtOK src.cols ops part od rv w' →
        NodeOK Θ ec env G cfg fuel (.extend src ops part od rv w') (extRef Θ ec src ops part od rv w' ts')) :
    ∃ ta', Lists Θ ec env cfg a ta' ∧ LabelNodeOK Θ ec env G cfg fuel a c name ta' := by
  cases hb : build a (.extend [(c, .value (.str name))] .none [] []) with
  | error e =>
    obtain ⟨ta', h1, _⟩ := hA
    exact ⟨ta', h1, fun a' hb' => by rw [hb] at hb'; cases hb'⟩
  | ok a₀ =>
    rcases build_label_cases hwf hstrip hc hb with ⟨rfl, hE⟩ | ⟨src, ops1, rfl, rfl, hE⟩
    · -- the label step on top of `a`
      obtain ⟨ta', e, hN⟩ := hA
      refine ⟨ta', e, fun a' hb' => ?_⟩
      rw [hb] at hb'
      cases hb'
      have hcols := label_cols_plain a c name
      exact ⟨hcols, _, hN _ _ _ _ _ hE, fun u' hu' =>
        label_rows_plain Θ c name ta' (fun x hx => (hcols x).mpr (hu' x hx))⟩
    · -- the label assignment merged into the side's own un-windowed extend node
      obtain ⟨ts', e, hN⟩ := hSrc src ops1 [] [] [] false rfl
      refine ⟨_, e.unary (p := .extend src ops1 [] [] [] false) rfl hfs rfl, fun a' hb' => ?_⟩
      rw [hb] at hb'
      cases hb'
      have hcols := label_cols_merged src ops1 c name
      exact ⟨hcols, _, hN _ _ _ _ _ hE, fun u' hu' =>
        label_rows_merged Θ ops1 c name ts' (fun x hx => (hcols x).mpr (hu' x hx)) hu'⟩

structure Holds (Θ : Interp) (ec : EngineCfg) (env : Env) (cfg : SqlCfg) (fuel : Nat) (p : Ops) (tp' : Table) :
    Prop where
  lists : Lists Θ ec env cfg p tp'
  node : NodeOK Θ ec env (fun q => q.isJU = true) cfg fuel p tp'
  merge : NodeM cfg fuel p

def Claim (Θ : Interp) (ec : EngineCfg) (env : Env) (cfg : SqlCfg) (fuel : Nat) : Prop :=
  ∀ p, InScope cfg env p → ∃ tp', Holds Θ ec env cfg fuel p tp'

theorem Holds.unary {fuel : Nat} {p src : Ops} (hs : p.sources = [src]) (hg : InScope cfg env p) {ts' : Table}
    (h : Holds Θ ec env cfg fuel src ts') : ∃ tp', Holds Θ ec env cfg (fuel + 1) p tp' := by
  obtain ⟨tp', hstep⟩ := stepG_ok (le := sqlRowLe ec) (Θ := Θ) hs hg.good.frag ts'
  have hn := nodeOK_unary (shapeOK_ju Θ ec env) hs hg.good.wf hg.good.sqlwf hg.good.maps fuel ⟨h.lists.cols, h.lists.wf⟩
    hstep h.node h.merge
  exact ⟨tp', h.lists.unary hs hg.good.frag hstep, hn.1, hn.2⟩

theorem claim_all (Θ : Interp) (ec : EngineCfg) (env : Env) (cfg : SqlCfg) : ∀ fuel, Claim Θ ec env cfg fuel := by
  have hG := shapeOK_ju Θ ec env
  have hJU : ∀ q : Near, q.isJU = true → (fun q : Near => q.isJU = true) q := fun _ h => h
  intro fuel
  induction fuel using Nat.strongRecOn with
  | _ fuel ih =>
  cases fuel with
  | zero =>
    intro p hg
    obtain ⟨tp', h⟩ := Lists.exists (Θ := Θ) (ec := ec) (cfg := cfg) hg.good
    exact ⟨tp', h, nodeOK_zero _ _ _ _ _ _ _, nodeM_zero _ _⟩
  | succ n =>
  have ihn : Claim Θ ec env cfg n := ih n (Nat.lt_succ_self n)
  -- for the label step of a `concat_rows`, which is an extend node on a side or on the source of a side
  have extClaim : ∀ x, InScope cfg env x → ∃ tx', Lists Θ ec env cfg x tx' ∧
      ∀ ops part od rv w, ExtOK x.cols ops part od rv w →
        NodeOK Θ ec env (fun q => q.isJU = true) cfg n (.extend x ops part od rv w)
          (extRef Θ ec x ops part od rv w tx') := by
    intro x hgx
    cases n with
    | zero =>
      obtain ⟨tx', h⟩ := Lists.exists (Θ := Θ) (ec := ec) (cfg := cfg) hgx.good
      exact ⟨tx', h, fun _ _ _ _ _ _ => nodeOK_zero _ _ _ _ _ _ _⟩
    | succ m =>
      obtain ⟨tx', h⟩ := ih m (by omega) x hgx
      exact ⟨tx', h.lists, fun ops part od rv w hE => (nodeOK_extend_merge hG m x ops part od rv w hE h.node h.merge).1⟩
  intro p hg
  cases p with
  | table name cs =>
    obtain ⟨t, hl, hsub, _⟩ := hg.good.env (name, cs) (List.mem_singleton.mpr rfl)
    exact ⟨_, .table hl hsub, nodeOK_table hG _ name cs hl hsub, nodeM_table _ name cs⟩
  | convert src rm => exact absurd hg.good.frag nofun
  | join a b oa ob jt =>
    obtain ⟨hga, hgb, hoa, hob, hjt, hlen⟩ := hg.join_sides
    obtain ⟨ta', ha⟩ := ihn a hga
    obtain ⟨tb', hb⟩ := ihn b hgb
    by_cases hnat : cfg.emulateRightFull = false ∨ (jt ≠ .right ∧ jt ≠ .full)
    · exact ⟨_, .join oa ob jt ha.lists hb.lists,
        nodeOK_join hJU n a b oa ob jt hnat hjt hoa hob ha.lists.cols hb.lists.cols ha.node hb.node,
        nodeM_join n a b oa ob (fun h => (hnat.resolve_left (by rw [h.1]; nofun)).2 h.2)⟩
    · have hemu : cfg.emulateRightFull = true := by
        cases h : cfg.emulateRightFull with
        | false => exact absurd (Or.inl h) hnat
        | true => rfl
      have hjt2 : jt = .right ∨ jt = .full := by
        by_cases h1 : jt = .right
        · exact Or.inl h1
        · by_cases h2 : jt = .full
          · exact Or.inr h2
          · exact absurd (Or.inr ⟨h1, h2⟩) hnat
      rcases hjt2 with rfl | rfl
      · -- SQLite's RIGHT join: the swapped LEFT join
        have hle : oa.isEmpty = ob.isEmpty := by
          have := hlen hnat
          cases oa <;> cases ob <;> first | rfl | cases this
        exact ⟨_, .right oa ob hemu ha.lists hb.lists,
          nodeOK_join_sqlite_right hJU n a b oa ob hemu hoa hob hle ha.node hb.node,
          nodeM_join n a b oa ob (fun h => nomatch h.2)⟩
      · -- SQLite's FULL join: the emulation pipeline
        by_cases hsim : oa ≠ [] ∧ oa = ob ∧ ∃ sim, fullSim a b oa = .ok sim
        · obtain ⟨hK, rfl, sim, hsimok⟩ := hsim
          obtain ⟨rfl, hnd, hKa, hKb⟩ := fullSim_shape hsimok
          have hgs := hg.fullSim hemu hK hnd hKa hKb
          obtain ⟨tsim', hs⟩ := ihn _ hgs
          obtain ⟨hNf, hMf⟩ := nodeOK_join_sqlite_full hemu n hKa hs.node hs.merge
          exact ⟨_, .full hemu hK hKa hKb hg.good hgs.good hs.lists, hNf, hMf⟩
        · exact ⟨_, .join oa ob .full ha.lists hb.lists, (nodeOK_full_vacuous hemu n a b oa ob hsim _).1,
            (nodeOK_full_vacuous (Θ := Θ) (ec := ec) (env := env) (G := fun q => q.isJU = true) hemu n a b oa ob hsim
              ⟨[], []⟩).2⟩
  | concat a b idc an bn =>
    have hga := hg.source (s := a) List.mem_cons_self
    have hgb := hg.source (s := b) (List.mem_cons_of_mem _ List.mem_cons_self)
    cases idc with
    | none =>
      obtain ⟨ta', ha⟩ := ihn a hga
      obtain ⟨tb', hb⟩ := ihn b hgb
      exact ⟨_, .concat none an bn ha.lists hb.lists,
        nodeOK_concat hJU n a b none an bn (fun _ => ha.node) (fun _ => hb.node) (fun c h => by cases h)
          (fun c h => by cases h), nodeM_concat n a b none an bn⟩
    | some c =>
      have hplain := Bool.and_eq_true_iff.mp (and_right hg.good.label)
      have hca : c ∉ a.cols := hg.good.wf.2.2 c rfl
      have hcb : c ∉ b.cols := fun h => hca (subset_iff.mp (and_right hg.good.jwf) c h)
      have hsrc : ∀ x, InScope cfg env x → ∀ src ops1 p o r w, x = .extend src ops1 p o r w →
          ∃ ts', Lists Θ ec env cfg src ts' ∧ ∀ ops part od rv w', ExtOK src.cols ops part od rv w' →
            NodeOK Θ ec env (fun q => q.isJU = true) cfg n (.extend src ops part od rv w')
              (extRef Θ ec src ops part od rv w' ts') := by
        intro x hgx src ops1 p o r w e
        subst e
        exact extClaim src (hgx.source List.mem_cons_self)
      obtain ⟨ta', ea, hLa⟩ := labelNodeOK_listed (c := c) (name := an) hga.good.wf hga.good.frag
        (strip_eq_of_noTrivTop hplain.1) hca n
        (extClaim a hga) (hsrc a hga)
      obtain ⟨tb', eb, hLb⟩ := labelNodeOK_listed (c := c) (name := bn) hgb.good.wf hgb.good.frag
        (strip_eq_of_noTrivTop hplain.2) hcb n
        (extClaim b hgb) (hsrc b hgb)
      exact ⟨_, .concat (some c) an bn ea eb,
        nodeOK_concat hJU n a b (some c) an bn (fun h => by cases h) (fun h => by cases h)
          (fun c' h => by cases h; exact hLa) (fun c' h => by cases h; exact hLb),
        nodeM_concat n a b (some c) an bn⟩
  | _ =>
    obtain ⟨ts', h⟩ := ihn _ (hg.source List.mem_cons_self)
    exact h.unary rfl hg

/-- Stage A for every requested column set, every join rendered natively (`Good` includes `JoinsNative`): the reading of
`claim_all` against the table under the engine's row ordering. -/
theorem transOK_fragJ_all (Θ : Interp) (ec : EngineCfg) (env : Env) (cfg : SqlCfg) {p : Ops} (hg : Good cfg env p)
    (fuel : Nat) : TransOK Θ ec env SemCfg.ref (fun q => q.isJU = true) cfg fuel p := by
  obtain ⟨tp', h⟩ := claim_all Θ ec env cfg fuel p (.of_good hg)
  refine transOK_of_node fun tp htp => ?_
  cases (h.lists.native hg.native).symm.trans htp
  exact h.node

theorem nodeM_all (Θ : Interp) (ec : EngineCfg) (env : Env) (cfg : SqlCfg) {p : Ops} (hg : InScope cfg env p) (fuel : Nat) :
    NodeM cfg fuel p := by
  obtain ⟨_, h⟩ := claim_all Θ ec env cfg fuel p hg
  exact h.merge

theorem stageA_root_all (Θ : Interp) (ec : EngineCfg) (env : Env) (cfg : SqlCfg) (p : Ops)
    (hg : Good cfg env p) {fuel st st' : Nat} {q : Near} {tp : Table}
    (h : toNear cfg fuel p none st = .ok (q, st')) (htp : semE ec Θ SemCfg.ref env p = .ok tp) :
    ∃ T, semNear Θ ec env [] q none true = .ok T ∧ (∀ c, c ∈ T.cols ↔ c ∈ p.cols) ∧
      T.rows.map (fun r => r.select p.cols) = tp.rows := by
  obtain ⟨htpc, htpw⟩ := semG_cols_wf_fragJ _ Θ SemCfg.ref env p hg.frag tp htp
  have hself : tp.rows.map (fun r => r.select p.cols) = tp.rows := by
    rw [← htpc]; exact map_select_self_of_wf htpw (by rw [htpc]; exact hg.wf.cols_nodup)
  rw [toNear_getD] at h
  obtain ⟨hju, u₁, hu₁, hu₁', hsound⟩ := transOK_fragJ_all Θ ec env cfg hg fuel p.cols st q st' tp (fun c hc => hc) h htp
  obtain ⟨T, t1, t2, t3⟩ := root_of_sound_ju hsound hju hu₁ hu₁' hg.wf.cols_ne_nil
  exact ⟨T, t1, t2, t3.trans hself⟩

theorem mergeInv_root_all (Θ : Interp) (ec : EngineCfg) (env : Env) (cfg : SqlCfg) (p : Ops)
    (hg : Good cfg env p) {fuel st st' : Nat} {q : Near}
    (h : toNear cfg fuel p none st = .ok (q, st')) : MergeInv q := by
  rw [toNear_getD] at h
  exact nodeM_all Θ ec env cfg (.of_good hg) fuel p.cols st q st' (fun c hc => hc) h

/-- **Stage A for `to_sql`**: if `to_sql` produces `q`, then `q` evaluates, has exactly the declared column set, and its
rows on the declared columns are, in order, the rows of `semE ec Θ SemCfg.ref env p`.  No hypothesis on data or `Θ`. -/
theorem engine_order_all (Θ : Interp) (ec : EngineCfg) (env : Env) (cfg : SqlCfg)
    (p : Ops) (hg : Good cfg env p) {q : Near} (h : toNearSql cfg p = .ok q) :
    ∃ T tp, semSql Θ ec env q = .ok T ∧ semE ec Θ SemCfg.ref env p = .ok tp ∧ tp.cols = p.cols ∧
      (∀ c, c ∈ T.cols ↔ c ∈ p.cols) ∧ T.rows.map (fun r => r.select p.cols) = tp.rows := by
  obtain ⟨st', hrun⟩ := toNearSql_ok h
  obtain ⟨tp, htp⟩ := semG_ok_fragJ (sqlRowLe ec) Θ SemCfg.ref env p hg.frag false hg.env
  obtain ⟨T, h1, h2, h4⟩ := stageA_root_all Θ ec env cfg p hg hrun htp
  exact ⟨T, tp, h1, htp, (semG_cols_wf_fragJ _ Θ SemCfg.ref env p hg.frag tp htp).1, h2, h4⟩

/-- **Multiset scope**: within the scope of C18 and `SqlScope` the SQL result and the reference result have the same
column set and the same multiset of rows. -/
theorem sound_all (Θ : Interp) (ec : EngineCfg) (env : Env) (cfg : SqlCfg)
    (p : Ops) (hg : Good cfg env p) (hA : AggsOrderFree Θ p) (hW : WindowsTotal Θ SemCfg.ref env p)
    (hS : SqlScope Θ SemCfg.ref env p) {q : Near} (h : toNearSql cfg p = .ok q) :
    ∃ T t, semSql Θ ec env q = .ok T ∧ sem Θ SemCfg.ref env p = .ok t ∧ t.cols = p.cols ∧ T.EquivS t := by
  obtain ⟨T, tp, h1, h2, h3, h4, h6⟩ := engine_order_all Θ ec env cfg p hg h
  obtain ⟨t, e, hc, hT⟩ :=
    equivS_of_engine_order (h2 ▸ sem_equiv_semE_fragJ ec Θ SemCfg.ref env p hg.frag hA hW hS) h3 h4 h6
  exact ⟨T, t, h1, e, hc, hT⟩

/-- **Strong scope**: with null-free order columns at every `order_rows` and ordered window the SQL result has the
reference rows in the same order (no law on `Θ`). -/
theorem exact_all (Θ : Interp) (ec : EngineCfg) (env : Env) (cfg : SqlCfg)
    (p : Ops) (hg : Good cfg env p) (hN : OrdersNullFree Θ SemCfg.ref env p) {q : Near} (h : toNearSql cfg p = .ok q) :
    ∃ T t, semSql Θ ec env q = .ok T ∧ sem Θ SemCfg.ref env p = .ok t ∧ t.cols = p.cols ∧ T.EqS t := by
  obtain ⟨T, tp, h1, h2, h3, h4, h6⟩ := engine_order_all Θ ec env cfg p hg h
  rw [semE_eq_sem_of_nullFree ec Θ SemCfg.ref env p hN] at h2
  refine ⟨T, tp, h1, h2, h3, ?_, ?_⟩
  · intro c; rw [h3]; exact h4 c
  · rw [h3]; exact h6

end SqlE

end Sql
/-! The form the solution helpers of C21 use: `last_observed_carried_forward` and `replicate_rows_query` are extend chains
under a join, translated with the default configuration (`SqlCfg.sqlite = ⟨merges := true, emulateRightFull := true⟩`). -/

namespace Sol21Sql
open DAVerif.Sql

def noConcat : Ops → Bool
  | .table _ _ => true
  | .extend s _ _ _ _ _ | .project s _ _ | .selectRows s _ | .selectCols s _ | .dropCols s _
  | .order s _ _ _ | .rename s _ | .mapCols s _ _ | .convert s _ => noConcat s
  | .join a b _ _ _ => noConcat a && noConcat b
  | .concat .. => false

/-- **C01/C02, stage A, joins and extend merges together** (`C01_joins_engine_order` for every `cfg`; no
`concat_rows`).  If `to_sql` produces `q`, then `q` evaluates, has exactly the declared column set, and its rows on the
declared columns are, in order, the rows of `semE ec Θ SemCfg.ref env p`.  No hypothesis on data or `Θ`. -/
theorem joins_engine_order_merges (Θ : Interp) (ec : EngineCfg) (env : Env) (cfg : SqlCfg)
    (p : Ops) (hg : Good cfg env p) (hnc : noConcat p = true) {q : Near} (h : toNearSql cfg p = .ok q) :
    ∃ T tp, semSql Θ ec env q = .ok T ∧ semE ec Θ SemCfg.ref env p = .ok tp ∧ tp.cols = p.cols ∧
      (∀ c, c ∈ T.cols ↔ c ∈ p.cols) ∧ T.rows.map (fun r => r.select p.cols) = tp.rows :=
  SqlE.engine_order_all Θ ec env cfg p hg h

/-- **Strong scope, joins and extend merges together**: with null-free order columns at every `order_rows` and
ordered window the SQL result has the reference rows in the same order (no law on `Θ`). -/
theorem translation_exact_joins_merges (Θ : Interp) (ec : EngineCfg) (env : Env) (cfg : SqlCfg)
    (p : Ops) (hg : Good cfg env p) (hnc : noConcat p = true) (hN : OrdersNullFree Θ SemCfg.ref env p)
    {q : Near} (h : toNearSql cfg p = .ok q) :
    ∃ T t, semSql Θ ec env q = .ok T ∧ sem Θ SemCfg.ref env p = .ok t ∧ t.cols = p.cols ∧ T.EqS t :=
  SqlE.exact_all Θ ec env cfg p hg hN h

/-- **Multiset scope, joins and extend merges together** (`C01_translation_sound_joins` for every `cfg`). -/
theorem translation_sound_joins_merges (Θ : Interp) (ec : EngineCfg) (env : Env) (cfg : SqlCfg)
    (p : Ops) (hg : Good cfg env p) (hnc : noConcat p = true) (hA : AggsOrderFree Θ p)
    (hW : WindowsTotal Θ SemCfg.ref env p) (hS : SqlScope Θ SemCfg.ref env p) {q : Near}
    (h : toNearSql cfg p = .ok q) :
    ∃ T t, semSql Θ ec env q = .ok T ∧ sem Θ SemCfg.ref env p = .ok t ∧ t.cols = p.cols ∧ T.EquivS t :=
  SqlE.sound_all Θ ec env cfg p hg hA hW hS h

end Sol21Sql
end DAVerif
