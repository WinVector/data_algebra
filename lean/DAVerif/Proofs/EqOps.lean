import DAVerif.Proofs.EqTerm
import DAVerif.Proofs.RowBasic
/-! Lemmas for C11, operator level.  `Ops.norm` forgets the `method` flags and the `needed` summary field of record
maps, which `RecordMap.__eq__` does not look at.  When the assignment keys are distinct on either side (`DictWF`),
`eqOps` decides equality of these normal forms (`eqOps_iff_norm`); when moreover record maps with the same `produced`
and `repr` have the same `needed` (`RecCoherent`), it decides equality of the `erase`d pipelines (`eqOps_iff_erase`). -/
namespace DAVerif

namespace Eq

theorem keys_eraseAssign (a : Assign) : (eraseAssign a).map (·.1) = a.map (·.1) := by
  simp [eraseAssign, List.map_map, Function.comp_def]

private theorem all_lookup_iff (B : Assign) : ∀ (a b : Assign), a.map (·.1) = b.map (·.1) →
    (∀ x ∈ b, lookupLast B x.1 = some x.2) →
    (a.all (fun kv => match lookupLast B kv.1 with | some t => termEq kv.2 t | none => false) = true
      ↔ eraseAssign a = eraseAssign b)
  | [], [], _, _ => by simp [eraseAssign]
  | [], _ :: _, hk, _ => by simp at hk
  | _ :: _, [], hk, _ => by simp at hk
  | (k1, t1) :: as, (k2, t2) :: bs, hk, hb => by
    simp only [List.map_cons, List.cons.injEq] at hk
    obtain ⟨hk1, hk2⟩ := hk
    subst hk1
    have h2 : lookupLast B k1 = some t2 := hb (k1, t2) (by simp)
    have ih := all_lookup_iff B as bs hk2 (fun x hx => hb x (List.mem_cons_of_mem _ hx))
    simp only [List.all_cons, h2, Bool.and_eq_true, ih, termEq_iff, eraseAssign, List.map_cons,
      List.cons.injEq, Prod.mk.injEq, true_and]

theorem assignEq_keys {a b : Assign} (h : assignEq a b = true) : a.map (·.1) = b.map (·.1) := by
  simp only [assignEq, Bool.and_eq_true, beq_iff_eq] at h; exact h.1

theorem erase_keys {a b : Assign} (h : eraseAssign a = eraseAssign b) : a.map (·.1) = b.map (·.1) := by
  rw [← keys_eraseAssign a, ← keys_eraseAssign b, h]

theorem assignEq_iff {a b : Assign} (h : (a.map (·.1)).Nodup ∨ (b.map (·.1)).Nodup) :
    assignEq a b = true ↔ eraseAssign a = eraseAssign b := by
  have key : a.map (·.1) = b.map (·.1) → (assignEq a b = true ↔ eraseAssign a = eraseAssign b) := by
    intro hk
    have hb : (b.map (·.1)).Nodup := by
      rcases h with h | h
      · rw [← hk]; exact h
      · exact h
    have := all_lookup_iff b a b hk (fun x hx => lookupLast_of_nodup hb (by simpa using hx))
    simp only [assignEq, Bool.and_eq_true, beq_iff_eq, hk, true_and]
    exact this
  constructor
  · intro he; exact (key (assignEq_keys he)).1 he
  · intro he; exact (key (erase_keys he)).2 he

end Eq

def RecMap.forget (r : RecMap) : RecMap := { r with needed := [] }

namespace Ops

def norm : Ops → Ops
  | table n cs => table n cs
  | extend s ops p od rv w => extend s.norm (eraseAssign ops) p od rv w
  | project s ops g => project s.norm (eraseAssign ops) g
  | selectRows s e => selectRows s.norm e.erase
  | selectCols s cs => selectCols s.norm cs
  | dropCols s ds => dropCols s.norm ds
  | order s cs rv lim => order s.norm cs rv lim
  | rename s m => rename s.norm m
  | mapCols s m ds => mapCols s.norm m ds
  | join a b oa ob t => join a.norm b.norm oa ob t
  | concat a b idc an bn => concat a.norm b.norm idc an bn
  | convert s rm => convert s.norm rm.forget

theorem cols_norm : ∀ p : Ops, p.norm.cols = p.cols := by
  intro p
  induction p <;> simp only [norm, cols, Eq.keys_eraseAssign, RecMap.forget, *]

theorem cols_erase : ∀ p : Ops, p.erase.cols = p.cols := by
  intro p
  induction p <;> simp only [erase, cols, Eq.keys_eraseAssign, *]

theorem cols_eq_of_norm_eq {p q : Ops} (h : p.norm = q.norm) : p.cols = q.cols := by
  rw [← cols_norm p, ← cols_norm q, h]

theorem dictWF_norm : ∀ p : Ops, p.norm.DictWF ↔ p.DictWF := by
  intro p
  induction p <;> simp only [norm, DictWF, Eq.keys_eraseAssign, *]

end Ops

namespace Eq
open Ops

theorem norm_eq_of_eqOps : ∀ (p q : Ops), (p.DictWF ∨ q.DictWF) → eqOps p q = true → p.norm = q.norm := by
  intro p q
  fun_induction eqOps p q with
  | case1 n1 c1 n2 c2 =>
    intro _ he
    simp only [Bool.and_eq_true, beq_iff_eq] at he
    rw [he.1, he.2]
  | case2 s o pt od r w s2 o2 pt2 od2 r2 w2 ih =>
    intro h he
    simp only [Bool.and_eq_true, beq_iff_eq] at he
    obtain ⟨⟨⟨⟨⟨⟨_, h1⟩, h2⟩, h3⟩, h4⟩, h5⟩, h6⟩ := he
    simp only [norm, ih (h.imp (·.2) (·.2)) h6, (assignEq_iff (h.imp (·.1) (·.1))).1 h5, h1, h2, h3, h4]
  | case3 s o g s2 o2 g2 ih =>
    intro h he
    simp only [Bool.and_eq_true, beq_iff_eq] at he
    simp only [norm, ih (h.imp (·.2) (·.2)) he.2, (assignEq_iff (h.imp (·.1) (·.1))).1 he.1.2, he.1.1.2]
  | case4 s e s2 e2 ih =>
    intro h he
    simp only [Bool.and_eq_true, beq_iff_eq] at he
    simp only [norm, ih h he.2, (termEq_iff _ _).1 he.1.2]
  | case5 s cs s2 cs2 ih =>
    intro h he
    simp only [Bool.and_eq_true, beq_iff_eq] at he
    simp only [norm, ih h he.2, he.1]
  | case6 s ds s2 ds2 ih =>
    intro h he
    simp only [Bool.and_eq_true, beq_iff_eq] at he
    simp only [norm, ih h he.2, he.1.2]
  | case7 s cs rv lim s2 cs2 rv2 lim2 ih =>
    intro h he
    simp only [Bool.and_eq_true, beq_iff_eq] at he
    simp only [norm, ih h he.2, he.1.1.1.2, he.1.1.2, he.1.2]
  | case8 s m s2 m2 ih =>
    intro h he
    simp only [Bool.and_eq_true, beq_iff_eq] at he
    simp only [norm, ih h he.2, he.1.2]
  | case9 s m ds s2 m2 ds2 ih =>
    intro h he
    simp only [Bool.and_eq_true, beq_iff_eq] at he
    simp only [norm, ih h he.2, he.1.1.2, he.1.2]
  | case10 a b oa ob t a2 b2 oa2 ob2 t2 iha ihb =>
    intro h he
    simp only [Bool.and_eq_true, beq_iff_eq] at he
    simp only [norm, iha (h.imp (·.1) (·.1)) he.1.2, ihb (h.imp (·.2) (·.2)) he.2, he.1.1.1.1.2, he.1.1.1.2,
      he.1.1.2]
  | case11 a b idc an bn a2 b2 idc2 an2 bn2 iha ihb =>
    intro h he
    simp only [Bool.and_eq_true, beq_iff_eq] at he
    simp only [norm, iha (h.imp (·.1) (·.1)) he.1.2, ihb (h.imp (·.2) (·.2)) he.2, he.1.1.1.1.2, he.1.1.1.2,
      he.1.1.2]
  | case12 s rm s2 rm2 ih =>
    intro h he
    simp only [Bool.and_eq_true, beq_iff_eq] at he
    simp only [norm, ih h he.2, RecMap.forget, he.1.1, he.1.2]
  | case13 p q => intro _ he; cases he

/-- the comparison of `column_names` that `__eq__` makes at every node follows from `cols_eq_of_norm_eq` -/
theorem eqOps_of_norm_eq : ∀ (p q : Ops), (p.DictWF ∨ q.DictWF) → p.norm = q.norm → eqOps p q = true := by
  intro p
  induction p with
  | table n c =>
    intro q _ hn
    cases q with
    | table n2 c2 => cases hn; simp only [eqOps, beq_self_eq_true, Bool.and_self]
    | _ => cases hn
  | extend s o pt od r w ih =>
    intro q h hn
    have hc := cols_eq_of_norm_eq hn
    cases q with
    | extend s2 o2 pt2 od2 r2 w2 =>
      simp only [norm, Ops.extend.injEq] at hn
      obtain ⟨g1, g2, g3, g4, g5, g6⟩ := hn
      simp only [cols] at hc
      simp only [eqOps, hc, ih s2 (h.imp (·.2) (·.2)) g1, (assignEq_iff (h.imp (·.1) (·.1))).2 g2, g3, g4, g5, g6,
        beq_self_eq_true, Bool.and_self]
    | _ => cases hn
  | project s o g ih =>
    intro q h hn
    have hc := cols_eq_of_norm_eq hn
    cases q with
    | project s2 o2 g2 =>
      simp only [norm, Ops.project.injEq] at hn
      obtain ⟨g1, g2, rfl⟩ := hn
      simp only [cols] at hc
      simp only [eqOps, hc, ih s2 (h.imp (·.2) (·.2)) g1, (assignEq_iff (h.imp (·.1) (·.1))).2 g2,
        beq_self_eq_true, Bool.and_self]
    | _ => cases hn
  | selectRows s e ih =>
    intro q h hn
    cases q with
    | selectRows s2 e2 =>
      simp only [norm, Ops.selectRows.injEq] at hn
      simp only [eqOps, cols_eq_of_norm_eq hn.1, ih s2 h hn.1, (termEq_iff _ _).2 hn.2, beq_self_eq_true,
        Bool.and_self]
    | _ => cases hn
  | selectCols s cs ih =>
    intro q h hn
    cases q with
    | selectCols s2 cs2 =>
      simp only [norm, Ops.selectCols.injEq] at hn
      simp only [eqOps, ih s2 h hn.1, hn.2, beq_self_eq_true, Bool.and_self]
    | _ => cases hn
  | dropCols s ds ih =>
    intro q h hn
    have hc := cols_eq_of_norm_eq hn
    cases q with
    | dropCols s2 ds2 =>
      simp only [norm, Ops.dropCols.injEq] at hn
      obtain ⟨g1, rfl⟩ := hn
      simp only [eqOps, hc, ih s2 h g1, beq_self_eq_true, Bool.and_self]
    | _ => cases hn
  | order s cs rv lim ih =>
    intro q h hn
    cases q with
    | order s2 cs2 rv2 lim2 =>
      simp only [norm, Ops.order.injEq] at hn
      simp only [eqOps, cols_eq_of_norm_eq hn.1, ih s2 h hn.1, hn.2.1, hn.2.2.1, hn.2.2.2, beq_self_eq_true,
        Bool.and_self]
    | _ => cases hn
  | rename s m ih =>
    intro q h hn
    have hc := cols_eq_of_norm_eq hn
    cases q with
    | rename s2 m2 =>
      simp only [norm, Ops.rename.injEq] at hn
      obtain ⟨g1, rfl⟩ := hn
      simp only [eqOps, hc, ih s2 h g1, beq_self_eq_true, Bool.and_self]
    | _ => cases hn
  | mapCols s m ds ih =>
    intro q h hn
    have hc := cols_eq_of_norm_eq hn
    cases q with
    | mapCols s2 m2 ds2 =>
      simp only [norm, Ops.mapCols.injEq] at hn
      obtain ⟨g1, rfl, rfl⟩ := hn
      simp only [eqOps, hc, ih s2 h g1, beq_self_eq_true, Bool.and_self]
    | _ => cases hn
  | join a b oa ob t iha ihb =>
    intro q h hn
    have hc := cols_eq_of_norm_eq hn
    cases q with
    | join a2 b2 oa2 ob2 t2 =>
      simp only [norm, Ops.join.injEq] at hn
      obtain ⟨g1, g2, rfl, rfl, rfl⟩ := hn
      simp only [eqOps, hc, iha a2 (h.imp (·.1) (·.1)) g1, ihb b2 (h.imp (·.2) (·.2)) g2, beq_self_eq_true,
        Bool.and_self]
    | _ => cases hn
  | concat a b idc an bn iha ihb =>
    intro q h hn
    have hc := cols_eq_of_norm_eq hn
    cases q with
    | concat a2 b2 idc2 an2 bn2 =>
      simp only [norm, Ops.concat.injEq] at hn
      obtain ⟨g1, g2, rfl, rfl, rfl⟩ := hn
      simp only [eqOps, hc, iha a2 (h.imp (·.1) (·.1)) g1, ihb b2 (h.imp (·.2) (·.2)) g2, beq_self_eq_true,
        Bool.and_self]
    | _ => cases hn
  | convert s rm ih =>
    intro q h hn
    cases q with
    | convert s2 rm2 =>
      simp only [norm, Ops.convert.injEq, RecMap.forget, RecMap.mk.injEq, true_and] at hn
      simp only [eqOps, ih s2 h hn.1, hn.2.1, hn.2.2, beq_self_eq_true, Bool.and_self]
    | _ => cases hn

theorem eqOps_iff_norm (p q : Ops) (h : p.DictWF ∨ q.DictWF) : eqOps p q = true ↔ p.norm = q.norm :=
  ⟨norm_eq_of_eqOps p q h, eqOps_of_norm_eq p q h⟩

theorem dictWF_of_norm_eq {p q : Ops} (h : p.norm = q.norm) : p.DictWF ↔ q.DictWF := by
  rw [← dictWF_norm p, ← dictWF_norm q, h]

def forgetNeeded : Ops → Ops
  | .table n cs => .table n cs
  | .extend s ops p od rv w => .extend (forgetNeeded s) ops p od rv w
  | .project s ops g => .project (forgetNeeded s) ops g
  | .selectRows s e => .selectRows (forgetNeeded s) e
  | .selectCols s cs => .selectCols (forgetNeeded s) cs
  | .dropCols s ds => .dropCols (forgetNeeded s) ds
  | .order s cs rv lim => .order (forgetNeeded s) cs rv lim
  | .rename s m => .rename (forgetNeeded s) m
  | .mapCols s m ds => .mapCols (forgetNeeded s) m ds
  | .join a b oa ob t => .join (forgetNeeded a) (forgetNeeded b) oa ob t
  | .concat a b idc an bn => .concat (forgetNeeded a) (forgetNeeded b) idc an bn
  | .convert s rm => .convert (forgetNeeded s) rm.forget

theorem norm_eq_forget_erase (p : Ops) : p.norm = forgetNeeded p.erase := by
  induction p <;> simp_all [norm, erase, forgetNeeded]

theorem norm_eq_of_erase_eq {p q : Ops} (h : p.erase = q.erase) : p.norm = q.norm := by
  rw [norm_eq_forget_erase, norm_eq_forget_erase, h]

theorem recCoherent_left {a b a2 b2 : Ops} (h : ∀ r1 ∈ a.recmaps ++ b.recmaps, ∀ r2 ∈ a2.recmaps ++ b2.recmaps,
    r1.produced = r2.produced → r1.repr = r2.repr → r1.needed = r2.needed) : RecCoherent a a2 :=
  fun r1 h1 r2 h2 => h r1 (List.mem_append_left _ h1) r2 (List.mem_append_left _ h2)

theorem recCoherent_right {a b a2 b2 : Ops} (h : ∀ r1 ∈ a.recmaps ++ b.recmaps, ∀ r2 ∈ a2.recmaps ++ b2.recmaps,
    r1.produced = r2.produced → r1.repr = r2.repr → r1.needed = r2.needed) : RecCoherent b b2 :=
  fun r1 h1 r2 h2 => h r1 (List.mem_append_right _ h1) r2 (List.mem_append_right _ h2)

theorem erase_eq_of_norm_eq : ∀ (p q : Ops), p.norm = q.norm → RecCoherent p q → p.erase = q.erase := by
  intro p
  induction p with
  | table n c => intro q h _; cases q <;> first | exact h | cases h
  | extend s _ _ _ _ _ ih | project s _ _ ih | selectRows s _ ih | selectCols s _ ih | dropCols s _ ih
  | order s _ _ _ ih | rename s _ ih | mapCols s _ _ ih =>
    -- a node of another kind has another normal form; for the same kind compare the parts
    intro q h hc
    cases q <;> first
      | (cases h; done)
      | (simp only [norm, Ops.extend.injEq, Ops.project.injEq, Ops.selectRows.injEq, Ops.selectCols.injEq,
          Ops.dropCols.injEq, Ops.order.injEq, Ops.rename.injEq, Ops.mapCols.injEq] at h
         simp only [erase, ih _ h.1 hc, h.2])
  | join a b _ _ _ iha ihb | concat a b _ _ _ iha ihb =>
    intro q h hc
    cases q <;> first
      | (cases h; done)
      | (simp only [norm, Ops.join.injEq, Ops.concat.injEq] at h
         simp only [erase, iha _ h.1 (recCoherent_left hc), ihb _ h.2.1 (recCoherent_right hc), h.2.2])
  | convert s rm ih =>
    intro q h hc
    cases q with
    | convert s2 rm2 =>
      have hs : RecCoherent s s2 := fun r1 h1 r2 h2 => hc r1 (List.mem_cons_of_mem _ h1) r2 (List.mem_cons_of_mem _ h2)
      simp only [norm, Ops.convert.injEq, RecMap.forget, RecMap.mk.injEq, true_and] at h
      -- the record maps agree on `produced` and `repr`; coherence gives `needed`
      have hn : rm.needed = rm2.needed :=
        hc rm (List.mem_cons_self ..) rm2 (List.mem_cons_self ..) h.2.1 h.2.2
      have : rm = rm2 := by
        cases rm; cases rm2; simp only [RecMap.mk.injEq]; exact ⟨hn, h.2⟩
      simp only [erase, ih s2 h.1 hs, this]
    | _ => cases h

/-- `eqOps` decides "structurally identical up to the `method` flags" (`erase`), given the two representation
invariants. -/
theorem eqOps_iff_erase (p q : Ops) (h : p.DictWF ∨ q.DictWF) (hc : RecCoherent p q) :
    eqOps p q = true ↔ p.erase = q.erase := by
  rw [eqOps_iff_norm p q h]
  exact ⟨fun hn => erase_eq_of_norm_eq p q hn hc, norm_eq_of_erase_eq⟩

end Eq
end DAVerif
