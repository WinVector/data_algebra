import DAVerif.Proofs.PolarsRow
import DAVerif.Proofs.PolarsTheta
import DAVerif.Proofs.SemBasic
import DAVerif.Proofs.Order
import DAVerif.Proofs.Window
/-!
C03: one step of the Polars executor model `semPl` computes, on inputs equal up to row order and under the guards of
`Spec/Polars.lean`, what the step of the Pandas executor model `sem` computes.  Polars' sort is the Pandas sort when
nulls go last or no order cell is null (`Pl.SameOrderOn`); outside the listed deviations both interpretations evaluate
alike (`…_agree`).  The join is `Proofs/PolarsJoin.lean`.  `PlRefines` is what the induction of
`C03_polars_sound_strong` carries through `>>=`; the `…_fixed` lemmas are for `C03_fixed_guards`.
-/
namespace DAVerif

namespace Pl

theorem rowLe_eq {nl : Bool} {order : List String} (reverse : List String) {r1 r2 : Row}
    (h : nl = true ∨ ∀ c ∈ order, (r1.get c).isNull = false ∧ (r2.get c).isNull = false) :
    Pl.rowLe nl order reverse r1 r2 = DAVerif.rowLe order reverse r1 r2 := by
  rw [plRowLe_eq_lexLe, rowLe_eq_lexLe]
  rcases h with rfl | h
  · rfl
  · exact lexLe_congr_cle fun c hc => plCellLe_of_nonnull nl true _ (h c hc).1 (h c hc).2

def SameOrderOn (nl : Bool) (order : List String) (rows : List Row) : Prop :=
  nl = true ∨ ∀ r ∈ rows, ∀ c ∈ order, (r.get c).isNull = false

theorem sameOrderOn_of_no_null {nl : Bool} {order : List String} {rows : List Row}
    (h : nl = false → hasNullIn order rows = false) : SameOrderOn nl order rows := by
  cases nl with
  | true => exact Or.inl rfl
  | false =>
    refine Or.inr fun r hr c hc => Bool.eq_false_iff.mpr fun hv => ?_
    exact Bool.eq_false_iff.mp (h rfl) (List.any_eq_true.mpr ⟨r, hr, List.any_eq_true.mpr ⟨c, hc, hv⟩⟩)

theorem SameOrderOn.rowLe {nl : Bool} {order : List String} {rows : List Row} (h : SameOrderOn nl order rows)
    (reverse : List String) {a b : Row} (ha : a ∈ rows) (hb : b ∈ rows) :
    Pl.rowLe nl order reverse a b = DAVerif.rowLe order reverse a b :=
  rowLe_eq reverse (h.imp_right fun h c hc => ⟨h a ha c hc, h b hb c hc⟩)

theorem SameOrderOn.perm {nl : Bool} {order : List String} {rows rows' : List Row} (h : SameOrderOn nl order rows)
    (hp : rows.Perm rows') : SameOrderOn nl order rows' :=
  h.imp id (fun h r hr => h r (hp.mem_iff.mpr hr))

theorem sortHead_eq {nl : Bool} {cs : List String} {t : Table} (h : SameOrderOn nl cs t.rows)
    (reverse : List String) (limit : Option Nat) : Pl.sortHead nl cs reverse limit t = semOrder cs reverse limit t :=
  semOrderG_eq_of_agree (le := Pl.rowLe nl) (le' := DAVerif.rowLe) cs reverse limit t
    fun _ ha _ hb => h.rowLe reverse ha hb

theorem sortRows_of_sorted {nl : Bool} {cs rev : List String} {rows : List Row}
    (h : rows.Pairwise (fun a b => Pl.rowLe nl cs rev a b = true)) : Pl.sortRows nl cs rev rows = rows :=
  List.mergeSort_of_pairwise h

end Pl

theorem semExtendWindowPl_eq {nl : Bool} (Θ : Interp) (ops : Assign) (p o rv : List String) (t : Table)
    (oc : List String) (h : Pl.SameOrderOn nl o t.rows) :
    semExtendWindowPl nl Θ ops p o rv t oc = semExtendWindow Θ ops p o rv t oc :=
  semExtendWindowG_eq_of_agree (le := Pl.rowLe nl) (le' := rowLe) Θ ops p o rv t oc fun _ ha _ hb => h.rowLe rv ha hb

/-- for the witnesses of `Props/C03.lean`: `mergeSort` does not reduce in the kernel -/
theorem semExtendWindowPl_of_sorted {nl : Bool} (Θ : Interp) (ops : Assign) (p o rv : List String) (t : Table)
    (oc : List String) (h : t.rows.Pairwise (fun a b => Pl.rowLe nl o rv a b = true)) :
    semExtendWindowPl nl Θ ops p o rv t oc = semExtendWindowU Θ ops p t oc :=
  semExtendWindowG_of_sorted (Pl.rowLe nl) Θ ops p o rv t oc h

mutual
theorem evalTerm_agree {cfg : Pl.Cfg} {Θpl Θ : Interp}
    (h : ∀ op args, Pl.scalarViol cfg op args = [] → Θpl.scalar op args = Θ.scalar op args) (r : Row) :
    ∀ t : Term, Pl.termViol cfg Θ r t = [] → evalTerm Θpl r t = evalTerm Θ r t
  | .value _, _ => rfl
  | .col _, _ => rfl
  | .list _, _ => rfl
  | .dict _, _ => rfl
  | .app op args _ _, hv => by
    simp only [Pl.termViol, List.append_eq_nil_iff] at hv
    simp only [evalTerm]
    rw [evalArgs_agree h r args hv.1, h op _ hv.2]
theorem evalArgs_agree {cfg : Pl.Cfg} {Θpl Θ : Interp}
    (h : ∀ op args, Pl.scalarViol cfg op args = [] → Θpl.scalar op args = Θ.scalar op args) (r : Row) :
    ∀ ts : List Term, Pl.termsViol cfg Θ r ts = [] → evalArgs Θpl r ts = evalArgs Θ r ts
  | [], _ => rfl
  | t :: ts, hv => by
    simp only [Pl.termsViol, List.append_eq_nil_iff] at hv
    simp only [evalArgs]
    rw [evalTerm_agree h r t hv.1, evalArgs_agree h r ts hv.2]
end

theorem evalCell_agree {cfg : Pl.Cfg} {Θpl Θ : Interp}
    (h : ∀ op args, Pl.scalarViol cfg op args = [] → Θpl.scalar op args = Θ.scalar op args) (r : Row) (t : Term)
    (hv : Pl.termViol cfg Θ r t = []) : evalCell Θpl r t = evalCell Θ r t := by
  simp only [evalCell, evalTerm_agree h r t hv]

theorem semExtendPlain_agree {cfg : Pl.Cfg} {Θpl Θ : Interp}
    (h : ∀ op args, Pl.scalarViol cfg op args = [] → Θpl.scalar op args = Θ.scalar op args) (ops : Assign)
    (t : Table) (oc : List String) (hv : Pl.extendPlainViol cfg Θ ops t = []) :
    semExtendPlain Θpl ops t oc = semExtendPlain Θ ops t oc := by
  simp only [semExtendPlain]
  congr 1
  apply List.map_congr_left
  intro r hr
  have h1 := List.flatMap_eq_nil_iff.mp hv r hr
  congr 2
  apply List.map_congr_left
  intro kv hkv
  rw [evalCell_agree h r kv.2 (List.flatMap_eq_nil_iff.mp h1 kv hkv)]

theorem semSelectRows_agree {cfg : Pl.Cfg} {Θpl Θ : Interp}
    (h : ∀ op args, Pl.scalarViol cfg op args = [] → Θpl.scalar op args = Θ.scalar op args) (e : Term)
    (t : Table) (hv : Pl.selectRowsViol cfg Θ e t = []) : semSelectRows Θpl e t = semSelectRows Θ e t := by
  simp only [semSelectRows]
  congr 1
  apply List.filter_congr
  intro r hr
  rw [evalCell_agree h r e (List.flatMap_eq_nil_iff.mp hv r hr)]

theorem semProjectPl_agree {cfg : Pl.Cfg} {Θpl Θ : Interp}
    (hagg : ∀ op vs, Pl.aggViol cfg op vs = [] → Θpl.agg op vs = Θ.agg op vs) (ops : Assign)
    (group : List String) (t : Table) (oc : List String) (hv : Pl.projectViol cfg Θ ops group t = []) :
    semProjectPl Θpl ops group t oc = semProject Θ ops group t oc := by
  unfold semProjectPl Pl.groupByAgg semProject
  unfold Pl.projectViol at hv
  cases hg : group.isEmpty with
  | false =>
    rw [hg, if_neg Bool.false_ne_true] at hv
    rw [Bool.false_and, if_neg Bool.false_ne_true, if_neg Bool.false_ne_true]
    refine congrArg _ (List.map_congr_left fun k hk => ?_)
    have h1 := List.flatMap_eq_nil_iff.mp hv k hk
    refine congrArg (fun l => Row.select (_ ++ l) oc) (List.map_congr_left fun kv hkv => ?_)
    rw [hagg _ _ (List.flatMap_eq_nil_iff.mp h1 kv hkv)]
  | true =>
    rw [hg, if_pos rfl] at hv
    rw [Bool.true_and, if_pos rfl]
    cases hr : t.rows.isEmpty with
    | true =>
      -- no row: Polars' all-null row is what Pandas' aggregates of the empty group give, by the guard
      rw [hr, if_pos rfl] at hv
      rw [if_pos rfl, List.isEmpty_iff.mp hr]
      have hall := Decidable.by_contra fun hc => by rw [if_neg hc] at hv; cases hv
      refine congrArg (fun l => Table.mk oc [Row.select l oc]) (List.map_congr_left fun kv hkv => ?_)
      rw [eq_of_beq (List.all_eq_true.mp hall kv hkv)]
    | false =>
      rw [hr, if_neg Bool.false_ne_true] at hv
      rw [if_neg Bool.false_ne_true]
      refine congrArg (fun l => Table.mk oc [Row.select l oc]) (List.map_congr_left fun kv hkv => ?_)
      rw [hagg _ _ (List.flatMap_eq_nil_iff.mp hv kv hkv)]

theorem semProjectPl_equiv (Θ : Interp) (ops : Assign) (group : List String) {t t' : Table} (h : t ≈ t')
    (oc : List String) (hA : ∀ kv ∈ ops, AggOrderFree Θ (opName kv.2)) :
    semProjectPl Θ ops group t oc ≈ semProjectPl Θ ops group t' oc := by
  unfold semProjectPl
  have he : t.rows.isEmpty = t'.rows.isEmpty := by
    rw [Bool.eq_iff_iff, List.isEmpty_iff_length_eq_zero, List.isEmpty_iff_length_eq_zero, h.2.length_eq]
  rw [he]
  split
  · exact Table.Equiv.refl _
  · exact semProject_equiv Θ ops group h oc hA

theorem Table.pl_ext {t t' : Table} (h1 : t.cols = t'.cols) (h2 : t.rows = t'.rows) : t = t' := by
  cases t; cases t'; simp_all

theorem pl_aggRaises_false {project : Bool} {e : Term} (h : aggRaises project e = false) :
    ∃ op args i m, e = .app op args i m ∧ Pl.implStatus project args.length op = .ok := by
  cases e with
  | app op args i m =>
    refine ⟨op, args, i, m, rfl, ?_⟩
    simpa [aggRaises] using h
  | _ => simp [aggRaises] at h

/-- `hwin` asks for agreement only on window functions that Polars can call at all: `Pl.implStatus` depends on the number
`n` of arguments of the method application, which `Θ.win` does not see, so `n` is quantified; it is used at
`n := args.length` of the term, where `hnr` says the call does not raise. -/
theorem semExtendWindow_agree {cfg : Pl.Cfg} {Θpl Θ : Interp}
    (hwin : ∀ op n cargs vs pos, Pl.implStatus false n op = .ok → Pl.aggViol cfg op vs = [] →
      Θpl.win op cargs vs pos = Θ.win op cargs vs pos)
    (ops : Assign) (part o rv : List String) (t : Table) (oc : List String)
    (hok1 : WinOK Θpl ops part o rv t.rows) (hok2 : WinOK Θ ops part o rv t.rows)
    (hnr : ∀ kv ∈ ops, aggRaises false kv.2 = false)
    (hv : t.rows.flatMap (fun r => ops.flatMap (fun kv =>
      Pl.aggViol cfg (opName kv.2) (argValues kv.2 (Pl.windowOf part o rv t.rows r)))) = []) :
    semExtendWindow Θpl ops part o rv t oc = semExtendWindow Θ ops part o rv t oc := by
  refine Table.pl_ext (by rfl) ?_
  rw [semExtendWindow_rows_eq Θpl ops part o rv t oc hok1, semExtendWindow_rows_eq Θ ops part o rv t oc hok2]
  apply List.map_congr_left
  intro r hr
  have h1 := List.flatMap_eq_nil_iff.mp hv r hr
  simp only [winRowG]
  congr 2
  apply List.map_congr_left
  intro kv hkv
  obtain ⟨op, args, i, m, he, hs⟩ := pl_aggRaises_false (hnr kv hkv)
  have h2 := List.flatMap_eq_nil_iff.mp h1 kv hkv
  have hop : opName kv.2 = op := by rw [he]; rfl
  rw [hop] at h2 ⊢
  have h3 := hwin op args.length (constArgs kv.2) _ (List.idxOf r (sortRows o rv (partRows part t.rows r))) hs h2
  simp only [Pl.windowOf] at h3
  exact congrArg (Prod.mk kv.1) h3

/-- `_extend_step`, windowed: Polars on `t` vs Pandas on `t'` -/
theorem pl_extend_window_sound {cfg : Pl.Cfg} {Θpl Θ : Interp}
    (hwin : ∀ op n cargs vs pos, Pl.implStatus false n op = .ok → Pl.aggViol cfg op vs = [] →
      Θpl.win op cargs vs pos = Θ.win op cargs vs pos)
    (ops : Assign) (part o rv : List String) {t t' : Table} (h : t ≈ t') (oc : List String)
    (hok1 : WinOK Θpl ops part o rv t'.rows) (hok2 : WinOK Θ ops part o rv t'.rows)
    (hnr : ∀ kv ∈ ops, aggRaises false kv.2 = false)
    (hv : Pl.extendWindowViol cfg ops part o rv t' = []) :
    semExtendWindowPl cfg.nullsLast Θpl ops part o rv t oc ≈ semExtendWindow Θ ops part o rv t' oc := by
  simp only [Pl.extendWindowViol, List.append_eq_nil_iff] at hv
  have hs : Pl.SameOrderOn cfg.nullsLast o t'.rows := Pl.sameOrderOn_of_no_null fun hn => by
    cases o with
    | nil => simp [Pl.hasNullIn]
    | cons _ _ => simpa [hn] using pl_ite_nil_eq hv.1
  rw [semExtendWindowPl_eq Θpl ops part o rv t oc (hs.perm h.2.symm)]
  rw [← semExtendWindow_agree hwin ops part o rv t' oc hok1 hok2 hnr hv.2]
  exact semExtendWindow_equiv Θpl ops part o rv h oc (hok1.perm h.2.symm)

/-- `_order_rows_step`: Polars on `t` vs Pandas on `t'`, as multisets of rows -/
theorem pl_order_sound {cfg : Pl.Cfg} (cs rev : List String) (lim : Option Nat) {t t' : Table} (h : t ≈ t')
    (hlim : ∀ n, lim = some n → LimitOK cs rev n t'.rows)
    (hv : Pl.orderViol cfg cs lim t' = []) :
    Pl.sortHead cfg.nullsLast cs rev lim t ≈ semOrder cs rev lim t' :=
  (semOrderG_equiv (le' := Pl.rowLe cfg.nullsLast) Sol21Sql.cmpOK_rowLe cs rev lim h.symm fun n e => by
    subst e
    have hs : Pl.SameOrderOn cfg.nullsLast cs t'.rows :=
      Pl.sameOrderOn_of_no_null fun hn => by simpa [hn] using pl_ite_nil_eq hv
    exact ⟨hlim n rfl, fun _ ha _ hb => (hs.rowLe rev ha hb).symm⟩).symm

def PlRefines (x y : Except Err Table) : Prop := ∀ t, x = .ok t → ∃ t', y = .ok t' ∧ t ≈ t'

namespace PlRefines

theorem ok {t t' : Table} (h : t ≈ t') : PlRefines (.ok t) (.ok t') := fun _ e => by
  cases e; exact ⟨t', rfl, h⟩

theorem raiseIf {c : Prop} [Decidable c] {e : Err} {x y : Except Err Table} (h : ¬ c → PlRefines x y) :
    PlRefines (if c then .error e else x) y := by
  split
  · exact fun _ h => nomatch h
  · exact h ‹_›

theorem bind {x y : Except Err Table} {f g : Table → Except Err Table} (h : PlRefines x y)
    (hfg : ∀ t t', t ≈ t' → y = .ok t' → PlRefines (f t) (g t')) : PlRefines (x >>= f) (y >>= g) := by
  intro t ht
  obtain ⟨a, rfl, ha⟩ := bind_eq_ok.mp ht
  obtain ⟨a', rfl, heq⟩ := h a rfl
  exact hfg a a' heq rfl t ha

end PlRefines


theorem semPl_extend_window (cfg : Pl.Cfg) (Θ : Interp) (env : Env) (src : Ops) (ops : Assign)
    (part od rv : List String) :
    semPl cfg Θ env (.extend src ops part od rv true) = semPl cfg Θ env src >>= fun t =>
      if ops.any (fun kv => aggRaises false kv.2) then .error .other
      else .ok (semExtendWindowPl cfg.nullsLast Θ ops part od rv t (Ops.extend src ops part od rv true).cols) := by
  rw [semPl]; rfl

theorem semPl_extend_window_raises {cfg : Pl.Cfg} {Θ : Interp} {env : Env} {src : Ops} {ops : Assign}
    {part od rv : List String} (hr : (ops.any fun kv => aggRaises false kv.2) = true) (t : Table) :
    semPl cfg Θ env (.extend src ops part od rv true) ≠ .ok t := by
  intro h
  rw [semPl_extend_window] at h
  obtain ⟨_, _, h2⟩ := bind_eq_ok.mp h
  rw [if_pos hr] at h2
  cases h2

theorem semPl_extend_window_of_ok {cfg : Pl.Cfg} {Θ : Interp} {env : Env} {src : Ops} {ops : Assign}
    {part od rv : List String} {t : Table} (hs : semPl cfg Θ env src = .ok t)
    (hr : (ops.any fun kv => aggRaises false kv.2) = false) :
    semPl cfg Θ env (.extend src ops part od rv true) =
      .ok (semExtendWindowPl cfg.nullsLast Θ ops part od rv t (Ops.extend src ops part od rv true).cols) := by
  rw [semPl_extend_window, hs]
  exact if_neg (by simp only [hr, Bool.false_eq_true, not_false_eq_true])

namespace Pl

theorem sem_extend_window_of_ok {cfg : SemCfg} {Θ : Interp} {env : Env} {src : Ops} {ops : Assign}
    {part od rv : List String} {t : Table} (hs : sem Θ cfg env src = .ok t) :
    sem Θ cfg env (.extend src ops part od rv true) =
      .ok (semExtendWindow Θ ops part od rv t (Ops.extend src ops part od rv true).cols) := by
  rw [sem, hs]
  rfl

end Pl

theorem pl_onInput_forall {P : Pl.GuardId → Prop} {r : Except Err Table} {f : Table → List Pl.GuardId}
    (h : ∀ t, ∀ g ∈ f t, P g) : ∀ g ∈ Pl.onInput r f, P g := by
  cases r with
  | error e => nofun
  | ok t => exact h t

theorem pl_forall_ite_singleton {P : Pl.GuardId → Prop} {c : Bool} {g : Pl.GuardId} (h : P g) :
    ∀ x ∈ (if c then [g] else []), P x := by
  cases c
  · nofun
  · exact fun x hx => List.mem_singleton.mp hx ▸ h

theorem scalarViol_fixed (op : String) (args : List ArgV) :
    ∀ g ∈ Pl.scalarViol Pl.Cfg.fixed op args, Pl.Remaining g := by
  simp only [Pl.scalarViol, Pl.maxNullDev, Pl.Cfg.fixed, Bool.not_true, Bool.and_false, Bool.false_and,
    Bool.false_eq_true, if_false, List.append_nil]
  exact pl_forall_ite_singleton (Or.inl rfl)

theorem aggViol_fixed (op : String) (vs : List Val) : ∀ g ∈ Pl.aggViol Pl.Cfg.fixed op vs, Pl.Remaining g := by
  simp only [Pl.aggViol, Pl.nuniqueDev, Pl.Cfg.fixed, Bool.not_true, Bool.and_false, Bool.false_and,
    Bool.false_eq_true, if_false, List.nil_append, List.forall_mem_append]
  exact ⟨pl_forall_ite_singleton (Or.inr (Or.inr (Or.inr (Or.inr rfl)))),
    pl_forall_ite_singleton (Or.inr (Or.inr (Or.inr (Or.inl rfl))))⟩

mutual
theorem termViol_fixed (Θ : Interp) (r : Row) : ∀ t : Term, ∀ g ∈ Pl.termViol Pl.Cfg.fixed Θ r t, Pl.Remaining g
  | .value _, g, hg => by simp [Pl.termViol] at hg
  | .col _, g, hg => by simp [Pl.termViol] at hg
  | .list _, g, hg => by simp [Pl.termViol] at hg
  | .dict _, g, hg => by simp [Pl.termViol] at hg
  | .app op args _ _, g, hg => by
    simp only [Pl.termViol, List.mem_append] at hg
    rcases hg with hg | hg
    · exact termsViol_fixed Θ r args g hg
    · exact scalarViol_fixed _ _ g hg
theorem termsViol_fixed (Θ : Interp) (r : Row) : ∀ ts : List Term, ∀ g ∈ Pl.termsViol Pl.Cfg.fixed Θ r ts, Pl.Remaining g
  | [], g, hg => by simp [Pl.termsViol] at hg
  | t :: ts, g, hg => by
    simp only [Pl.termsViol, List.mem_append] at hg
    rcases hg with hg | hg
    · exact termViol_fixed Θ r t g hg
    · exact termsViol_fixed Θ r ts g hg
end

theorem extendPlainViol_fixed (Θ : Interp) (ops : Assign) (t : Table) :
    ∀ g ∈ Pl.extendPlainViol Pl.Cfg.fixed Θ ops t, Pl.Remaining g := by
  simp only [Pl.extendPlainViol, List.forall_mem_flatMap]
  exact fun r _ kv _ => termViol_fixed Θ r kv.2

theorem selectRowsViol_fixed (Θ : Interp) (e : Term) (t : Table) :
    ∀ g ∈ Pl.selectRowsViol Pl.Cfg.fixed Θ e t, Pl.Remaining g := by
  simp only [Pl.selectRowsViol, List.forall_mem_flatMap]
  exact fun r _ => termViol_fixed Θ r e

theorem extendWindowViol_fixed (ops : Assign) (part od rv : List String) (t : Table) :
    ∀ g ∈ Pl.extendWindowViol Pl.Cfg.fixed ops part od rv t, Pl.Remaining g := by
  simp only [Pl.extendWindowViol, Pl.Cfg.fixed, Bool.not_true, Bool.false_and, Bool.false_eq_true, if_false,
    List.nil_append, List.forall_mem_flatMap]
  exact fun _ _ _ _ => aggViol_fixed _ _

theorem projectViol_fixed (Θ : Interp) (ops : Assign) (grp : List String) (t : Table) :
    ∀ g ∈ Pl.projectViol Pl.Cfg.fixed Θ ops grp t, Pl.Remaining g := by
  unfold Pl.projectViol
  cases grp.isEmpty with
  | false =>
    simp only [Bool.false_eq_true, if_false, List.forall_mem_flatMap]
    exact fun _ _ _ _ => aggViol_fixed _ _
  | true =>
    rw [if_pos rfl]
    cases t.rows.isEmpty with
    | false =>
      simp only [Bool.false_eq_true, if_false, List.forall_mem_flatMap]
      exact fun _ _ => aggViol_fixed _ _
    | true =>
      rw [if_pos rfl]
      split
      · nofun
      · exact fun g hg => Or.inr (Or.inr (Or.inl (List.mem_singleton.mp hg)))

theorem joinViol_fixed (jt : JoinType) (onA onB : List String) (ta tb : Table) :
    ∀ g ∈ Pl.joinViol Pl.Cfg.fixed jt onA onB ta tb, Pl.Remaining g := by
  simp only [Pl.joinViol, Pl.Cfg.fixed, Bool.not_true, Bool.and_false, Bool.false_and, Bool.false_eq_true,
    if_false, List.append_nil]
  exact pl_forall_ite_singleton (Or.inr (Or.inl rfl))

end DAVerif
