import DAVerif.Proofs.Valid
/-!
Acceptance (C06): a builder call on a pipeline and the raw (unsimplified) call on a table description with the
same column names succeed or fail alike, with the same error class.  `errOf` is the error class of an outcome.
-/
namespace DAVerif

/-- the error class of an outcome (`none` = accepted) -/
def errOf {α : Type} : Except Err α → Option Err
  | .ok _ => none
  | .error e => some e

theorem errOf_eq_none {α : Type} {x : Except Err α} : errOf x = none ↔ ∃ a, x = .ok a := by
  cases x <;> simp [errOf]

theorem isOk_iff_errOf {α : Type} {x : Except Err α} : x.isOk = true ↔ errOf x = none := by
  cases x <;> simp [errOf, Except.isOk, Except.toBool]

theorem errOf_bind_ok {α β : Type} (x : Except Err α) (f : α → β) :
    errOf (x >>= fun a => .ok (f a)) = errOf x := by
  cases x <;> rfl

theorem errOf_bind_congr {α β γ : Type} {x : Except Err α} {f : α → Except Err β} {g : α → Except Err γ}
    (h : ∀ a, x = .ok a → errOf (f a) = errOf (g a)) : errOf (x >>= f) = errOf (x >>= g) := by
  cases x with
  | error e => rfl
  | ok a => exact h a rfl

theorem errOf_bind_unit {β γ : Type} {x y : Except Err Unit} {f : Unit → Except Err β} {g : Unit → Except Err γ}
    (hxy : x = y) (h : x = .ok () → errOf (f ()) = errOf (g ())) : errOf (x >>= f) = errOf (y >>= g) := by
  subst hxy
  exact errOf_bind_congr (fun _ ha => h ha)

theorem windowOpOk_congr {sc sc' : List String} {ordered : Bool} {t : Term}
    (h : ∀ c ∈ Term.colsRaw t, (c ∈ sc ↔ c ∈ sc')) : windowOpOk sc ordered t = windowOpOk sc' ordered t := by
  cases t with
  | app op args i m =>
    cases args with
    | nil => rfl
    | cons a as =>
      cases a with
      | col c =>
        have hc : sc.contains c = sc'.contains c := by
          rw [Bool.eq_iff_iff]
          simpa using h c (by simp [Term.colsRaw, Term.colsRawList])
        simp only [windowOpOk, List.head?_cons, hc]
      | _ => rfl
  | _ => rfl

/-- **Acceptance of a merged `extend`.**  For a valid `extend` node `q` over `src` whose assignments merge with
`ops`: the constructor checks of the merged node (over `src`) and of the second node (over `q`) are the same
check, with the same error class at the first failure. -/
theorem extendChk_merge {src : Ops} {o1 : Assign} {od rv : List String} {w1 : Bool} {ops o : Assign}
    {pa : PartArg} (hq : (Ops.extend src o1 pa.cols' od rv w1).valid = true)
    (hm : tryMergeOps o1 ops = some o) (hw : stepWindowed ops pa od = w1) :
    extendChk src.cols o pa od rv = extendChk (appendNew src.cols (o1.map (·.1))) ops pa od rv := by
  obtain ⟨hd, hdis, hunion, ho2, hkeys⟩ := tryMergeOps_spec hm
  have hn := valid_extend hq
  have hqc : ∀ c, c ∈ (appendNew src.cols (o1.map (·.1))) ↔ c ∈ src.cols ∨ c ∈ o1.map (·.1) :=
    fun c => mem_appendNew
  have hww : stepWindowed o pa od = w1 :=
    stepWindowed_merge hunion ho2 (fun h1 => hn.flag (by rw [h1]; rfl)) hw
  -- columns read by the second step are not produced by the first
  have hnotk : ∀ c ∈ Term.colsUsedOps ops, c ∉ o1.map (·.1) := disjoint_iff.mp hdis
  have e1 : subset (Term.colsUsedOps o) src.cols
      = subset (Term.colsUsedOps ops) (appendNew src.cols (o1.map (·.1))) := by
    rw [Bool.eq_iff_iff, subset_iff, subset_iff]
    constructor
    · intro h c hc
      obtain ⟨kv, hkv, hcr⟩ := mem_colsUsedOps.mp hc
      exact (hqc c).mpr (Or.inl (h c (mem_colsUsedOps.mpr ⟨kv, ho2 kv hkv, hcr⟩)))
    · intro h c hc
      obtain ⟨kv, hkv, hcr⟩ := mem_colsUsedOps.mp hc
      rcases hunion kv hkv with h1 | h2
      · exact subset_iff.mp hn.used c (mem_colsUsedOps.mpr ⟨kv, h1, hcr⟩)
      · have hcu := mem_colsUsedOps.mpr ⟨kv, h2, hcr⟩
        exact ((hqc c).mp (h c hcu)).elim id (fun hk => absurd hk (hnotk c hcu))
  have e5 : subset pa.cols' src.cols = subset pa.cols' (appendNew src.cols (o1.map (·.1))) := by
    rw [hn.part_sub]; symm
    exact subset_iff.mpr (fun c hc => (hqc c).mpr (Or.inl (subset_iff.mp hn.part_sub c hc)))
  have e6 : subset od src.cols = subset od (appendNew src.cols (o1.map (·.1))) := by
    rw [hn.od_sub]; symm
    exact subset_iff.mpr (fun c hc => (hqc c).mpr (Or.inl (subset_iff.mp hn.od_sub c hc)))
  have e8 : disjoint (o.map (·.1)) (pa.cols' ++ od ++ rv) = disjoint (ops.map (·.1)) (pa.cols' ++ od ++ rv) := by
    rw [Bool.eq_iff_iff, disjoint_iff, disjoint_iff]
    constructor
    · intro h c hc; exact h c ((hkeys c).mpr (Or.inr hc))
    · intro h c hc
      rcases (hkeys c).mp hc with h1 | h2
      · exact disjoint_iff.mp hn.keys_disj c h1
      · exact h c h2
  have e9 : (!stepWindowed o pa od || o.all (fun kv => windowOpOk src.cols (!od.isEmpty) kv.2))
      = (!stepWindowed ops pa od || ops.all (fun kv =>
          windowOpOk (appendNew src.cols (o1.map (·.1))) (!od.isEmpty) kv.2)) := by
    rw [hww, hw]
    cases hw1 : w1 with
    | false => rfl
    | true =>
      simp only [Bool.not_true, Bool.false_or]
      have hall1 := hn.win hw1
      have hcongr : ∀ kv ∈ ops, windowOpOk src.cols (!od.isEmpty) kv.2
          = windowOpOk (appendNew src.cols (o1.map (·.1))) (!od.isEmpty) kv.2 := by
        intro kv hkv
        apply windowOpOk_congr
        intro c hc
        have hcu := mem_colsUsedOps.mpr ⟨kv, hkv, hc⟩
        constructor
        · intro h; exact (hqc c).mpr (Or.inl h)
        · intro h
          exact ((hqc c).mp h).elim id (fun hk => absurd hk (hnotk c hcu))
      rw [Bool.eq_iff_iff, List.all_eq_true, List.all_eq_true]
      constructor
      · intro h kv hkv
        rw [← hcongr kv hkv]
        exact h kv (ho2 kv hkv)
      · intro h kv hkv
        rcases hunion kv hkv with h1 | h2
        · exact List.all_eq_true.mp hall1 kv h1
        · rw [hcongr kv h2]
          exact h kv h2
  simp only [extendChk, e1, e5, e6, e8, e9]

theorem extendTop_errOf {q : Ops} {ops : Assign} {pa : PartArg} {od rv : List String} (hq : q.valid = true) :
    errOf (extendTop q ops pa od rv) = errOf (extendChk q.cols ops pa od rv) := by
  rw [extendTop_eq]
  split
  · rename_i src o hm
    obtain ⟨o1, rfl, hm'⟩ := mergeInto_eq_some.mp hm
    rw [mkExtend_eqC, errOf_bind_ok, extendChk_merge hq hm' rfl]
    rfl
  · rw [mkExtend_eqC, errOf_bind_ok]

theorem select_guard_iff {p : Ops} (hv : p.valid = true) (cs : List String) :
    subset cs p.cols = (p.selectGuards.all (fun g => subset cs g) && subset cs p.selectBase.cols) :=
  Ops.select_guard_iff (P := fun p => p.valid = true) (fun s _ _ h => Ops.valid_srcA (p := .order s _ _ none) h)
    (fun s cs0 h => ⟨Ops.valid_srcA (p := .selectCols s cs0) h,
      (selectChk_ok_iff.mp (Ops.nodeOk_selectCols.mp (Ops.valid_nodeOk h))).2.1⟩)
    (fun s _ h => Ops.valid_srcA (p := .dropCols s _) h) hv cs

theorem selectColsB_errOf {p : Ops} (hv : p.valid = true) (cs : List String) (hE : cs.isEmpty = false) :
    errOf (selectColsB p cs) = errOf (selectChk p.cols cs) := by
  rw [selectColsB_eq, mkSelectCols_eq]
  simp only [selectChk, bind_assoc, hE]
  rw [select_guard_iff hv cs]
  cases hA : p.selectGuards.all (fun g => subset cs g) <;> cases hB : subset cs p.selectBase.cols <;>
    cases hN : nodupB cs <;> rfl

theorem rawChk_tables_congr {sc : List String} {ta ta' : List (String × List String)} {s : Step}
    (h : ∀ b ∈ Step.argOps s, tablesConsistent ta b.tables = tablesConsistent ta' b.tables) :
    rawChk sc ta s = rawChk sc ta' s := by
  cases s with
  | join b oa ob jt chk => simp only [rawChk, joinChk, h b (List.mem_singleton.mpr rfl)]
  | concat b idc an bn =>
    cases b with
    | none => rfl
    | some b => simp only [rawChk, concatChk, h b (List.mem_singleton.mpr rfl)]
  | selectRows e => cases e <;> rfl
  | convert rm => cases rm <;> rfl
  | _ => rfl

theorem tablesConsistent_fresh {n : String} {cs : List String} {tb : List (String × List String)}
    (h : n ∉ tb.map (·.1)) : tablesConsistent [(n, cs)] tb = true := by
  simp only [tablesConsistent, List.all_cons, List.all_nil, Bool.and_true, List.all_eq_true]
  intro kc hkc
  have : n ≠ kc.1 := fun e => h (e ▸ List.mem_map.mpr ⟨kc, hkc, rfl⟩)
  simp [this]

theorem build_errOf_rawChk {p : Ops} (hv : p.valid = true) (s : Step) :
    errOf (build p s) = errOf (rawChk p.cols p.tables s) := by
  cases hn : s.isNoop
  · cases s with
    | extend ops pa od rv =>
      simp only [build, rawChk, parseAssignments_eqC, bind_assoc, ok_bind, extendParsed_strip _ _ _ _ _ hn, extendPre_eq,
        (show ops.isEmpty = false from hn), Bool.false_eq_true, if_false]
      refine errOf_bind_congr fun _ _ => errOf_bind_congr fun _ _ => ?_
      rw [extendTop_errOf (valid_strip hv), strip_cols]
    | selectCols cs =>
      simp only [build, rawChk]
      refine errOf_bind_congr fun _ hne => ?_
      rw [ok?_eq_ok] at hne
      exact selectColsB_errOf hv cs (by simpa using hne)
    | _ =>
      rw [build_node hn (by intro _ _ _ _ e; cases e) (by intro _ e; cases e), buildRaw_eq, errOf_bind_ok,
        strip_cols, strip_tables]
  · rw [build_noop hn, rawChk_noop hn]
    rfl

/-- **Acceptance only depends on the declared columns** (and, for join / concat, on the consistency of the table
descriptions): a builder call on a valid pipeline `p` and the raw call on a table description with `p`'s columns
have the same error class. -/
theorem build_errOf {p : Ops} (hv : p.valid = true) (n : String) (s : Step)
    (ht : ∀ b ∈ Step.argOps s, tablesConsistent p.tables b.tables = true ∧
      tablesConsistent [(n, p.cols)] b.tables = true) :
    errOf (build p s) = errOf (buildRaw (.table n p.cols) s) := by
  rw [build_errOf_rawChk hv, buildRaw_eq, errOf_bind_ok]
  exact congrArg errOf (rawChk_tables_congr fun b hb => (ht b hb).1.trans (ht b hb).2.symm)

theorem rawChk_consistent {sc : List String} {ta : List (String × List String)} {s : Step}
    (h : rawChk sc ta s = .ok ()) : ∀ b ∈ Step.argOps s, tablesConsistent ta b.tables = true := by
  intro b hb
  cases s with
  | join b' oa ob jt chk =>
    cases List.mem_singleton.mp hb
    obtain ⟨t, h1, _⟩ := bind_eq_ok.mp h
    simp only [joinChk, ok?_bind_ok] at h1
    exact h1.1
  | concat b' idc an bn =>
    cases b' with
    | none => cases hb
    | some b' =>
      cases List.mem_singleton.mp hb
      simp only [rawChk, concatChk, ok?_bind_ok] at h
      exact h.1
  | _ => cases hb

theorem rawChk_accepts {p p' : Ops} {s : Step} (hv : p.valid = true) (n : String) (h : build p s = .ok p')
    (hf : Step.Fresh n s) : rawChk p.cols [(n, p.cols)] s = .ok () := by
  have hc : rawChk p.cols p.tables s = .ok () := by
    have := build_errOf_rawChk hv s
    rw [h] at this
    obtain ⟨⟨⟩, hu⟩ := errOf_eq_none.mp this.symm
    exact hu
  rw [← hc]
  exact rawChk_tables_congr fun b hb => (tablesConsistent_fresh (hf b hb)).trans (rawChk_consistent hc b hb).symm

end DAVerif
