import DAVerif.Proofs.ApplyCongr
import DAVerif.Proofs.BuilderBasics
/-!
Soundness of `try_to_merge_ops` (`tryMergeOps`, the library after fix D5 of DESIGN.md): when two assignment
dictionaries merge, the merged `extend` computes, row by row, what the two `extend`s compute one after the
other – for plain extends and for windowed extends over the same partition and order.
-/
namespace DAVerif

theorem get_step_of_notMem (r : Row) (o1 : Assign) (g : Term → Val) {oc1 : List String} {c : String}
    (hc : c ∈ oc1) (hk : c ∉ o1.map (·.1)) :
    ((r.setAll (o1.map (fun kv => (kv.1, g kv.2)))).select oc1).get c = r.get c := by
  have hn : lookupLast o1 c = none := lookupLast_eq_none_iff.mpr hk
  rw [Row.select_get_of_mem hc, Row.get_setAll, lookupLast_map, hn]
  rfl

theorem merge_row (r : Row) {o1 o2 o : Assign} (g1 g2 : Term → Val) {oc1 oc2 oc' : List String}
    (hd : ∀ c, lookupLast o c = (lookupLast o2 c).or (lookupLast o1 c)) (hg : ∀ kv ∈ o2, g2 kv.2 = g1 kv.2)
    (h1 : ∀ c ∈ oc', c ∈ oc1 ∨ c ∈ o2.map (·.1)) (h2 : ∀ c ∈ oc', c ∈ oc2) :
    (r.setAll (o.map (fun kv => (kv.1, g1 kv.2)))).select oc' =
      ((((r.setAll (o1.map (fun kv => (kv.1, g1 kv.2)))).select oc1).setAll
        (o2.map (fun kv => (kv.1, g2 kv.2)))).select oc2).select oc' := by
  have e2 : o2.map (fun kv => (kv.1, g2 kv.2)) = o2.map (fun kv => (kv.1, g1 kv.2)) :=
    List.map_congr_left fun kv hkv => by rw [hg kv hkv]
  rw [Row.select_select h2, e2]
  refine Row.select_congr fun c hc => ?_
  rw [Row.get_setAll, Row.get_setAll, lookupLast_map, lookupLast_map, hd c]
  cases hl : lookupLast o2 c with
  | some v => rfl
  | none =>
    have hc1 : c ∈ oc1 := (h1 c hc).resolve_right (lookupLast_eq_none_iff.mp hl)
    rw [Option.none_or, Option.map_none, Option.getD_none, Row.select_get_of_mem hc1, Row.get_setAll,
      lookupLast_map]

/-- **`merge_ops_sound`, plain extends.**  If `try_to_merge_ops` merges `o₁` and `o₂` into `o`, then on every
table the single `extend` with `o` computes the table the two `extend`s compute one after the other – with the
merged node's column order (`oc'`; the two-step column list `oc2` has the same columns, possibly in another
order when a column is assigned by both steps). -/
theorem merge_ops_sound (Θ : Interp) {o1 o2 o : Assign} (h : tryMergeOps o1 o2 = some o) (t : Table)
    (oc1 oc2 oc' : List String) (hu : ∀ c ∈ Term.colsUsedOps o2, c ∈ oc1)
    (h1 : ∀ c ∈ oc', c ∈ oc1 ∨ c ∈ o2.map (·.1)) (h2 : ∀ c ∈ oc', c ∈ oc2) :
    semExtendPlain Θ o t oc' =
      (semExtendPlain Θ o2 (semExtendPlain Θ o1 t oc1) oc2).selectCols oc' := by
  obtain ⟨hd, hdis, -⟩ := tryMergeOps_spec h
  simp only [semExtendPlain, Table.selectCols, List.map_map, Table.mk.injEq, true_and]
  refine List.map_congr_left fun r _ => merge_row r (evalCell Θ r) _ hd (fun kv hkv => ?_) h1 h2
  -- the second step reads only columns the first one leaves as they were
  refine evalCell_congr Θ kv.2 fun c hc => ?_
  have hcu : c ∈ Term.colsUsedOps o2 := mem_colsUsedOps.mpr ⟨kv, hkv, hc⟩
  exact get_step_of_notMem r o1 _ (hu c hcu) (disjoint_iff.mp hdis c hcu)

theorem zipIdx_map_zipIdx {α β : Type} (l : List α) (g : α × Nat → β) :
    (l.zipIdx.map g).zipIdx = l.zipIdx.map (fun x => (g x, x.2)) := by
  apply List.ext_getElem
  · simp
  · intro i h1 h2
    simp

/-- **`merge_ops_sound`, windowed extends** over the same partition and order (which the first step does not
assign, and which, like the columns the second step reads, are among the first step's output columns). -/
theorem merge_ops_sound_window (Θ : Interp) {o1 o2 o : Assign} (h : tryMergeOps o1 o2 = some o)
    (p od rv : List String) (t : Table) (oc1 oc2 oc' : List String)
    (hu : ∀ c ∈ Term.colsUsedOps o2, c ∈ oc1) (hp : ∀ c ∈ p, c ∈ oc1) (hod : ∀ c ∈ od, c ∈ oc1)
    (hdp : disjoint (o1.map (·.1)) (p ++ od) = true)
    (h1 : ∀ c ∈ oc', c ∈ oc1 ∨ c ∈ o2.map (·.1)) (h2 : ∀ c ∈ oc', c ∈ oc2) :
    semExtendWindow Θ o p od rv t oc' =
      (semExtendWindow Θ o2 p od rv (semExtendWindow Θ o1 p od rv t oc1) oc2).selectCols oc' := by
  obtain ⟨hd, hdis, -⟩ := tryMergeOps_spec h
  simp only [← Sql.semExtendWindowG_rowLe, Sql.semExtendWindowG, Table.selectCols, zipIdx_map_zipIdx, List.map_map,
    Table.mk.injEq, true_and]
  refine List.map_congr_left fun ri hri =>
    merge_row ri.1 (Sql.winCell rowLe Θ p od rv t.rows.zipIdx ri) _ hd (fun kv hkv => ?_) h1 h2
  -- the first step's rows read like the input rows on partition, order and the second step's arguments
  have hargs : ∀ c ∈ argCol kv.2, c ∈ Term.colsUsedOps o2 :=
    fun c hc => mem_colsUsedOps.mpr ⟨kv, hkv, argCol_subset_colsRaw kv.2 c hc⟩
  have same : ∀ x : Row × Nat, Row.agreeOn (p ++ od ++ argCol kv.2)
      ((x.1.setAll (o1.map (fun kv => (kv.1, Sql.winCell rowLe Θ p od rv t.rows.zipIdx x kv.2)))).select oc1) x.1 := by
    intro x c hc
    rcases List.mem_append.mp hc with hc | hc
    · exact get_step_of_notMem x.1 o1 _ ((List.mem_append.mp hc).elim (hp c) (hod c))
        fun hk => disjoint_iff.mp hdp c hk hc
    · exact get_step_of_notMem x.1 o1 _ (hu c (hargs c hc)) (disjoint_iff.mp hdis c (hargs c hc))
  exact Sql.winCell_congr Sql.cmpCongr_rowLe Θ p od rv kv.2 (forall₂_map_left_of_mem fun x _ => ⟨same x, rfl⟩)
    ⟨same ri, rfl⟩ (fun c hc => List.mem_append_left _ (List.mem_append_left _ hc))
    (fun c hc => List.mem_append_left _ (List.mem_append_right _ hc)) (fun c hc => List.mem_append_right _ hc)

end DAVerif
