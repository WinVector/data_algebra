import DAVerif.Proofs.SqlMain
import DAVerif.Proofs.UsedSem
import DAVerif.Proofs.ToNearStep
/-!
C01/C02/C16, joins, translation side: a join the dialect renders natively is one join step (the `join` way of
`ToNearStep`), sound against the reference join `semJoin SemCfg.ref` of the tables of its sides as a row **list**
(`sound_joinStep`, `SqlE.nodeOK_join`).  Cell by cell, the SELECT list of the step (`joinTerms`: COALESCE for requested
common columns, qualified pass-through for the others) computes the reference join row, of the mirrored join when the
COALESCE direction is reversed (`joinTerms_cell`).

`Near.isJU` enlarges the class of near-SQL shapes by joins and unions (`shapeOK_ju`): `select_columns` / `drop_columns` on
top of a join or a union only restrict its term dictionary and do not change what requests within the kept keys return.
At the end of the file, what the root call (`columns = None`, forced SELECT) returns: `root_of_sound_ju`.
-/
namespace DAVerif
namespace Sql
open DAVerif.Ops (usedFromSources unionL)

variable {Θ : Interp} {ec : EngineCfg} {env : Env} {G : Near → Prop} {cfg : SqlCfg}

/-- tables, unary steps, joins and unions: what the translation of the fragment with joins and `concat_rows` returns -/
def Near.isJU : Near → Bool
  | .cte _ => false
  | _ => true

theorem subset_joinOut (keys u' : List String) : ∀ c ∈ u', c ∈ joinOut keys (some u') := by
  intro c hc
  simp only [joinOut]
  split
  · rename_i he
    have : u' = [] := by simpa using he
    subst this; cases hc
  · exact hc

theorem joinOut_some_ne {keys u' : List String} (h : u' ≠ []) : joinOut keys (some u') = u' := by
  have : u'.isEmpty = false := by simpa using h
  simp [joinOut, this]

theorem sqlCell_congr {lC rC : List String} {terms terms' : Terms} {c : String}
    (h : lookupLast terms c = lookupLast terms' c) (ra rb : Option Row) :
    sqlCell lC rC terms ra rb c = sqlCell lC rC terms' ra rb c := by
  simp only [sqlCell, h]

theorem joinRows_select {m : Row → Row → Bool} (lC rC : List String) (terms : Terms) {out u' : List String}
    (h : ∀ c ∈ u', c ∈ out) (kl kr : Bool) (la lb : List Row) :
    (joinRows m (sqlJoinRow lC rC terms out) kl kr la lb).map (fun r => r.select u') =
      joinRows m (fun x y => u'.map (fun c => (c, sqlCell lC rC terms x y c))) kl kr la lb := by
  rw [joinRows_map]
  exact joinRows_congr_mk (fun x y => by rw [sqlJoinRow_eq]; exact select_mkRow _ h) ..

theorem setTermKeys_join {n : String} {ts : Terms} {l : Near} {lc : List String} {ln : String} {r : Near}
    {rc : List String} {rn : String} {jt : JoinType} {oa ob : List String} {key : Option String} {ks : List String}
    {sel : Bool} {q' : Near} (h : setTermKeys (.join n ts l lc ln r rc rn jt oa ob key) ks sel = some q') :
    (ks = [] ∧ q' = .join n ts l lc ln r rc rn jt oa ob key) ∨
    ((∀ k ∈ ks, k ∈ ts.map (·.1)) ∧
      q' = .join n (ks.filterMap (fun k => (lookupLast ts k).map (fun t => (k, t)))) l lc ln r rc rn jt oa ob key) := by
  simp only [setTermKeys] at h
  split at h
  · exact Or.inl ⟨List.isEmpty_iff.mp ‹_›, (Option.some.inj h).symm⟩
  · split at h
    · exact Or.inr ⟨subset_iff.mp ‹_›, (Option.some.inj h).symm⟩
    · cases h

theorem setTermKeys_union {n : String} {ts : List String} {l r : Near} {cs : List String} {key : Option String}
    {ks : List String} {sel : Bool} {q' : Near} (h : setTermKeys (.union n ts l r cs key) ks sel = some q') :
    (ks = [] ∧ q' = .union n ts l r cs key) ∨ q' = .union n ks l r cs key := by
  simp only [setTermKeys] at h
  split at h
  · exact Or.inl ⟨List.isEmpty_iff.mp ‹_›, (Option.some.inj h).symm⟩
  · split at h
    · exact Or.inr (Option.some.inj h).symm
    · cases h

theorem keyStable_join (Θ : Interp) (ec : EngineCfg) (env : Env) (n : String) (ts : Terms) (l : Near)
    (lc : List String) (ln : String) (r : Near) (rc : List String) (rn : String) (jt : JoinType)
    (oa ob : List String) (key : Option String) :
    KeyStable Θ ec env (.join n ts l lc ln r rc rn jt oa ob key) := by
  intro ks sel q' h
  rcases setTermKeys_join h with ⟨rfl, rfl⟩ | ⟨hsub, rfl⟩
  · exact ⟨fun u' force T _ hT hc => ⟨T, hT, hc, rfl⟩, fun hne => absurd rfl hne⟩
  · refine ⟨fun u' force T hu hT _ => ?_, fun _ _ => congrArg some (keys_filterMap_keys ts ks hsub)⟩
    obtain ⟨tl, tr, hl, hr, hj, rfl⟩ := semNear_join_ok.mp hT
    refine ⟨_, semNear_join_ok.mpr ⟨tl, tr, hl, hr, hj, rfl⟩, subset_joinOut _ _, ?_⟩
    rw [joinRows_select _ _ _ (subset_joinOut _ _), joinRows_select _ _ _ (subset_joinOut _ _)]
    exact joinRows_congr_mk (fun x y => List.map_congr_left (fun c hc => congrArg (Prod.mk c)
      (sqlCell_congr (by rw [lookupLast_filterMap_keys, if_pos (hu c hc)]) x y))) ..

theorem keyStable_union (Θ : Interp) (ec : EngineCfg) (env : Env) (n : String) (ts : List String) (l r : Near)
    (cs : List String) (key : Option String) : KeyStable Θ ec env (.union n ts l r cs key) := by
  intro ks sel q' h
  rcases setTermKeys_union h with ⟨rfl, rfl⟩ | rfl
  · exact ⟨fun u' force T _ hT hc => ⟨T, hT, hc, rfl⟩, fun hne => absurd rfl hne⟩
  · refine ⟨fun u' force T hu hT _ => ?_, fun _ _ => rfl⟩
    obtain ⟨tl, tr, hl, hr, rfl⟩ := semNear_union_ok.mp hT
    refine ⟨_, semNear_union_ok.mpr ⟨tl, tr, hl, hr, rfl⟩, subset_joinOut _ _, ?_⟩
    rw [select_map_select _ (subset_joinOut _ _), select_map_select _ (subset_joinOut _ _)]

theorem isJU_of_isSimple {q : Near} (h : q.isSimple = true) : q.isJU = true := by
  cases q <;> first | rfl | cases h

theorem isJU_setTermKeys {q q' : Near} {ks : List String} {sel : Bool} (h : setTermKeys q ks sel = some q')
    (hs : q.isJU = true) : q'.isJU = true := by
  cases q with
  | cte _ => cases hs
  | table n ts => exact isJU_of_isSimple (isSimple_setTermKeys h rfl)
  | unary n ts agg sub sc sf mg deps key => exact isJU_of_isSimple (isSimple_setTermKeys h rfl)
  | join n ts l lc ln r rc rn jt oa ob key => rcases setTermKeys_join h with ⟨_, rfl⟩ | ⟨_, rfl⟩ <;> rfl
  | union n ts l r cs key => rcases setTermKeys_union h with ⟨_, rfl⟩ | rfl <;> rfl

theorem shapeOK_ju (Θ : Interp) (ec : EngineCfg) (env : Env) : ShapeOK Θ ec env (fun q => q.isJU = true) := by
  refine ⟨fun _ => isJU_of_isSimple, ?_, fun _ _ _ _ hq h => isJU_setTermKeys h hq⟩
  · intro q hq
    cases q with
    | cte _ => cases hq
    | table n ts => exact keyStable_of_simple Θ ec env rfl
    | unary n ts agg sub sc sf mg deps key => exact keyStable_of_simple Θ ec env rfl
    | join n ts l lc ln r rc rn jt oa ob key => exact keyStable_join Θ ec env n ts l lc ln r rc rn jt oa ob key
    | union n ts l r cs key => exact keyStable_union Θ ec env n ts l r cs key

theorem mem_joinTerms_keys {lf : Bool} {usg ul ur : List String} {c : String} :
    c ∈ (joinTerms lf usg ul ur).map (·.1) ↔
      (c ∈ ur ∧ c ∈ ul ∧ c ∈ usg) ∨ (c ∈ ul ∧ c ∉ ur) ∨ (c ∈ ur ∧ c ∉ ul) := by
  simp only [joinTerms, List.map_append, List.map_map, Function.comp_def, List.map_id', List.mem_append,
    List.mem_filter, Bool.not_eq_eq_eq_not, Bool.not_true, List.contains_eq_mem,
    decide_eq_false_iff_not, decide_eq_true_eq, not_and]
  constructor
  · rintro ((⟨⟨h1, h2⟩, h3⟩ | ⟨h1, h2⟩) | ⟨h1, h2⟩)
    · exact Or.inl ⟨h1, h2, h3⟩
    · exact Or.inr (Or.inl ⟨h1, fun h => h2 h h1⟩)
    · exact Or.inr (Or.inr ⟨h1, fun h => h2 h1 h⟩)
  · rintro (⟨h1, h2, h3⟩ | ⟨h1, h2⟩ | ⟨h1, h2⟩)
    · exact Or.inl (Or.inl ⟨⟨h1, h2⟩, h3⟩)
    · exact Or.inl (Or.inr ⟨h1, fun h => absurd h h2⟩)
    · exact Or.inr ⟨h1, fun _ h => h2 h⟩

theorem lookup_joinTerms_common {lf : Bool} {usg ul ur : List String} {c : String} (h1 : c ∈ ur) (h2 : c ∈ ul)
    (h3 : c ∈ usg) : lookupLast (joinTerms lf usg ul ur) c = some (.coalesce lf c) := by
  have hc : c ∈ ur.filter (fun c => ul.contains c) := List.mem_filter.mpr ⟨h1, by simpa using h2⟩
  simp only [joinTerms, lookupLast_append, lookupLast_map_fn]
  have hcc : (ur.filter (fun c => ul.contains c)).contains c = true := List.contains_iff_mem.mpr hc
  rw [if_neg (by simp only [List.mem_filter]; rintro ⟨_, h⟩; rw [hcc] at h; cases h),
    if_neg (by simp only [List.mem_filter]; rintro ⟨_, h⟩; rw [hcc] at h; cases h),
    if_pos (List.mem_filter.mpr ⟨hc, by simpa using h3⟩)]
  rfl

theorem lookup_joinTerms_coalesce {lf lf' : Bool} {usg ul ur : List String} {c c' : String}
    (h : lookupLast (joinTerms lf usg ul ur) c = some (.coalesce lf' c')) : c ∈ ur ∧ c ∈ ul := by
  have hm := lookupLast_mem h
  simp only [joinTerms, List.mem_append, List.mem_map, List.mem_filter, Prod.mk.injEq] at hm
  rcases hm with (⟨k, ⟨⟨h1, h2⟩, _⟩, rfl, _⟩ | ⟨k, _, _, h⟩) | ⟨k, _, _, h⟩
  · exact ⟨h1, by simpa using h2⟩
  · cases h
  · cases h

theorem joinTerms_keys_sub {lf : Bool} {usg ca cb onA onB : List String} :
    ∀ k ∈ (joinTerms lf usg (sideCols ca usg onA onB) (sideCols cb usg onA onB)).map (·.1), k ∈ ca ∨ k ∈ cb := by
  intro k hk
  rcases mem_joinTerms_keys.mp hk with ⟨h, _, _⟩ | ⟨h, _⟩ | ⟨h, _⟩
  · exact Or.inr (mem_sideCols.mp h).1
  · exact Or.inl (mem_sideCols.mp h).1
  · exact Or.inr (mem_sideCols.mp h).1

theorem joinTerms_keys_sup {lf : Bool} {usg ca cb onA onB : List String} (husg : ∀ c ∈ usg, c ∈ ca ∨ c ∈ cb) :
    ∀ c ∈ usg, c ∈ (joinTerms lf usg (sideCols ca usg onA onB) (sideCols cb usg onA onB)).map (·.1) := by
  intro c hc
  rw [mem_joinTerms_keys]
  by_cases ha : c ∈ ca
  · by_cases hb : c ∈ cb
    · exact Or.inl ⟨mem_sideCols.mpr ⟨hb, Or.inl hc⟩, mem_sideCols.mpr ⟨ha, Or.inl hc⟩, hc⟩
    · exact Or.inr (Or.inl ⟨mem_sideCols.mpr ⟨ha, Or.inl hc⟩, fun h => hb (mem_sideCols.mp h).1⟩)
  · have hb := (husg c hc).resolve_left ha
    exact Or.inr (Or.inr ⟨mem_sideCols.mpr ⟨hb, Or.inl hc⟩, fun h => ha (mem_sideCols.mp h).1⟩)

theorem sideCell_congr {cs cs' : List String} {c : String} (h : c ∈ cs ↔ c ∈ cs') (r : Option Row) :
    Ref.sideCell cs r c = Ref.sideCell cs' r c := by
  have : cs.contains c = cs'.contains c := by rw [Bool.eq_iff_iff]; simpa using h
  cases r with
  | none => rfl
  | some r => simp only [Ref.sideCell, this]

theorem sideCell_select {cs S : List String} {c : String} (h : c ∈ cs → c ∈ S) (r : Option Row) :
    Ref.sideCell cs (r.map (fun r => r.select S)) c = Ref.sideCell cs r c := by
  cases r with
  | none => rfl
  | some r =>
    simp only [Ref.sideCell, Option.map_some]
    split
    · rename_i hc; rw [Row.select_get_of_mem (h (by simpa using hc))]
    · rfl

theorem refCell_eq (ca cb : List String) (ra rb : Option Row) (c : String) :
    refCell ca cb ra rb c = if (Ref.sideCell ca ra c).isNull then Ref.sideCell cb rb c else Ref.sideCell ca ra c := rfl

theorem refCell_congr {ca ca' cb cb' : List String} {c : String} (ha : c ∈ ca ↔ c ∈ ca') (hb : c ∈ cb ↔ c ∈ cb')
    (ra rb : Option Row) : refCell ca cb ra rb c = refCell ca' cb' ra rb c := by
  rw [refCell, sideCell_congr ha, sideCell_congr hb, refCell]

theorem ite_isNull_null (v : Val) : (if v.isNull = true then Val.null else v) = v := by
  cases hn : v.isNull
  · simp
  · rw [Val.eq_null_of_isNull hn]; rfl

theorem refCell_of_not_mem_right {ca cb : List String} {c : String} (h : c ∉ cb) (ra rb : Option Row) :
    refCell ca cb ra rb c = Ref.sideCell ca ra c := by
  rw [refCell, RefSem.sideCell_of_not_mem h, ite_isNull_null]

theorem refCell_of_not_mem_left {ca cb : List String} {c : String} (h : c ∉ ca) (ra rb : Option Row) :
    refCell ca cb ra rb c = Ref.sideCell cb rb c := by
  rw [refCell, RefSem.sideCell_of_not_mem h]
  rfl

theorem sqlCell_co {lC rC : List String} {terms : Terms} {c c' : String} {lf : Bool}
    (h : lookupLast terms c = some (.coalesce lf c')) (ra rb : Option Row) :
    sqlCell lC rC terms ra rb c = if lf then refCell lC rC ra rb c else refCell rC lC rb ra c := by
  simp only [sqlCell, h]

theorem sqlCell_nc {lC rC : List String} {terms : Terms} {c : String}
    (h : ∀ lf c', lookupLast terms c ≠ some (.coalesce lf c')) (ra rb : Option Row) :
    sqlCell lC rC terms ra rb c = if lC.contains c then Ref.sideCell lC ra c else Ref.sideCell rC rb c := by
  unfold sqlCell
  split
  · exact absurd ‹_› (h _ _)
  · rfl

theorem sqlCell_select (lC rC : List String) (terms : Terms) (ra rb : Option Row) (c : String) :
    sqlCell lC rC terms ra rb c =
      sqlCell lC rC terms (ra.map (fun r => r.select lC)) (rb.map (fun r => r.select rC)) c := by
  simp only [sqlCell, refCell, sideCell_select (fun h => h)]

/-- `lf`: `COALESCE(l.c, r.c)`, the reference join of the two inputs as they stand; otherwise `COALESCE(r.c, l.c)`, the
mirrored join -/
theorem joinTerms_cell (lf : Bool) {ca cb usg onA onB : List String} (x y : Option Row) {c : String} (hc : c ∈ usg) :
    sqlCell (sideCols ca usg onA onB) (sideCols cb usg onA onB)
        (joinTerms lf usg (sideCols ca usg onA onB) (sideCols cb usg onA onB)) x y c =
      if lf then refCell ca cb x y c else refCell cb ca y x c := by
  have hl : c ∈ sideCols ca usg onA onB ↔ c ∈ ca :=
    ⟨fun h => (mem_sideCols.mp h).1, fun h => mem_sideCols.mpr ⟨h, Or.inl hc⟩⟩
  have hr : c ∈ sideCols cb usg onA onB ↔ c ∈ cb :=
    ⟨fun h => (mem_sideCols.mp h).1, fun h => mem_sideCols.mpr ⟨h, Or.inl hc⟩⟩
  by_cases ha : c ∈ ca
  · by_cases hb : c ∈ cb
    · rw [sqlCell_co (lookup_joinTerms_common (hr.mpr hb) (hl.mpr ha) hc), refCell_congr hl hr, refCell_congr hr hl]
    · rw [sqlCell_nc (fun _ _ h => hb (hr.mp (lookup_joinTerms_coalesce h).1)), if_pos (List.contains_iff_mem.mpr (hl.mpr ha)),
        sideCell_congr hl, refCell_of_not_mem_right hb, refCell_of_not_mem_left hb, ite_self]
  · rw [sqlCell_nc (fun _ _ h => ha (hl.mp (lookup_joinTerms_coalesce h).2)),
      if_neg (fun h => ha (hl.mp (List.contains_iff_mem.mp h))), sideCell_congr hr, refCell_of_not_mem_left ha,
      refCell_of_not_mem_right ha, ite_self]

theorem refMatch_select (cfg : SemCfg) (jt : JoinType) {onA onB SA SB : List String} (hA : ∀ c ∈ onA, c ∈ SA)
    (hB : ∀ c ∈ onB, c ∈ SB) (ra rb : Row) :
    refMatch cfg jt onA onB ra rb = refMatch cfg jt onA onB (ra.select SA) (rb.select SB) := by
  simp only [refMatch, keyOf_select _ hA, keyOf_select _ hB]

theorem semG_join_ok {le : RowCmp} {scfg : SemCfg} {a b : Ops} {onA onB : List String} {jt : JoinType} {tp : Table}
    (h : semG le Θ scfg env (.join a b onA onB jt) = .ok tp) :
    ∃ ta tb, semG le Θ scfg env a = .ok ta ∧ semG le Θ scfg env b = .ok tb ∧
      tp = (semJoin scfg jt onA onB ta tb (appendNew a.cols b.cols)).selectCols (Ops.join a b onA onB jt).cols := by
  rw [semG] at h
  obtain ⟨ta, ha, h⟩ := bind_eq_ok.mp h
  obtain ⟨tb, hb, h⟩ := bind_eq_ok.mp h
  exact ⟨ta, tb, ha, hb, (Except.ok.inj h).symm⟩

theorem semNear_join_sound {nl nr : Near} {lC rC Sl Sr pl pr oa ob : List String} {tl tr : Table} {jt : JoinType}
    (nm : String) (terms : Terms) (ln rn : String) (key : Option String) (hjt : jt ≠ .outer)
    (hl : Sound Θ ec env nl Sl pl tl) (hlS : ∀ c ∈ lC, c ∈ Sl) (hr : Sound Θ ec env nr Sr pr tr)
    (hrS : ∀ c ∈ rC, c ∈ Sr) (hoa : ∀ c ∈ oa, c ∈ lC) (hob : ∀ c ∈ ob, c ∈ rC) (u' : List String) (force : Bool) :
    ∃ T, semNear Θ ec env [] (.join nm terms nl lC ln nr rC rn jt oa ob key) (some u') force = .ok T ∧
      (∀ c ∈ u', c ∈ T.cols) ∧
      T.rows.map (fun r => r.select u') =
        joinRows (refMatch SemCfg.ref jt oa ob) (fun x y => u'.map (fun c => (c, sqlCell lC rC terms x y c)))
          (jt == .left || jt == .full) (jt == .right || jt == .full) tl.rows tr.rows := by
  obtain ⟨Tl, hTl, _, hTlr⟩ := hl.req _ hlS false
  obtain ⟨Tr, hTr, _, hTrr⟩ := hr.req _ hrS false
  refine ⟨_, semNear_join_ok.mpr ⟨Tl, Tr, hTl, hTr, hjt, rfl⟩, subset_joinOut _ _, ?_⟩
  rw [joinRows_select _ _ _ (subset_joinOut _ _)]
  exact joinRows_transport _ _ hTlr hTrr (refMatch_select _ _ hoa hob)
    (fun x y => List.map_congr_left (fun c _ => by rw [sqlCell_select]))

theorem ref_flags (jt : JoinType) (hjt : jt ≠ .outer) :
    (jt == .left || jt == .full || jt == .outer || (jt == .cross && SemCfg.ref.crossAsOuter)) = (jt == .left || jt == .full) ∧
    (jt == .right || jt == .full || jt == .outer || (jt == .cross && SemCfg.ref.crossAsOuter)) = (jt == .right || jt == .full) := by
  cases jt <;> first | exact ⟨rfl, rfl⟩ | exact absurd rfl hjt

theorem semJoin_select {jt : JoinType} (hjt : jt ≠ .outer) (onA onB : List String) (ta tb : Table)
    {out cols u' : List String} (hu : ∀ c ∈ u', c ∈ cols) (hc : ∀ c ∈ cols, c ∈ out) :
    ((semJoin SemCfg.ref jt onA onB ta tb out).selectCols cols).rows.map (fun r => r.select u') =
      joinRows (refMatch SemCfg.ref jt onA onB) (fun x y => u'.map (fun c => (c, refCell ta.cols tb.cols x y c)))
        (jt == .left || jt == .full) (jt == .right || jt == .full) ta.rows tb.rows := by
  simp only [Table.selectCols]
  rw [select_map_select _ hu, semJoin_eq, joinRows_map, (ref_flags jt hjt).1, (ref_flags jt hjt).2]
  exact joinRows_congr_mk (fun x y => by rw [joinRow_eq]; exact select_mkRow _ (fun c h => hc c (hu c h))) ..

/-- A natively rendered join step over two sound sub-queries, bound with any sub-set of the request `usg`, returns, row by
row in the same order, the reference join (`semJoin SemCfg.ref`: null keys never match, unmatched rows padded with
nulls, common columns coalesced left first) of the two reference tables. -/
theorem sound_joinStep {nl nr : Near} {a b : Ops} {onA onB usg Sl Sr : List String} {jt : JoinType} {ta tb : Table}
    (nm ln rn : String) (key : Option String)
    (hjt : jt ≠ .outer) (hoa : ∀ c ∈ onA, c ∈ a.cols) (hob : ∀ c ∈ onB, c ∈ b.cols)
    (hta : ta.cols = a.cols) (htb : tb.cols = b.cols)
    (husg : ∀ c ∈ usg, c ∈ (Ops.join a b onA onB jt).cols)
    (hl : Sound Θ ec env nl Sl a.cols ta) (hlS : ∀ c ∈ sideCols a.cols usg onA onB, c ∈ Sl)
    (hr : Sound Θ ec env nr Sr b.cols tb) (hrS : ∀ c ∈ sideCols b.cols usg onA onB, c ∈ Sr) :
    Sound Θ ec env
      (.join nm (joinTerms true usg (sideCols a.cols usg onA onB) (sideCols b.cols usg onA onB)) nl
        (sideCols a.cols usg onA onB) ln nr (sideCols b.cols usg onA onB) rn jt onA onB key)
      usg (Ops.join a b onA onB jt).cols
      ((semJoin SemCfg.ref jt onA onB ta tb (appendNew a.cols b.cols)).selectCols (Ops.join a b onA onB jt).cols) := by
  have hmem := fun c hc => (mem_join_cols a b onA onB jt c).mp (husg c hc)
  refine ⟨fun u' hu' force => ?_, fun _ => ⟨_, rfl, fun k hk => (mem_join_cols a b onA onB jt k).mpr
    (joinTerms_keys_sub k hk), joinTerms_keys_sup hmem⟩⟩
  obtain ⟨T, hT, hc, hrows⟩ := semNear_join_sound nm _ ln rn key hjt hl hlS hr hrS
    (fun c hc => mem_sideCols.mpr ⟨hoa c hc, Or.inr (Or.inl hc)⟩)
    (fun c hc => mem_sideCols.mpr ⟨hob c hc, Or.inr (Or.inr hc)⟩) u' force
  refine ⟨T, hT, hc, hrows.trans ?_⟩
  rw [semJoin_select hjt onA onB ta tb (fun c hc => husg c (hu' c hc))
    (fun c hc => mem_appendNew.mpr ((mem_join_cols a b onA onB jt c).mp hc)), hta, htb]
  exact joinRows_congr_mk (fun x y => List.map_congr_left (fun c hc => congrArg (Prod.mk c)
    (joinTerms_cell true x y (hu' c hc)))) ..

theorem native_flags {jt : JoinType} (hnat : cfg.emulateRightFull = false ∨ (jt ≠ .right ∧ jt ≠ .full)) :
    (cfg.emulateRightFull && jt == .right) = false ∧ (cfg.emulateRightFull && jt == .full) = false := by
  rcases hnat with h | h
  · rw [h]; exact ⟨rfl, rfl⟩
  · rw [beq_false_of_ne h.1, beq_false_of_ne h.2, Bool.and_false]; exact ⟨rfl, rfl⟩

/-- A join the dialect renders natively: INNER, LEFT, RIGHT, FULL, CROSS on the generic dialect; INNER, LEFT, CROSS on
SQLite.  `OUTER` is excluded (`semNear` has no such join: not SQL). -/
theorem SqlE.nodeOK_join (hJU : ∀ q : Near, q.isJU = true → G q) (fuel : Nat) (a b : Ops) (onA onB : List String)
    (jt : JoinType) (hnat : cfg.emulateRightFull = false ∨ (jt ≠ .right ∧ jt ≠ .full)) (hjt : jt ≠ .outer)
    (hoa : ∀ c ∈ onA, c ∈ a.cols) (hob : ∀ c ∈ onB, c ∈ b.cols) {ta tb : Table}
    (hca : ta.cols = a.cols) (hcb : tb.cols = b.cols)
    (iha : SqlE.NodeOK Θ ec env G cfg fuel a ta) (ihb : SqlE.NodeOK Θ ec env G cfg fuel b tb) :
    SqlE.NodeOK Θ ec env G cfg (fuel + 1) (.join a b onA onB jt)
      ((semJoin SemCfg.ref jt onA onB ta tb (appendNew a.cols b.cols)).selectCols (Ops.join a b onA onB jt).cols) := by
  intro u st q st' _ h
  cases toNear_succ_inv h with
  | step _ hσ => cases hσ
  | rekey _ hk => cases hk
  | joinFull hemu => rw [hemu] at hnat; exact absurd rfl (hnat.resolve_left nofun).2
  | join _ hsides husg hul hur _ hsub hnl hnr =>
    rw [(native_flags hnat).1] at hsides
    cases hsides
    subst husg hul hur
    obtain ⟨_, Sl, hSl, _, hsl⟩ := iha _ _ _ _ (fun c hc => (mem_sideCols.mp hc).1) hnl
    obtain ⟨_, Sr, hSr, _, hsr⟩ := ihb _ _ _ _ (fun c hc => (mem_sideCols.mp hc).1) hnr
    exact ⟨hJU _ rfl, _, subset_joinUsg _ u, hsub,
      sound_joinStep _ _ _ _ hjt hoa hob hca hcb hsub hsl hSl hsr hSr⟩

theorem root_eval_ju {Θ : Interp} {ec : EngineCfg} {env : Env} {q : Near} {ks : List String} {T : Table}
    (hq : q.isJU = true) (hk : q.termKeys = some ks) (hksne : ks ≠ [])
    (h1 : semNear Θ ec env [] q (some ks) true = .ok T) :
    semNear Θ ec env [] q none true = .ok T ∧ T.cols = ks := by
  cases q with
  | cte _ => cases hq
  | table name ts =>
    cases Option.some.inj hk
    refine ⟨h1, ?_⟩
    rw [semNear] at h1
    split at h1
    · cases h1
    · rw [if_pos rfl, Option.getD_some, if_neg (mt List.isEmpty_iff.mp hksne)] at h1
      split at h1 <;> cases h1
      rfl
  | unary nm terms agg sub sc sfx mg dp key =>
    cases terms with
    | none => cases hk
    | some ts =>
      cases Option.some.inj hk
      rw [semNear_unary] at h1 ⊢
      obtain ⟨t0, hsub, h1⟩ := bind_eq_ok.mp h1
      cases h1
      rw [hsub, outCols_some_mem hksne (Option.some_ne_none ts)]
      exact ⟨rfl, rfl⟩
  | join n ts l lc ln r rc rn jt oa ob key =>
    cases Option.some.inj hk
    obtain ⟨tl, tr, hl, hr, hj, rfl⟩ := semNear_join_ok.mp h1
    exact ⟨semNear_join_ok.mpr ⟨tl, tr, hl, hr, hj, by rw [joinOut_some_ne hksne]; rfl⟩, joinOut_some_ne hksne⟩
  | union n ts l r cs key =>
    cases Option.some.inj hk
    obtain ⟨tl, tr, hl, hr, rfl⟩ := semNear_union_ok.mp h1
    exact ⟨semNear_union_ok.mpr ⟨tl, tr, hl, hr, by rw [joinOut_some_ne hksne]; rfl⟩, joinOut_some_ne hksne⟩

theorem root_of_sound_ju {Θ : Interp} {ec : EngineCfg} {env : Env} {q : Near} {u pc : List String} {tp : Table}
    (hs : Sound Θ ec env q u pc tp) (hq : q.isJU = true) (hu : ∀ c ∈ pc, c ∈ u) (_hpc : ∀ c ∈ u, c ∈ pc)
    (hne : pc ≠ []) :
    ∃ T, semNear Θ ec env [] q none true = .ok T ∧ (∀ c, c ∈ T.cols ↔ c ∈ pc) ∧
      T.rows.map (fun r => r.select pc) = tp.rows.map (fun r => r.select pc) := by
  have hune : u ≠ [] := ne_nil_of_subset hu hne
  obtain ⟨ks, hk, hks1, hks2⟩ := hs.keys hune
  obtain ⟨T, h1, _, h4⟩ := hs.req ks (fun c hc => hu c (hks1 c hc)) true
  obtain ⟨e1, e2⟩ := root_eval_ju hq hk (ne_nil_of_subset hks2 hune) h1
  exact ⟨T, e1, fun c => e2 ▸ ⟨hks1 c, fun hc => hks2 c (hu c hc)⟩,
    map_select_mono h4 (fun c hc => hks2 c (hu c hc))⟩

end Sql
end DAVerif
