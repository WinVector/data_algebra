import DAVerif.Proofs.SqlMerge
/-!
C01/C04: the step the translation emits for `extend` (the pieces `extUsg` … `extEmit` of the clause are in
`Proofs/ToNearStep.lean`): its dictionaries satisfy the invariant of mergeable steps (`ExtFacts`, `extend_termsOK`), and
it is sound (`extend_step_sound`).
-/
namespace DAVerif
namespace Sql
open DAVerif.Ops (usedFromSources unionL)
open Rules26 (usedBy keys)

variable {Θ : Interp} {ec : EngineCfg} {env : Env} {scfg : SemCfg} {G : Near → Prop} {cfg : SqlCfg}

theorem look_extend_deps (ops : Assign) (usg wv : List String) {c : String} (hc : c ∈ usg) :
    lookupLast (extDeps ops usg wv) c =
      match lookupLast ops c with
      | some t => some (unionL (Term.colsUsed t) wv)
      | none => some [c] := by
  unfold extDeps extOrig extSubops
  rw [lookupLast_append, lookupLast_map (ops.filter (fun kv => usg.contains kv.1))
      (fun t => unionL (Term.colsUsed t) wv),
    lookupLast_filter_key ops (fun k => usg.contains k), if_pos (by simpa using hc)]
  cases hl : lookupLast ops c with
  | some t => rfl
  | none =>
    simp only [Option.map_none, Option.none_or, lookupLast_map_fn]
    rw [if_pos]
    apply List.mem_filter.mpr
    refine ⟨hc, ?_⟩
    simp only [List.contains_eq_mem, List.mem_map, List.mem_filter, Bool.not_eq_eq_eq_not, Bool.not_true,
      decide_eq_false_iff_not, not_exists, not_and]
    intro kv hkv e
    exact lookupLast_eq_none_iff.mp hl (List.mem_map.mpr ⟨kv, hkv.1, e⟩)

/-- the syntactic facts about the translation of an extend node for the request `u` (non-pruned case);
`usg = extUsg u part order rev`, `S` = the columns requested from the source -/
structure ExtFacts (src : Ops) (ops : Assign) (part order rev : List String) (w : Bool) (usg S : List String) :
    Prop where
  usgn : ∀ c ∈ usg, c ∈ (Ops.extend src ops part order rev w).cols
  Ssrc : ∀ c ∈ S, c ∈ src.cols
  passS : ∀ c ∈ usg, lookupLast ops c = none → c ∈ S
  exprS : ∀ c ∈ usg, ∀ t, lookupLast ops c = some t → ∀ x ∈ Term.colsRaw t, x ∈ S
  partS : ∀ c ∈ part, c ∈ S
  orderS : ∀ c ∈ order, c ∈ S
  look : ∀ win, ∀ c ∈ usg, lookupLast (extTerms ops usg win) c =
    match lookupLast ops c with
    | some t => some (STerm.expr t win)
    | none => some STerm.pass
  keysT : ∀ win c, c ∈ (extTerms ops usg win).map (·.1) ↔ c ∈ usg
  tne : ∀ win, extTerms ops usg win ≠ []

theorem mem_extend_cols {src : Ops} {ops : Assign} {part order rev : List String} {w : Bool} {c : String} :
    c ∈ (Ops.extend src ops part order rev w).cols ↔ c ∈ src.cols ∨ c ∈ ops.map (·.1) :=
  mem_appendNew

theorem extUsg_cols {src : Ops} {ops : Assign} {part order rev : List String} {w : Bool} {u : List String}
    (hext : ExtOK src.cols ops part order rev w)
    (hu : ∀ c ∈ u, c ∈ (Ops.extend src ops part order rev w).cols) :
    ∀ c ∈ extUsg u part order rev, c ∈ (Ops.extend src ops part order rev w).cols := by
  obtain ⟨_, hpart, hord, hrev, _⟩ := hext
  intro c hc
  rcases mem_usg.mp hc with h | h | h | h
  · exact hu c h
  · exact mem_extend_cols.mpr (Or.inl (hpart c h))
  · exact mem_extend_cols.mpr (Or.inl (hord c h))
  · exact mem_extend_cols.mpr (Or.inl (hord c (hrev c h)))

theorem extUsg_pruned {src : Ops} {ops : Assign} {part order rev : List String} {w : Bool} {usg : List String}
    (husgn : ∀ c ∈ usg, c ∈ (Ops.extend src ops part order rev w).cols)
    (hempty : (extSubops ops usg).isEmpty = true) : ∀ c ∈ usg, c ∈ src.cols ∧ c ∉ ops.map (·.1) := by
  intro c hc
  have hnk : c ∉ ops.map (·.1) := by
    intro hk
    obtain ⟨kv, hkv, rfl⟩ := List.mem_map.mp hk
    have : kv ∈ extSubops ops usg := List.mem_filter.mpr ⟨hkv, List.contains_iff_mem.mpr hc⟩
    rw [List.isEmpty_iff.mp hempty] at this
    cases this
  exact ⟨(mem_extend_cols.mp (husgn c hc)).resolve_right hnk, hnk⟩

theorem extFacts {src : Ops} {ops : Assign} {part order rev : List String} {w : Bool} {u : List String}
    (hext : ExtOK src.cols ops part order rev w)
    (hu : ∀ c ∈ u, c ∈ (Ops.extend src ops part order rev w).cols)
    (hne : (extSubops ops (extUsg u part order rev)).isEmpty = false) :
    ExtFacts src ops part order rev w (extUsg u part order rev)
      (((Ops.extend src ops part order rev w).usedFromSources (extUsg u part order rev)).headD []) := by
  have husgn := extUsg_cols hext hu
  obtain ⟨hused, _, _, _, hkeys, _⟩ := hext
  have hpo : ∀ c, c ∈ part ∨ c ∈ order → c ∈ extUsg u part order rev := fun c hc =>
    mem_usg.mpr (hc.elim (fun h => Or.inr (Or.inl h)) (fun h => Or.inr (Or.inr (Or.inl h))))
  generalize extUsg u part order rev = usg at hne husgn hpo ⊢
  -- `S`: the source columns that are requested and not assigned, or read by a kept assignment
  have hmemS : ∀ c, c ∈ ((Ops.extend src ops part order rev w).usedFromSources usg).headD [] ↔ c ∈ src.cols ∧
      ((c ∈ unionL (unionL (unionL usg part) order) rev ∧ c ∉ (extSubops ops usg).map (·.1)) ∨
        c ∈ Term.colsUsedOps (extSubops ops usg)) := by
    intro c
    have hS0 : ((Ops.extend src ops part order rev w).usedFromSources usg).headD [] =
        src.cols.filter (fun c => (unionL
          ((unionL (unionL (unionL usg part) order) rev).filter (fun c => !((extSubops ops usg).map (·.1)).contains c))
          (Term.colsUsedOps (extSubops ops usg))).contains c) := by
      simp only [usedFromSources]
      rw [if_neg (by rw [show ops.filter _ = extSubops ops usg from rfl, hne]; exact Bool.false_ne_true)]
      rfl
    rw [hS0, List.mem_filter, List.contains_iff_mem, mem_unionL, List.mem_filter, Bool.not_eq_true', ← Bool.not_eq_true,
      List.contains_iff_mem]
  generalize ((Ops.extend src ops part order rev w).usedFromSources usg).headD [] = S at hmemS ⊢
  have hpassS : ∀ c ∈ usg, lookupLast ops c = none → c ∈ S := by
    intro c hc hl
    have hnk : c ∉ ops.map (·.1) := lookupLast_eq_none_iff.mp hl
    refine (hmemS c).mpr ⟨(mem_extend_cols.mp (husgn c hc)).resolve_right hnk,
      Or.inl ⟨mem_usg.mpr (Or.inl hc), fun hk => ?_⟩⟩
    obtain ⟨kv, hkv, e⟩ := List.mem_map.mp hk
    exact hnk (List.mem_map.mpr ⟨kv, (List.mem_filter.mp hkv).1, e⟩)
  have hlook : ∀ win, ∀ c ∈ usg, lookupLast (extTerms ops usg win) c =
      match lookupLast ops c with
      | some t => some (STerm.expr t win)
      | none => some STerm.pass := fun win c hc => look_extend_terms ops usg win hc
  have hkeysT : ∀ win c, c ∈ (extTerms ops usg win).map (·.1) ↔ c ∈ usg := by
    intro win c
    constructor
    · intro h
      simp only [extTerms, extOrig, extSubops, List.map_append, List.map_map, List.mem_append, List.mem_map,
        Function.comp_def, List.mem_filter] at h
      rcases h with ⟨k, ⟨hk, _⟩, rfl⟩ | ⟨kv, ⟨_, hkv⟩, rfl⟩
      · exact hk
      · exact List.contains_iff_mem.mp hkv
    · intro hc
      rw [← lookupLast_isSome_iff, hlook win c hc]
      cases lookupLast ops c <;> rfl
  refine ⟨husgn, fun c hc => ((hmemS c).mp hc).1, hpassS, ?_, ?_, ?_, hlook, hkeysT, ?_⟩
  · intro c hc t hl x hx
    have hkv : (c, t) ∈ ops := lookupLast_mem hl
    exact (hmemS x).mpr ⟨hused x (List.mem_flatMap.mpr ⟨(c, t), hkv, hx⟩),
      Or.inr (mem_colsUsedOps.mpr ⟨(c, t), List.mem_filter.mpr ⟨hkv, List.contains_iff_mem.mpr hc⟩, hx⟩)⟩
  · intro c hc
    exact hpassS c (hpo c (Or.inl hc)) (lookupLast_eq_none_iff.mpr fun hk => (hkeys c hk).1 hc)
  · intro c hc
    exact hpassS c (hpo c (Or.inr hc)) (lookupLast_eq_none_iff.mpr fun hk => (hkeys c hk).2 hc)
  · intro win e
    obtain ⟨kv, hkv⟩ := List.exists_mem_of_ne_nil (extSubops ops usg) (fun e => by rw [e] at hne; cases hne)
    have : kv.1 ∈ (extTerms ops usg win).map (·.1) :=
      (hkeysT win kv.1).mpr (List.contains_iff_mem.mp (List.mem_filter.mp hkv).2)
    rw [e] at this
    cases this

theorem extend_termsOK {src : Ops} {ops : Assign} {part order rev : List String} {w : Bool} {usg S : List String}
    (hF : ExtFacts src ops part order rev w usg S) :
    TermsOK S (extTerms ops usg (extWin part order rev w)) (extDeps ops usg (extWindowVars part order w)) := by
  have hkey : ∀ k t, lookupLast (extTerms ops usg (extWin part order rev w)) k = some t → k ∈ usg := by
    intro k t hl
    apply (hF.keysT (extWin part order rev w) k).mp
    rw [← lookupLast_isSome_iff, hl]; rfl
  have hreadsS : ∀ e, (∀ x ∈ Term.colsRaw e, x ∈ S) →
      ∀ x ∈ termReads "" (STerm.expr e (extWin part order rev w)), x ∈ S := by
    intro e he x hx
    unfold extWin at hx
    split at hx
    · simp only [termReads, List.mem_append] at hx
      rcases hx with h | h | h
      · exact he x h
      · exact hF.partS x h
      · exact hF.orderS x h
    · exact he x hx
  have hreadsK : ∀ k k' t, termReads k (STerm.expr t (extWin part order rev w)) =
      termReads k' (STerm.expr t (extWin part order rev w)) := by
    intro k k' t; cases extWin part order rev w <;> rfl
  refine ⟨?_, ?_⟩
  · intro k t hl hp
    have hk := hkey k t hl
    rw [hF.look _ k hk] at hl
    cases hlo : lookupLast ops k with
    | none => rw [hlo] at hl; cases hl; cases hp
    | some e =>
      rw [hlo] at hl
      cases hl
      refine ⟨⟨e, _, rfl⟩, unionL (Term.colsUsed e) (extWindowVars part order w), ?_, ?_⟩
      · rw [look_extend_deps ops usg _ hk, hlo]
      · intro x hx
        unfold extWin at hx
        unfold extWindowVars
        split at hx
        · rename_i hw
          rw [if_pos hw]
          simp only [termReads, List.mem_append] at hx
          rw [mem_unionL, mem_unionL]
          rcases hx with h | h | h
          · left; simpa [Term.colsUsed] using h
          · right; left; exact h
          · right; right; exact h
        · rw [mem_unionL]
          left
          simpa [Term.colsUsed, termReads] using hx
  · intro k t hl x hx
    have hk := hkey k t hl
    rw [hF.look _ k hk] at hl
    cases hlo : lookupLast ops k with
    | none =>
      rw [hlo] at hl
      cases hl
      simp only [termReads, List.mem_singleton] at hx
      subst hx
      exact hF.passS x hk hlo
    | some e =>
      rw [hlo] at hl
      cases hl
      rw [hreadsK k "" e] at hx
      exact hreadsS e (hF.exprS k hk e hlo) x hx

/-- the table an extend node denotes over the source table `ts` (engine's ordering in windows) -/
def extRef (Θ : Interp) (ec : EngineCfg) (src : Ops) (ops : Assign) (part order rev : List String) (w : Bool)
    (ts : Table) : Table :=
  if w then semExtendWindowG (sqlRowLe ec) Θ ops part order rev ts (Ops.extend src ops part order rev w).cols
  else semExtendPlain Θ ops ts (Ops.extend src ops part order rev w).cols

theorem extRef_passrows (Θ : Interp) (ec : EngineCfg) (src : Ops) (ops : Assign) (part order rev : List String)
    (w : Bool) (ts : Table) {u' : List String}
    (hu' : ∀ c ∈ u', c ∈ (Ops.extend src ops part order rev w).cols ∧ c ∉ ops.map (·.1)) :
    (extRef Θ ec src ops part order rev w ts).rows.map (fun r => r.select u') =
      ts.rows.map (fun r => r.select u') := by
  have hkeys : ∀ (f : String × Term → Val) c, c ∈ u' → c ∉ (ops.map (fun kv => (kv.1, f kv))).map (·.1) := by
    intro f c hc
    rw [List.map_map]
    exact (hu' c hc).2
  unfold extRef
  cases w
  · simp only [Bool.false_eq_true, ↓reduceIte, semExtendPlain]
    rw [List.map_map]
    exact List.map_congr_left fun r _ => select_setAll_select r _ (fun c hc => ⟨(hu' c hc).1, hkeys _ c hc⟩)
  · simp only [↓reduceIte, semExtendWindowG]
    rw [List.map_map, ← zipIdx_map_fun_fst ts.rows (fun r => r.select u') 0]
    exact List.map_congr_left fun ri _ => select_setAll_select ri.1 _ (fun c hc => ⟨(hu' c hc).1, hkeys _ c hc⟩)

theorem extend_step_sound {src : Ops} {ops : Assign} {part order rev : List String} {w : Bool}
    {usg S S₁ : List String} {sub : Near} {ts : Table}
    (hext : ExtOK src.cols ops part order rev w) (hF : ExtFacts src ops part order rev w usg S)
    (hsound : Sound Θ ec env sub S₁ src.cols ts) (hS₁ : ∀ c ∈ S, c ∈ S₁) (i : Nat)
    (deps : List (String × List String)) :
    Sound Θ ec env (extFallback (.extend src ops part order rev w) i (extTerms ops usg (extWin part order rev w)) deps
      sub S) usg (Ops.extend src ops part order rev w).cols (extRef Θ ec src ops part order rev w ts) := by
  obtain ⟨_, _, _, _, _, hwf, _⟩ := hext
  obtain ⟨T0, g1, _, g4⟩ := hsound.req S hS₁ false
  have hinS := (extend_termsOK hF).inSrc
  unfold extFallback
  -- the reference rows, with every assigned cell written as the value of the SELECT-list entry over the source rows
  have href : (extRef Θ ec src ops part order rev w ts).rows = ts.rows.zipIdx.map (fun ri' =>
      (ri'.1.setAll (ops.map (fun kv => (kv.1, termVal Θ ec ts.rows.zipIdx ri' ""
        (some (.expr kv.2 (extWin part order rev w))))))).select (Ops.extend src ops part order rev w).cols) := by
    unfold extRef
    cases w
    · obtain ⟨_, rfl, rfl⟩ := hwf rfl
      exact (zipIdx_map_fun_fst ts.rows _ 0).symm
    · rfl
  generalize extWin part order rev w = win at hinS href ⊢
  have hlook := hF.look win
  have hkeysT := hF.keysT win
  generalize extTerms ops usg win = terms at hlook hkeysT hinS
  refine sound_step _ _ _ _ g1 g4 nofun (fun c hc x hx => ?_) (fun c hc => (hkeysT c).mpr hc)
    (fun k hk => hF.usgn k ((hkeysT k).mp hk)) fun u' hu' => ?_
  · -- an entry reads columns of `S` only
    simp only [entryReads, Bool.false_eq_true, ↓reduceIte, lookT] at hx
    cases hlt : lookupLast terms c with
    | none =>
      have hl := hlook c hc
      rw [hlt] at hl
      cases hlo : lookupLast ops c <;> rw [hlo] at hl <;> cases hl
    | some tm => rw [hlt] at hx; exact hinS c tm hlt x hx
  · -- on the source rows themselves the SELECT list computes the assignments
    rw [href, List.map_map]
    unfold stepRows
    simp only [Bool.false_eq_true, ↓reduceIte, limitOf, suffixRows]
    refine List.map_congr_left fun ri _ => ?_
    simp only [Function.comp]
    rw [← select_mkRow (out := u') _ (fun c hc => hc)]
    apply Row.select_congr.mpr
    intro c hc
    have hcu := hu' c hc
    rw [get_mkRow, if_pos hc, Row.select_get_of_mem (hF.usgn c hcu), Row.get_setAll,
      lookupLast_map ops (fun t => termVal Θ ec ts.rows.zipIdx ri "" (some (.expr t win)))]
    simp only [lookT, hlook c hcu]
    cases lookupLast ops c with
    | none => rfl
    | some t => cases win <;> rfl

end Sql
end DAVerif
