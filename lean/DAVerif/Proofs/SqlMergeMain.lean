import DAVerif.Proofs.SqlMergeTrans
/-!
C01/C04: the two induction claims of the translation proof, for every dialect configuration (`cfg.merges` on or off), at
the nodes with one source.  The second claim, `SqlE.NodeM`, is that every translation result satisfies the invariant of
mergeable steps (`MergeInv`): the `extend` node needs it of its source (`SqlE.nodeOK_extend_merge`: pruned, a new step,
or merged into the step of its source), the other nodes keep it because they end in a step that is not marked
mergeable (`nodeM_plain`) or re-key the step of the translated source (`nodeM_rekey`).  `SqlE.nodeOK_unary` is the one
place where the per-node lemmas and the structural hypotheses (`WF`, `SqlWF`, `MapsOK`) meet: both claims at any node
with one source, against the step (`stepG`, engine's ordering) on any reference table of the source.
-/
namespace DAVerif
namespace Sql
open DAVerif.Ops (usedFromSources unionL)
open Rules26 (usedBy keys)

variable {Θ : Interp} {ec : EngineCfg} {env : Env} {scfg : SemCfg} {G : Near → Prop} {cfg : SqlCfg}

namespace SqlE

def NodeM (cfg : SqlCfg) (fuel : Nat) (p : Ops) : Prop :=
  ∀ (u : List String) (st : Nat) (q : Near) (st' : Nat),
    (∀ c ∈ u, c ∈ p.cols) → toNear cfg fuel p (some u) st = .ok (q, st') → MergeInv q

theorem nodeM_zero (cfg : SqlCfg) (p : Ops) : NodeM cfg 0 p :=
  fun _ _ _ _ _ h => absurd h toNear_zero_ne_ok

/-- the nodes whose translation ends in a step of their own that is not marked mergeable: all but `extend`, the re-keying
`select_columns` / `drop_columns`, and a FULL join (which SQLite emulates by another pipeline) -/
def endsPlain : Ops → Bool
  | .extend .. | .selectCols .. | .dropCols .. | .join _ _ _ _ .full => false
  | _ => true

theorem nodeM_plain (fuel : Nat) {p : Ops} (hp : endsPlain p = true) : NodeM cfg (fuel + 1) p := by
  refine fun _ _ _ _ _ h => (toNear_succ_inv h).mergeInv (fun _ _ _ _ _ _ e => ?_) ?_ (fun _ _ _ _ e => ?_)
  · subst e; cases hp
  · cases p with
    | selectCols | dropCols => cases hp
    | _ => rfl
  · subst e; cases hp

theorem nodeOK_extend_merge (hG : ShapeOK Θ ec env G) (fuel : Nat) (src : Ops) (ops : Assign)
    (part order rev : List String) (w : Bool) (hext : ExtOK src.cols ops part order rev w) {ts : Table}
    (ih : NodeOK Θ ec env G cfg fuel src ts) (ihM : NodeM cfg fuel src) :
    NodeOK Θ ec env G cfg (fuel + 1) (.extend src ops part order rev w) (extRef Θ ec src ops part order rev w ts) ∧
      NodeM cfg (fuel + 1) (.extend src ops part order rev w) := by
  suffices hboth : ∀ (u : List String) (st : Nat) (q : Near) (st' : Nat),
      (∀ c ∈ u, c ∈ (Ops.extend src ops part order rev w).cols) →
      toNear cfg (fuel + 1) (.extend src ops part order rev w) (some u) st = .ok (q, st') →
      (G q ∧ ∃ u₁, (∀ c ∈ u, c ∈ u₁) ∧ (∀ c ∈ u₁, c ∈ (Ops.extend src ops part order rev w).cols) ∧
        Sound Θ ec env q u₁ (Ops.extend src ops part order rev w).cols (extRef Θ ec src ops part order rev w ts)) ∧
        MergeInv q from
    ⟨fun u st q st' hu h => (hboth u st q st' hu h).1, fun u st q st' hu h => (hboth u st q st' hu h).2⟩
  intro u st q st' hu h
  have huusg : ∀ c ∈ u, c ∈ extUsg u part order rev := fun c hc => mem_usg.mpr (Or.inl hc)
  -- what the two outcomes that translate the source for `S` share
  have hsrc : ∀ {U S : List String} {sub : Near} {s1 : Nat}, extUsg u part order rev = U →
      ((Ops.extend src ops part order rev w).usedFromSources U).headD [] = S → (extSubops ops U).isEmpty = false →
      toNear cfg fuel src (some S) st = .ok (sub, s1) →
      ExtFacts src ops part order rev w U S ∧ (∀ c ∈ u, c ∈ U) ∧ MergeInv sub ∧
        mkTerms (extTerms ops U (extWin part order rev w)) = some (extTerms ops U (extWin part order rev w)) ∧
        ∃ S₁, (∀ c ∈ S, c ∈ S₁) ∧ Sound Θ ec env sub S₁ src.cols ts := by
    rintro U S sub s1 rfl rfl hne h5
    have hF := extFacts hext hu hne
    obtain ⟨_, S₁, hS₁, _, hsound⟩ := ih _ st sub s1 hF.Ssrc h5
    exact ⟨hF, huusg, ihM _ st sub s1 hF.Ssrc h5, by simp [mkTerms, hF.tne], S₁, hS₁, hsound⟩
  cases toNear_succ_inv h with
  | step _ hσ => cases hσ
  | rekey _ hk => cases hk
  | extPrune hempty h' =>
    -- no assignment is needed: the source is translated for the enlarged column set
    have husgn := extUsg_cols hext hu
    have hsrc := extUsg_pruned husgn hempty
    obtain ⟨hGq, S₁, hS₁, _, hsound⟩ := ih _ st q st' (fun c hc => (hsrc c hc).1) h'
    refine ⟨⟨hGq, extUsg u part order rev, huusg, husgn, ?_⟩, ihM _ st q st' (fun c hc => (hsrc c hc).1) h'⟩
    exact (hsound.restrict hS₁).mono (fun c hc => mem_extend_cols.mpr (Or.inl hc))
      (fun u' hu' => extRef_passrows Θ ec src ops part order rev w ts
        (fun c hc => ⟨husgn c (hu' c hc), (hsrc c (hu' c hc)).2⟩))
  | extNew hU hS hne husgn h5 =>
    obtain ⟨hF, huU, -, hmk, S₁, hS₁, hsound⟩ := hsrc hU hS hne h5
    refine ⟨⟨hG.simple _ rfl, _, huU, husgn, extend_step_sound hext hF hsound hS₁ _ _⟩, ?_⟩
    unfold extFallback
    rw [hmk]
    exact mergeInv_unary (extend_termsOK hF)
  | extMerge hU hS hne husgn hmg h5 hcont =>
    rename_i usg S sname sterms sagg ssub scols sdeps skey
    obtain ⟨hF, huU, hMsub, hmk, S₁, hS₁, hsound⟩ := hsrc hU hS hne h5
    have hTok := extend_termsOK hF
    obtain ⟨rfl, _, ts', sc, ds', hts', rfl, hds', hsubOK⟩ := hMsub _ _ _ _ _ _ _ _ rfl
    cases hts'
    cases hds'
    -- the step that would be emitted without the merge is sound; `merge_sound` below carries its rows over to the
    -- merged step
    have hstep := extend_step_sound (Θ := Θ) (ec := ec) (env := env) hext hF hsound hS₁ st'
      (extDeps ops usg (extWindowVars part order w))
    -- the columns we request from the source step are among its keys
    have hSkeys : ∀ x ∈ S, x ∈ sterms.map (·.1) := by
      intro x hx
      have hne1 : S₁ ≠ [] := by
        intro e; have := hS₁ x hx; rw [e] at this; cases this
      obtain ⟨ks, hk, _, hk2⟩ := hsound.keys hne1
      simp only [Near.termKeys, Option.map_some, Option.some.injEq] at hk
      subst hk
      exact hk2 x (hS₁ x hx)
    have hkeysM := fun k => (keys_merge hTok hSkeys k).trans (hF.keysT (extWin part order rev w) k)
    refine ⟨⟨hG.simple _ rfl, usg, huU, husgn, ?_, ?_⟩, ?_⟩
    · intro u' hu' force
      obtain ⟨T, t1, _, t4⟩ := hstep.req u' hu' force
      unfold extFallback at t1
      rw [hmk] at t1
      obtain ⟨T', m1, m2, m4⟩ := merge_sound (key' := keyOfNode "extend" (.extend src ops part order rev w)
        ((mergeDict (nonTrivialTerms (extDeps ops usg (extWindowVars part order w))
          (extTerms ops usg (extWin part order rev w))) (extTerms ops usg (extWin part order rev w)) sterms
          ((extTerms ops usg (extWin part order rev w)).map (·.1))).map (·.1))) hsubOK hTok hcont
        (fun c hc => (hF.keysT _ c).mpr (hu' c hc)) force t1
      exact ⟨T', m1, m2, m4.trans t4⟩
    · intro _
      exact ⟨_, rfl, fun k hk => husgn k ((hkeysM k).mp hk), fun c hc => (hkeysM c).mpr hc⟩
    · exact mergeInv_unary (termsOK_merge hsubOK hTok hcont hSkeys)

end SqlE

namespace SqlE

theorem nodeM_table (fuel : Nat) (name : String) (cs : List String) : NodeM cfg fuel (.table name cs) := by
  cases fuel with
  | zero => exact nodeM_zero _ _
  | succ fuel => exact nodeM_plain fuel rfl

theorem nodeM_rekey {p src : Ops} (hp : p.sources = [src]) (hs : ∀ u, ∃ r, rekeySpec p u = some r) (hwf : WF p)
    (fuel : Nat) (ihM : NodeM cfg fuel src) : NodeM cfg (fuel + 1) p := by
  intro u st q st' hu h
  obtain ⟨⟨S, sel⟩, hk⟩ := hs u
  rw [toNear_rekey (u := some u) fuel hp hk] at h
  obtain ⟨sub, hsub, hq⟩ := rekeyM_ok.mp h
  exact mergeInv_setTermKeys (ihM S st sub _ (rekeySpec_req hp hk hwf hu).1 hsub) hq

end SqlE

/-- `order_rows` ends in a step that is not marked mergeable -/
theorem transOKM_order (fuel : Nat) (src : Ops) (cs rev : List String) (lim : Option Nat) :
    SqlE.NodeM cfg (fuel + 1) (.order src cs rev lim) :=
  SqlE.nodeM_plain fuel rfl

namespace SqlE

/-- `convert_records` does not translate: its case is vacuous -/
theorem nodeOK_unary (hG : ShapeOK Θ ec env G) {p src : Ops} (hs : p.sources = [src]) (hwf : WF p) (hsq : SqlWF p)
    (hmp : MapsOK p) (fuel : Nat) {ts tp : Table} (hcw : ts.cols = src.cols ∧ ts.WF)
    (htp : stepG (sqlRowLe ec) Θ p ts = .ok tp) (ih : NodeOK Θ ec env G cfg fuel src ts) (ihM : NodeM cfg fuel src) :
    NodeOK Θ ec env G cfg (fuel + 1) p tp ∧ NodeM cfg (fuel + 1) p := by
  cases p <;> cases hs
  case convert rm =>
    have h : ∀ {u st q st'}, toNear cfg (fuel + 1) (.convert src rm) (some u) st = .ok (q, st') → False := fun e => by
      cases toNear_succ_inv e with
      | step _ hσ => cases hσ
      | rekey _ hk => cases hk
    exact ⟨fun _ _ _ _ _ e => (h e).elim, fun _ _ _ _ _ e => (h e).elim⟩
  case extend ops part od rv w =>
    cases htp
    exact nodeOK_extend_merge hG fuel src ops part od rv w hwf.2 ih ihM
  case selectCols cs =>
    cases htp
    exact ⟨nodeOK_rekey hG fuel rfl (fun _ => ⟨_, rfl⟩) hwf
        (fun u S sel hk _ c hc => by cases hk; exact (List.mem_filter.mp hc).1) ih,
      nodeM_rekey rfl (fun _ => ⟨_, rfl⟩) hwf fuel ihM⟩
  case dropCols dels =>
    cases htp
    exact ⟨nodeOK_rekey hG fuel rfl (fun _ => ⟨_, rfl⟩) hwf
        (fun u S sel hk hu c hc => by cases hk; exact hu c (List.mem_filter.mp hc).1) ih,
      nodeM_rekey rfl (fun _ => ⟨_, rfl⟩) hwf fuel ihM⟩
  -- the other nodes emit a new step that is not marked mergeable
  all_goals
    cases htp
    refine ⟨?_, nodeM_plain fuel rfl⟩
  case project ops g => exact nodeOK_project hG fuel src ops g hsq hwf.2.2 ih
  case selectRows e => exact nodeOK_selectRows hG fuel src e hsq ih
  case order cs rv lim => exact nodeOK_order hG fuel src cs rv lim (SqlWF.order_iff.mp hsq).2 ih
  case rename m => exact nodeOK_rename hG fuel src m hsq hmp hwf.2 hcw ih
  case mapCols m dels => exact nodeOK_mapCols hG fuel src m dels hsq hmp hwf.2.2 hcw ih

end SqlE

theorem equivS_of_engine_order {T tp : Table} {pc : List String} {r : Except Err Table} (hB : ResEquiv r (.ok tp))
    (h3 : tp.cols = pc) (h4 : ∀ c, c ∈ T.cols ↔ c ∈ pc) (h6 : T.rows.map (fun r => r.select pc) = tp.rows) :
    ∃ t, r = .ok t ∧ t.cols = pc ∧ T.EquivS t := by
  cases r with
  | error e => exact hB.elim
  | ok t =>
    have heq : t ≈ tp := hB
    have hc : t.cols = pc := heq.1.trans h3
    refine ⟨t, rfl, hc, ?_, ?_⟩
    · intro c; rw [hc]; exact h4 c
    · rw [hc, h6]; exact heq.2.symm

end Sql
end DAVerif
