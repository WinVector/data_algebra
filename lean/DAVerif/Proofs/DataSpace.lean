import DAVerif.Space.DataSpace
/-! Lemmas about the data-space model (`Space/DataSpace.lean`), and what one operation does, said once for both
implementations: a space is read through its `View` (under each name a description and a table), `Does` lists the replies
and next views an operation may give, and `Mem.step_does` / `DB.step_does` are the only places where the step functions
are taken apart.  `DBSpace` deviates in one situation, `DB.Drops`.  Property statements: Props/C20.lean. -/
namespace DAVerif.Space

namespace AL
variable {κ : Type} [DecidableEq κ] {β : Type}

@[simp] theorem lookup_nil (k : κ) : lookup ([] : List (κ × β)) k = none := rfl

theorem lookup_cons (k' : κ) (v : β) (t : List (κ × β)) (k : κ) :
    lookup ((k', v) :: t) k = if k' = k then some v else lookup t k := rfl

theorem lookup_append (l m : List (κ × β)) (k : κ) :
    lookup (l ++ m) k = (lookup l k).or (lookup m k) := by
  induction l with
  | nil => rfl
  | cons p t ih =>
    rw [List.cons_append, lookup_cons, lookup_cons, ih]
    split <;> rfl

theorem has_eq_false_iff (l : List (κ × β)) (k : κ) : has l k = false ↔ lookup l k = none :=
  Option.isSome_eq_false_iff.trans Option.isNone_iff_eq_none

theorem lookup_of_not_has {l : List (κ × β)} {k : κ} (h : ¬ has l k = true) : lookup l k = none :=
  (has_eq_false_iff l k).mp (Bool.not_eq_true _ ▸ h)

theorem has_eq_true_iff (l : List (κ × β)) (k : κ) : has l k = true ↔ ∃ v, lookup l k = some v :=
  Option.isSome_iff_exists

theorem has_iff_mem_keys (l : List (κ × β)) (k : κ) : has l k = true ↔ k ∈ keys l := by
  induction l with
  | nil => exact ⟨nofun, nofun⟩
  | cons p t ih =>
    rw [has, lookup_cons, keys, List.map_cons, List.mem_cons, eq_comm (a := k)]
    split
    · exact ⟨fun _ => Or.inl ‹_›, fun _ => rfl⟩
    · exact ih.trans ⟨Or.inr, fun h => h.resolve_left ‹_›⟩

theorem lookup_erase (l : List (κ × β)) (k k' : κ) :
    lookup (erase l k) k' = if k' = k then none else lookup l k' := by
  induction l with
  | nil => simp [erase]
  | cons p t ih =>
    obtain ⟨a, b⟩ := p
    unfold erase at ih ⊢
    simp only [List.filter_cons]
    by_cases hak : a = k
    · subst hak
      simp only [ne_eq, not_true_eq_false, decide_false, Bool.false_eq_true, if_false, ih, lookup_cons]
      by_cases hk : k' = a
      · simp [hk]
      · have : ¬ a = k' := fun e => hk e.symm
        simp [hk, this]
    · simp only [ne_eq, hak, not_false_eq_true, decide_true, if_true, lookup_cons, ih]
      by_cases hk : k' = k
      · subst hk; simp [hak]
      · simp [hk]

theorem lookup_map_set (l : List (κ × β)) (k : κ) (v : β) (k' : κ) :
    lookup (l.map (fun p => if p.1 = k then (k, v) else p)) k' =
      if k' = k then (lookup l k).map (fun _ => v) else lookup l k' := by
  induction l with
  | nil => simp
  | cons p t ih =>
    obtain ⟨a, b⟩ := p
    simp only [List.map_cons]
    by_cases hak : a = k
    · subst hak
      simp only [if_true, lookup_cons, ih]
      by_cases hk : k' = a
      · subst hk; simp
      · have : ¬ a = k' := fun e => hk e.symm
        simp [this, hk]
    · simp only [hak, if_false, lookup_cons, ih]
      by_cases hk : k' = k
      · subst hk; simp [hak]
      · simp [hk]

theorem lookup_set (l : List (κ × β)) (k : κ) (v : β) (k' : κ) :
    lookup (set l k v) k' = if k' = k then some v else lookup l k' := by
  unfold set
  by_cases h : has l k = true
  · simp only [h, if_true, lookup_map_set]
    obtain ⟨w, hw⟩ := (has_eq_true_iff l k).mp h
    by_cases hk : k' = k <;> simp [hk, hw]
  · have hn := lookup_of_not_has h
    rw [if_neg h, lookup_append, lookup_cons, lookup_nil]
    by_cases hk : k' = k
    · subst hk; simp [hn]
    · have : ¬ k = k' := fun e => hk e.symm
      simp [hk, this]

theorem has_set (l : List (κ × β)) (k : κ) (v : β) (k' : κ) :
    has (set l k v) k' = (decide (k' = k) || has l k') := by
  unfold has; rw [lookup_set]; split <;> simp [*]

theorem has_erase (l : List (κ × β)) (k k' : κ) :
    has (erase l k) k' = (!decide (k' = k) && has l k') := by
  unfold has; rw [lookup_erase]; split <;> simp [*]

end AL

section
variable {κ τ δ ω : Type} [DecidableEq κ] (P : Params κ τ δ ω)

def TmpInjective : Prop := ∀ a b : Nat, P.tmpName a = P.tmpName b → a = b

/-- Pigeonhole for the loop: if every taken name at a counter `> n` is in `rem`, and `rem` is shorter than
the fuel, the loop stops at a free name. -/
theorem freshFrom_spec (hinj : TmpInjective P) (ks : List κ) :
    ∀ (f : Nat) (n : Nat) (rem : List κ), rem.length < f →
      (∀ m, n < m → P.tmpName m ∈ ks → P.tmpName m ∈ rem) →
      P.tmpName (freshFrom P ks f n) ∉ ks ∧ n < freshFrom P ks f n := by
  intro f
  induction f with
  | zero => intro n rem h; omega
  | succ f ih =>
    intro n rem hlen hrem
    unfold freshFrom
    by_cases hm : P.tmpName (n + 1) ∈ ks
    · rw [if_pos hm]
      have hin : P.tmpName (n + 1) ∈ rem := hrem (n + 1) (by omega) hm
      have hpos := List.length_pos_of_mem hin
      have := ih (n + 1) (rem.erase (P.tmpName (n + 1))) (by rw [List.length_erase_of_mem hin]; omega)
        fun m hlt hmk =>
          (List.mem_erase_of_ne fun e => Nat.ne_of_gt hlt (hinj _ _ e)).mpr (hrem m (Nat.lt_of_succ_lt hlt) hmk)
      exact ⟨this.1, Nat.lt_of_succ_lt this.2⟩
    · rw [if_neg hm]
      exact ⟨hm, by omega⟩

theorem fresh_spec (hinj : TmpInjective P) (ks : List κ) (n : Nat) :
    P.tmpName (fresh P ks n) ∉ ks ∧ n < fresh P ks n :=
  freshFrom_spec P hinj ks (ks.length + 1) n ks (by omega) (fun _ _ h => h)

theorem fresh_not_has (hinj : TmpInjective P) {β : Type} (l : List (κ × β)) (n : Nat) :
    AL.has l (P.tmpName (fresh P (AL.keys l) n)) = false := by
  rw [← Bool.not_eq_true, AL.has_iff_mem_keys]
  exact (fresh_spec P hinj (AL.keys l) n).1

end

section
variable {κ τ δ ω : Type} [DecidableEq κ] (P : Params κ τ δ ω)

theorem lookup_snoc {β : Type} {l : List (κ × β)} {k : κ} (h : AL.lookup l k = none) (v : β) (k' : κ) :
    AL.lookup (l ++ [(k, v)]) k' = if k' = k then some v else AL.lookup l k' := by
  rw [AL.lookup_append, AL.lookup_cons, AL.lookup_nil]
  by_cases hk : k' = k
  · rw [if_pos hk, if_pos hk.symm, hk, h]; rfl
  · rw [if_neg hk, if_neg (Ne.symm hk), Option.or_none]

theorem lookup_dropTable (db : List (κ × τ)) (k k' : κ) :
    AL.lookup (Db.dropTable db k) k' = if k' = k then none else AL.lookup db k' := by
  unfold Db.dropTable
  split
  · exact AL.lookup_erase db k k'
  · split
    · rw [‹k' = k›]; exact AL.lookup_of_not_has ‹_›
    · rfl

theorem insertTable_ok {db db' : List (κ × τ)} {v : τ} {k : κ} {b : Bool}
    (h : Db.insertTable db (some v) k b = .ok db') (k' : κ) :
    AL.lookup db' k' = if k' = k then some v else AL.lookup db k' := by
  simp only [Db.insertTable] at h
  split at h
  · split at h
    · cases h
    · cases h
      rw [lookup_snoc (by rw [AL.lookup_erase, if_pos rfl]), AL.lookup_erase]
      split <;> rfl
  · cases h
    exact lookup_snoc (AL.lookup_of_not_has ‹_›) v k'

theorem insertTable_error {db : List (κ × τ)} {value : Option τ} {k : κ} {b : Bool} {e : Err}
    (h : Db.insertTable db value k b = .error e) :
    value = none ∨ (b = false ∧ AL.has db k = true) := by
  cases value with
  | none => exact Or.inl rfl
  | some v =>
    simp only [Db.insertTable] at h
    split at h
    · cases b
      · exact Or.inr ⟨rfl, ‹_›⟩
      · cases h
    · cases h

theorem describeTable_of_lookup {db : List (κ × τ)} {k : κ} {v : τ} (h : AL.lookup db k = some v) :
    Db.describeTable P db k = .ok (P.descOf v) := by
  rw [Db.describeTable, h]

theorem createTable_eq (db : List (κ × τ)) (k : κ) (ops : ω) :
    Db.createTable P db k ops =
      match P.evalOps ops (AL.lookup db) with
      | .error e => .error e
      | .ok v => if AL.has db k then .error .Other else .ok (db ++ [(k, v)], P.descOf v) := by
  unfold Db.createTable
  cases P.evalOps ops (AL.lookup db) with
  | error e => rfl
  | ok v =>
    dsimp only
    split
    · rfl
    · have hn := AL.lookup_of_not_has ‹¬ AL.has db k = true›
      rw [describeTable_of_lookup P ((lookup_snoc hn v k).trans (if_pos rfl))]

theorem mem_setAdd (l : List κ) (k k' : κ) : k' ∈ DB.setAdd l k ↔ k' = k ∨ k' ∈ l := by
  unfold DB.setAdd
  split
  · exact ⟨Or.inr, fun h => h.elim (· ▸ ‹k ∈ l›) id⟩
  · rw [List.mem_append, List.mem_singleton, or_comm]

def DB.SameStore (s s' : DB.State κ τ δ) : Prop :=
  s'.descr = s.descr ∧ s'.autoDrop = s.autoDrop ∧ s'.db = s.db

structure DB.Stored (s2 s' : DB.State κ τ δ) (k : κ) (v : τ) : Prop where
  descr : s'.descr = AL.set s2.descr k (P.descOf v)
  auto : s'.autoDrop = DB.setAdd s2.autoDrop k
  db : ∀ k', AL.lookup s'.db k' = if k' = k then some v else AL.lookup s2.db k'

theorem DB.removeKey_descr (s : DB.State κ τ δ) (k k' : κ) :
    AL.lookup (DB.removeKey s k).descr k' = if k' = k then none else AL.lookup s.descr k' :=
  AL.lookup_erase s.descr k k'

theorem DB.removeKey_db (s : DB.State κ τ δ) (k k' : κ) :
    AL.lookup (DB.removeKey s k).db k' = if k' = k then none else AL.lookup s.db k' :=
  lookup_dropTable s.db k k'

theorem DB.removeKey_auto (s : DB.State κ τ δ) (k k' : κ) :
    k' ∈ (DB.removeKey s k).autoDrop ↔ k' ∈ s.autoDrop ∧ k' ≠ k := by
  simp [DB.removeKey]

/-- `DBSpace.execute` with `allow_overwrite=True` under a key that is in `description_map`: `self.remove(key)`,
then the call goes on as for a new key. -/
theorem DB.execute_present {s s1 : DB.State κ τ δ} {key : KeyArg κ} {k : κ}
    (hres : DB.resolve P s key = (s1, some k)) (hh : AL.has s1.descr k = true) (ops : ω) :
    DB.execute P s ops key (some true) = DB.execute P (DB.removeKey s1 k) ops (.str k) (some true) := by
  have : AL.has (AL.erase s1.descr k) k = false := by rw [AL.has_erase, decide_eq_true rfl]; rfl
  simp only [DB.execute, hres, hh, Bool.not_true, Bool.and_false, Bool.false_eq_true, if_false, if_true]
  simp only [DB.resolve, DB.removeKey, this, Bool.false_eq_true, if_false]

theorem DB.guardExec_overwrite [DecidableEq τ] {s : DB.State κ τ δ} {ops : ω} {k : κ}
    (hh : AL.has s.descr k = true) (hg : DB.guardExec P s (.execute ops (.str k) (some true)) = true) :
    ∃ v, P.evalOps ops (AL.lookup s.db) = .ok v ∧ P.evalOps ops (AL.lookup (Db.dropTable s.db k)) = .ok v := by
  simp only [DB.guardExec, hh, if_true] at hg
  split at hg
  · rename_i a b ha hb
    cases beq_iff_eq.mp hg
    exact ⟨a, hb, ha⟩
  · cases hg

end

theorem daTemp_injective : ∀ a b : Nat, daTemp a = daTemp b → a = b := by
  intro a b h
  unfold daTemp at h
  -- strip the common prefix; the decimal digits determine the number (`Nat.ofDigitChars 10 · 0` inverts
  -- `Nat.toDigits 10`)
  rw [String.append_right_inj] at h
  simp only [Nat.toString_eq_repr, Nat.repr_eq_ofList_toDigits] at h
  have h2 : Nat.toDigits 10 a = Nat.toDigits 10 b := by
    have := congrArg String.toList h
    simpa using this
  have := congrArg (fun l => Nat.ofDigitChars 10 l 0) h2
  simpa using this

section
variable {κ τ δ ω : Type} [DecidableEq κ]

/-- the store is a partial function from keys to tables; `upd m k o` rebinds (or unbinds) one key -/
def Spec.upd (m : κ → Option τ) (k : κ) (o : Option τ) : κ → Option τ := fun k' => if k' = k then o else m k'

theorem Spec.upd_upd (m : κ → Option τ) (k : κ) (o o' : Option τ) :
    Spec.upd (Spec.upd m k o) k o' = Spec.upd m k o' := by
  funext k'
  unfold Spec.upd
  by_cases h : k' = k
  · rw [if_pos h, if_pos h]
  · rw [if_neg h, if_neg h, if_neg h]

theorem Spec.map_upd {β : Type} (f : τ → β) (m : κ → Option τ) (k : κ) (o : Option τ) :
    (fun k' => (Spec.upd m k o k').map f) = Spec.upd (fun k' => (m k').map f) k (o.map f) := by
  funext k'; unfold Spec.upd; split <;> rfl

theorem lookup_set_fn {β : Type} (l : List (κ × β)) (k : κ) (v : β) :
    AL.lookup (AL.set l k v) = Spec.upd (AL.lookup l) k (some v) := by
  funext k'; exact AL.lookup_set l k v k'

theorem lookup_erase_fn {β : Type} (l : List (κ × β)) (k : κ) :
    AL.lookup (AL.erase l k) = Spec.upd (AL.lookup l) k none := by
  funext k'; exact AL.lookup_erase l k k'

theorem has_iff_ne_none {β : Type} (l : List (κ × β)) (k : κ) : AL.has l k = true ↔ AL.lookup l k ≠ none :=
  Option.isSome_iff_ne_none

/-- the key a write goes to, `a` being the automatic name -/
def KeyArg.pick (a : κ) : KeyArg κ → Option κ
  | .auto => some a
  | .str k => some k
  | .bad => none

omit [DecidableEq κ] in
theorem KeyArg.pick_cases {a k : κ} {key : KeyArg κ} (h : key.pick a = some k) :
    key = .str k ∨ (key = .auto ∧ k = a) := by
  cases key with
  | auto => exact Or.inr ⟨rfl, (Option.some.inj h).symm⟩
  | str k' => exact Or.inl (congrArg _ (Option.some.inj h))
  | bad => cases h

omit [DecidableEq κ] in
theorem KeyArg.pick_none {a : κ} {key : KeyArg κ} (h : key.pick a = none) : key = .bad := by
  cases key with
  | bad => rfl
  | auto => cases h
  | str _ => cases h

/-- what the operations read and write of a space, the counter aside -/
structure View (κ τ δ : Type) where
  desc : κ → Option δ
  tab : κ → Option τ

namespace View

def set (w : View κ τ δ) (k : κ) (v : τ) (d : δ) : View κ τ δ :=
  ⟨Spec.upd w.desc k (some d), Spec.upd w.tab k (some v)⟩

def del (w : View κ τ δ) (k : κ) : View κ τ δ := ⟨Spec.upd w.desc k none, Spec.upd w.tab k none⟩

def abs (w : View κ τ δ) : κ → Option τ := fun k => if (w.desc k).isSome then w.tab k else none

/-- every table has its own description and nothing else is described (`DataModelSpace`: always; `DBSpace`: the
invariant, on a database the space owns) -/
def Coherent (P : Params κ τ δ ω) (w : View κ τ δ) : Prop := ∀ k, w.desc k = (w.tab k).map P.descOf

omit [DecidableEq κ] in
theorem abs_of_unknown {w : View κ τ δ} {k : κ} (h : w.desc k = none) : w.abs k = none := by
  unfold abs; rw [h]; rfl

theorem abs_set_self (w : View κ τ δ) (k : κ) (v : τ) (d : δ) : (w.set k v d).abs k = some v := by
  simp only [abs, set, Spec.upd, if_true, Option.isSome_some]

theorem abs_set_other {w : View κ τ δ} {k0 : κ} (h0 : w.desc k0 = none) (v : τ) (d : δ) {k : κ}
    (hk : w.abs k ≠ none) : (w.set k0 v d).abs k = w.abs k := by
  have hne : k ≠ k0 := by rintro rfl; exact hk (abs_of_unknown h0)
  simp only [abs, set, Spec.upd, if_neg hne]

omit [DecidableEq κ] in
theorem Coherent.tab_eq_none {P : Params κ τ δ ω} {w : View κ τ δ} (hc : w.Coherent P) {k : κ} :
    w.desc k = none → w.tab k = none := by
  rw [hc k]; exact Option.map_eq_none_iff.mp

omit [DecidableEq κ] in
theorem Coherent.tab_ne_none {P : Params κ τ δ ω} {w : View κ τ δ} (hc : w.Coherent P) {k : κ}
    (h : w.desc k ≠ none ∨ w.tab k ≠ none) : w.tab k ≠ none :=
  h.elim (fun h e => h (by rw [hc k, e]; rfl)) id

theorem Coherent.del {P : Params κ τ δ ω} {w : View κ τ δ} (hc : w.Coherent P) (k : κ) : (w.del k).Coherent P := by
  intro k'
  simp only [View.del, Spec.upd]
  split
  · rfl
  · exact hc k'

end View

/-- One operation of a space in view `w`: the reply and the next view.  A refusal leaves the view alone; a write that
goes through stores the table under the key the argument picks, which without `allow_overwrite` is a new one. -/
inductive Does (P : Params κ τ δ ω) (a : κ) (w : View κ τ δ) :
    Op κ τ ω → Except Err (Out κ τ δ) → View κ τ δ → Prop
  /-- malformed arguments, or a name that is taken – by the space or (`DBSpace`) by a table of the database – without
  `allow_overwrite` -/
  | insert_err {key value ow e} :
      (key = .bad ∨ ow = none ∨ value = none ∨
        ∃ k, key.pick a = some k ∧ ow = some false ∧ (w.desc k ≠ none ∨ w.tab k ≠ none)) →
      Does P a w (.insert key value ow) (.error e) w
  | insert_ok {key k v b} : key.pick a = some k → (b = false → w.desc k = none) →
      Does P a w (.insert key (some v) (some b)) (.ok (.descr k (P.descOf v))) (w.set k v (P.descOf v))
  | execute_err {ops key ow e} :
      (key = .bad ∨ ow = none ∨ (∃ e', P.evalOps ops w.tab = .error e') ∨
        ∃ k, key.pick a = some k ∧ ((ow = some false ∧ w.desc k ≠ none) ∨ (w.desc k = none ∧ w.tab k ≠ none))) →
      Does P a w (.execute ops key ow) (.error e) w
  | execute_ok {ops key k v b} : key.pick a = some k → (b = false → w.desc k = none) →
      P.evalOps ops w.tab = .ok v →
      Does P a w (.execute ops key (some b)) (.ok (.descr k (P.descOf v))) (w.set k v (P.descOf v))
  | remove_err {key e} : (∀ k, key = some k → w.desc k = none) → Does P a w (.remove key) (.error e) w
  | remove_ok {k} : w.desc k ≠ none → Does P a w (.remove (some k)) (.ok .unit) (w.del k)
  | describe_err {key e} : (∀ k, key = some k → w.desc k = none) → Does P a w (.describe key) (.error e) w
  | describe_ok {k d} : w.desc k = some d → Does P a w (.describe (some k)) (.ok (.descr k d)) w
  | retrieve_err {key e} : (∀ k, key = some k → w.desc k = none ∨ w.tab k = none) →
      Does P a w (.retrieve key) (.error e) w
  | retrieve_ok {k v} : w.desc k ≠ none → w.tab k = some v → Does P a w (.retrieve (some k)) (.ok (.table v)) w
  | keys {ks} : (∀ k, k ∈ ks ↔ w.desc k ≠ none) → Does P a w .keys (.ok (.keys ks)) w

theorem Does.insert_taken {P : Params κ τ δ ω} {a k : κ} {w : View κ τ δ} {key : KeyArg κ} {value : Option τ}
    {e : Err} (hk : key.pick a = some k) (h : w.desc k ≠ none ∨ w.tab k ≠ none) :
    Does P a w (.insert key value (some false)) (.error e) w :=
  .insert_err (Or.inr (Or.inr (Or.inr ⟨k, hk, rfl, h⟩)))

theorem Does.execute_taken {P : Params κ τ δ ω} {a k : κ} {w : View κ τ δ} {ops : ω} {key : KeyArg κ} {e : Err}
    (hk : key.pick a = some k) (h : w.desc k ≠ none) : Does P a w (.execute ops key (some false)) (.error e) w :=
  .execute_err (Or.inr (Or.inr (Or.inr ⟨k, hk, Or.inl ⟨rfl, h⟩⟩)))

/-- `DBSpace` only: the database holds a table of that name which the space does not know -/
theorem Does.execute_unowned {P : Params κ τ δ ω} {a k : κ} {w : View κ τ δ} {ops : ω} {key : KeyArg κ}
    {ow : Option Bool} {e : Err} (hk : key.pick a = some k) (hu : w.desc k = none) (ht : w.tab k ≠ none) :
    Does P a w (.execute ops key ow) (.error e) w :=
  .execute_err (Or.inr (Or.inr (Or.inr ⟨k, hk, Or.inr ⟨hu, ht⟩⟩)))

section
variable (P : Params κ τ δ ω)

def Mem.view (s : Mem.State κ τ) : View κ τ δ := ⟨fun k => (AL.lookup s.map k).map P.descOf, AL.lookup s.map⟩

/-- the name `_fresh_temp_key` returns in state `s` -/
def Mem.autoKey (s : Mem.State κ τ) : κ := P.tmpName (fresh P (AL.keys s.map) s.nTmp)

theorem Mem.resolve_eq (s : Mem.State κ τ) (key : KeyArg κ) :
    ∃ n, Mem.resolve P s key = (⟨s.map, n⟩, key.pick (Mem.autoKey P s)) := by
  cases key with
  | auto => exact ⟨_, rfl⟩
  | str k => exact ⟨s.nTmp, rfl⟩
  | bad => exact ⟨s.nTmp, rfl⟩

theorem Mem.execute_of_ok {s : Mem.State κ τ} {ops : ω} {v : τ} (he : P.evalOps ops (AL.lookup s.map) = .ok v)
    (key : KeyArg κ) (ow : Option Bool) : Mem.execute P s ops key ow = Mem.insert P s key (some v) ow := by
  obtain ⟨n, hr⟩ := Mem.resolve_eq P s key
  unfold Mem.execute Mem.insert
  rw [hr]
  cases key.pick (Mem.autoKey P s) <;> cases ow <;> simp only [he]

theorem Mem.view_set (s : Mem.State κ τ) (k : κ) (v : τ) (n : Nat) :
    Mem.view P ⟨AL.set s.map k v, n⟩ = (Mem.view P s).set k v (P.descOf v) := by
  simp only [Mem.view, View.set, lookup_set_fn, Spec.map_upd, Option.map_some]

theorem Mem.view_erase (s : Mem.State κ τ) (k : κ) (n : Nat) :
    Mem.view P ⟨AL.erase s.map k, n⟩ = (Mem.view P s).del k := by
  simp only [Mem.view, View.del, lookup_erase_fn, Spec.map_upd, Option.map_none]

theorem Mem.known_iff (s : Mem.State κ τ) (k : κ) : AL.has s.map k = true ↔ (Mem.view P s).desc k ≠ none := by
  rw [has_iff_ne_none]; exact (not_congr Option.map_eq_none_iff).symm

theorem Mem.unknown_iff (s : Mem.State κ τ) (k : κ) : AL.has s.map k = false ↔ (Mem.view P s).desc k = none :=
  (AL.has_eq_false_iff _ _).trans Option.map_eq_none_iff.symm

theorem Mem.auto_unknown (hinj : TmpInjective P) (s : Mem.State κ τ) :
    (Mem.view P s).desc (Mem.autoKey P s) = none :=
  (Mem.unknown_iff P s _).mp (fresh_not_has P hinj s.map s.nTmp)

theorem Mem.step_does (s : Mem.State κ τ) (op : Op κ τ ω) :
    Does P (Mem.autoKey P s) (Mem.view P s) op (Mem.step P s op).1 (Mem.view P (Mem.step P s op).2) := by
  cases op with
  | insert key value ow =>
    obtain ⟨n, hr⟩ := Mem.resolve_eq P s key
    simp only [Mem.step, Mem.insert, hr]
    cases hk : key.pick (Mem.autoKey P s) with
    | none => exact .insert_err (Or.inl (KeyArg.pick_none hk))
    | some k =>
      cases ow with
      | none => exact .insert_err (Or.inr (Or.inl rfl))
      | some b =>
        cases value with
        | none => exact .insert_err (Or.inr (Or.inr (Or.inl rfl)))
        | some v =>
          dsimp only
          split
          · obtain ⟨rfl, hh⟩ : b = false ∧ AL.has s.map k = true := by simpa using ‹(!b && AL.has s.map k) = true›
            exact .insert_taken hk (Or.inl ((Mem.known_iff P s k).mp hh))
          · rw [Mem.view_set]
            refine .insert_ok hk ?_
            rintro rfl
            exact (Mem.unknown_iff P s k).mp (by simpa using ‹¬ (!false && AL.has s.map k) = true›)
  | execute ops key ow =>
    obtain ⟨n, hr⟩ := Mem.resolve_eq P s key
    simp only [Mem.step, Mem.execute, hr]
    cases hk : key.pick (Mem.autoKey P s) with
    | none => exact .execute_err (Or.inl (KeyArg.pick_none hk))
    | some k =>
      cases ow with
      | none => exact .execute_err (Or.inr (Or.inl rfl))
      | some b =>
        dsimp only
        split
        · obtain ⟨rfl, hh⟩ : b = false ∧ AL.has s.map k = true := by simpa using ‹(!b && AL.has s.map k) = true›
          exact .execute_taken hk ((Mem.known_iff P s k).mp hh)
        · cases he : P.evalOps ops (AL.lookup s.map) with
          | error e => exact .execute_err (Or.inr (Or.inr (Or.inl ⟨e, he⟩)))
          | ok v =>
            dsimp only
            rw [Mem.view_set]
            refine .execute_ok hk ?_ he
            rintro rfl
            exact (Mem.unknown_iff P s k).mp (by simpa using ‹¬ (!false && AL.has s.map k) = true›)
  | remove key =>
    cases key with
    | none => exact .remove_err nofun
    | some k =>
      simp only [Mem.step, Mem.remove]
      split
      · rw [Mem.view_erase]; exact .remove_ok ((Mem.known_iff P s k).mp ‹_›)
      · exact .remove_err fun _ e => Option.some.inj e ▸ (Mem.unknown_iff P s k).mp (Bool.not_eq_true _ ▸ ‹_›)
  | describe key =>
    cases key with
    | none => exact .describe_err nofun
    | some k =>
      simp only [Mem.step, Mem.describe]
      cases hl : AL.lookup s.map k with
      | none => exact .describe_err fun _ e => Option.some.inj e ▸ congrArg (Option.map P.descOf) hl
      | some v => exact .describe_ok (congrArg (Option.map P.descOf) hl)
  | retrieve key =>
    cases key with
    | none => exact .retrieve_err nofun
    | some k =>
      simp only [Mem.step, Mem.retrieve]
      cases hl : AL.lookup s.map k with
      | none => exact .retrieve_err fun _ e => Option.some.inj e ▸ Or.inr hl
      | some v => exact .retrieve_ok (by show (AL.lookup s.map k).map P.descOf ≠ none; rw [hl]; nofun) hl
  | keys => exact .keys fun k => (AL.has_iff_mem_keys _ k).symm.trans (Mem.known_iff P s k)

end

section
variable (P : Params κ τ δ ω)

def DB.view (s : DB.State κ τ δ) : View κ τ δ := ⟨AL.lookup s.descr, AL.lookup s.db⟩

def DB.autoKey (s : DB.State κ τ δ) : κ := P.tmpName (fresh P (AL.keys s.descr) s.nTmp)

theorem DB.resolve_eq (s : DB.State κ τ δ) (key : KeyArg κ) :
    ∃ n, DB.resolve P s key = (⟨s.descr, s.autoDrop, n, s.db⟩, key.pick (DB.autoKey P s)) := by
  cases key with
  | auto => exact ⟨_, rfl⟩
  | str k => exact ⟨s.nTmp, rfl⟩
  | bad => exact ⟨s.nTmp, rfl⟩

theorem DB.auto_not_has (hinj : TmpInjective P) (s : DB.State κ τ δ) : AL.has s.descr (DB.autoKey P s) = false :=
  fresh_not_has P hinj s.descr s.nTmp

theorem DB.auto_unknown (hinj : TmpInjective P) (s : DB.State κ τ δ) : (DB.view s).desc (DB.autoKey P s) = none :=
  (AL.has_eq_false_iff _ _).mp (DB.auto_not_has P hinj s)

theorem DB.SameStore.view {s s' : DB.State κ τ δ} (h : DB.SameStore s s') : DB.view s' = DB.view s := by
  unfold DB.view; rw [h.1, h.2.2]

theorem DB.Stored.view {s s' : DB.State κ τ δ} {k : κ} {v : τ} (h : DB.Stored P s s' k v) :
    DB.view s' = (DB.view s).set k v (P.descOf v) := by
  unfold DB.view View.set; rw [h.descr, lookup_set_fn, funext h.db]; rfl

theorem lookup_dropTable_fn (db : List (κ × τ)) (k : κ) :
    AL.lookup (Db.dropTable db k) = Spec.upd (AL.lookup db) k none :=
  funext (lookup_dropTable db k)

theorem DB.view_removeKey {s s1 : DB.State κ τ δ} (hs : DB.SameStore s s1) (k : κ) :
    DB.view (DB.removeKey s1 k) = (DB.view s).del k := by
  rw [← hs.view]
  unfold DB.view View.del DB.removeKey
  rw [lookup_erase_fn, lookup_dropTable_fn]

inductive DB.Moves : DB.State κ τ δ → DB.State κ τ δ → Prop
  | same {s s'} : DB.SameStore s s' → Moves s s'
  | removeKey (s k) : Moves s (DB.removeKey s k)
  | stored {s s' k v} : DB.Stored P s s' k v → Moves s s'
  | trans {s s1 s2} : Moves s s1 → Moves s1 s2 → Moves s s2

/-- the operation is an `execute` that overwrites an entry: `DBSpace` removes the entry, and drops its table, before it
runs the query -/
def DB.Drops (s : DB.State κ τ δ) (op : Op κ τ ω) : Prop :=
  ∃ ops key k, op = .execute ops key (some true) ∧ key.pick (DB.autoKey P s) = some k ∧ AL.has s.descr k = true

theorem DB.stay {a : κ} {s : DB.State κ τ δ} {op : Op κ τ ω} {out : Except Err (Out κ τ δ)} (n : Nat)
    (h : Does P a (DB.view s) op out (DB.view s)) :
    Does P a (DB.view s) op out (DB.view ⟨s.descr, s.autoDrop, n, s.db⟩) ∧
    DB.Moves P s ⟨s.descr, s.autoDrop, n, s.db⟩ :=
  ⟨h, .same ⟨rfl, rfl, rfl⟩⟩

theorem DB.step_does (s : DB.State κ τ δ) (op : Op κ τ ω) (hnd : ¬ DB.Drops P s op) :
    Does P (DB.autoKey P s) (DB.view s) op (DB.step P s op).1 (DB.view (DB.step P s op).2) ∧
    DB.Moves P s (DB.step P s op).2 := by
  cases op with
  | insert key value ow =>
    obtain ⟨n, hr⟩ := DB.resolve_eq P s key
    simp only [DB.step, DB.insert, hr]
    cases hk : key.pick (DB.autoKey P s) with
    | none => exact DB.stay P n (.insert_err (Or.inl (KeyArg.pick_none hk)))
    | some k =>
      cases ow with
      | none => exact DB.stay P n (.insert_err (Or.inr (Or.inl rfl)))
      | some b =>
        dsimp only
        split
        · obtain ⟨rfl, hh⟩ : b = false ∧ AL.has s.descr k = true := by
            simpa using ‹(!b && AL.has s.descr k) = true›
          exact DB.stay P n (.insert_taken hk (Or.inl ((has_iff_ne_none _ _).mp hh)))
        · have hb : b = false → (DB.view s).desc k = none := by
            rintro rfl
            exact (AL.has_eq_false_iff _ _).mp (by simpa using ‹¬ (!false && AL.has s.descr k) = true›)
          split
          · rcases insertTable_error ‹_› with rfl | ⟨rfl, hdb⟩
            · exact DB.stay P n (.insert_err (Or.inr (Or.inr (Or.inl rfl))))
            · exact DB.stay P n (.insert_taken hk (Or.inr ((has_iff_ne_none _ _).mp hdb)))
          · rename_i db' hi
            cases value with
            | none => cases hi
            | some v =>
              have hl := insertTable_ok hi
              rw [describeTable_of_lookup P ((hl k).trans (if_pos rfl))]
              have hst : DB.Stored P s ⟨AL.set s.descr k (P.descOf v), DB.setAdd s.autoDrop k, n, db'⟩ k v :=
                ⟨rfl, rfl, hl⟩
              refine ⟨?_, .stored hst⟩
              rw [hst.view]
              exact .insert_ok hk hb
  | execute ops key ow =>
    obtain ⟨n, hr⟩ := DB.resolve_eq P s key
    simp only [DB.step, DB.execute, hr]
    cases hk : key.pick (DB.autoKey P s) with
    | none => exact DB.stay P n (.execute_err (Or.inl (KeyArg.pick_none hk)))
    | some k =>
      cases ow with
      | none => exact DB.stay P n (.execute_err (Or.inr (Or.inl rfl)))
      | some b =>
        dsimp only
        by_cases hh : AL.has s.descr k = true
        · cases b with
          | true => exact absurd ⟨ops, key, k, rfl, hk, hh⟩ hnd
          | false =>
            simp only [hh, Bool.not_false, Bool.and_self, if_true]
            exact DB.stay P n (.execute_taken hk ((has_iff_ne_none _ _).mp hh))
        · have hu := AL.lookup_of_not_has hh
          simp only [hh, Bool.false_and, Bool.false_eq_true, if_false, createTable_eq]
          cases he : P.evalOps ops (AL.lookup s.db) with
          | error e => exact DB.stay P n (.execute_err (Or.inr (Or.inr (Or.inl ⟨e, he⟩))))
          | ok v =>
            by_cases hd : AL.has s.db k = true
            · simp only [hd, if_true]
              exact DB.stay P n (.execute_unowned hk hu ((has_iff_ne_none _ _).mp hd))
            · simp only [hd, Bool.false_eq_true, if_false]
              have hst : DB.Stored P s
                  ⟨AL.set s.descr k (P.descOf v), DB.setAdd s.autoDrop k, n, s.db ++ [(k, v)]⟩ k v :=
                ⟨rfl, rfl, lookup_snoc (AL.lookup_of_not_has hd) v⟩
              refine ⟨?_, .stored hst⟩
              rw [hst.view]
              exact .execute_ok hk (fun _ => hu) he
  | remove key =>
    cases key with
    | none => exact DB.stay P s.nTmp (.remove_err nofun)
    | some k =>
      simp only [DB.step, DB.remove]
      split
      · rw [DB.view_removeKey ⟨rfl, rfl, rfl⟩]
        exact ⟨.remove_ok ((has_iff_ne_none _ _).mp ‹_›), .removeKey s k⟩
      · exact DB.stay P s.nTmp (.remove_err fun _ e => Option.some.inj e ▸ AL.lookup_of_not_has ‹_›)
  | describe key =>
    cases key with
    | none => exact DB.stay P s.nTmp (.describe_err nofun)
    | some k =>
      simp only [DB.step, DB.describe]
      cases hl : AL.lookup s.descr k with
      | none => exact DB.stay P s.nTmp (.describe_err fun _ e => Option.some.inj e ▸ hl)
      | some d => exact DB.stay P s.nTmp (.describe_ok hl)
  | retrieve key =>
    cases key with
    | none => exact DB.stay P s.nTmp (.retrieve_err nofun)
    | some k =>
      simp only [DB.step, DB.retrieve, Db.readTable]
      cases hl : AL.lookup s.descr k with
      | none => exact DB.stay P s.nTmp (.retrieve_err fun _ e => Option.some.inj e ▸ Or.inl hl)
      | some d =>
        dsimp only
        cases hv : AL.lookup s.db k with
        | none => exact DB.stay P s.nTmp (.retrieve_err fun _ e => Option.some.inj e ▸ Or.inr hv)
        | some v => exact DB.stay P s.nTmp (.retrieve_ok (by show AL.lookup s.descr k ≠ none; rw [hl]; nofun) hv)
  | keys =>
    exact DB.stay P s.nTmp (.keys fun k => (AL.has_iff_mem_keys _ k).symm.trans (has_iff_ne_none _ k))

theorem DB.step_of_drops {s : DB.State κ τ δ} {op : Op κ τ ω} (h : DB.Drops P s op) :
    ∃ ops key k s1, op = .execute ops key (some true) ∧ key.pick (DB.autoKey P s) = some k ∧
      AL.has s.descr k = true ∧ DB.SameStore s s1 ∧
      DB.step P s op = DB.step P (DB.removeKey s1 k) (.execute ops (.str k) (some true)) ∧
      ¬ DB.Drops P (DB.removeKey s1 k) (.execute ops (.str k) (some true)) := by
  obtain ⟨ops, key, k, rfl, hk, hh⟩ := h
  obtain ⟨n, hr⟩ := DB.resolve_eq P s key
  rw [hk] at hr
  refine ⟨ops, key, k, ⟨s.descr, s.autoDrop, n, s.db⟩, rfl, hk, hh, ⟨rfl, rfl, rfl⟩,
    DB.execute_present P hr hh ops, ?_⟩
  rintro ⟨_, _, k', e, hk', hh'⟩
  cases e
  cases hk'
  rw [DB.removeKey, AL.has_erase, decide_eq_true rfl] at hh'
  cases hh'

theorem DB.step_moves (s : DB.State κ τ δ) (op : Op κ τ ω) : DB.Moves P s (DB.step P s op).2 := by
  by_cases hd : DB.Drops P s op
  · obtain ⟨ops, key, k, s1, _, _, _, hs, e, hnd⟩ := DB.step_of_drops P hd
    rw [e]
    exact .trans (.same hs) (.trans (.removeKey s1 k) (DB.step_does P _ _ hnd).2)
  · exact (DB.step_does P s op hd).2

end

end

end DAVerif.Space
