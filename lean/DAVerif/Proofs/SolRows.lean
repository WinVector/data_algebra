import DAVerif.Proofs.Window
import DAVerif.Proofs.SqlEvalI
/-!
C21: cells of rows after `set` / `select` and of the rows of a join, and `addCol`, the rows after an `extend` that
assigns one column whose cell is given as a function of the row POSITION (windows address rows by position:
`Proofs/Window.lean`; `winSorted`, `winPos` are the window of a position in the form `semExtendWindow` has).
-/
namespace DAVerif.Sol
open DAVerif

theorem get_set (r : Row) (c : String) (v : Val) (c' : String) :
    (r.set c v).get c' = if c' = c then v else r.get c' := by
  rw [Row.get_set]; simp only [beq_iff_eq]

theorem get_select (r : Row) (cs : List String) (c : String) :
    (r.select cs).get c = if c ∈ cs then r.get c else Val.null := Row.get_select r cs c

theorem setAll_single (r : Row) (c : String) (v : Val) : r.setAll [(c, v)] = r.set c v := rfl

theorem keyOf_append (a : Row) (cs ds : List String) : keyOf a (cs ++ ds) = keyOf a cs ++ keyOf a ds := by
  simp [keyOf, Row.vals]

theorem keyOf_append_eq_iff {a b : Row} {cs ds : List String} :
    keyOf a (cs ++ ds) = keyOf b (cs ++ ds) ↔ keyOf a cs = keyOf b cs ∧ keyOf a ds = keyOf b ds := by
  simp only [keyOf_eq_iff, List.mem_append]
  constructor
  · intro h; exact ⟨fun c hc => h c (Or.inl hc), fun c hc => h c (Or.inr hc)⟩
  · rintro ⟨h1, h2⟩ c (hc | hc)
    · exact h1 c hc
    · exact h2 c hc

theorem select_append_single (r : Row) (cs : List String) (c : String) :
    r.select (cs ++ [c]) = r.select cs ++ [(c, r.get c)] := by
  simp [Row.select]

theorem filter_drop_append {cs ds dels : List String} (h : ∀ c ∈ cs, c ∉ dels) :
    (cs ++ ds).filter (fun c => !dels.contains c) = cs ++ ds.filter (fun c => !dels.contains c) := by
  rw [List.filter_append, List.filter_eq_self.mpr]
  intro c hc
  simpa using h c hc

theorem joinRow_get_left {ca cb oc : List String} (a : Row) (ob : Option Row) {c : String} (hc : c ∈ oc)
    (ha : c ∈ ca) (hb : ∀ r, ob = some r → c ∈ cb → (a.get c).isNull = true → r.get c = a.get c) :
    (joinRow ca cb oc (some a) ob).get c = a.get c := by
  rw [joinRow, Row.get_map_mk hc]
  have h1 : ca.contains c = true := List.contains_iff_mem.mpr ha
  simp only [h1, if_true]
  cases hn : (a.get c).isNull with
  | false => rfl
  | true =>
    simp only [if_true]
    cases ob with
    | none => exact (Val.eq_null_of_isNull hn).symm
    | some r =>
      by_cases hcb : c ∈ cb
      · simp only [List.contains_iff_mem.mpr hcb, if_true]
        exact hb r rfl hcb hn
      · have : cb.contains c = false := by simpa using hcb
        simp only [this, Bool.false_eq_true, if_false]
        exact (Val.eq_null_of_isNull hn).symm

theorem joinRow_get_right {ca cb oc : List String} (a : Row) (ob : Option Row) {c : String} (hc : c ∈ oc)
    (ha : c ∉ ca) (hb : c ∈ cb) :
    (joinRow ca cb oc (some a) ob).get c = ob.elim Val.null (fun r => r.get c) := by
  rw [joinRow, Row.get_map_mk hc]
  have h1 : ca.contains c = false := by simpa using ha
  cases ob with
  | none => simp only [h1, Bool.false_eq_true, if_false, Val.isNull, if_true, Option.elim_none]
  | some r =>
    simp only [h1, Bool.false_eq_true, if_false, Val.isNull, if_true, List.contains_iff_mem.mpr hb,
      Option.elim_some]

theorem joinRow_get_both {ca cb oc : List String} (a : Row) (ob : Option Row) {c : String} (hc : c ∈ oc)
    (ha : c ∈ ca) (hb : c ∈ cb) :
    (joinRow ca cb oc (some a) ob).get c
      = if (a.get c).isNull then ob.elim Val.null (fun r => r.get c) else a.get c := by
  rw [joinRow, Row.get_map_mk hc]
  cases ob with
  | none => simp only [List.contains_iff_mem.mpr ha, if_true, Option.elim_none]
  | some r => simp only [List.contains_iff_mem.mpr ha, List.contains_iff_mem.mpr hb, if_true, Option.elim_some]

/-- the rows after an `extend` that assigns one column: the cell of row `i` is `f i`, then the declared columns are
selected -/
def addCol (oc : List String) (c : String) (f : Nat → Val) (rows : List Row) : List Row :=
  rows.zipIdx.map (fun ri => (ri.1.set c (f ri.2)).select oc)

@[simp] theorem length_addCol (oc : List String) (c : String) (f : Nat → Val) (rows : List Row) :
    (addCol oc c f rows).length = rows.length := by
  simp [addCol]

theorem getElem_addCol (oc : List String) (c : String) (f : Nat → Val) (rows : List Row) (i : Nat)
    (h : i < (addCol oc c f rows).length) :
    (addCol oc c f rows)[i] = ((rows[i]'(by simpa using h)).set c (f i)).select oc := by
  simp [addCol, List.getElem_zipIdx]

theorem getD_addCol (oc : List String) (c : String) (f : Nat → Val) (rows : List Row) (i : Nat)
    (h : i < rows.length) :
    (addCol oc c f rows).getD i [] = ((rows.getD i []).set c (f i)).select oc := by
  have h' : i < (addCol oc c f rows).length := by simpa using h
  rw [getD_eq _ h', getElem_addCol, getD_eq _ h]

theorem get_addCol (oc : List String) (c : String) (f : Nat → Val) (rows : List Row) (i : Nat)
    (h : i < rows.length) {c' : String} (hc : c' ∈ oc) :
    ((addCol oc c f rows).getD i []).get c' = if c' = c then f i else (rows.getD i []).get c' := by
  rw [getD_addCol _ _ _ _ _ h, Row.select_get_of_mem hc, get_set]

theorem addCol_congr (oc : List String) (c : String) {f g : Nat → Val} (rows : List Row)
    (h : ∀ i, i < rows.length → f i = g i) : addCol oc c f rows = addCol oc c g rows := by
  simp only [addCol]
  apply List.map_congr_left
  rintro ⟨r, i⟩ hri
  have := List.mem_zipIdx_iff_getElem?.mp hri
  have hi : i < rows.length := by
    simp only at this
    exact (List.getElem?_eq_some_iff.mp this).1
  simp only [h i hi]

theorem countP_rows (rows : List Row) (Q : Row → Bool) :
    rows.countP Q = (List.range rows.length).countP (fun j => Q (rows.getD j [])) := by
  have : rows = rows.zipIdx.map Prod.fst := (List.zipIdx_map_fst 0 rows).symm
  conv => lhs; rw [this]
  rw [List.countP_map, countP_zipIdx]
  rfl

end DAVerif.Sol

namespace DAVerif.Sol21Sql.Cmp
open DAVerif DAVerif.Sql DAVerif.Sol

theorem semExtendWindowG_single (le : RowCmp) (Θ : Interp) (c : String) (t : Term) (p o rv : List String) (tb : Table)
    (oc : List String) :
    semExtendWindowG le Θ [(c, t)] p o rv tb oc = ⟨oc, addCol oc c (winValG le Θ t p o rv tb.rows) tb.rows⟩ :=
  semExtendWindowG_eq_winVal le Θ [(c, t)] p o rv tb oc

theorem semG_table {le : RowCmp} {Θ : Interp} {cfg : SemCfg} {env : Env} {name : String} {cols : List String}
    {t0 : Table} (henv : env.lookup name = some t0) (hsub : subset cols t0.cols = true) :
    semG le Θ cfg env (.table name cols) = .ok (t0.selectCols cols) := by
  simp only [semG, henv, hsub, if_true]

section
variable {le : RowCmp}

theorem winSorted_length (p o rv : List String) (rows : List Row) (i : Nat) :
    (winSortedG le p o rv rows i).length = (winPart p rows i).length := (winSorted_perm p o rv rows i).length_eq

end

end DAVerif.Sol21Sql.Cmp

namespace DAVerif.Sol
open DAVerif DAVerif.Sol21Sql

/-- the partition of the row at position `i` in window order -/
def winSorted (p o rv : List String) (rows : List Row) (i : Nat) : List (Row × Nat) :=
  sortIdx o rv (winPart p rows i)

/-- the position of row `i` in its window -/
def winPos (p o rv : List String) (rows : List Row) (i : Nat) : Nat :=
  (winSorted p o rv rows i).findIdx (fun rj => rj.2 == i)

theorem map_set_eq_addCol (oc : List String) (c : String) (g : Row → Val) (rows : List Row) :
    rows.map (fun r => (r.set c (g r)).select oc) = addCol oc c (fun i => g (rows.getD i [])) rows := by
  rw [addCol, ← List.zipIdx_map_fst 0 rows, List.map_map, List.zipIdx_map_fst]
  refine List.map_congr_left ?_
  rintro ⟨r, i⟩ hri
  simp only [Function.comp, (getD_of_mem_zipIdx hri).1]

theorem winSorted_length (p o rv : List String) (rows : List Row) (i : Nat) :
    (winSorted p o rv rows i).length = (winPart p rows i).length := Cmp.winSorted_length p o rv rows i

end DAVerif.Sol
