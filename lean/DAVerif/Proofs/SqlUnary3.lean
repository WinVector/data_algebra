import DAVerif.Proofs.SqlUnary2
/-!
C01/C02: per-node lemmas for `rename_columns` and `map_columns` (steps whose terms are quoted identifiers of
source columns).
-/
namespace DAVerif
namespace Sql
open DAVerif.Ops (usedFromSources unionL)

variable {Θ : Interp} {ec : EngineCfg} {env : Env} {scfg : SemCfg} {G : Near → Prop} {cfg : SqlCfg}

/-- the SELECT list of a renaming step: `m'` maps an output name to the source column it reads -/
def renameTerms (m' : List (String × String)) (unchanged : List String) : Terms :=
  unchanged.foldl (fun d c => dictSet d c STerm.pass)
    (m'.foldl (fun d kv => dictSet d kv.1 (STerm.ident kv.2)) [])

theorem look_renameTerms (m' : List (String × String)) (unchanged : List String) (c : String) :
    lookupLast (renameTerms m' unchanged) c =
      if c ∈ unchanged then some STerm.pass else (lookupLast m' c).map STerm.ident := by
  unfold renameTerms
  rw [lookupLast_foldl_dictSet unchanged (fun c => c) (fun _ => STerm.pass),
    lookupLast_foldl_dictSet m' (fun kv => kv.1) (fun kv => STerm.ident kv.2), lookupLast_map_const,
    lookupLast_map m' STerm.ident]
  by_cases h : c ∈ unchanged
  · rw [if_pos h, if_pos h]; rfl
  · rw [if_neg h, if_neg h]
    cases lookupLast m' c <;> rfl

theorem keys_renameTerms (m' : List (String × String)) (unchanged : List String) (c : String) :
    c ∈ (renameTerms m' unchanged).map (·.1) ↔ c ∈ unchanged ∨ c ∈ m'.map (·.1) := by
  rw [← lookupLast_isSome_iff, look_renameTerms]
  by_cases h : c ∈ unchanged
  · rw [if_pos h]
    exact ⟨fun _ => Or.inl h, fun _ => rfl⟩
  · simp only [h, ↓reduceIte, Option.isSome_map, false_or]
    exact lookupLast_isSome_iff

theorem sound_identStep {sub : Near} {S u pc : List String} {T0 ts tp : Table} {terms : Terms}
    (nm : String) (mg : Bool) (dp : Option (List (String × List String))) (key : Option String)
    (g : String → String) (h : Row → Row)
    (hbind : semNear Θ ec env [] sub (some S) false = .ok T0)
    (g4 : T0.rows.map (fun r => r.select S) = ts.rows.map (fun r => r.select S))
    (hgS : ∀ c ∈ u, g c ∈ S)
    (hlook : ∀ c ∈ u, lookupLast terms c = some (.ident (g c)) ∨ (lookupLast terms c = some .pass ∧ g c = c))
    (hkeys : ∀ c ∈ terms.map (·.1), c ∈ pc)
    (htp : tp.rows = ts.rows.map h) (hh : ∀ c ∈ u, ∀ rp ∈ ts.rows, (h rp).get c = rp.get (g c)) :
    Sound Θ ec env (.unary nm (mkTerms terms) false sub (some S) .none mg dp key) u pc tp := by
  have hukeys : ∀ c ∈ u, c ∈ terms.map (·.1) := by
    intro c hc
    rw [← lookupLast_isSome_iff]
    rcases hlook c hc with e | ⟨e, _⟩ <;> rw [e] <;> rfl
  refine sound_step nm mg dp key hbind g4 nofun (fun c hc x hx => ?_) hukeys hkeys fun u' hu' => ?_
  · -- an entry reads the one column `g c`
    simp only [entryReads, Bool.false_eq_true, ↓reduceIte, lookT] at hx
    rcases hlook c hc with e | ⟨e, e2⟩ <;> rw [e] at hx <;> cases List.mem_singleton.mp hx
    · exact hgS c hc
    · exact e2 ▸ hgS c hc
  · rw [stepRows_rowwise, htp, List.map_map]
    · refine List.map_congr_left fun rp hrp => List.map_congr_left fun c hc => congrArg (Prod.mk c) ?_
      rw [hh c (hu' c hc) rp hrp]
      simp only [lookT]
      rcases hlook c (hu' c hc) with e | ⟨e, e2⟩ <;> rw [e]
      · rfl
      · rw [e2]; rfl
    · intro c hc
      simp only [lookT]
      rcases hlook c (hu' c hc) with e | ⟨e, _⟩ <;> rw [e] <;> rfl

theorem mem_map_swap {m : List (String × String)} {x y : String} :
    (x, y) ∈ m.map (fun kv => (kv.2, kv.1)) ↔ (y, x) ∈ m := by
  rw [List.mem_map]
  constructor
  · rintro ⟨⟨a, b⟩, h, e⟩
    cases e
    exact h
  · exact fun h => ⟨(y, x), h, rfl⟩

/-- `A` (old ↦ new) and `B` (new ↦ old) are one dictionary read in the two directions; `hfree`: if `c0` is a new name,
it is also renamed away -/
theorem rename_back {A B : List (String × String)} (hAB : ∀ x y, (x, y) ∈ A → (y, x) ∈ B)
    (hB : (B.map (·.1)).Nodup) {c0 : String} (hfree : c0 ∈ B.map (·.1) → c0 ∈ A.map (·.1)) :
    (lookupLast B ((lookupLast A c0).getD c0)).getD ((lookupLast A c0).getD c0) = c0 ∧
      ((c0 ∈ A.map (·.1) ∧ (lookupLast A c0).getD c0 ∈ B.map (·.1)) ∨
        (c0 ∉ A.map (·.1) ∧ (lookupLast A c0).getD c0 ∉ B.map (·.1) ∧ (lookupLast A c0).getD c0 = c0)) := by
  cases hl : lookupLast A c0 with
  | some nw =>
    have hmem : (nw, c0) ∈ B := hAB c0 nw (lookupLast_mem hl)
    rw [Option.getD_some, lookupLast_of_nodup hB hmem]
    exact ⟨rfl, Or.inl ⟨lookupLast_isSome_iff.mp (by rw [hl]; rfl), List.mem_map.mpr ⟨_, hmem, rfl⟩⟩⟩
  | none =>
    have hno : c0 ∉ A.map (·.1) := lookupLast_eq_none_iff.mp hl
    have hnn : c0 ∉ B.map (·.1) := fun h => hno (hfree h)
    rw [Option.getD_none, lookupLast_eq_none_iff.mpr hnn]
    exact ⟨rfl, Or.inr ⟨hno, hnn, rfl⟩⟩
/-- `A`, `B` as in `rename_back`; `keep` are the source columns that survive, the node declares `keep.map f` with `f`
reading `A`; the step selects `B`'s entries as quoted identifiers and passes the `unchanged` columns through; `h` moves
the cell of a kept column `c0` to `f c0` -/
theorem sound_renameStep {sub : Near} {S u keep unchanged : List String} {T0 ts tp : Table}
    {A B : List (String × String)} (nm : String) (mg : Bool) (dp : Option (List (String × List String)))
    (key : Option String) (h : Row → Row)
    (hbind : semNear Θ ec env [] sub (some S) false = .ok T0)
    (g4 : T0.rows.map (fun r => r.select S) = ts.rows.map (fun r => r.select S))
    (hAB : ∀ x y, (x, y) ∈ A → (y, x) ∈ B) (hBA : ∀ x y, (x, y) ∈ B → (y, x) ∈ A)
    (hA : (A.map (·.1)).Nodup) (hB : (B.map (·.1)).Nodup) (hAkeep : ∀ kv ∈ A, kv.1 ∈ keep)
    (hfree : ∀ c0 ∈ keep, c0 ∈ B.map (·.1) → c0 ∈ A.map (·.1))
    (hu : ∀ c ∈ u, c ∈ keep.map (fun c => (lookupLast A c).getD c))
    (hS : ∀ c ∈ u, (lookupLast B c).getD c ∈ S)
    (hun : ∀ c, c ∈ unchanged ↔ c ∈ S ∧ c ∈ keep ∧ c ∉ A.map (·.1) ∧ c ∉ B.map (·.1))
    (htp : tp.rows = ts.rows.map h)
    (hh : ∀ c0 ∈ keep, ∀ rp ∈ ts.rows, (h rp).get ((lookupLast A c0).getD c0) = rp.get c0) :
    Sound Θ ec env (.unary nm (mkTerms (renameTerms B unchanged)) false sub (some S) .none mg dp key) u
      (keep.map (fun c => (lookupLast A c).getD c)) tp := by
  -- every requested column comes from exactly one kept source column
  have hback : ∀ c ∈ u, ∃ c0 ∈ keep, (lookupLast A c0).getD c0 = c ∧ (lookupLast B c).getD c = c0 ∧
      ((c0 ∈ A.map (·.1) ∧ c ∈ B.map (·.1)) ∨ (c0 ∉ A.map (·.1) ∧ c ∉ B.map (·.1) ∧ c = c0)) := by
    intro c hc
    obtain ⟨c0, hc0, rfl⟩ := List.mem_map.mp (hu c hc)
    exact ⟨c0, hc0, rfl, rename_back hAB hB (hfree c0 hc0)⟩
  apply sound_identStep _ _ _ _ (fun c => (lookupLast B c).getD c) h hbind g4 hS
  · intro c hc
    rw [look_renameTerms]
    obtain ⟨c0, hc0, _, e, hcase⟩ := hback c hc
    rcases hcase with ⟨_, hnew⟩ | ⟨hno, hnn, e3⟩
    · rw [if_neg (fun h => ((hun c).mp h).2.2.2 hnew)]
      left
      cases hl : lookupLast B c with
      | none => exact absurd hnew (lookupLast_eq_none_iff.mp hl)
      | some o => rfl
    · have hcS := hS c hc
      rw [e, ← e3] at hcS
      rw [if_pos ((hun c).mpr ⟨hcS, e3 ▸ hc0, e3 ▸ hno, hnn⟩)]
      exact Or.inr ⟨rfl, by rw [e, e3]⟩
  · intro c hc
    rcases (keys_renameTerms B unchanged c).mp hc with h | h
    · obtain ⟨_, hk, hno, _⟩ := (hun c).mp h
      refine List.mem_map.mpr ⟨c, hk, ?_⟩
      rw [lookupLast_eq_none_iff.mpr hno, Option.getD_none]
    · obtain ⟨kv, hkv, e⟩ := List.mem_map.mp h
      have hmem : (kv.2, kv.1) ∈ A := hBA kv.1 kv.2 hkv
      refine List.mem_map.mpr ⟨kv.2, hAkeep _ hmem, ?_⟩
      rw [lookupLast_of_nodup hA hmem, Option.getD_some, e]
  · exact htp
  · intro c hc rp hrp
    obtain ⟨c0, hc0, e1, e2, _⟩ := hback c hc
    rw [e2, ← e1]
    exact hh c0 hc0 rp hrp

namespace SqlE

theorem nodeOK_rename (hG : ShapeOK Θ ec env G) (fuel : Nat) (src : Ops) (m : List (String × String))
    (hsq : SqlWF (.rename src m)) (hmp : MapsOK (.rename src m)) (hN : (Ops.rename src m).cols.Nodup)
    {ts : Table} (hwf : ts.cols = src.cols ∧ ts.WF)
    (ih : NodeOK Θ ec env G cfg fuel src ts) :
    NodeOK Θ ec env G cfg (fuel + 1) (.rename src m)
      ⟨(Ops.rename src m).cols,
        ts.rows.map (fun r => r.rename (fun c => (lookupLast (m.map (fun kv => (kv.2, kv.1))) c).getD c))⟩ :=
  nodeOK_step hG fuel rfl (fun _ => ⟨_, rfl⟩) ih (fun _ _ hu hσ => stepSpec_req rfl hσ hsq hu)
    fun u σ hu hσ hSsrc sub T0 i g1 g4 => by
  cases hσ
  obtain ⟨htscols, htswf⟩ := hwf
  obtain ⟨_, hR1, hR2⟩ := SqlWF.rename_iff.mp hsq
  obtain ⟨_, hR3, hR4⟩ := MapsOK.rename_iff.mp hmp
  dsimp only [StepSpec.near] at g1 g4 hSsrc ⊢
  generalize hrev : m.map (fun kv => (kv.2, kv.1)) = rev at *
  have hrevkeys : rev.map (·.1) = m.map (·.2) := by rw [← hrev]; simp [List.map_map, Function.comp_def]
  let f : String → String := fun c => (lookupLast rev c).getD c
  let g : String → String := fun c => (lookupLast m c).getD c
  have hncols : (Ops.rename src m).cols = src.cols.map f := by simp only [Ops.cols, hrev]; rfl
  generalize hSdef : ((Ops.rename src m).usedFromSources u).headD [] = S at g1 g4 hSsrc ⊢
  have hS0 : S = (u.map g).eraseDups := by rw [← hSdef]; rfl
  have hgS : ∀ c ∈ u, g c ∈ S := by
    intro c hc; rw [hS0, List.mem_eraseDups]; exact List.mem_map.mpr ⟨c, hc, rfl⟩
  have hfree : ∀ c0 ∈ src.cols, c0 ∈ m.map (·.1) → c0 ∈ rev.map (·.1) := by
    intro c0 hc0 hk
    obtain ⟨kv, hkv, e⟩ := List.mem_map.mp hk
    rw [hrevkeys]
    exact e ▸ hR2 kv hkv (e ▸ hc0)
  have hAB : ∀ x y, (x, y) ∈ rev → (y, x) ∈ m := fun x y h => mem_map_swap.mp (hrev ▸ h)
  generalize hun : S.filter (fun c => !(m.map (·.2) ++ m.map (·.1)).contains c) = unchanged
  have hunmem : ∀ c, c ∈ unchanged ↔ c ∈ S ∧ c ∈ src.cols ∧ c ∉ rev.map (·.1) ∧ c ∉ m.map (·.1) := by
    intro c
    rw [← hun, List.mem_filter, hrevkeys]
    simp only [List.contains_eq_mem, List.mem_append, Bool.not_eq_eq_eq_not, Bool.not_true, decide_eq_false_iff_not,
      not_or]
    exact ⟨fun h => ⟨h.1, hSsrc c h.1, h.2⟩, fun h => ⟨h.1, h.2.2⟩⟩
  have hterms : (unchanged.foldl (fun d c => dictSet d c STerm.pass)
      (m.foldl (fun d kv => dictSet d kv.1 (STerm.ident kv.2)) [])) = renameTerms m unchanged := rfl
  rw [hterms, hncols]
  refine sound_renameStep _ _ _ _ (fun r => r.rename f) g1 g4 hAB (fun x y h => hrev ▸ mem_map_swap.mpr h)
    (by rw [hrevkeys]; exact hR4) hR3 (fun kv hkv => ?_) hfree (hncols ▸ hu) hgS hunmem rfl ?_
  · obtain ⟨kv', hkv', rfl⟩ := List.mem_map.mp (hrev ▸ hkv)
    exact hR1 kv' hkv'
  · -- the reference rows
    intro c0 hc0 rp hrp
    have hkeys : rp.keys = src.cols := by rw [← htscols]; exact htswf rp hrp
    apply Row.get_rename_of_inj
    intro k hk e
    rw [hkeys] at hk
    exact inj_of_nodup_map (by rw [← hncols]; exact hN) k hk c0 hc0 e

end SqlE

namespace SqlE

theorem nodeOK_mapCols (hG : ShapeOK Θ ec env G) (fuel : Nat) (src : Ops) (m : List (String × String))
    (dels : List String) (hsq : SqlWF (.mapCols src m dels)) (hmp : MapsOK (.mapCols src m dels))
    (hN : (Ops.mapCols src m dels).cols.Nodup)
    {ts : Table} (hwf : ts.cols = src.cols ∧ ts.WF)
    (ih : NodeOK Θ ec env G cfg fuel src ts) :
    NodeOK Θ ec env G cfg (fuel + 1) (.mapCols src m dels)
      ⟨(Ops.mapCols src m dels).cols,
        ts.rows.map (fun r => (r.drop dels).rename (fun c => (lookupLast m c).getD c))⟩ :=
  nodeOK_step hG fuel rfl (fun _ => ⟨_, rfl⟩) ih (fun _ _ hu hσ => stepSpec_req rfl hσ hsq hu)
    fun u σ hu hσ hSsrc sub T0 i g1 g4 => by
  cases hσ
  obtain ⟨htscols, htswf⟩ := hwf
  obtain ⟨_, hM1, _, hM2⟩ := SqlWF.mapCols_iff.mp hsq
  obtain ⟨_, hM3, hM4, hM5⟩ := MapsOK.mapCols_iff.mp hmp
  dsimp only [StepSpec.near] at g1 g4 hSsrc ⊢
  generalize hrev : m.map (fun kv => (kv.2, kv.1)) = rev
  have hrevkeys : rev.map (·.1) = m.map (·.2) := by rw [← hrev]; simp [List.map_map, Function.comp_def]
  let f : String → String := fun c => (lookupLast m c).getD c
  let g : String → String := fun c => (lookupLast rev c).getD c
  have hncols : (Ops.mapCols src m dels).cols = (src.cols.filter (fun c => !dels.contains c)).map f := rfl
  have hkeep : ∀ c, c ∈ src.cols.filter (fun c => !dels.contains c) ↔ c ∈ src.cols ∧ c ∉ dels := by
    intro c
    rw [List.mem_filter, not_contains_iff]
  have hfree : ∀ c0 ∈ src.cols.filter (fun c => !dels.contains c), c0 ∈ rev.map (·.1) → c0 ∈ m.map (·.1) := by
    intro c0 hc0 hk
    rw [hrevkeys] at hk
    obtain ⟨kv, hkv, e⟩ := List.mem_map.mp hk
    obtain ⟨hc0s, hnd⟩ := (hkeep c0).mp hc0
    exact (hM2 kv hkv (e ▸ hc0s)).elim (fun h => e ▸ h) (fun h => absurd (e ▸ h) hnd)
  have hAB : ∀ x y, (x, y) ∈ m → (y, x) ∈ rev := fun x y h => hrev ▸ mem_map_swap.mpr h
  have hB : (rev.map (·.1)).Nodup := by rw [hrevkeys]; exact hM4
  generalize hSdef : ((Ops.mapCols src m dels).usedFromSources u).headD [] = S at g1 g4 hSsrc ⊢
  have hS0 : S = unionL (u.map g).eraseDups dels := by
    rw [← hSdef]; simp only [usedFromSources, List.headD_cons, hrev]; rfl
  have hgS : ∀ c ∈ u, g c ∈ S := by
    intro c hc
    rw [hS0, mem_unionL, List.mem_eraseDups]
    exact Or.inl (List.mem_map.mpr ⟨c, hc, rfl⟩)
  generalize hun : S.filter (fun c => !(m.map (·.2) ++ m.map (·.1) ++ dels).contains c) = unchanged
  have hunmem : ∀ c, c ∈ unchanged ↔ c ∈ S ∧ c ∈ src.cols.filter (fun c => !dels.contains c) ∧
      c ∉ m.map (·.1) ∧ c ∉ rev.map (·.1) := by
    intro c
    rw [← hun, List.mem_filter, hrevkeys, hkeep]
    simp only [List.contains_eq_mem, List.mem_append, Bool.not_eq_eq_eq_not, Bool.not_true, decide_eq_false_iff_not,
      not_or]
    exact ⟨fun h => ⟨h.1, ⟨hSsrc c h.1, h.2.2⟩, h.2.1.2, h.2.1.1⟩, fun h => ⟨h.1, ⟨h.2.2.2, h.2.2.1⟩, h.2.1.2⟩⟩
  have hterms : (unchanged.foldl (fun d c => dictSet d c STerm.pass)
      (m.foldl (fun d kv => dictSet d kv.2 (STerm.ident kv.1)) [])) = renameTerms rev unchanged := by
    unfold renameTerms
    rw [← hrev, List.foldl_map]
  rw [hterms, hncols]
  refine sound_renameStep _ _ _ _ (fun r => (r.drop dels).rename f) g1 g4 hAB
    (fun x y h => mem_map_swap.mp (hrev ▸ h)) hM3 hB
    (fun kv hkv => (hkeep _).mpr ⟨hM1 kv hkv, hM5 _ (List.mem_map.mpr ⟨kv, hkv, rfl⟩)⟩) hfree (hncols ▸ hu) hgS hunmem
    rfl ?_
  intro c0 hc0 rp hrp
  have hkeysd : (rp.drop dels).keys = src.cols.filter (fun c => !dels.contains c) := by
    rw [Row.keys_drop, ← htscols, htswf rp hrp]
  rw [Row.get_rename_of_inj]
  · exact Row.get_drop rp dels ((hkeep c0).mp hc0).2
  · intro k hk e
    rw [hkeysd] at hk
    exact inj_of_nodup_map (by rw [← hncols]; exact hN) k hk c0 hc0 e

end SqlE

end Sql
end DAVerif
