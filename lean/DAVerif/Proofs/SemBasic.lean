import DAVerif.Proofs.RowBasic
import DAVerif.Sem.EvalG
/-!
Basic facts about `sem` and about `semG le` (`Sem/EvalG.lean`): `semG rowLe` is `sem`; a node and its sources, with the two
inductions over a pipeline by the sources of its nodes; a node with one source is the semantics of the source followed by
one step (`stepG`); results have the declared columns and well-formed rows (`semG_cols_wf_of`), under `ConvertOK` where a
record transform occurs.
-/
namespace DAVerif

def ConvertOK (Θ : Interp) : Prop :=
  ∀ rm t t', Θ.convert rm t = .ok t' → t'.cols = rm.produced ∧ t'.WF

def Ops.recMaps : Ops → List RecMap
  | .table _ _ => []
  | .extend s _ _ _ _ _ | .project s _ _ | .selectRows s _ | .selectCols s _ | .dropCols s _
  | .order s _ _ _ | .rename s _ | .mapCols s _ _ => recMaps s
  | .join a b _ _ _ | .concat a b _ _ _ => recMaps a ++ recMaps b
  | .convert s rm => recMaps s ++ [rm]

namespace Table
theorem wf_selectCols (t : Table) (cs : List String) : (t.selectCols cs).WF := by
  intro r hr
  simp only [selectCols, List.mem_map] at hr
  obtain ⟨r0, _, rfl⟩ := hr
  simp [selectCols]

@[simp] theorem cols_selectCols (t : Table) (cs : List String) : (t.selectCols cs).cols = cs := rfl
end Table

theorem Table.WF.get_null {t : Table} (hw : t.WF) {r : Row} (hr : r ∈ t.rows) {c : String} (hc : c ∉ t.cols) :
    r.get c = .null := Row.get_of_not_mem_keys (by rw [hw r hr]; exact hc)

theorem wf_of_select (outCols : List String) (rows : List Row)
    (h : ∀ r ∈ rows, ∃ r0, r = Row.select r0 outCols) : (Table.mk outCols rows).WF := by
  intro r hr
  obtain ⟨r0, rfl⟩ := h r hr
  simp

theorem semExtendPlain_wf (Θ : Interp) (ops : Assign) (t : Table) (oc : List String) :
    (semExtendPlain Θ ops t oc).WF := by
  apply wf_of_select
  intro r hr
  obtain ⟨r0, _, rfl⟩ := List.mem_map.mp hr
  exact ⟨_, rfl⟩

theorem semProject_wf (Θ : Interp) (ops : Assign) (g : List String) (t : Table) (oc : List String) :
    (semProject Θ ops g t oc).WF ∧ (semProject Θ ops g t oc).cols = oc := by
  unfold semProject
  split
  · refine ⟨?_, rfl⟩
    apply wf_of_select
    intro r hr
    simp only [List.mem_singleton] at hr
    exact ⟨_, hr⟩
  · refine ⟨?_, rfl⟩
    apply wf_of_select
    intro r hr
    obtain ⟨k, _, rfl⟩ := List.mem_map.mp hr
    exact ⟨_, rfl⟩

theorem semConcat_wf (idc : Option String) (an bn : String) (ta tb : Table) (oc : List String) :
    (semConcat idc an bn ta tb oc).WF := by
  apply wf_of_select
  intro r hr
  rcases List.mem_append.mp hr with h | h <;> obtain ⟨r0, _, rfl⟩ := List.mem_map.mp h <;> cases idc <;>
    exact ⟨_, rfl⟩

theorem semSelectRows_wf (Θ : Interp) (e : Term) {t : Table} (hw : t.WF) : (semSelectRows Θ e t).WF :=
  fun r hr => hw r (List.mem_filter.mp hr).1

theorem Ops.sources_induction {motive : Ops → Prop} (table : ∀ k cs, motive (.table k cs))
    (un : ∀ n s, n.sources = [s] → motive s → motive n)
    (bin : ∀ n a b, n.sources = [a, b] → motive a → motive b → motive n) (p : Ops) : motive p := by
  induction p with
  | table k cs => exact table k cs
  | join a b _ _ _ iha ihb | concat a b _ _ _ iha ihb => exact bin _ a b rfl iha ihb
  | extend s _ _ _ _ _ ih | project s _ _ ih | selectRows s _ ih | selectCols s _ ih | dropCols s _ ih
  | order s _ _ _ ih | rename s _ ih | mapCols s _ _ ih | convert s _ ih => exact un _ s rfl ih

/-- the node itself for a table description -/
def Ops.srcA : Ops → Ops
  | n@(.table _ _) => n
  | .extend s _ _ _ _ _ | .project s _ _ | .selectRows s _ | .selectCols s _ | .dropCols s _
  | .order s _ _ _ | .rename s _ | .mapCols s _ _ | .convert s _ => s
  | .join a _ _ _ _ | .concat a _ _ _ _ => a

def Ops.srcB : Ops → Option Ops
  | .join _ b _ _ _ | .concat _ b _ _ _ => some b
  | _ => none

theorem Ops.srcInduction {motive : Ops → Prop} (table : ∀ n cs, motive (.table n cs))
    (node : ∀ p, (∀ n cs, p ≠ .table n cs) → motive p.srcA → (∀ b, p.srcB = some b → motive b) →
      motive p) (p : Ops) : motive p := by
  induction p with
  | table n cs => exact table n cs
  | join a b _ _ _ iha ihb | concat a b _ _ _ iha ihb =>
    exact node _ (fun _ _ h => by cases h) iha (fun _ h => by cases h; exact ihb)
  | extend _ _ _ _ _ _ ih | project _ _ _ ih | selectRows _ _ ih | selectCols _ _ ih | dropCols _ _ ih
  | order _ _ _ _ ih | rename _ _ ih | mapCols _ _ _ ih | convert _ _ ih =>
    exact node _ (fun _ _ h => by cases h) ih (fun _ h => by cases h)

namespace Sql

theorem bind_pure_ok {x : Except Err Table} {f : Table → Table} {tp : Table}
    (h : (x >>= fun t => pure (f t)) = Except.ok tp) : ∃ ts, x = .ok ts ∧ tp = f ts := by
  obtain ⟨ts, hx, h⟩ := bind_eq_ok.mp h
  exact ⟨ts, hx, (Except.ok.inj h).symm⟩

theorem semOrderG_rowLe (cs rev : List String) (lim : Option Nat) (t : Table) :
    semOrderG rowLe cs rev lim t = semOrder cs rev lim t := rfl

theorem semExtendWindowG_rowLe (Θ : Interp) (ops : Assign) (p o rv : List String) (t : Table) (oc : List String) :
    semExtendWindowG rowLe Θ ops p o rv t oc = semExtendWindow Θ ops p o rv t oc := rfl

theorem semG_rowLe (Θ : Interp) (cfg : SemCfg) (env : Env) (p : Ops) : semG rowLe Θ cfg env p = sem Θ cfg env p := by
  induction p with
  | table name cs => rfl
  | extend src ops part od rv w ih => simp only [semG, sem, ih, semExtendWindowG_rowLe]
  | order src cs rv lim ih => simp only [semG, sem, ih, semOrderG_rowLe]
  | project _ _ _ ih | selectRows _ _ ih | selectCols _ _ ih | dropCols _ _ ih | rename _ _ ih | mapCols _ _ _ ih
  | convert _ _ ih => simp only [semG, sem, ih]
  | join _ _ _ _ _ iha ihb | concat _ _ _ _ _ iha ihb => simp only [semG, sem, iha, ihb]

theorem semExtendWindowG_wf (le : RowCmp) (Θ : Interp) (ops : Assign) (p o rv : List String) (t : Table)
    (oc : List String) : (semExtendWindowG le Θ ops p o rv t oc).WF := by
  apply wf_of_select
  intro r hr
  simp only [List.mem_map] at hr
  obtain ⟨r0, _, rfl⟩ := hr
  exact ⟨_, rfl⟩

theorem semOrderG_wf (le : RowCmp) (cs rv : List String) (lim : Option Nat) {t : Table} (hw : t.WF) :
    (semOrderG le cs rv lim t).WF := by
  refine fun r hr => hw r (List.mem_mergeSort (le := fun a b => le cs rv a b) |>.mp ?_)
  cases lim with
  | none => exact hr
  | some n => exact List.mem_of_mem_take hr

def InFragJ : Ops → Bool
  | .table _ _ => true
  | .extend s _ _ _ _ _ | .project s _ _ | .selectRows s _ | .selectCols s _ | .dropCols s _
  | .order s _ _ _ | .rename s _ | .mapCols s _ _ => InFragJ s
  | .join a b _ _ _ | .concat a b _ _ _ => InFragJ a && InFragJ b
  | .convert .. => false

/-- what a node with one source does to the table of its source (`semG_unary`); at a node with no or two sources the
value (`.ok t`) means nothing -/
def stepG (le : RowCmp) (Θ : Interp) : Ops → Table → Except Err Table
  | n@(.extend _ ops part od rv w), t =>
    .ok (if w then semExtendWindowG le Θ ops part od rv t n.cols else semExtendPlain Θ ops t n.cols)
  | n@(.project _ ops g), t => .ok (semProject Θ ops g t n.cols)
  | .selectRows _ e, t => .ok (semSelectRows Θ e t)
  | .selectCols _ cs, t => .ok (t.selectCols cs)
  | n@(.dropCols _ _), t => .ok (t.selectCols n.cols)
  | .order _ cs rv lim, t => .ok (semOrderG le cs rv lim t)
  | n@(.rename _ m), t =>
    .ok ⟨n.cols, t.rows.map (fun r => r.rename (fun c => (lookupLast (m.map (fun kv => (kv.2, kv.1))) c).getD c))⟩
  | n@(.mapCols _ m dels), t =>
    .ok ⟨n.cols, t.rows.map (fun r => (r.drop dels).rename (fun c => (lookupLast m c).getD c))⟩
  | .convert _ rm, t => Θ.convert rm t
  | _, t => .ok t

theorem semG_unary (le : RowCmp) (Θ : Interp) (cfg : SemCfg) (env : Env) {p src : Ops} (hs : p.sources = [src]) :
    semG le Θ cfg env p = semG le Θ cfg env src >>= stepG le Θ p := by
  cases p <;> cases hs
  case extend _ _ _ _ w => cases w <;> rfl
  all_goals rfl

theorem semG_unary_ok {le : RowCmp} {Θ : Interp} {cfg : SemCfg} {env : Env} {p src : Ops} (hs : p.sources = [src])
    {tp : Table} (h : semG le Θ cfg env p = .ok tp) :
    ∃ ts, semG le Θ cfg env src = .ok ts ∧ stepG le Θ p ts = .ok tp :=
  bind_eq_ok.mp (semG_unary le Θ cfg env hs ▸ h)

theorem sem_unary (Θ : Interp) (cfg : SemCfg) (env : Env) {p src : Ops} (hs : p.sources = [src]) :
    sem Θ cfg env p = sem Θ cfg env src >>= stepG rowLe Θ p := by
  simpa only [semG_rowLe] using semG_unary rowLe Θ cfg env hs

theorem inFragJ_src {p src : Ops} (hs : p.sources = [src]) (h : InFragJ p = true) : InFragJ src = true := by
  cases p <;> cases hs
  case convert => cases h
  all_goals exact h

theorem recMaps_of_fragJ {p : Ops} (h : InFragJ p = true) : p.recMaps = [] := by
  induction p with
  | table => rfl
  | convert => cases h
  | join _ _ _ _ _ iha ihb | concat _ _ _ _ _ iha ihb =>
    obtain ⟨ha, hb⟩ := Bool.and_eq_true_iff.mp h
    simp only [Ops.recMaps, iha ha, ihb hb, List.append_nil]
  | _ => rename_i ih; exact ih h

theorem semG_ok_of_tables (le : RowCmp) (Θ : Interp) (cfg : SemCfg) (env : Env) (p : Ops)
    (hT : ∀ nc ∈ p.tables, ∃ t, env.lookup nc.1 = some t ∧ subset nc.2 t.cols = true)
    (hC : ∀ rm ∈ p.recMaps, ∀ t, ∃ t', Θ.convert rm t = .ok t') : ∃ t, semG le Θ cfg env p = .ok t := by
  induction p with
  | table name cs =>
    obtain ⟨t, hl, hs⟩ := hT (name, cs) (List.mem_singleton.mpr rfl)
    exact ⟨t.selectCols cs, by rw [semG, hl]; exact if_pos hs⟩
  | extend src ops part od rv w ih =>
    obtain ⟨t, ht⟩ := ih hT hC
    cases w <;> exact ⟨_, by rw [semG, ht]; rfl⟩
  | join a b _ _ _ iha ihb | concat a b _ _ _ iha ihb =>
    obtain ⟨ta, hta⟩ := iha (fun nc h => hT nc (List.mem_append_left _ h)) (fun rm h => hC rm (List.mem_append_left _ h))
    obtain ⟨tb, htb⟩ := ihb (fun nc h => hT nc (List.mem_append_right _ h)) (fun rm h => hC rm (List.mem_append_right _ h))
    exact ⟨_, by rw [semG, hta, htb]; rfl⟩
  | convert src rm ih =>
    obtain ⟨t, ht⟩ := ih hT (fun rm' h => hC rm' (List.mem_append_left _ h))
    obtain ⟨t', ht'⟩ := hC rm (List.mem_append_right _ (List.mem_singleton.mpr rfl)) t
    exact ⟨t', by rw [semG, ht]; exact ht'⟩
  | _ =>
    rename_i ih
    obtain ⟨t, ht⟩ := ih hT hC
    exact ⟨_, by rw [semG, ht]; rfl⟩

theorem stepG_cols_wf (le : RowCmp) (Θ : Interp) {p src : Ops} (hs : p.sources = [src])
    (hC : InFragJ p = true ∨ ConvertOK Θ) {ts tp : Table} (hts : ts.cols = src.cols ∧ ts.WF)
    (h : stepG le Θ p ts = .ok tp) : tp.cols = p.cols ∧ tp.WF := by
  obtain ⟨hc, hw⟩ := hts
  cases p <;> cases hs
  case convert rm => exact hC.resolve_left Bool.false_ne_true rm ts tp h
  all_goals cases h
  case extend ops part od rv w =>
    cases w
    · exact ⟨rfl, semExtendPlain_wf _ _ _ _⟩
    · exact ⟨rfl, semExtendWindowG_wf _ _ _ _ _ _ _ _⟩
  case project ops g => exact ⟨(semProject_wf ..).2, (semProject_wf ..).1⟩
  case selectRows e => exact ⟨hc, semSelectRows_wf Θ e hw⟩
  case selectCols cs => exact ⟨rfl, Table.wf_selectCols _ _⟩
  case dropCols dels => exact ⟨rfl, Table.wf_selectCols _ _⟩
  case order cs rv lim => exact ⟨hc, semOrderG_wf le cs rv lim hw⟩
  case rename m =>
    refine ⟨rfl, fun r hr => ?_⟩
    obtain ⟨r0, hr0, rfl⟩ := List.mem_map.mp hr
    rw [Row.keys_rename, hw r0 hr0, hc]
    rfl
  case mapCols m dels =>
    refine ⟨rfl, fun r hr => ?_⟩
    obtain ⟨r0, hr0, rfl⟩ := List.mem_map.mp hr
    rw [Row.keys_rename, Row.keys_drop, hw r0 hr0, hc]
    rfl

/-- `ConvertOK` is needed only where a record transform occurs: not on the fragment -/
theorem semG_cols_wf_of (le : RowCmp) (Θ : Interp) (cfg : SemCfg) (env : Env) (p : Ops)
    (hC : InFragJ p = true ∨ ConvertOK Θ) : ∀ t, semG le Θ cfg env p = .ok t → t.cols = p.cols ∧ t.WF := by
  induction p using Ops.sources_induction with
  | table name cs =>
    intro t h
    simp only [semG] at h
    split at h
    · cases h
    · split at h
      · cases h; exact ⟨rfl, Table.wf_selectCols _ _⟩
      · cases h
  | un p src hs ih =>
    intro t h
    obtain ⟨ts, hts, hstep⟩ := semG_unary_ok hs h
    exact stepG_cols_wf le Θ hs hC (ih (hC.imp_left (inFragJ_src hs)) ts hts) hstep
  | bin p a b hs =>
    intro t h
    cases p <;> cases hs
    all_goals
      simp only [semG] at h
      obtain ⟨ta, _, h⟩ := bind_eq_ok.mp h
      obtain ⟨tb, _, rfl⟩ := bind_pure_ok h
    · exact ⟨rfl, Table.wf_selectCols _ _⟩
    · exact ⟨rfl, semConcat_wf _ _ _ _ _ _⟩

theorem semG_cols_wf (le : RowCmp) (Θ : Interp) (hΘ : ConvertOK Θ) (cfg : SemCfg) (env : Env) (p : Ops) :
    ∀ t, semG le Θ cfg env p = .ok t → t.cols = p.cols ∧ t.WF :=
  semG_cols_wf_of le Θ cfg env p (Or.inr hΘ)

theorem semG_cols_wf_fragJ (le : RowCmp) (Θ : Interp) (cfg : SemCfg) (env : Env) (p : Ops) (hf : InFragJ p = true) :
    ∀ t, semG le Θ cfg env p = .ok t → t.cols = p.cols ∧ t.WF :=
  semG_cols_wf_of le Θ cfg env p (Or.inl hf)

end Sql

theorem semExtendWindow_wf (Θ : Interp) (ops : Assign) (p o rv : List String) (t : Table) (oc : List String) :
    (semExtendWindow Θ ops p o rv t oc).WF := Sql.semExtendWindowG_wf rowLe Θ ops p o rv t oc

theorem semOrder_wf (cs rv : List String) (lim : Option Nat) {t : Table} (hw : t.WF) : (semOrder cs rv lim t).WF :=
  Sql.semOrderG_wf rowLe cs rv lim hw

theorem sem_cols_wf (Θ : Interp) (hΘ : ConvertOK Θ) (cfg : SemCfg) (env : Env) (p : Ops) :
    ∀ t, sem Θ cfg env p = .ok t → t.cols = p.cols ∧ t.WF :=
  Sql.semG_rowLe Θ cfg env p ▸ Sql.semG_cols_wf rowLe Θ hΘ cfg env p

end DAVerif
