import DAVerif.Proofs.C07Single
/-!
C07 for `>>` (`act_on`): inversion of `actOn`, the boundary condition, and composition = sequential application
for valid pipelines.
-/
namespace DAVerif

variable {Θ : Interp} {cfg : SemCfg} {env : Env}


theorem eq_of_eraseDups_singleton {l : List String} {a k : String} (h : l.eraseDups = [a]) (hk : k ∈ l) : k = a :=
  List.mem_singleton.mp (h ▸ List.mem_eraseDups.mpr hk)

theorem eraseDups_eq_singleton {l : List String} {a : String} (hne : l ≠ []) (hall : ∀ k ∈ l, k = a) :
    l.eraseDups = [a] := by
  cases l with
  | nil => exact absurd rfl hne
  | cons x xs =>
    obtain rfl := hall x (List.mem_cons_self ..)
    have : xs.filter (fun b => !b == x) = [] :=
      List.filter_eq_nil_iff.mpr (fun y hy => by simp [hall y (List.mem_cons_of_mem _ hy)])
    rw [List.eraseDups_cons, this]
    rfl

theorem valid_tables_nodup {p : Ops} : p.valid = true → ∀ kc ∈ p.tables, kc.2.Nodup := by
  induction p using Ops.srcInduction with
  | table n cs =>
    intro hv kc hkc
    rw [List.mem_singleton.mp hkc]
    exact nodupB_iff.mp hv
  | node p hT iha ihb =>
    intro hv kc hkc
    rcases (mem_tables_node hT).mp hkc with h | ⟨b, hB, h⟩
    · exact iha (Ops.valid_srcA hv) kc h
    · exact ihb b hB (valid_srcB hv hB) kc h

theorem valid_srcB_consistent {p b : Ops} (hv : p.valid = true) (hB : p.srcB = some b) :
    tablesConsistent p.srcA.tables b.tables = true := by
  have hn := Ops.valid_nodeOk hv
  cases p with
  | join a b' oa ob jt => cases hB; exact (Ops.nodeOk_join.mp hn).1
  | concat a b' idc an bn => cases hB; exact (concatChk_ok_iff.mp (Ops.nodeOk_concat.mp hn)).1
  | _ => cases hB

theorem valid_tables_consistent {p : Ops} : p.valid = true →
    ∀ x ∈ p.tables, ∀ y ∈ p.tables, x.1 = y.1 → x.2 = y.2 := by
  induction p using Ops.srcInduction with
  | table n cs =>
    intro _ x hx y hy _
    rw [List.mem_singleton.mp hx, List.mem_singleton.mp hy]
  | node p hT iha ihb =>
    intro hv x hx y hy e
    rcases (mem_tables_node hT).mp hx with hx | ⟨b, hB, hx⟩ <;>
      rcases (mem_tables_node hT).mp hy with hy | ⟨b', hB', hy⟩
    · exact iha (Ops.valid_srcA hv) x hx y hy e
    · exact tablesConsistent_iff.mp (valid_srcB_consistent hv hB') x hx y hy e
    · exact (tablesConsistent_iff.mp (valid_srcB_consistent hv hB) y hy x hx e.symm).symm
    · cases hB.symm.trans hB'
      exact ihb b hB (valid_srcB hv hB) x hx y hy e

theorem actOn_inv {self a c : Ops} (h : Ops.actOn self a = .ok c) :
    ∃ key oldCols, (self.tables.map (·.1)).eraseDups = [key] ∧ lookupLast self.tables key = some oldCols ∧
      subset a.cols oldCols = true ∧ subset oldCols a.cols = true ∧
      Ops.replaceLeaves [(key, a)] self = .ok c := by
  unfold Ops.actOn at h
  split at h
  · rename_i key hkey
    split at h
    · rename_i oldCols hold
      split at h
      · rename_i hb
        simp only [Bool.and_eq_true] at hb
        exact ⟨key, oldCols, hkey, hold, hb.1, hb.2, h⟩
      · cases h
    · cases h
  · cases h

theorem actOn_boundary {self a : Ops} {key : String} {oldCols : List String} (hs : self.valid = true)
    (ha : a.valid = true) (hkey : (self.tables.map (·.1)).eraseDups = [key])
    (hold : lookupLast self.tables key = some oldCols) (h1 : subset a.cols oldCols = true)
    (h2 : subset oldCols a.cols = true) : ∀ kc ∈ self.tables, kc.1 = key ∧ a.cols.Perm kc.2 := by
  intro kc hkc
  have hk : kc.1 = key := eq_of_eraseDups_singleton hkey (List.mem_map.mpr ⟨kc, hkc, rfl⟩)
  refine ⟨hk, ?_⟩
  have hcs : kc.2 = oldCols := valid_tables_consistent hs kc hkc (key, oldCols) (lookupLast_mem hold) hk
  rw [hcs]
  exact perm_of_mem_iff (Ops.valid_cols_nodup ha)
    (valid_tables_nodup hs (key, oldCols) (lookupLast_mem hold))
    (fun c => ⟨subset_iff.mp h1 c, subset_iff.mp h2 c⟩)

/-- **Composition is sequential application**, for valid pipelines (`C07_compose_sem`, `Props/C07.lean`). -/
theorem compose_sem_valid (hΘ : ConvertOK Θ) (hC : ConvertInvariant Θ) {a b c : Ops} {key : String}
    (ha : a.valid = true) (hb : b.valid = true) (h : Ops.actOn b a = .ok c)
    (hkey : (b.tables.map (·.1)).eraseDups = [key]) (hA : AggsOrderFree Θ b)
    (hW : ∀ ta, sem Θ cfg env a = .ok ta → WindowsTotal Θ cfg ((key, ta) :: env) b) :
    ResEquivC (sem Θ cfg env c) (sem Θ cfg env a >>= fun ta => sem Θ cfg ((key, ta) :: env) b) := by
  obtain ⟨key', oldCols, hkey', hold, h1, h2, hrep⟩ := actOn_inv h
  rw [hkey] at hkey'
  cases hkey'
  have hbound := actOn_boundary hb ha hkey hold h1 h2
  cases hsa : sem Θ cfg env a with
  | error e =>
    have := (replaceSingle ha b hb hbound c hrep).2.2.2 Θ cfg env hΘ hC e hsa
    rw [this]; exact rfl
  | ok ta =>
    refine (replaceLeaves_sem (Θ := Θ) (cfg := cfg) (env := env) hΘ hC (m := [(key, a)])
      (env' := (key, ta) :: env) b hb ?_ hA (hW ta hsa) c hrep).2
    intro kc hkc
    obtain ⟨hk, hperm⟩ := hbound kc hkc
    simp only [LeafOK, hk, lookupLast_singleton, beq_self_eq_true, if_true]
    exact ⟨ha, hperm, ta, hsa, List.lookup_cons_self⟩

end DAVerif
