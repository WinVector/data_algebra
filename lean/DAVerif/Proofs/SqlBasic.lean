import DAVerif.Spec.SqlSem
import DAVerif.Proofs.BuilderWF
import DAVerif.Proofs.Perm
import DAVerif.Proofs.UsedBasic
/-!
C01/C02, basic lemmas: the row and `lookupLast` facts of `Proofs/RowBasic.lean` with a propositional test
(`if c = k`), the form the SQL proofs rewrite with; what `SqlWF` and `MapsOK` say of a node; `semG` succeeds on the
fragment when the environment covers the pipeline; a successful builder call keeps `SqlWF` (`build_sqlwf`: each fact
is one the checks of the call, `Placed`, have just made).
-/
namespace DAVerif
namespace Sql
open DAVerif.Ops (usedFromSources unionL)

theorem unionL_nil (a : List String) : unionL a [] = a := rfl

theorem Row.select_congr {r r' : Row} {u : List String} :
    r.select u = r'.select u ↔ ∀ c ∈ u, r.get c = r'.get c := by
  induction u with
  | nil => simp [Row.select]
  | cons x u ih =>
    simp only [Row.select, List.map_cons, List.cons.injEq, Prod.mk.injEq, true_and, List.mem_cons,
      forall_eq_or_imp] at ih ⊢
    rw [ih]

theorem Row.get_of_select_eq {r r' : Row} {S : List String} (h : r.select S = r'.select S) {c : String}
    (hc : c ∈ S) : r.get c = r'.get c := Row.select_congr.mp h c hc

theorem Row.get_cons (k : String) (v : Val) (r : Row) (c : String) :
    Row.get ((k, v) :: r) c = if c = k then v else Row.get r c := by
  rw [DAVerif.Row.get_cons]; simp only [beq_iff_eq]

theorem Row.get_nil (c : String) : Row.get [] c = .null := rfl

theorem Row.get_set (r : Row) (k : String) (v : Val) (c : String) :
    (r.set k v).get c = if c = k then v else r.get c := by
  rw [DAVerif.Row.get_set]; simp only [beq_iff_eq]

theorem Row.keys_eq_map (r : Row) : r.keys = r.map (·.1) := rfl

theorem Row.get_eq_null_of_not_mem {r : Row} {c : String} (h : c ∉ r.keys) : r.get c = .null :=
  DAVerif.Row.get_of_not_mem_keys h

theorem Row.get_drop (r : Row) (dels : List String) {c : String} (h : c ∉ dels) :
    (r.drop dels).get c = r.get c := by
  rw [DAVerif.Row.get_drop, if_neg h]

theorem lookupLast_nil {β : Type} (k : String) : lookupLast ([] : List (String × β)) k = none := rfl

theorem lookupLast_cons {β : Type} (k' : String) (v : β) (a : List (String × β)) (k : String) :
    lookupLast ((k', v) :: a) k = (lookupLast a k).or (if k = k' then some v else none) := by
  rw [DAVerif.lookupLast_cons]; simp only [beq_iff_eq, @eq_comm _ k' k]

theorem lookupLast_concat {β : Type} (a : List (String × β)) (k' : String) (v : β) (k : String) :
    lookupLast (a ++ [(k', v)]) k = if k = k' then some v else lookupLast a k := by
  rw [DAVerif.lookupLast_concat]; simp only [beq_iff_eq, @eq_comm _ k' k]

namespace SqlWF

theorem project_iff {s : Ops} {ops : Assign} {group : List String} :
    SqlWF (.project s ops group) ↔ SqlWF s ∧ (∀ c ∈ group, c ∈ s.cols) ∧
      (∀ c ∈ ops.flatMap (fun kv => Term.colsRaw kv.2), c ∈ s.cols) ∧ (ops.map (·.1)).Nodup ∧
      ∀ k ∈ ops.map (·.1), k ∉ group := by
  simp only [SqlWF, sqlWFb, Bool.and_eq_true, subset_iff, nodupB_iff, disjoint_iff, and_assoc]

theorem selectRows_iff {s : Ops} {e : Term} :
    SqlWF (.selectRows s e) ↔ SqlWF s ∧ ∀ c ∈ Term.colsRaw e, c ∈ s.cols := by
  simp only [SqlWF, sqlWFb, Bool.and_eq_true, subset_iff]

theorem order_iff {s : Ops} {cs rv : List String} {lim : Option Nat} :
    SqlWF (.order s cs rv lim) ↔ SqlWF s ∧ ∀ c ∈ cs, c ∈ s.cols := by
  simp only [SqlWF, sqlWFb, Bool.and_eq_true, subset_iff]

theorem rename_iff {s : Ops} {m : List (String × String)} :
    SqlWF (.rename s m) ↔ SqlWF s ∧ (∀ kv ∈ m, kv.2 ∈ s.cols) ∧
      ∀ kv ∈ m, kv.1 ∈ s.cols → kv.1 ∈ m.map (·.2) := by
  simp only [SqlWF, sqlWFb, Bool.and_eq_true, subset_iff, List.all_eq_true, Bool.or_eq_true,
    Bool.not_eq_eq_eq_not, Bool.not_true, List.contains_eq_mem, decide_eq_false_iff_not, decide_eq_true_eq,
    and_assoc, List.forall_mem_map, ← Decidable.imp_iff_not_or]

theorem mapCols_iff {s : Ops} {m : List (String × String)} {dels : List String} :
    SqlWF (.mapCols s m dels) ↔ SqlWF s ∧ (∀ kv ∈ m, kv.1 ∈ s.cols) ∧ (∀ c ∈ dels, c ∈ s.cols) ∧
      ∀ kv ∈ m, kv.2 ∈ s.cols → kv.2 ∈ m.map (·.1) ∨ kv.2 ∈ dels := by
  simp only [SqlWF, sqlWFb, Bool.and_eq_true, subset_iff, List.all_eq_true, Bool.or_eq_true,
    Bool.not_eq_eq_eq_not, Bool.not_true, List.contains_eq_mem, decide_eq_false_iff_not, decide_eq_true_eq,
    and_assoc, or_assoc, List.forall_mem_map]
  simp only [← Decidable.imp_iff_not_or]

theorem join_iff {a b : Ops} {onA onB : List String} {jt : JoinType} :
    SqlWF (.join a b onA onB jt) ↔ SqlWF a ∧ SqlWF b := by
  simp only [SqlWF, sqlWFb, Bool.and_eq_true]

theorem concat_iff {a b : Ops} {idc : Option String} {an bn : String} :
    SqlWF (.concat a b idc an bn) ↔ SqlWF a ∧ SqlWF b := by
  simp only [SqlWF, sqlWFb, Bool.and_eq_true]

end SqlWF

namespace MapsOK

theorem rename_iff {s : Ops} {m : List (String × String)} :
    MapsOK (.rename s m) ↔ MapsOK s ∧ (m.map (·.1)).Nodup ∧ (m.map (·.2)).Nodup := by
  simp only [MapsOK, mapsOKb, Bool.and_eq_true, nodupB_iff, and_assoc]

theorem mapCols_iff {s : Ops} {m : List (String × String)} {dels : List String} :
    MapsOK (.mapCols s m dels) ↔ MapsOK s ∧ (m.map (·.1)).Nodup ∧ (m.map (·.2)).Nodup ∧
      ∀ k ∈ m.map (·.1), k ∉ dels := by
  simp only [MapsOK, mapsOKb, Bool.and_eq_true, nodupB_iff, disjoint_iff, and_assoc]

end MapsOK

theorem inFragJ_of_inFrag {p : Ops} (h : InFrag p = true) : InFragJ p = true := by
  induction p with
  | join => cases h
  | concat => cases h
  | convert => cases h
  | table => rfl
  | _ => rename_i ih; exact ih h

instance decExistsLookup {α : Type} (o : Option α) (P : α → Prop) [DecidablePred P] :
    Decidable (∃ t, o = some t ∧ P t) :=
  match o with
  | none => isFalse (fun ⟨_, h, _⟩ => nomatch h)
  | some t => decidable_of_iff (P t) ⟨fun h => ⟨t, rfl, h⟩, fun ⟨_, h, hp⟩ => Option.some.inj h ▸ hp⟩

instance (ex : Bool) (env : Env) (p : Ops) : Decidable (EnvOK ex env p) := by unfold EnvOK; infer_instance

theorem envOK_single {ex : Bool} {env : Env} {p : Ops} {name : String} {cs : List String} {t : Table}
    (hp : p.tables = [(name, cs)]) (hl : env.lookup name = some t) (hs : ∀ c ∈ cs, c ∈ t.cols)
    (hx : ex = true → ∀ c ∈ t.cols, c ∈ cs) : EnvOK ex env p := by
  intro nc hnc
  rw [hp, List.mem_singleton] at hnc
  subst hnc
  exact ⟨t, hl, hs, hx⟩

theorem stepG_ok {le : RowCmp} {Θ : Interp} {p src : Ops} (hs : p.sources = [src]) (hf : InFragJ p = true)
    (t : Table) : ∃ tp, stepG le Θ p t = .ok tp := by
  cases p <;> cases hs
  case convert => cases hf
  all_goals exact ⟨_, rfl⟩

theorem semG_ok_fragJ (le : RowCmp) (Θ : Interp) (cfg : SemCfg) (env : Env) (p : Ops) (hf : InFragJ p = true)
    (ex : Bool) (he : EnvOK ex env p) : ∃ t, semG le Θ cfg env p = .ok t :=
  semG_ok_of_tables le Θ cfg env p (fun nc h => (he nc h).imp fun _ ht => ⟨ht.1, subset_iff.mpr ht.2.1⟩)
    (recMaps_of_fragJ hf ▸ nofun)

section
open Rules26

theorem SqlWF.stripped {p : Ops} (h : SqlWF p) : SqlWF (DAVerif.strip p) :=
  DAVerif.strip_preserves (P := SqlWF) (fun _ _ _ h => (SqlWF.order_iff.mp h).1) h

theorem SqlWF.extend_iff {s : Ops} {ops : Assign} {pa o r : List String} {w : Bool} :
    SqlWF (.extend s ops pa o r w) ↔ SqlWF s := Iff.rfl

theorem build_sqlwf {p : Ops} (hs : SqlWF p) {s : Step} (hb : ∀ b ∈ stepArgs s, SqlWF b) {q : Ops}
    (h : build p s = .ok q) : SqlWF q := by
  rcases build_eq_ok.mp h with ⟨_, rfl⟩ | ⟨hk, hpl⟩
  · exact hs
  have ha := hs.stripped
  cases hpl with
  | extend => exact ha
  | merge _ _ e => exact (e ▸ ha : SqlWF (.extend ..))
  | project hf =>
    obtain ⟨-, hg, -, hdis⟩ := projectChecks_ok_iff.mp hf
    exact SqlWF.project_iff.mpr ⟨ha, hg, hk.2.1, hk.1, hdis⟩
  | selectRows => exact SqlWF.selectRows_iff.mpr ⟨ha, hk⟩
  | selectCols =>
    exact Ops.selectBase_preserves (P := SqlWF) (fun _ _ _ h => (SqlWF.order_iff.mp h).1) (fun _ _ h => h)
      (fun _ _ h => h) ha
  | dropCols => exact ha
  | order _ hc => exact SqlWF.order_iff.mpr ⟨ha, (orderChk_ok_iff.mp hc).1⟩
  | rename _ hc =>
    obtain ⟨h1, h2, -⟩ := renameChk_ok_iff.mp hc
    exact SqlWF.rename_iff.mpr ⟨ha, h1, fun kv hkv hin => h2 kv.1 hin (List.mem_map.mpr ⟨kv, hkv, rfl⟩)⟩
  | @mapCols m _ hc =>
    obtain ⟨h1, h2, -, -⟩ := mapColsChk_ok_iff.mp hc
    refine SqlWF.mapCols_iff.mpr ⟨ha, fun kv hkv => ?_, fun c hc => ?_, fun kv hkv hin => ?_⟩
    · obtain ⟨kv0, hkv0, e⟩ := List.mem_filterMap.mp hkv
      cases hv : kv0.2 with
      | none => simp [hv] at e
      | some v =>
        simp only [hv, Option.map_some, Option.some.injEq] at e
        exact e ▸ h1 kv0 hkv0
    · obtain ⟨kv0, hkv0, rfl⟩ := List.mem_map.mp hc
      exact h1 kv0 (List.mem_filter.mp hkv0).1
    · -- `kv.2` is a new name that is a source column: it is one of the dictionary's keys, renamed or deleted
      obtain ⟨kv0, hkv0, e0⟩ := List.mem_map.mp (h2 kv.2 hin (List.mem_map.mpr ⟨kv, hkv, rfl⟩))
      cases hv : kv0.2 with
      | none => exact Or.inr (List.mem_map.mpr ⟨kv0, List.mem_filter.mpr ⟨hkv0, by simp [hv]⟩, e0⟩)
      | some v =>
        exact Or.inl (List.mem_map.mpr ⟨(kv0.1, v), List.mem_filterMap.mpr ⟨kv0, hkv0, by simp [hv]⟩, e0⟩)
  | join => exact SqlWF.join_iff.mpr ⟨ha, hb _ (by simp [stepArgs])⟩
  | concat => exact SqlWF.concat_iff.mpr ⟨ha, hb _ (by simp [stepArgs])⟩
  | convert => exact ha

end

end Sql
end DAVerif
