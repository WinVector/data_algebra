import DAVerif.Proofs.Built
/-!
C26 – well-formedness of operator trees produced by the builders (`WF`): the facts the node constructors
establish, at every node; a well-formed tree declares at least one column and none twice (`WF.cols_ne_nil`,
`WF.cols_nodup`).
-/
namespace DAVerif
open Rules26

/-- what `ExtendNode.__init__` establishes about an extend node over a source with columns `sc` -/
def ExtOK (sc : List String) (ops : Assign) (part order reverse : List String) (windowed : Bool) : Prop :=
  (∀ c ∈ usedBy ops, c ∈ sc) ∧ (∀ c ∈ part, c ∈ sc) ∧ (∀ c ∈ order, c ∈ sc) ∧ (∀ c ∈ reverse, c ∈ order) ∧
  (∀ k ∈ keys ops, k ∉ part ∧ k ∉ order) ∧
  (windowed = false → impliesWindowed ops = false ∧ part = [] ∧ order = []) ∧
  (windowed = true → ∀ kv ∈ ops, windowOpOk sc (!order.isEmpty) kv.2 = true)

/-- Structural well-formedness: the facts the node constructors establish, at every node of the tree. -/
def WF : Ops → Prop
  | .table _ cs => cs ≠ [] ∧ cs.Nodup
  | .extend src ops part order reverse w => WF src ∧ ExtOK src.cols ops part order reverse w
  | .project src ops group => WF src ∧ group.Nodup ∧ (group ≠ [] ∨ ops ≠ [])
  | .selectRows src _ => WF src
  | .selectCols src cs => WF src ∧ cs ≠ [] ∧ cs.Nodup ∧ ∀ c ∈ cs, c ∈ src.cols
  | .dropCols src dels => WF src ∧ (src.cols.filter (fun c => !dels.contains c)) ≠ []
  | .order src _ _ _ => WF src
  | .rename src m => WF src ∧ (Ops.rename src m).cols.Nodup
  | .mapCols src m dels => WF src ∧ (Ops.mapCols src m dels).cols ≠ [] ∧ (Ops.mapCols src m dels).cols.Nodup
  | .join a b _ _ _ => WF a ∧ WF b
  | .concat a b idc _ _ => WF a ∧ WF b ∧ (∀ c, idc = some c → c ∉ a.cols)
  | .convert src rm => WF src ∧ rm.produced ≠ [] ∧ rm.produced.Nodup

instance (sc : List String) (ops : Assign) (part order reverse : List String) (w : Bool) :
    Decidable (ExtOK sc ops part order reverse w) := by unfold ExtOK; infer_instance

/-- `WF` is decidable: of a concrete pipeline it is evaluated -/
def WF.dec : (p : Ops) → Decidable (WF p)
  | .table _ cs => inferInstanceAs (Decidable (cs ≠ [] ∧ cs.Nodup))
  | .extend src ops part order reverse w =>
    have := WF.dec src; inferInstanceAs (Decidable (WF src ∧ ExtOK src.cols ops part order reverse w))
  | .project src ops group =>
    have := WF.dec src; inferInstanceAs (Decidable (WF src ∧ group.Nodup ∧ (group ≠ [] ∨ ops ≠ [])))
  | .selectRows src _ | .order src _ _ _ => WF.dec src
  | .selectCols src cs =>
    have := WF.dec src; inferInstanceAs (Decidable (WF src ∧ cs ≠ [] ∧ cs.Nodup ∧ ∀ c ∈ cs, c ∈ src.cols))
  | .dropCols src dels =>
    have := WF.dec src; inferInstanceAs (Decidable (WF src ∧ (src.cols.filter (fun c => !dels.contains c)) ≠ []))
  | .rename src m => have := WF.dec src; inferInstanceAs (Decidable (WF src ∧ (Ops.rename src m).cols.Nodup))
  | .mapCols src m dels =>
    have := WF.dec src
    inferInstanceAs (Decidable (WF src ∧ (Ops.mapCols src m dels).cols ≠ [] ∧ (Ops.mapCols src m dels).cols.Nodup))
  | .join a b _ _ _ => have := WF.dec a; have := WF.dec b; inferInstanceAs (Decidable (WF a ∧ WF b))
  | .concat a b idc _ _ =>
    have := WF.dec a; have := WF.dec b
    decidable_of_iff (WF a ∧ WF b ∧ ∀ c ∈ idc.toList, c ∉ a.cols)
      (and_congr_right fun _ => and_congr_right fun _ => by cases idc <;> simp)
  | .convert src rm =>
    have := WF.dec src; inferInstanceAs (Decidable (WF src ∧ rm.produced ≠ [] ∧ rm.produced.Nodup))

instance (p : Ops) : Decidable (WF p) := WF.dec p

theorem ExtOK.of_chk {sc : List String} {ops : Assign} {pa : PartArg} {od rv : List String}
    (h : extendChk sc ops pa od rv = .ok ()) : ExtOK sc ops pa.cols' od rv (stepWindowed ops pa od) := by
  obtain ⟨h1, _, _, _, h5, h6, h7, h8, h9⟩ := extendChk_ok_iff.mp h
  refine ⟨fun c hc => h1 c (mem_colsUsedOps.mpr (List.mem_flatMap.mp hc)), h5, h6, h7, fun k hk => ?_, fun hw => ?_, h9⟩
  · have := h8 k hk
    simp only [List.append_assoc, List.mem_append, not_or] at this
    exact ⟨this.1, this.2.1⟩
  · simp only [stepWindowed, Bool.or_eq_false_iff, Bool.not_eq_eq_eq_not, Bool.not_false, List.isEmpty_iff] at hw
    refine ⟨hw.1.1, ?_, hw.2⟩
    cases pa with
    | none | one => rfl
    | cols cs => simpa [PartArg.cols'] using hw.1.2

theorem WF.stripped {p : Ops} (h : WF p) : WF (DAVerif.strip p) :=
  strip_preserves (P := WF) (fun _ _ _ h => h) h

theorem WF.cols_ne_nil {p : Ops} (h : WF p) : p.cols ≠ [] := by
  induction p with
  | table _ cs => exact h.1
  | extend src ops part order reverse w ih =>
    exact appendNew_ne_nil_left (ih h.1)
  | project src ops group ih =>
    simp only [Ops.cols]
    rcases h.2.2 with hg | ho
    · exact appendNew_ne_nil_left hg
    · intro he
      cases ops with
      | nil => exact ho rfl
      | cons kv ops =>
        have : kv.1 ∈ appendNew group (List.map (fun x => x.1) (kv :: ops)) :=
          mem_appendNew.mpr (Or.inr (by simp))
        rw [he] at this; simp at this
  | selectRows src _ ih | order src _ _ _ ih => exact ih h
  | selectCols src cs ih | mapCols src m dels ih | convert src rm ih => exact h.2.1
  | dropCols src dels ih => exact h.2
  | rename src m ih =>
    have := ih h.1
    simp only [Ops.cols, ne_eq, List.map_eq_nil_iff]; exact this
  | join a b onA onB jt iha ihb =>
    have ha := iha h.1
    have hb := ihb h.2
    simp only [Ops.cols]
    split
    · exact ha
    · split
      · exact hb
      · exact appendNew_ne_nil_left ha
  | concat a b idc _ _ iha ihb =>
    have ha := iha h.1
    simp only [Ops.cols]
    cases idc <;> simp [ha]

theorem WF.cols_nodup {p : Ops} (h : WF p) : p.cols.Nodup := by
  induction p with
  | table _ cs => exact h.2
  | extend src ops part order reverse w ih => exact appendNew_nodup (ih h.1)
  | project src ops group ih => exact appendNew_nodup h.2.1
  | selectRows src _ ih | order src _ _ _ ih => exact ih h
  | selectCols src cs ih => exact h.2.2.1
  | dropCols src dels ih => exact (ih h.1).filter _
  | rename src m ih => exact h.2
  | mapCols src m dels ih | convert src rm ih => exact h.2.2
  | join a b onA onB jt iha ihb =>
    have ha := iha h.1
    have hb := ihb h.2
    simp only [Ops.cols]
    split
    · exact ha
    · split
      · exact hb
      · exact appendNew_nodup ha
  | concat a b idc _ _ iha ihb =>
    have ha := iha h.1
    simp only [Ops.cols]
    cases idc with
    | none => exact ha
    | some c =>
      have hc := h.2.2 c rfl
      rw [List.nodup_append]
      refine ⟨ha, by simp, ?_⟩
      intro x hx y hy
      simp only [List.mem_singleton] at hy
      subst hy; rintro rfl; exact hc hx

end DAVerif
