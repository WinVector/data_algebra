import DAVerif.Proofs.CDataSpec
/-!
Helper lemmas for C17, part 3: a table with complete blocks is the block form of its records (`collapse_spec`); the
record with a given key is read off the table by `recOf`.
-/
namespace DAVerif.CData
open List

theorem look_map_of_nodup {α : Type} (n : α → String) (val : α → Val) {P : List α} (h : (P.map n).Nodup)
    {a : α} (ha : a ∈ P) : look (P.map fun a => (n a, val a)) (n a) = val a := by
  induction P with
  | nil => cases ha
  | cons x P ih =>
    rw [map_cons, nodup_cons] at h
    rw [map_cons, look_cons]
    rcases mem_cons.1 ha with rfl | ha'
    · rw [if_pos rfl]
    · rw [if_neg fun e : n x = n a => h.1 (e ▸ mem_map_of_mem ha'), ih h.2 ha']

def pickRow (s : Spec) (rows : List Row) (κ : List Val) (cr : Row) : Row :=
  (rows.find? fun r => keyOf s.recordKeys r = κ ∧ keyOf s.ctKeys r = keyOf s.ctKeys cr).getD []

def contentPlaces (s : Spec) : List (Row × String) := s.ct.rows.flatMap fun cr => s.valueCols.map fun v => (cr, v)

/-- the record with record key `keyOf rk r`, read off the block table: content key ↦ the cell found in the block
row of the control row that names it -/
def recOf (s : Spec) (rows : List Row) (r : Row) : Row :=
  proj s.recordKeys r ++ (contentPlaces s).map fun p =>
    (contentName p.1 p.2, look (pickRow s rows (keyOf s.recordKeys r) p.1) p.2)

theorem pickRow_spec {s : Spec} {rows : List Row}
    (hfull : ∀ r ∈ rows, ∀ cr ∈ s.ct.rows, ∃ r' ∈ rows,
      keyOf s.recordKeys r' = keyOf s.recordKeys r ∧ keyOf s.ctKeys r' = keyOf s.ctKeys cr)
    {r cr : Row} (hr : r ∈ rows) (hcr : cr ∈ s.ct.rows) :
    pickRow s rows (keyOf s.recordKeys r) cr ∈ rows ∧
    keyOf s.recordKeys (pickRow s rows (keyOf s.recordKeys r) cr) = keyOf s.recordKeys r ∧
    keyOf s.ctKeys (pickRow s rows (keyOf s.recordKeys r) cr) = keyOf s.ctKeys cr := by
  obtain ⟨r', hr', h1, h2⟩ := hfull r hr cr hcr
  unfold pickRow
  cases hf : rows.find? fun x => keyOf s.recordKeys x = keyOf s.recordKeys r ∧ keyOf s.ctKeys x = keyOf s.ctKeys cr with
  | none =>
    rw [find?_eq_none] at hf
    have := hf r' hr'
    simp [h1, h2] at this
  | some z =>
    have hz := find?_some hf
    simp only [decide_eq_true_eq] at hz
    exact ⟨mem_of_find?_eq_some hf, hz.1, hz.2⟩

theorem rows_inj {s : Spec} {rows : List Row} (hkeyed : (rows.map (keyOf (s.recordKeys ++ s.ctKeys))).Nodup)
    {a b : Row} (ha : a ∈ rows) (hb : b ∈ rows)
    (h1 : keyOf s.recordKeys a = keyOf s.recordKeys b) (h2 : keyOf s.ctKeys a = keyOf s.ctKeys b) : a = b := by
  apply inj_of_nodup_map hkeyed _ ha _ hb
  rw [keyOf_append, keyOf_append, h1, h2]

theorem look_recOf_rk {s : Spec} (rows : List Row) (r : Row) {k : String} (hk : k ∈ s.recordKeys) :
    look (recOf s rows r) k = look r k := by
  unfold recOf
  rw [look_append, proj_keys, if_pos hk, look_proj r hk]

theorem keyOf_rk_recOf {s : Spec} (rows : List Row) (r : Row) :
    keyOf s.recordKeys (recOf s rows r) = keyOf s.recordKeys r :=
  keyOf_congr fun _ hk => look_recOf_rk _ _ hk

theorem contentPlaces_nodup {s : Spec} (f : Facts s) : ((contentPlaces s).map fun p => contentName p.1 p.2).Nodup := by
  rw [contentPlaces, map_flatMap]
  simp only [map_map]
  exact ((contentCols_perm (Perm.refl _)).nodup_iff).2 f.content_nodup

theorem look_recOf_content {s : Spec} (f : Facts s) (rows : List Row) (r : Row) {cr : Row} {v : String}
    (hcr : cr ∈ s.ct.rows) (hv : v ∈ s.valueCols) :
    look (recOf s rows r) (contentName cr v) = look (pickRow s rows (keyOf s.recordKeys r) cr) v := by
  unfold recOf
  rw [look_append, proj_keys, if_neg fun h => f.rk_content _ h (contentName_mem hcr hv)]
  exact look_map_of_nodup (fun p : Row × String => contentName p.1 p.2)
    (fun p => look (pickRow s rows (keyOf s.recordKeys r) p.1) p.2) (contentPlaces_nodup f)
    (a := (cr, v)) (mem_flatMap.2 ⟨cr, hcr, mem_map.2 ⟨v, hv, rfl⟩⟩)

theorem bRow_recOf {s : Spec} (f : Facts s) {rows : List Row}
    (hfull : ∀ r ∈ rows, ∀ cr ∈ s.ct.rows, ∃ r' ∈ rows,
      keyOf s.recordKeys r' = keyOf s.recordKeys r ∧ keyOf s.ctKeys r' = keyOf s.ctKeys cr)
    {r cr : Row} (hr : r ∈ rows) (hcr : cr ∈ s.ct.rows) :
    bRow s cr (recOf s rows r) = proj s.blockColumns (pickRow s rows (keyOf s.recordKeys r) cr) := by
  obtain ⟨_, hp1, hp2⟩ := pickRow_spec hfull hr hcr
  exact (proj_eq_bRow f (fun k h => (keyOf_eq_iff.1 hp1 k h).trans (look_recOf_rk _ _ h).symm) (keyOf_eq_iff.1 hp2)
    fun v hv => (look_recOf_content f _ _ hcr hv).symm).symm

theorem collapse_spec {s : Spec} (g : s.Good) {t : Table} (hc : CompleteBlocks s t) :
    ∃ U, RecKeys s.recordKeys U ∧ IsBlocks s U t := by
  have f := g.facts
  obtain ⟨hcols, hnn, hin, hkeyed, hfull⟩ := hc
  obtain ⟨cr0, hcr0⟩ := exists_mem_of_ne_nil _ f.rows_ne
  -- the records: one per row of the block of `cr0`
  refine ⟨(t.rows.filter fun r => keyOf s.ctKeys r = keyOf s.ctKeys cr0).map (recOf s t.rows), ?_⟩
  have hkeys := keyOf_rk_recOf (s := s) t.rows
  have hB0 : ∀ r, r ∈ (t.rows.filter fun r => keyOf s.ctKeys r = keyOf s.ctKeys cr0) ↔
      r ∈ t.rows ∧ keyOf s.ctKeys r = keyOf s.ctKeys cr0 := by
    intro r; simp [mem_filter]
  have hrec : RecKeys s.recordKeys
      ((t.rows.filter fun r => keyOf s.ctKeys r = keyOf s.ctKeys cr0).map (recOf s t.rows)) := by
    constructor
    · intro u hu
      obtain ⟨r, hr, rfl⟩ := mem_map.1 hu
      rw [hkeys]
      exact hnn r ((hB0 r).1 hr).1
    · rw [map_map]
      have : (keyOf s.recordKeys ∘ recOf s t.rows) = keyOf s.recordKeys := by funext r; exact hkeys r
      rw [this]
      have hnd : (t.rows.filter fun r => keyOf s.ctKeys r = keyOf s.ctKeys cr0).Nodup :=
        (nodup_of_nodup_map _ hkeyed).filter _
      apply nodup_map_of_inj hnd
      intro a ha b hb e
      exact rows_inj hkeyed ((hB0 a).1 ha).1 ((hB0 b).1 hb).1 e (((hB0 a).1 ha).2.trans ((hB0 b).1 hb).2.symm)
  refine ⟨hrec, fun c hcm => hcols.symm.mem_iff.1 hcm, ?_⟩
  rw [eRows_eq]
  have hbc : ∀ c ∈ s.recordKeys ++ s.ctKeys, c ∈ s.blockColumns := by
    intro c hcm
    rcases mem_append.1 hcm with h | h
    · exact rk_sub_bc c h
    · exact ck_sub_bc f c h
  have hRnd : (t.rows.map (proj s.blockColumns)).Nodup :=
    nodup_of_nodup_map _ ((perm_map_of_proj (fun r => keyOf_proj r hbc) (.refl _)).nodup_iff.1 hkeyed)
  apply (perm_ext_iff_of_nodup hRnd (eRows_nodup f hrec)).2
  intro x
  rw [mem_map, mem_eRows]
  constructor
  · rintro ⟨y, hy, rfl⟩
    obtain ⟨cr, hcr, hycr⟩ := hin y hy
    obtain ⟨r', hr', h1, h2⟩ := hfull y hy cr0 hcr0
    refine ⟨cr, hcr, recOf s t.rows r', ?_, ?_⟩
    · exact mem_map_of_mem ((hB0 r').2 ⟨hr', h2⟩)
    · rw [bRow_recOf f hfull hr' hcr]
      obtain ⟨hp0, hp1, hp2⟩ := pickRow_spec hfull hr' hcr
      have : pickRow s t.rows (keyOf s.recordKeys r') cr = y :=
        rows_inj hkeyed hp0 hy (hp1.trans h1) (hp2.trans hycr.symm)
      rw [this]
  · rintro ⟨cr, hcr, u, hu, rfl⟩
    obtain ⟨r, hr, rfl⟩ := mem_map.1 hu
    have hrt := ((hB0 r).1 hr).1
    exact ⟨_, (pickRow_spec hfull hrt hcr).1, (bRow_recOf f hfull hrt hcr).symm⟩

end DAVerif.CData
