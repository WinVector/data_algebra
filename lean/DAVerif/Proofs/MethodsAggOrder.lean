import DAVerif.Proofs.MethodsAgg
import DAVerif.Proofs.Perm
import DAVerif.Proofs.ThetaWin
/-!
C05, order aggregates: `max`, `min`, `any_value` (SQL: `MAX`) and `nunique` of the backend models against `Doc.docAgg`.

The documentation (`Doc.leastBy`, a recursion from the right end of the group), the backend models (`Theta.maxV` /
`Theta.minV`, a fold from the left) and SQL's `MAX` (`Sql3.bestBy`, `MethodsAggFmt`) are three programs for one thing:
the item of the group that no item beats (`IsBest`).  Each is shown to return such an item; `Val.lt` being a linear
order there is only one (`IsBest.unique`), so they agree.  `IsBest` for the documented value is also the second
reading of it that `Props/C05agg.lean` states (`C05_max_documented_is_greatest`).
-/
namespace DAVerif.C05A
open DAVerif DAVerif.Doc DAVerif.C05

def kindOf : Val → Nat
  | .null => 0
  | .bool _ => 1
  | .num _ => 2
  | .str _ => 3

theorem sameKind_iff (a b : Val) : sameKind a b = true ↔ kindOf a = kindOf b ∧ kindOf a ≠ 0 := by
  cases a <;> cases b <;> simp [sameKind, kindOf]

theorem oneKind_kinds : ∀ (l : List Val), oneKind l = true → ∀ x ∈ l, ∀ y ∈ l, kindOf y = kindOf x ∧ kindOf x ≠ 0
  | [], _ => by intro x hx; cases hx
  | [a], h => by
    have ha : kindOf a ≠ 0 := by cases a <;> simp [oneKind, kindOf] at h ⊢
    intro x hx y hy
    simp only [List.mem_singleton] at hx hy
    rw [hx, hy]
    exact ⟨rfl, ha⟩
  | a :: b :: r, h => by
    have h' : sameKind a b = true ∧ oneKind (b :: r) = true := by
      simpa [oneKind, Bool.and_eq_true] using h
    have hab := (sameKind_iff a b).mp h'.1
    have ih := oneKind_kinds (b :: r) h'.2
    have hb : ∀ y ∈ b :: r, kindOf y = kindOf b ∧ kindOf b ≠ 0 := fun y hy => ih b (List.mem_cons_self) y hy
    have hall : ∀ y ∈ a :: b :: r, kindOf y = kindOf a := by
      intro y hy
      rcases List.mem_cons.mp hy with rfl | hy
      · rfl
      · rw [(hb y hy).1, hab.1]
    intro x hx y hy
    refine ⟨by rw [hall y hy, hall x hx], ?_⟩
    rw [hall x hx]; exact hab.2

theorem docLt_eq_valLt (a b : Val) (h : kindOf a = kindOf b) : Doc.lt a b = Val.lt a b := by
  cases a <;> cases b <;> simp [kindOf] at h <;> simp [Doc.lt, Val.lt, Val.rank]

/-- one step of the left fold: keep `m` unless `v` is strictly better (`L v m`) -/
def keep (L : Val → Val → Bool) (m v : Val) : Val := if L v m then v else m

theorem keep_cases (L : Val → Val → Bool) (m v : Val) : keep L m v = m ∨ keep L m v = v := by
  unfold keep; split <;> simp

theorem keep_P {P : Val → Prop} (L : Val → Val → Bool) {m v : Val} (hm : P m) (hv : P v) : P (keep L m v) := by
  rcases keep_cases L m v with h | h <;> rw [h] <;> assumption

theorem foldl_keep_P {P : Val → Prop} (L : Val → Val → Bool) : ∀ (r : List Val) (x : Val), P x → (∀ y ∈ r, P y) →
    P (r.foldl (keep L) x)
  | [], _, hx, _ => hx
  | y :: r, x, hx, hr =>
    foldl_keep_P L r (keep L x y) (keep_P L hx (hr y List.mem_cons_self)) (fun z hz => hr z (List.mem_cons_of_mem _ hz))

/-! `L a b` reads "`a` beats `b`": for `max`, `a` beats `b` when `b < a`; for `min`, when `a < b`. -/

/-- a linear strict order on the cells, in the form the folds below use it -/
structure Beats (L : Val → Val → Bool) : Prop where
  irrefl : ∀ a, L a a = false
  asymm : ∀ {a b}, L a b = true → L b a = false
  nlt_trans : ∀ {a b c}, L b a = false → L c b = false → L c a = false
  eq_of_nlt : ∀ {a b}, L a b = false → L b a = false → a = b

theorem beats_min : Beats (fun v m => Val.lt v m) :=
  ⟨Val.lt_irrefl, Val.lt_asymm, Val.nlt_trans, Val.eq_of_nlt⟩

theorem beats_max : Beats (fun v m => Val.lt m v) :=
  ⟨Val.lt_irrefl, Val.lt_asymm, fun h1 h2 => Val.nlt_trans h2 h1, fun h1 h2 => Val.eq_of_nlt h2 h1⟩

def IsBest (L : Val → Val → Bool) (l : List Val) (m : Val) : Prop := m ∈ l ∧ ∀ z ∈ l, L z m = false

theorem IsBest.unique {L : Val → Val → Bool} (hL : Beats L) {l : List Val} {m m' : Val} (h : IsBest L l m)
    (h' : IsBest L l m') : m = m' := hL.eq_of_nlt (h'.2 m h.1) (h.2 m' h'.1)

theorem IsBest.congr {L L' : Val → Val → Bool} {l : List Val} {m : Val} (h : ∀ a ∈ l, ∀ b ∈ l, L a b = L' a b)
    (hm : IsBest L l m) : IsBest L' l m := ⟨hm.1, fun z hz => (h z hz m hm.1).symm.trans (hm.2 z hz)⟩

theorem IsBest.single {L : Val → Val → Bool} (hL : Beats L) (x : Val) : IsBest L [x] x :=
  ⟨List.mem_singleton.mpr rfl, fun z hz => by rw [List.mem_singleton.mp hz]; exact hL.irrefl x⟩

theorem IsBest.cons {L : Val → Val → Bool} (hL : Beats L) {l : List Val} {m : Val} (h : IsBest L l m) {x y : Val}
    (hy : y = m ∨ y = x) (hx : L x y = false) (hm : L m y = false) : IsBest L (x :: l) y := by
  refine ⟨?_, fun z hz => ?_⟩
  · rcases hy with rfl | rfl
    · exact List.mem_cons_of_mem _ h.1
    · exact List.mem_cons_self
  · rcases List.mem_cons.mp hz with rfl | hz
    · exact hx
    · exact hL.nlt_trans hm (h.2 z hz)

theorem foldl_keep_isBest {L : Val → Val → Bool} (hL : Beats L) (x : Val) (r : List Val) :
    IsBest L (x :: r) (r.foldl (keep L) x) :=
  RefSem.foldl_select (R := fun z m => L z m = false) hL.irrefl (fun h1 h2 => hL.nlt_trans h2 h1)
    (fun a b => by
      unfold keep
      cases hc : L b a with
      | true => exact ⟨.inr rfl, hL.asymm hc, hL.irrefl b⟩
      | false => exact ⟨.inl rfl, hL.irrefl a, hc⟩) r x

/-- the test `L` need agree with the linear order `L'` on the items of the list only: `Doc.lt` is `Val.lt` on cells of
one kind -/
theorem leastBy_isBest {L L' : Val → Val → Bool} (hL' : Beats L') : ∀ (r : List Val) (x : Val),
    (∀ a ∈ x :: r, ∀ b ∈ x :: r, L a b = L' a b) → ∃ m, leastBy L (x :: r) = some m ∧ IsBest L' (x :: r) m
  | [], x, _ => ⟨x, rfl, .single hL' x⟩
  | y :: r, x, h => by
    obtain ⟨m, e, hb⟩ := leastBy_isBest hL' r y fun a ha b hb => h a (List.mem_cons_of_mem _ ha) b (List.mem_cons_of_mem _ hb)
    refine ⟨if L m x then m else x, by show (match leastBy L (y :: r) with | none => _ | some m => _) = _; rw [e], ?_⟩
    rw [h m (List.mem_cons_of_mem _ hb.1) x List.mem_cons_self]
    cases hc : L' m x with
    | true => exact hb.cons hL' (.inl rfl) (hL'.asymm hc) (hL'.irrefl m)
    | false => exact hb.cons hL' (.inr rfl) (hL'.irrefl x) hc

theorem doc_isBest {L L' : Val → Val → Bool} (hL' : Beats L') (hLL' : ∀ a b, kindOf a = kindOf b → L a b = L' a b)
    {ws : List Val} {v : Val} (h : (if oneKind ws then leastBy L ws else none) = some v) :
    IsBest L' ws v ∧ IsBest L ws v := by
  split at h
  · rename_i hk
    have hag : ∀ a ∈ ws, ∀ b ∈ ws, L a b = L' a b := fun a ha b hb => hLL' a b (oneKind_kinds ws hk b hb a ha).1
    cases ws with
    | nil => cases h
    | cons x r =>
      obtain ⟨m, e, hb⟩ := leastBy_isBest hL' r x hag
      rw [e] at h
      cases h
      exact ⟨hb, hb.congr fun a ha b hb' => (hag a ha b hb').symm⟩
  · cases h

theorem maxV_eq_of_isBest {vs : List Val} {v : Val} (h : IsBest (fun v m => Val.lt m v) (Doc.nonNull vs) v) :
    Theta.maxV vs = v := by
  unfold Theta.maxV
  rw [nonNull_eq]
  obtain ⟨x, r, hn⟩ := List.exists_cons_of_ne_nil (List.ne_nil_of_mem h.1)
  rw [hn] at h ⊢
  exact (foldl_keep_isBest beats_max x r).unique beats_max h

theorem minV_eq_of_isBest {vs : List Val} {v : Val} (h : IsBest (fun v m => Val.lt v m) (Doc.nonNull vs) v) :
    Theta.minV vs = v := by
  unfold Theta.minV
  rw [nonNull_eq]
  obtain ⟨x, r, hn⟩ := List.exists_cons_of_ne_nil (List.ne_nil_of_mem h.1)
  rw [hn] at h ⊢
  exact (foldl_keep_isBest beats_min x r).unique beats_min h

theorem agg_max {vs : List Val} {v : Val}
    (h : (if oneKind (Doc.nonNull vs) then leastBy (fun a b => Doc.lt b a) (Doc.nonNull vs) else none) = some v) :
    ThetaX.agg "max" vs = v ∧ ThetaSqlX.agg "max" vs = v := by
  have e := maxV_eq_of_isBest (doc_isBest beats_max (fun a b hk => docLt_eq_valLt b a hk.symm) h).1
  exact ⟨e, e⟩

theorem agg_min {vs : List Val} {v : Val}
    (h : (if oneKind (Doc.nonNull vs) then leastBy Doc.lt (Doc.nonNull vs) else none) = some v) :
    ThetaX.agg "min" vs = v ∧ ThetaSqlX.agg "min" vs = v := by
  have e := minV_eq_of_isBest (doc_isBest beats_min docLt_eq_valLt h).1
  exact ⟨e, e⟩

theorem max_min_of_no_item (vs : List Val) (h : Doc.nonNull vs = []) :
    docAgg "max" vs = none ∧ docAgg "min" vs = none ∧
    ThetaX.agg "max" vs = .null ∧ ThetaX.agg "min" vs = .null ∧
    ThetaSqlX.agg "max" vs = .null ∧ ThetaSqlX.agg "min" vs = .null := by
  have hm : Theta.maxV vs = .null := by unfold Theta.maxV; rw [nonNull_eq, h]
  have hn : Theta.minV vs = .null := by unfold Theta.minV; rw [nonNull_eq, h]
  have d1 : docAgg "max" vs = none := by
    show (if oneKind (Doc.nonNull vs) then leastBy (fun a b => Doc.lt b a) (Doc.nonNull vs) else none) = none
    rw [h]; rfl
  have d2 : docAgg "min" vs = none := by
    show (if oneKind (Doc.nonNull vs) then leastBy Doc.lt (Doc.nonNull vs) else none) = none
    rw [h]; rfl
  exact ⟨d1, d2, hm, hn, hm, hn⟩

/-- "no two items are equal", as the specification writes it (`eraseDups` removes nothing) -/
theorem nodup_of_length_eraseDups {α} [BEq α] [LawfulBEq α] (l : List α) (h : l.eraseDups.length = l.length) : l.Nodup := by
  match l with
  | [] => simp
  | a :: r =>
    rw [List.eraseDups_cons] at h
    have h1 := eraseDups_length_le (r.filter (fun b => !b == a))
    have h2 := List.length_filter_le (fun b => !b == a) r
    simp only [List.length_cons] at h
    have hf : (r.filter (fun b => !b == a)).length = r.length := by omega
    have hfr : r.filter (fun b => !b == a) = r := List.length_filter_eq_length_iff.mp hf |> List.filter_eq_self.mpr
    have ih := nodup_of_length_eraseDups (r.filter (fun b => !b == a)) (by omega)
    rw [hfr] at ih
    refine List.nodup_cons.mpr ⟨?_, ih⟩
    intro ha
    have := List.filter_eq_self.mp hfr a ha
    simp at this
termination_by l.length
decreasing_by simp only [List.length_cons]; exact Nat.lt_succ_of_le (List.length_filter_le _ _)

theorem agg_nunique {vs : List Val} {v : Val} (h : some (Val.num (Doc.nonNull vs).eraseDups.length) = some v) :
    ThetaX.agg "nunique" vs = v ∧ ThetaSqlX.agg "nunique" vs = v := by
  cases h
  have e : Val.num (Theta.nonNull vs).eraseDups.length = .num (Doc.nonNull vs).eraseDups.length := by rw [nonNull_eq]
  exact ⟨e, e⟩

/-- a constant group: pandas takes the first non-null value, SQL renders `MAX(x)`; on a column that is constant within
the group (Appendix B) both are that constant (a group of missing values: missing) -/
theorem agg_any_value {vs : List Val} {v : Val}
    (h : (match vs with
      | [] => none
      | x :: r => if r.all (· == x) then some x else none) = some v) :
    ThetaX.agg "any_value" vs = v ∧ ThetaSqlX.agg "any_value" vs = v := by
  split at h
  · cases h
  · rename_i x r
    split at h
    · rename_i hc
      cases h
      have hall : ∀ y ∈ r, y = v := fun y hy => beq_iff_eq.mp (List.all_eq_true.mp hc y hy)
      have hnn : Theta.nonNull (v :: r) = if v.isNull then [] else v :: r := by
        unfold Theta.nonNull
        split
        · rename_i hv
          exact List.filter_eq_nil_iff.mpr fun a ha => by
            rcases List.mem_cons.mp ha with rfl | ha
            · simp [hv]
            · rw [hall a ha]; simp [hv]
        · rename_i hv
          exact List.filter_eq_self.mpr fun a ha => by
            rcases List.mem_cons.mp ha with rfl | ha
            · simpa using hv
            · rw [hall a ha]; simpa using hv
      constructor
      · show (Theta.nonNull (v :: r)).headD .null = v
        rw [hnn]; cases v <;> rfl
      · show Theta.maxV (v :: r) = v
        cases hv : v.isNull with
        | true => unfold Theta.maxV; rw [hnn, hv]; exact (Val.eq_null_of_isNull hv).symm
        | false =>
          refine maxV_eq_of_isBest ?_
          rw [← nonNull_eq, hnn, hv]
          exact ⟨List.mem_cons_self, fun z hz => by
            rcases List.mem_cons.mp hz with rfl | hz
            · exact Val.lt_irrefl _
            · rw [hall z hz]; exact Val.lt_irrefl v⟩
    · cases h

theorem mem_nonNull {vs : List Val} {z : Val} : z ∈ Doc.nonNull vs ↔ z ∈ vs ∧ z ≠ .null := by
  unfold Doc.nonNull; simp

end DAVerif.C05A
