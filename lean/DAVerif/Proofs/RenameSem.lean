import DAVerif.Proofs.RenameBasic
import DAVerif.Proofs.RefJoin
/-!
Every operator of `sem` (Sem/Eval.lean) commutes with a node-wise map of its parameters and the renaming of the table's
columns by `φ.col`, when `φ.col` is injective: the value of a mapped expression on the renamed row is the value of the
expression on the row.  The record transforms are abstract, so `sem_ren` assumes the law `ConvertEquivariant` of the
interpretation.  Window values are `Sql.winCell` (Sem/EvalG.lean) on the executor and on the SQL side; joins go through
`joinRows` / `semJoin_eq` of Proofs/Perm.lean and `RefSem.joinRow_eq_map` of Proofs/RefJoin.lean.
-/
namespace DAVerif
namespace Ren

open Function (Injective)

variable {f : String → String} {φ : NodeMap}

/-- the law the abstract record-transform interpretation has to satisfy: renaming the record map and the table
renames the result (and the error, if any, is the same) -/
def ConvertEquivariant (Θ : Interp) : Prop :=
  ∀ ρ : ColRen, Injective ρ → ∀ (rm : RecMap) (t : Table),
    Θ.convert (rm.rename ρ) (t.rename ρ) = (Θ.convert rm t).map (Table.rename ρ)

mutual
theorem evalTerm_mapTerm (Θ : Interp) (hf : Injective f) (g : Bool → Bool) (r : Row) :
    ∀ t : Term, evalTerm Θ (r.rename f) (mapTerm f g t) = evalTerm Θ r t
  | .value _ => rfl
  | .col c => by simp only [mapTerm, evalTerm, Row.get_rename hf]
  | .list _ => rfl
  | .dict _ => rfl
  | .app op args _ _ => by simp only [mapTerm, evalTerm, evalArgs_mapTerms Θ hf g r args]
theorem evalArgs_mapTerms (Θ : Interp) (hf : Injective f) (g : Bool → Bool) (r : Row) :
    ∀ ts : List Term, evalArgs Θ (r.rename f) (mapTerms f g ts) = evalArgs Θ r ts
  | [] => rfl
  | t :: ts => by simp only [mapTerms, evalArgs, evalTerm_mapTerm Θ hf g r t, evalArgs_mapTerms Θ hf g r ts]
end

theorem evalArgs_rename (Θ : Interp) (hf : Injective f) (r : Row) :
    ∀ ts : List Term, evalArgs Θ (r.rename f) (Term.renameList f ts) = evalArgs Θ r ts :=
  fun ts => mapTerms_id_rename f ts ▸ evalArgs_mapTerms Θ hf id r ts

theorem evalCell_map (Θ : Interp) (hf : Injective φ.col) (r : Row) (t : Term) :
    evalCell Θ (r.rename φ.col) (φ.expr t) = evalCell Θ r t := by
  simp only [evalCell, NodeMap.expr, evalTerm_mapTerm Θ hf]

theorem opName_expr (φ : NodeMap) (t : Term) : opName (φ.expr t) = opName t := by
  cases t <;> rfl

theorem constArgs_expr (φ : NodeMap) (t : Term) : constArgs (φ.expr t) = constArgs t := by
  cases t with
  | app op args i m =>
    cases args with
    | nil => rfl
    | cons a rest =>
      simp only [NodeMap.expr_app, List.map_cons, constArgs, List.map_map]
      apply List.map_congr_left
      intro x _
      cases x <;> rfl
  | _ => rfl

theorem argValues_expr (hf : Injective φ.col) (t : Term) (rows : List Row) :
    argValues (φ.expr t) (rows.map (fun r => r.rename φ.col)) = argValues t rows := by
  cases t with
  | app op args i m =>
    cases args with
    | nil => simp [NodeMap.expr, mapTerm, mapTerms, argValues]
    | cons a rest =>
      cases a with
      | col c =>
        simp only [NodeMap.expr, mapTerm, mapTerms, argValues, List.map_map]
        apply List.map_congr_left
        intro r _
        exact Row.get_rename hf r c
      | _ => simp [NodeMap.expr, mapTerm, mapTerms, argValues]
  | _ => simp [NodeMap.expr, mapTerm, argValues]

theorem keyOf_rename (hf : Injective f) (r : Row) (cs : List String) :
    keyOf (r.rename f) (cs.map f) = keyOf r cs := Row.vals_rename hf r cs

theorem map_keyOf_rename (hf : Injective f) (g : List String) (rows : List Row) :
    (rows.map (fun r => r.rename f)).map (fun r => keyOf r (g.map f)) = rows.map (fun r => keyOf r g) := by
  rw [List.map_map]
  exact List.map_congr_left (fun r _ => keyOf_rename hf r g)

theorem filter_keyOf_rename (hf : Injective f) (g : List String) (k : List Val) (rows : List Row) :
    (rows.map (fun r => r.rename f)).filter (fun r => keyOf r (g.map f) == k)
      = (rows.filter (fun r => keyOf r g == k)).map (fun r => r.rename f) :=
  filter_map' rows (fun r => keyOf r (g.map f) == k) (fun r => keyOf r g == k)
    (fun r => congrArg (· == k) (keyOf_rename hf r g))

theorem rowLe_rename (hf : Injective f) (cs rv : List String) (r1 r2 : Row) :
    rowLe (cs.map f) (rv.map f) (r1.rename f) (r2.rename f) = rowLe cs rv r1 r2 := by
  induction cs with
  | nil => rfl
  | cons c cs ih =>
    simp only [List.map_cons, rowLe, Row.get_rename hf, contains_map hf, ih]

theorem sortRows_rename (hf : Injective f) (cs rv : List String) (rows : List Row) :
    sortRows (cs.map f) (rv.map f) (rows.map (fun r => r.rename f))
      = (sortRows cs rv rows).map (fun r => r.rename f) := by
  unfold sortRows
  exact (List.map_mergeSort (fun a _ b _ => (rowLe_rename hf cs rv a b).symm)).symm

theorem Table.selectCols_rename (hf : Injective f) (t : Table) (cs : List String) :
    (t.rename f).selectCols (cs.map f) = (t.selectCols cs).rename f := by
  simp only [Table.selectCols, Table.rename, Row.renameCols, List.map_map, Table.mk.injEq, true_and]
  apply List.map_congr_left
  intro r _
  exact Row.select_rename hf r cs

theorem assign_map_expr (ops : Assign) (v' v : Term → Val) (h : ∀ t, v' (φ.expr t) = v t) :
    (φ.assign ops).map (fun kv => (kv.1, v' kv.2))
      = (ops.map (fun kv => (kv.1, v kv.2))).map (fun kv => (φ.col kv.1, kv.2)) := by
  rw [NodeMap.assign, List.map_map, List.map_map]
  exact List.map_congr_left (fun kv _ => congrArg (Prod.mk _) (h kv.2))

theorem assign_eval_map (Θ : Interp) (hf : Injective φ.col) (ops : Assign) (r : Row) :
    (φ.assign ops).map (fun kv => (kv.1, evalCell Θ (r.rename φ.col) kv.2))
      = (ops.map (fun kv => (kv.1, evalCell Θ r kv.2))).map (fun kv => (φ.col kv.1, kv.2)) :=
  assign_map_expr ops _ _ (evalCell_map Θ hf r)

theorem semExtendPlain_map (Θ : Interp) (hf : Injective φ.col) (ops : Assign) (t : Table) (oc : List String) :
    semExtendPlain Θ (φ.assign ops) (t.rename φ.col) (oc.map φ.col) = (semExtendPlain Θ ops t oc).rename φ.col := by
  simp only [semExtendPlain, Table.rename, Row.renameCols, List.map_map, Table.mk.injEq, true_and]
  apply List.map_congr_left
  intro r _
  simp only [Function.comp]
  rw [assign_eval_map Θ hf, Row.setAll_rename hf, Row.select_rename hf]

theorem zipIdx_rename (rows : List Row) :
    (rows.map (fun r => r.rename f)).zipIdx = rows.zipIdx.map (fun ri => (ri.1.rename f, ri.2)) := by
  rw [List.zipIdx_map]
  rfl

/-- `Sql.winCell`: the executor model at `rowLe`, the SQL model at `sqlRowLe ec` -/
theorem winCell_map (Θ : Interp) (hf : Injective φ.col) {le : Sql.RowCmp}
    (hle : ∀ cs rv r1 r2, le (cs.map φ.col) (rv.map φ.col) (r1.rename φ.col) (r2.rename φ.col) = le cs rv r1 r2)
    (part od rv : List String) (idx : List (Row × Nat)) (ri : Row × Nat) (t : Term) :
    Sql.winCell le Θ (part.map φ.col) (od.map φ.col) (rv.map φ.col) (idx.map (fun ri => (ri.1.rename φ.col, ri.2)))
        (ri.1.rename φ.col, ri.2) (φ.expr t)
      = Sql.winCell le Θ part od rv idx ri t := by
  unfold Sql.winCell
  dsimp only
  rw [filter_map' (g := fun ri : Row × Nat => (ri.1.rename φ.col, ri.2)) idx
      (fun rj => keyOf rj.1 (part.map φ.col) == keyOf (ri.1.rename φ.col) (part.map φ.col))
      (fun rj => keyOf rj.1 part == keyOf ri.1 part) (fun rj => by rw [keyOf_rename hf, keyOf_rename hf]),
    ← List.map_mergeSort (fun a _ b _ => (hle od rv a.1 b.1).symm), List.findIdx_map, List.map_map, opName_expr,
    constArgs_expr]
  have hrows : ∀ l : List (Row × Nat),
      l.map ((·.1) ∘ fun ri => (ri.1.rename φ.col, ri.2)) = (l.map (·.1)).map (fun r => r.rename φ.col) :=
    fun l => by rw [List.map_map]; rfl
  rw [hrows, argValues_expr hf]
  rfl

theorem semExtendWindow_map (Θ : Interp) (hf : Injective φ.col) (ops : Assign) (part od rv : List String) (t : Table)
    (oc : List String) :
    semExtendWindow Θ (φ.assign ops) (part.map φ.col) (od.map φ.col) (rv.map φ.col) (t.rename φ.col) (oc.map φ.col)
      = (semExtendWindow Θ ops part od rv t oc).rename φ.col := by
  have hz : (t.rename φ.col).rows.zipIdx = t.rows.zipIdx.map (fun ri => (ri.1.rename φ.col, ri.2)) := zipIdx_rename t.rows
  rw [← Sql.semExtendWindowG_rowLe, ← Sql.semExtendWindowG_rowLe]
  unfold Sql.semExtendWindowG
  dsimp only
  rw [hz]
  refine congrArg (Table.mk _) ?_
  show (List.map _ _).map _ = (List.map _ _).map _
  rw [List.map_map, List.map_map]
  refine List.map_congr_left (fun ri _ => ?_)
  have hops := assign_map_expr ops _ _
    (winCell_map Θ hf (le := rowLe) (rowLe_rename hf) part od rv t.rows.zipIdx ri)
  simp only [Function.comp, hops, Row.setAll_rename hf, Row.select_rename hf]

theorem aggs_map (Θ : Interp) (hf : Injective φ.col) (ops : Assign) (g : List Row) :
    (φ.assign ops).map (fun kv => (kv.1, Θ.agg (opName kv.2) (argValues kv.2 (g.map (fun r => r.rename φ.col)))))
      = (ops.map (fun kv => (kv.1, Θ.agg (opName kv.2) (argValues kv.2 g)))).map (fun kv => (φ.col kv.1, kv.2)) := by
  refine assign_map_expr ops (fun t => Θ.agg (opName t) (argValues t (g.map (fun r => r.rename φ.col))))
    (fun t => Θ.agg (opName t) (argValues t g)) (fun t => ?_)
  rw [opName_expr, argValues_expr hf]

theorem zip_rename (g : List String) (k : List Val) :
    (g.map f).zip k = (g.zip k).map (fun kv => (f kv.1, kv.2)) := by
  induction g generalizing k with
  | nil => rfl
  | cons a g ih =>
    cases k with
    | nil => rfl
    | cons b k => simp only [List.map_cons, List.zip_cons_cons, ih]

theorem semProject_map (Θ : Interp) (hf : Injective φ.col) (ops : Assign) (g : List String) (t : Table)
    (oc : List String) :
    semProject Θ (φ.assign ops) (g.map φ.col) (t.rename φ.col) (oc.map φ.col) = (semProject Θ ops g t oc).rename φ.col := by
  unfold semProject
  rw [List.isEmpty_map, show (t.rename φ.col).rows = t.rows.map (fun r => r.rename φ.col) from rfl]
  split
  · refine congrArg (Table.mk _) (congrArg (· :: []) ?_)
    exact (congrArg (Row.select · _) (aggs_map Θ hf ops t.rows)).trans (Row.select_rename hf _ oc)
  · refine congrArg (Table.mk _) ?_
    show List.map _ _ = List.map _ (List.map _ _)
    rw [map_keyOf_rename hf, List.map_map]
    refine List.map_congr_left (fun k _ => ?_)
    show Row.select (_ ++ List.map _ _) _ = _
    rw [filter_keyOf_rename hf, aggs_map Θ hf, zip_rename, ← List.map_append]
    exact Row.select_rename hf _ oc

theorem semSelectRows_map (Θ : Interp) (hf : Injective φ.col) (e : Term) (t : Table) :
    semSelectRows Θ (φ.expr e) (t.rename φ.col) = (semSelectRows Θ e t).rename φ.col := by
  simp only [semSelectRows, Table.rename, Row.renameCols, Table.mk.injEq, true_and]
  rw [List.filter_map]
  congr 1
  apply List.filter_congr
  intro r _
  simp only [Function.comp, evalCell_map Θ hf]

theorem semOrder_rename (hf : Injective f) (cs rv : List String) (lim : Option Nat) (t : Table) :
    semOrder (cs.map f) (rv.map f) lim (t.rename f) = (semOrder cs rv lim t).rename f := by
  simp only [semOrder, Table.rename, Row.renameCols, sortRows_rename hf, Table.mk.injEq, true_and]
  cases lim with
  | none => rfl
  | some n => simp only [List.map_take]

theorem Row.rename_mk (l : List String) (g : String → Val) :
    Row.rename (l.map (fun c => (c, g c))) f = l.map (fun c => (f c, g c)) := by
  simp [Row.rename, List.map_map, Function.comp_def]

theorem sideCell_rename (hf : Injective f) (cs : List String) (r : Option Row) (c : String) :
    Ref.sideCell (cs.map f) (r.map (fun r => r.rename f)) (f c) = Ref.sideCell cs r c := by
  cases r with
  | none => rfl
  | some r => simp only [Option.map_some, Ref.sideCell, contains_map hf, Row.get_rename hf]

theorem joinRow_rename (hf : Injective f) (ca cb oc : List String) (ra rb : Option Row) :
    joinRow (ca.map f) (cb.map f) (oc.map f) (ra.map (fun r => r.rename f)) (rb.map (fun r => r.rename f))
      = (joinRow ca cb oc ra rb).rename f := by
  rw [RefSem.joinRow_eq_map, RefSem.joinRow_eq_map, Row.rename_mk, List.map_map]
  exact List.map_congr_left (fun c _ => by simp only [Function.comp, sideCell_rename hf])

theorem joinRows_commute (g : Row → Row) {m' m : Row → Row → Bool} {mk' mk : Option Row → Option Row → Row}
    (hm : ∀ a b, m' (g a) (g b) = m a b) (hmk : ∀ a b, mk' (a.map g) (b.map g) = g (mk a b)) (keepL keepR : Bool)
    (la lb : List Row) :
    joinRows m' mk' keepL keepR (la.map g) (lb.map g) = (joinRows m mk keepL keepR la lb).map g := by
  rw [joinRows_map_in, joinRows_map]
  exact joinRows_congr (fun a _ b _ => hm a b) (fun a _ b _ _ => hmk (some a) (some b))
    (fun _ a _ => hmk (some a) none) (fun _ b _ _ => hmk none (some b))

theorem semJoin_rename (hf : Injective f) (cfg : SemCfg) (jt : JoinType) (oa ob : List String) (ta tb : Table)
    (oc : List String) :
    semJoin cfg jt (oa.map f) (ob.map f) (ta.rename f) (tb.rename f) (oc.map f)
      = (semJoin cfg jt oa ob ta tb oc).rename f := by
  rw [semJoin_eq, semJoin_eq]
  refine congrArg (Table.mk _) (joinRows_commute (fun r => r.rename f) (fun ra rb => ?_)
    (joinRow_rename hf ta.cols tb.cols oc) _ _ ta.rows tb.rows)
  rw [List.isEmpty_map, keyOf_rename hf, keyOf_rename hf]

theorem semConcat_rename (hf : Injective f) (idc : Option String) (an bn : String) (ta tb : Table) (oc : List String) :
    semConcat (idc.map f) an bn (ta.rename f) (tb.rename f) (oc.map f) = (semConcat idc an bn ta tb oc).rename f := by
  cases idc with
  | none =>
    simp only [semConcat, Option.map_none, Table.rename, Row.renameCols, List.map_append, List.map_map,
      Table.mk.injEq, true_and]
    congr 1 <;> (apply List.map_congr_left; intro r _; exact Row.select_rename hf r oc)
  | some c =>
    simp only [semConcat, Option.map_some, Table.rename, Row.renameCols, List.map_append, List.map_map,
      Table.mk.injEq, true_and]
    congr 1 <;>
      (apply List.map_congr_left; intro r _; simp only [Function.comp, Row.set_rename hf, Row.select_rename hf])

theorem renameNode_rows (hf : Injective f) (m : List (String × String)) (rows : List Row) :
    (rows.map (fun r => r.rename f)).map
        (fun r => r.rename (fun c => (lookupLast (m.map (fun kv => (f kv.1, f kv.2))) c).getD c))
      = (rows.map (fun r => r.rename (fun c => (lookupLast m c).getD c))).map (fun r => r.rename f) := by
  simp only [List.map_map]
  apply List.map_congr_left
  intro r _
  simp only [Function.comp, Row.rename_rename]
  apply Row.rename_congr
  intro c _
  simp only [Function.comp]
  exact lookupLast_getD_map hf m c

theorem env_lookup_rename {ρt : TabRen} (ht : Injective ρt) (ρc : ColRen) (env : Env) (name : String) :
    (Env.rename ρc ρt env).lookup (ρt name) = (env.lookup name).map (Table.rename ρc) :=
  lookup_map ht (Table.rename ρc) env name

section
variable (Θ : Interp) (hc : Injective φ.col)
  (hΘ : ∀ (rm : RecMap) (t : Table),
    Θ.convert (rm.rename φ.col) (t.rename φ.col) = (Θ.convert rm t).map (Table.rename φ.col))
include hc hΘ

theorem stepG_map {p src : Ops} (hs : p.sources = [src]) (t : Table) :
    Sql.stepG rowLe Θ (φ.ops p) (t.rename φ.col) = (Sql.stepG rowLe Θ p t).map (Table.rename φ.col) := by
  have hcols := cols_map hc p
  cases p <;> cases hs <;> simp only [NodeMap.ops] at hcols
  case convert rm => exact hΘ rm t
  all_goals refine congrArg Except.ok ?_
  case extend ops part od rv w =>
    cases w
    · exact (congrArg _ hcols).trans (semExtendPlain_map Θ hc ops t _)
    · exact (congrArg _ hcols).trans (semExtendWindow_map Θ hc ops part od rv t _)
  case project ops g => exact (congrArg _ hcols).trans (semProject_map Θ hc ops g t _)
  case selectRows e => exact semSelectRows_map Θ hc e t
  case selectCols cs => exact Table.selectCols_rename hc t cs
  case dropCols ds => exact (congrArg _ hcols).trans (Table.selectCols_rename hc t _)
  case order cs rv lim => exact semOrder_rename hc cs rv lim t
  case rename m =>
    refine (congrArg (Table.mk · _) hcols).trans (congrArg (Table.mk _) ?_)
    have := renameNode_rows hc (m.map (fun kv => (kv.2, kv.1))) t.rows
    simpa only [Table.rename, Row.renameCols, List.map_map, Function.comp_def] using this
  case mapCols m ds =>
    refine (congrArg (Table.mk · _) hcols).trans (congrArg (Table.mk _) ?_)
    show List.map _ (List.map _ _) = List.map _ (List.map _ _)
    rw [List.map_map, List.map_map]
    refine List.map_congr_left (fun r _ => ?_)
    simp only [Function.comp, Row.drop_rename hc, Row.rename_rename]
    exact Row.rename_congr _ _ _ (fun c _ => lookupLast_getD_map hc m c)

end

theorem sem_map (Θ : Interp) (cfg : SemCfg) (hφ : φ.Blind)
    (hΘ : ∀ (rm : RecMap) (t : Table),
      Θ.convert (rm.rename φ.col) (t.rename φ.col) = (Θ.convert rm t).map (Table.rename φ.col))
    (env : Env) (p : Ops) :
    sem Θ cfg (Env.rename φ.col φ.tab env) (φ.ops p) = (sem Θ cfg env p).map (Table.rename φ.col) := by
  have hc := hφ.col_inj
  induction p using Ops.sources_induction with
  | table name cs =>
    simp only [NodeMap.ops, sem, env_lookup_rename hφ.tab_inj]
    cases env.lookup name with
    | none => rfl
    | some t =>
      simp only [Option.map_some]
      have : subset (cs.map φ.col) (Table.rename φ.col t).cols = subset cs t.cols := subset_map hc cs t.cols
      rw [this]
      split
      · simp only [Except.map, Table.selectCols_rename hc]
      · rfl
  | un p src hs ih =>
    rw [Sql.sem_unary Θ cfg _ ((sources_map φ p).trans (congrArg _ hs)), Sql.sem_unary Θ cfg env hs, ih]
    exact map_bind _ _ _ _ _ (stepG_map Θ hc hΘ hs)
  | bin p a b hs iha ihb =>
    have hcols := cols_map hc p
    cases p <;> cases hs <;> simp only [NodeMap.ops] at hcols ⊢ <;> simp only [sem, iha, ihb] <;>
      refine map_bind _ _ _ _ _ (fun ta => map_bind _ _ _ _ _ (fun tb => congrArg Except.ok ?_))
    · rw [hcols, cols_map hc, cols_map hc, appendNew_map hc, semJoin_rename hc]
      exact Table.selectCols_rename hc _ _
    · exact (congrArg _ hcols).trans (semConcat_rename hc _ _ _ ta tb _)

theorem sem_ren (Θ : Interp) (hΘ : ConvertEquivariant Θ) (cfg : SemCfg) {ρc : ColRen} {ρt : TabRen}
    (hc : Injective ρc) (ht : Injective ρt) (env : Env) (p : Ops) :
    sem Θ cfg (Env.rename ρc ρt env) (p.ren ρc ρt) = (sem Θ cfg env p).map (Table.rename ρc) :=
  renMap_ops ρc ρt ▸ sem_map (φ := renMap ρc ρt) Θ cfg ⟨hc, ht⟩ (hΘ ρc hc) env p

end Ren
end DAVerif
