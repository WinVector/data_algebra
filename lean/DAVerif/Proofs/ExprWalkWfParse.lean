import DAVerif.Proofs.ExprWalkWfDefs
import DAVerif.Proofs.ExprParseEqns
import DAVerif.Proofs.ExprPrint
/-!
C13: every tree the parser model produces has the shape `gram` (`parseToks_gram`; `ParseGram f` is the statement for
the six parser functions at fuel `f`, proved by induction on `f`).
-/
namespace DAVerif.C13W
open DAVerif DAVerif.Expr

theorem classify_not : classify "not" = .not := by decide +kernel
theorem classify_getattr : classify "getattr" = .other := by decide +kernel
theorem classify_atom : classify "atom" = .other := by decide +kernel
theorem classify_shift : classify "shift_expr" = .other := by decide +kernel
theorem classify_expr : classify "expr" = .bitwise := by decide +kernel
theorem classify_xor : classify "xor_expr" = .bitwise := by decide +kernel
theorem classify_and_expr : classify "and_expr" = .bitwise := by decide +kernel
theorem classify_tuple : classify "tuple" = .collection := by decide +kernel
theorem classify_set : classify "set" = .collection := by decide +kernel

theorem gram_wrapper {rule : String} (hk : classify rule = .wrapper) (t : Token) :
    gram (.node rule [.tok t]) = true := by
  rw [gram.eq_def]; simp only [hk]
theorem gram_other {rule : String} (ch : List Cst) (hk : classify rule = .other) (hg : (rule == "getattr") = false) :
    gram (.node rule ch) = (rule == "shift_expr" || rule == "atom") := by
  rw [gram.eq_def]; simp only [hk, hg, Bool.false_eq_true, if_false]
theorem gram_atom (ch : List Cst) : gram (.node "atom" ch) = true := gram_other ch classify_atom rfl
theorem gram_const_none : gram (.node "const_none" []) = true := by decide +kernel
theorem gram_const_true : gram (.node "const_true" []) = true := by decide +kernel
theorem gram_const_false : gram (.node "const_false" []) = true := by decide +kernel
theorem gram_not (x : Cst) : gram (.node "not" [x]) = gram x := by
  rw [gram.eq_def]; simp only [classify_not]
theorem gram_factor (t : Token) (x : Cst) :
    gram (.node "factor" [.tok t, x]) = (t.kind == .op && unaryOps.contains t.text && gram x) := by
  rw [gram.eq_def]; simp only [classify_factor]
theorem gram_power (a b : Cst) : gram (.node "power" [a, b]) = (gram a && gram b) := by
  rw [gram.eq_def]; simp only [classify_power]
theorem gram_getattr (a : Cst) (n : Token) : gram (.node "getattr" [a, .tok n]) = gram a := by
  rw [gram.eq_def]; simp only [classify_getattr]; simp
theorem gram_call0 (a : Cst) : gram (.node "funccall" [a, .none]) = gram a := by
  rw [gram.eq_def]; simp only [classify_funccall]; simp
theorem gram_callN (a : Cst) (r : String) (items : List Cst) :
    gram (.node "funccall" [a, .node r items]) = (gram a && gramArgs items) := by
  rw [gram.eq_def]; simp only [classify_funccall]

theorem gramLevel_append : ∀ (a b : List Cst), gramLevel (a ++ b) = (gramLevel a && gramLevel b)
  | [], b => by simp [gramLevel]
  | c :: a, b => by simp [gramLevel, gramLevel_append a b, Bool.and_assoc]

theorem gramLevel_single (x : Cst) (h : gram x = true) : gramLevel [x] = true := by simp [gramLevel, h]

theorem gramArgs_of_all : ∀ (items : List Cst), gramAll items = true → gramArgs items = true
  | [], _ => by simp [gramArgs]
  | c :: cs, h => by
    simp only [gramAll, Bool.and_eq_true] at h
    cases c with
    | none => simp [gram] at h
    | tok t => simp [gram] at h
    | node r ch => simp [gramArgs, h.1, gramArgs_of_all cs h.2]

theorem gramArgs_append_none : ∀ (items : List Cst), gramArgs items = true → gramArgs (items ++ [.none]) = true
  | [], _ => by simp [gramArgs]
  | c :: cs, h => by
    cases c with
    | none => simp only [gramArgs] at h; simp [gramArgs, gramArgs_append_none cs h]
    | tok t => simp [gramArgs, gram] at h
    | node r ch =>
      simp only [gramArgs, Bool.and_eq_true] at h
      simp [gramArgs, h.1, gramArgs_append_none cs h.2]

theorem opIn_sub {t : Token} {ops ops' : List String} (hsub : ∀ s ∈ ops, s ∈ ops') (h : opIn t ops = true) :
    isOpTokIn ops' (.tok t) = true := by
  simp only [opIn, Bool.and_eq_true, List.contains_eq_mem, decide_eq_true_eq] at h
  simp only [isOpTokIn, Bool.and_eq_true, List.contains_eq_mem, decide_eq_true_eq]
  exact ⟨h.1, hsub _ h.2⟩

theorem isOp_sub {t : Token} {s : String} {ops' : List String} (hmem : s ∈ ops') (h : t.isOp s = true) :
    isOpTokIn ops' (.tok t) = true := by
  simp only [Token.isOp, Bool.and_eq_true, beq_iff_eq] at h
  simp only [isOpTokIn, Bool.and_eq_true, List.contains_eq_mem, decide_eq_true_eq]
  exact ⟨by simpa using h.1, h.2 ▸ hmem⟩

theorem matchOp_gram {lvl : Nat} {toks : List Token} {opc : List Cst} {rest : List Token} (h7 : lvl ≠ 7)
    (h : matchOp lvl toks = some (opc, rest)) : gramLevel opc = true := by
  unfold matchOp at h
  split at h
  · cases h
  · rename_i t rest0
    -- a level that keeps no token, and a level that keeps the one token it tests
    have nil : ∀ {b : Bool}, (if b = true then some (([] : List Cst), rest0) else none) = some (opc, rest) →
        gramLevel opc = true := by
      intro b hb; split at hb
      · cases hb; rfl
      · cases hb
    have one : ∀ {ops : List String}, (∀ s ∈ ops, s ∈ grammarOps) →
        (if opIn t ops = true then some ([Cst.tok t], rest0) else none) = some (opc, rest) →
        gramLevel opc = true := by
      intro ops hs hb; split at hb
      · rename_i hop; cases hb; simp [gramLevel, opIn_sub hs hop]
      · cases hb
    have op : ∀ {u : Token} {s : String}, s ∈ grammarOps → u.isOp s = true →
        isOpTokIn grammarOps (.tok u) = true := isOp_sub
    split at h
    · exact nil h
    · exact nil h
    · -- comparison: `not in` and `is not` keep two tokens
      split at h
      · rename_i hop
        cases h
        simp [gramLevel, opIn_sub (ops' := grammarOps) (by decide +kernel) hop]
      · split at h
        · rename_i hnot
          split at h
          · split at h
            · rename_i hin
              cases h
              simp [gramLevel, op (by decide +kernel) hnot, op (by decide +kernel) hin]
            · cases h
          · cases h
        · split at h
          · rename_i his
            have h1 := op (s := "is") (by decide +kernel) his
            split at h
            · split at h
              · rename_i hnot
                cases h
                simp [gramLevel, h1, op (by decide +kernel) hnot]
              · cases h; simp [gramLevel, h1]
            · cases h; simp [gramLevel, h1]
          · cases h
    · exact nil h
    · exact nil h
    · exact nil h
    · exact absurd rfl h7
    · exact one (by decide +kernel) h
    · exact one (by decide +kernel) h
    · cases h

/-- level 7 (`shift_expr`) is left out of `loop`: it keeps `<<` and `>>`, which are not in `grammarOps`, and `gram`
accepts a `shift_expr` node whatever is below it -/
structure ParseGram (f : Nat) : Prop where
  level : ∀ lvl toks c r, pLevel f lvl toks = .ok (c, r) → gram c = true
  loop : ∀ lvl acc toks chs r, lvl ≠ 7 → gramLevel acc = true → pLoop f lvl acc toks = .ok (chs, r) →
    gramLevel chs = true
  trailers : ∀ a toks c r, gram a = true → pTrailers f a toks = .ok (c, r) → gram c = true
  items : ∀ toks its tr r, pItems f toks = .ok (its, tr, r) → gramAll its = true ∧ its ≠ []
  kvs : ∀ toks ks r, pKVs f toks = .ok (ks, r) → gramKVs ks = true ∧ ks ≠ []
  atom : ∀ toks c r, pAtom f toks = .ok (c, r) → gram c = true

theorem parseGram_zero : ParseGram 0 := by
  constructor
  · intro lvl toks c r h; simp [pLevel] at h
  · intro lvl acc toks chs r _ _ h; simp [pLoop] at h
  · intro a toks c r _ h; simp [pTrailers] at h
  · intro toks its tr r h; simp [pItems] at h
  · intro toks ks r h; simp [pKVs] at h
  · intro toks c r h; simp [pAtom] at h

theorem ok_inj2 {ε α β : Type} {a a' : α} {b b' : β} (h : (Except.ok (a, b) : Except ε (α × β)) = .ok (a', b')) :
    a = a' ∧ b = b' := by
  injection h with h; injection h with h1 h2; exact ⟨h1, h2⟩

theorem gram_of_ok {a c : Cst} {r r' : List Token} (h : (Except.ok (a, r) : E (Cst × List Token)) = .ok (c, r'))
    (ha : gram a = true) : gram c = true := by
  cases h; exact ha

theorem gram_binNode {lvl : Nat} {rule : String} {chs : List Cst} (hb : binRule lvl = some rule)
    (h : lvl ≠ 7 → gramLevel chs = true) : gram (.node rule chs) = true := by
  unfold binRule at hb
  split at hb <;> (try contradiction) <;> (injection hb with hb; subst hb; rw [gram.eq_def])
  · simp only [classify_or_test]; exact h (by decide +kernel)
  · simp only [classify_and_test]; exact h (by decide +kernel)
  · simp only [classify_comparison]; exact h (by decide +kernel)
  · simp only [classify_expr]
  · simp only [classify_xor]
  · simp only [classify_and_expr]
  · simp only [classify_shift]; simp
  · simp only [classify_arith_expr]; exact h (by decide +kernel)
  · simp only [classify_term]; exact h (by decide +kernel)

theorem level_step {f : Nat} (ih : ParseGram f) :
    ∀ lvl toks c r, pLevel (f + 1) lvl toks = .ok (c, r) → gram c = true := by
  intro lvl toks c r h
  by_cases h2 : lvl = 2
  · subst h2
    rw [pLevel_succ_2] at h
    split at h
    · split at h
      · obtain ⟨⟨x, r1⟩, h1, h⟩ := bind_eq_ok.1 h
        obtain ⟨rfl, rfl⟩ := ok_inj2 h
        rw [gram_not]; exact ih.level _ _ _ _ h1
      · exact ih.level _ _ _ _ h
    · cases h
  by_cases h10 : lvl = 10
  · subst h10
    rw [pLevel_succ_10] at h
    split at h
    · split at h
      · rename_i t rest hop
        obtain ⟨⟨x, r1⟩, h1, h⟩ := bind_eq_ok.1 h
        obtain ⟨rfl, rfl⟩ := ok_inj2 h
        rw [gram_factor, ih.level _ _ _ _ h1]
        simp only [opIn, Bool.and_eq_true] at hop
        simpa [hop.1, unaryOps] using hop.2
      · exact ih.level _ _ _ _ h
    · cases h
  by_cases h11 : lvl = 11
  · subst h11
    rw [pLevel_succ_11] at h
    obtain ⟨⟨a, r1⟩, h1, h⟩ := bind_eq_ok.1 h
    have ha : gram a = true := by
      obtain ⟨⟨a0, r0⟩, h0, h1⟩ := bind_eq_ok.1 h1
      exact ih.trailers _ _ _ _ (ih.atom _ _ _ h0) h1
    dsimp only at h
    split at h
    · split at h
      · obtain ⟨⟨b, r2⟩, hb, h⟩ := bind_eq_ok.1 h
        obtain ⟨rfl, rfl⟩ := ok_inj2 h
        rw [gram_power, ha, ih.level _ _ _ _ hb]; rfl
      · exact gram_of_ok h ha
    · exact gram_of_ok h ha
  cases hb : binRule lvl with
  | none =>
    rw [pLevel.eq_def] at h
    have e2 : (lvl == 2) = false := by simpa using h2
    have e10 : (lvl == 10) = false := by simpa using h10
    have e11 : (lvl == 11) = false := by simpa using h11
    simp [e2, e10, e11, hb] at h
  | some rule =>
    rw [pLevel_succ_bin f lvl rule toks hb] at h
    obtain ⟨⟨first, r1⟩, h1, h⟩ := bind_eq_ok.1 h
    obtain ⟨⟨chs, r2⟩, hl, h⟩ := bind_eq_ok.1 h
    have hfirst := ih.level _ _ _ _ h1
    dsimp only at h
    split at h
    · exact gram_of_ok h hfirst
    · exact gram_of_ok h (gram_binNode hb (fun h7 => ih.loop lvl [first] r1 chs r2 h7 (gramLevel_single _ hfirst) hl))

theorem loop_step {f : Nat} (ih : ParseGram f) :
    ∀ lvl acc toks chs r, lvl ≠ 7 → gramLevel acc = true → pLoop (f + 1) lvl acc toks = .ok (chs, r) →
      gramLevel chs = true := by
  intro lvl acc toks chs r h7 hacc h
  simp only [pLoop] at h
  split at h
  · rename_i opc rest hm
    obtain ⟨⟨x, r1⟩, h1, h⟩ := bind_eq_ok.1 h
    refine ih.loop lvl _ r1 chs r h7 ?_ h
    rw [gramLevel_append, gramLevel_append, hacc, matchOp_gram h7 hm, gramLevel_single _ (ih.level _ _ _ _ h1)]
    rfl
  · obtain ⟨rfl, rfl⟩ := ok_inj2 h; exact hacc

theorem trailers_step {f : Nat} (ih : ParseGram f) :
    ∀ a toks c r, gram a = true → pTrailers (f + 1) a toks = .ok (c, r) → gram c = true := by
  intro a toks c r ha h
  simp only [pTrailers] at h
  split at h
  · split at h
    · split at h
      · split at h
        · exact ih.trailers _ _ _ _ (by rw [gram_call0]; exact ha) h
        · obtain ⟨⟨items, trailing, r1⟩, h1, h⟩ := bind_eq_ok.1 h
          obtain ⟨r2, -, h⟩ := bind_eq_ok.1 h
          obtain ⟨hit, _⟩ := ih.items _ _ _ _ h1
          refine ih.trailers _ _ _ _ ?_ h
          rw [gram_callN, ha]
          cases trailing
          · simpa using gramArgs_of_all _ hit
          · simpa using gramArgs_append_none _ (gramArgs_of_all _ hit)
      · cases h
    · split at h
      · split at h
        · split at h
          · exact ih.trailers _ _ _ _ (by rw [gram_getattr]; exact ha) h
          · cases h
        · cases h
      · split at h
        · cases h
        · exact gram_of_ok h ha
  · exact gram_of_ok h ha

theorem ok_inj3 {ε α β γ : Type} {a a' : α} {b b' : β} {c c' : γ}
    (h : (Except.ok (a, b, c) : Except ε (α × β × γ)) = .ok (a', b', c')) : a = a' := by
  injection h with h; injection h

theorem items_step {f : Nat} (ih : ParseGram f) :
    ∀ toks its tr r, pItems (f + 1) toks = .ok (its, tr, r) → gramAll its = true ∧ its ≠ [] := by
  intro toks its tr r h
  simp only [pItems] at h
  obtain ⟨⟨x, r1⟩, h1, h⟩ := bind_eq_ok.1 h
  have hx := ih.level _ _ _ _ h1
  dsimp only at h
  split at h
  · split at h
    · split at h
      · split at h
        · cases ok_inj3 h
          simp [gramAll, hx]
        · obtain ⟨⟨xs, tr2, r2⟩, h2, h⟩ := bind_eq_ok.1 h
          cases ok_inj3 h
          simp [gramAll, hx, (ih.items _ _ _ _ h2).1]
      · cases h
    · cases ok_inj3 h
      simp [gramAll, hx]
  · cases ok_inj3 h
    simp [gramAll, hx]

theorem gramKVs_cons (k v : Cst) (cs : List Cst) :
    gramKVs (.node "key_value" [k, v] :: cs) = (gram k && gram v && gramKVs cs) := by
  simp [gramKVs]

theorem kvs_step {f : Nat} (ih : ParseGram f) :
    ∀ toks ks r, pKVs (f + 1) toks = .ok (ks, r) → gramKVs ks = true ∧ ks ≠ [] := by
  intro toks ks r h
  simp only [pKVs] at h
  obtain ⟨⟨k, r1⟩, h1, h⟩ := bind_eq_ok.1 h
  obtain ⟨r2, -, h⟩ := bind_eq_ok.1 h
  obtain ⟨⟨v, r3⟩, h3, h⟩ := bind_eq_ok.1 h
  have hk := ih.level _ _ _ _ h1
  have hv := ih.level _ _ _ _ h3
  dsimp only at h
  split at h
  · split at h
    · split at h
      · split at h
        · obtain ⟨rfl, rfl⟩ := ok_inj2 h
          simp [hk, hv, gramKVs]
        · obtain ⟨⟨kvs, r4⟩, h4, h⟩ := bind_eq_ok.1 h
          obtain ⟨rfl, rfl⟩ := ok_inj2 h
          simp [gramKVs_cons, hk, hv, (ih.kvs _ _ _ h4).1]
      · cases h
    · obtain ⟨rfl, rfl⟩ := ok_inj2 h
      simp [hk, hv, gramKVs]
  · obtain ⟨rfl, rfl⟩ := ok_inj2 h
    simp [hk, hv, gramKVs]

theorem gram_coll_none {rule : String} (hr : classify rule = .collection) : gram (.node rule [.none]) = true := by
  rw [gram.eq_def]; simp only [hr]
theorem gram_coll_comp {rule : String} (hr : classify rule = .collection) {r : String} {items : List Cst}
    (hc : (r == "tuplelist_comp" || r == "set_comp") = true) (hne : items ≠ []) (hall : gramAll items = true) :
    gram (.node rule [.node r items]) = true := by
  rw [gram.eq_def]; simp only [hr, hc, ↓reduceIte, hall, Bool.and_true]
  cases items with
  | nil => contradiction
  | cons _ _ => rfl

/-- a tree of the parser never has a comprehension rule at its root, so `[x]` with the one item inlined is a list -/
theorem gram_list_single {x : Cst} (hx : gram x = true) : gram (.node "list" [x]) = true := by
  rw [gram.eq_def]; simp only [classify_list]
  cases x with
  | tok t => simp [gram] at hx
  | none => rfl
  | node r items =>
    simp only
    split
    · rename_i hc
      simp only [Bool.or_eq_true, beq_iff_eq] at hc
      rcases hc with rfl | rfl
      · rw [gram_other items (by decide +kernel) rfl] at hx; cases hx
      · rw [gram_other items (by decide +kernel) rfl] at hx; cases hx
    · exact hx

theorem atom_step {f : Nat} (ih : ParseGram f) :
    ∀ toks c r, pAtom (f + 1) toks = .ok (c, r) → gram c = true := by
  intro toks c r h
  simp only [pAtom] at h
  split at h
  · cases h
  · rename_i t rest
    split at h
    · exact gram_of_ok h (gram_wrapper classify_var t)
    · exact gram_of_ok h (gram_wrapper classify_number t)
    · exact gram_of_ok h (gram_wrapper classify_number t)
    · exact gram_of_ok h (gram_wrapper classify_number t)
    · split at h
      · exact gram_of_ok h (gram_wrapper classify_string t)
      · exact gram_of_ok h (gram_atom _)
    · split at h
      · exact gram_of_ok h (gram_wrapper classify_string t)
      · exact gram_of_ok h (gram_atom _)
    · by_cases hN : (t.text == "None") = true
      · rw [if_pos hN] at h
        exact gram_of_ok h gram_const_none
      rw [if_neg hN] at h
      by_cases hT : (t.text == "True") = true
      · rw [if_pos hT] at h
        exact gram_of_ok h gram_const_true
      rw [if_neg hT] at h
      by_cases hF : (t.text == "False") = true
      · rw [if_pos hF] at h
        exact gram_of_ok h gram_const_false
      rw [if_neg hF] at h
      by_cases hP : (t.text == "(") = true
      · rw [if_pos hP] at h
        split at h
        · split at h
          · exact gram_of_ok h (gram_coll_none classify_tuple)
          · obtain ⟨⟨items, trailing, r1⟩, h1, h⟩ := bind_eq_ok.1 h
            obtain ⟨r2, -, h⟩ := bind_eq_ok.1 h
            obtain ⟨hall, hne⟩ := ih.items _ _ _ _ h1
            dsimp only at h
            split at h
            · obtain ⟨rfl, rfl⟩ := ok_inj2 h
              simpa [gramAll] using hall
            · exact gram_of_ok h (gram_coll_comp classify_tuple (by decide +kernel) hne hall)
        · cases h
      rw [if_neg hP] at h
      by_cases hL : (t.text == "[") = true
      · rw [if_pos hL] at h
        split at h
        · split at h
          · exact gram_of_ok h (gram_coll_none classify_list)
          · obtain ⟨⟨items, trailing, r1⟩, h1, h⟩ := bind_eq_ok.1 h
            obtain ⟨r2, -, h⟩ := bind_eq_ok.1 h
            obtain ⟨hall, hne⟩ := ih.items _ _ _ _ h1
            dsimp only at h
            split at h
            · exact gram_of_ok h (gram_list_single (by simpa [gramAll] using hall))
            · exact gram_of_ok h (gram_coll_comp classify_list (by decide +kernel) hne hall)
        · cases h
      rw [if_neg hL] at h
      split at h
      · split at h
        · split at h
          · obtain ⟨rfl, rfl⟩ := ok_inj2 h
            rw [gram.eq_def]; simp only [classify_dict]
          · obtain ⟨⟨x0, r0⟩, -, h⟩ := bind_eq_ok.1 h
            split at h
            · split at h
              · obtain ⟨⟨kvs, r1⟩, h1, h⟩ := bind_eq_ok.1 h
                obtain ⟨r2, -, h⟩ := bind_eq_ok.1 h
                obtain ⟨rfl, rfl⟩ := ok_inj2 h
                obtain ⟨hall, hne⟩ := ih.kvs _ _ _ h1
                rw [gram.eq_def]; simp only [classify_dict, hall, Bool.and_true]
                cases kvs with
                | nil => contradiction
                | cons _ _ => rfl
              · obtain ⟨⟨items, trailing, r1⟩, h1, h⟩ := bind_eq_ok.1 h
                obtain ⟨r2, -, h⟩ := bind_eq_ok.1 h
                obtain ⟨rfl, rfl⟩ := ok_inj2 h
                obtain ⟨hall, hne⟩ := ih.items _ _ _ _ h1
                exact gram_coll_comp classify_set (by decide +kernel) hne hall
            · cases h
        · cases h
      · cases h

theorem parseGram : ∀ f, ParseGram f
  | 0 => parseGram_zero
  | f + 1 =>
    have ih := parseGram f
    ⟨level_step ih, loop_step ih, trailers_step ih, items_step ih, kvs_step ih, atom_step ih⟩

theorem parseToks_gram {toks : List Token} {c : Cst} (h : parseToks toks = .ok c) : gram c = true := by
  unfold parseToks at h
  split at h
  · rename_i c' hc
    injection h with h; subst h
    unfold parseCore at hc
    split at hc
    · rename_i c'' hl
      injection hc with hc; subst hc
      exact (parseGram _).level _ _ _ _ hl
    · cases hc
    · cases hc
  · split at h <;> cases h

end DAVerif.C13W
