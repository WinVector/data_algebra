import DAVerif.Proofs.SqlMain
/-!
C01/C04, extend merge (`allow_extend_merges`): the invariant of mergeable steps.  `TermsOK sc ts ds` says what the term
dictionary `ts` and the declared dependencies `ds` of a translated extend step over a sub-query bound with the columns
`sc` mean; `MergeInv q`: every step that carries `mergeable = true` is a non-aggregating SELECT without suffix whose
dictionaries satisfy `TermsOK`.  It is preserved by `setTermKeys` (`select_columns` / `drop_columns` on the step);
`ToNearStep.mergeInv` says which of the ways a node is translated (`ToNearStep`) cannot produce a mergeable step.
-/
namespace DAVerif
namespace Sql
open DAVerif.Ops (usedFromSources unionL)

theorem mem_nonTrivialTerms {ds : List (String × List String)} {ts : Terms} {k : String} :
    k ∈ nonTrivialTerms ds ts ↔ ∃ v, (k, v) ∈ ds ∧ k ∈ ts.map (·.1) ∧
      ((∃ x ∈ v, x ≠ k) ∨ k ∉ v ∨ ∃ t, lookupLast ts k = some t ∧ isPass t = false) := by
  unfold nonTrivialTerms
  simp only [List.mem_map, List.mem_filter, Bool.and_eq_true, List.any_eq_true, beq_iff_eq, Bool.or_eq_true,
    Bool.not_eq_eq_eq_not, Bool.not_true, List.isEmpty_eq_false_iff, List.contains_eq_mem, decide_eq_false_iff_not]
  constructor
  · rintro ⟨⟨k', v⟩, ⟨hmem, ⟨kv, hkv, hk⟩, hcond⟩, rfl⟩
    refine ⟨v, hmem, ⟨kv, hkv, hk⟩, ?_⟩
    rcases hcond with (h | h) | h
    · left
      obtain ⟨x, hx⟩ := List.exists_mem_of_ne_nil _ h
      have := List.mem_filter.mp hx
      exact ⟨x, this.1, by simpa using this.2⟩
    · right; left; exact h
    · right; right
      simp only at h
      cases hl : lookupLast ts k' with
      | none => rw [hl] at h; cases h
      | some t => rw [hl] at h; exact ⟨t, rfl, by simpa using h⟩
  · rintro ⟨v, hmem, ⟨kv, hkv, hk⟩, hcond⟩
    refine ⟨(k, v), ⟨hmem, ⟨kv, hkv, hk⟩, ?_⟩, rfl⟩
    rcases hcond with ⟨x, hx, hne⟩ | h | ⟨t, hl, hp⟩
    · left; left
      intro he
      have : x ∈ v.filter (fun c => c != k) := List.mem_filter.mpr ⟨hx, by simpa using hne⟩
      rw [he] at this
      cases this
    · left; right; exact h
    · right
      simp only [hl, hp, Bool.not_false]

/-- `sc`: the columns the step's sub-query is bound with (`NearSQLContainer.columns`), `ts`: the SELECT list (`terms`),
`ds`: `declared_term_dependencies` -/
structure TermsOK (sc : List String) (ts : Terms) (ds : List (String × List String)) : Prop where
  declared : ∀ k t, lookupLast ts k = some t → isPass t = false →
    (∃ e w, t = STerm.expr e w) ∧ ∃ v, lookupLast ds k = some v ∧ ∀ x ∈ termReads k t, x ∈ v
  inSrc : ∀ k t, lookupLast ts k = some t → ∀ x ∈ termReads k t, x ∈ sc

/-- the invariant of mergeable steps; all entries of such a step, window entries included, are evaluated over the
rows of its FROM clause -/
def MergeInv (q : Near) : Prop :=
  ∀ nm ts agg sub sc sfx ds key, q = Near.unary nm ts agg sub sc sfx true ds key →
    agg = false ∧ sfx = Suffix.none ∧ ∃ ts' sc' ds', ts = some ts' ∧ sc = some sc' ∧ ds = some ds' ∧ TermsOK sc' ts' ds'

def Near.mergeFlag : Near → Bool
  | .unary _ _ _ _ _ _ mg _ _ => mg
  | _ => false

theorem mergeInv_of_flag {q : Near} (h : q.mergeFlag = false) : MergeInv q := by
  intro nm ts agg sub sc sfx ds key e
  subst e
  cases h

theorem mergeInv_unary {nm : String} {ts : Terms} {sub : Near} {sc : List String}
    {ds : List (String × List String)} {key : Option String} (h : TermsOK sc ts ds) :
    MergeInv (.unary nm (some ts) false sub (some sc) .none true (some ds) key) := by
  intro nm' ts' agg sub' sc' sfx ds' key' e
  cases e
  exact ⟨rfl, rfl, ts, sc, ds, rfl, rfl, rfl, h⟩

theorem TermsOK.restrict {sc : List String} {ts : Terms} {ds : List (String × List String)} (h : TermsOK sc ts ds)
    (ks : List String) :
    TermsOK sc (ks.filterMap (fun k => (lookupLast ts k).map (fun t => (k, t)))) ds := by
  refine ⟨?_, ?_⟩
  · intro k t hl hp
    rw [lookupLast_filterMap_keys] at hl
    split at hl
    · exact h.declared k t hl hp
    · cases hl
  · intro k t hl
    rw [lookupLast_filterMap_keys] at hl
    split at hl
    · exact h.inSrc k t hl
    · cases hl

/-- the shape of every branch of `setTermKeys`: the step itself, or the step with its keys replaced -/
private theorem ite_ite_some {α : Type} {c d : Prop} [Decidable c] [Decidable d] {a b q : α}
    (h : (if c then some a else if d then some b else none) = some q) : q = a ∨ q = b := by
  split at h
  · exact Or.inl (Option.some.inj h).symm
  · split at h
    · exact Or.inr (Option.some.inj h).symm
    · cases h

/-- `select_columns` / `drop_columns` applied to a step (they prune or reorder its SELECT list and leave
`declared_term_dependencies` and the `mergeable` mark alone) keep the invariant -/
theorem mergeInv_setTermKeys {q q' : Near} {ks : List String} {sel : Bool} (hq : MergeInv q)
    (h : setTermKeys q ks sel = some q') : MergeInv q' := by
  cases q with
  | cte n => cases h; exact hq
  | table n ts => rcases ite_ite_some h with rfl | rfl <;> exact mergeInv_of_flag rfl
  | join n ts l lc ln r rc rn jt oa ob key => rcases ite_ite_some h with rfl | rfl <;> exact mergeInv_of_flag rfl
  | union n ts l r cs key => rcases ite_ite_some h with rfl | rfl <;> exact mergeInv_of_flag rfl
  | unary n ts agg sub sc sf mg deps key =>
    cases mg with
    | false => cases ts <;> rcases ite_ite_some h with rfl | rfl <;> exact mergeInv_of_flag rfl
    | true =>
      obtain ⟨rfl, rfl, ts', sc', ds', rfl, rfl, rfl, hok⟩ := hq _ _ _ _ _ _ _ _ rfl
      rcases ite_ite_some h with rfl | rfl
      · exact mergeInv_unary hok
      · exact mergeInv_unary (hok.restrict ks)

/-- every way a node is translated – `extend`'s three and the re-keying of `select_columns` / `drop_columns` apart –
ends in a step that is not marked mergeable or, at an emulated FULL join, is the translation `R` of the emulation
pipeline -/
theorem ToNearStep.mergeInv {cfg : SqlCfg} {R : Ops → List String → Nat → Near → Nat → Prop} {p : Ops}
    {usg : List String} {s s' : Nat} {q : Near} (h : ToNearStep cfg R p usg s q s')
    (hext : ∀ src ops part order rev w, p ≠ .extend src ops part order rev w) (hrk : rekeySpec p usg = none)
    (hfull : ∀ a b onA onB, p = .join a b onA onB .full → cfg.emulateRightFull = true →
      ∀ sim s q s', R sim usg s q s' → MergeInv q) :
    MergeInv q := by
  cases h with
  | table | tableRef | step | join | concat => exact mergeInv_of_flag rfl
  | rekey _ hk => rw [hrk] at hk; cases hk
  | extPrune | extNew | extMerge => exact absurd rfl (hext _ _ _ _ _ _)
  | joinFull hemu _ _ _ hsub => exact hfull _ _ _ _ rfl hemu _ _ _ _ hsub

theorem lookupLast_mergeFold {β : Type} (ourNT : List String) (ours sub : List (String × β)) (c : String) :
    lookupLast (ourNT.foldl (fun d k => match lookupLast ours k with | some t => dictSet d k t | none => d) sub) c =
      (if c ∈ ourNT then lookupLast ours c else none).or (lookupLast sub c) := by
  induction ourNT generalizing sub with
  | nil => simp
  | cons k ks ih =>
    rw [List.foldl_cons, ih]
    have hstep : lookupLast (match lookupLast ours k with | some t => dictSet sub k t | none => sub) c =
        (if c = k then lookupLast ours c else none).or (lookupLast sub c) := by
      cases hk : lookupLast ours k with
      | none =>
        by_cases hc : c = k
        · subst hc; simp [hk]
        · simp [hc]
      | some t =>
        simp only [lookupLast_dictSet]
        by_cases hc : c = k
        · subst hc; simp [hk]
        · simp [hc]
    rw [hstep]
    by_cases h1 : c ∈ ks
    · by_cases h2 : c = k
      · subst h2
        cases lookupLast ours c <;> simp [h1]
      · simp [h1, h2]
    · by_cases h2 : c = k
      · subst h2; simp [h1]
      · simp [h1, h2]

theorem lookupLast_mergeDict {β : Type} (ourNT : List String) (ours sub : List (String × β)) (weUse : List String)
    (c : String) :
    lookupLast (mergeDict ourNT ours sub weUse) c =
      if c ∈ weUse then (if c ∈ ourNT then lookupLast ours c else none).or (lookupLast sub c) else none := by
  unfold mergeDict
  rw [lookupLast_filter_key _ (fun k => weUse.contains k)]
  -- `exact` and not `rw`: the `match` in `mergeDict` and the one in `lookupLast_mergeFold` are different constants
  refine (congrArg (fun x => if weUse.contains c = true then x else none) (lookupLast_mergeFold ourNT ours sub c)).trans ?_
  simp only [List.contains_eq_mem, decide_eq_true_eq]

end Sql
end DAVerif
