import DAVerif.Proofs.SqlUnary
/-!
C01/C02: dictionary and row lemmas for the `extend` step (the step itself, for every dialect configuration, is in
`SqlMergeTrans.lean` / `SqlMergeMain.lean`), and the per-node lemma for `project`.
-/
namespace DAVerif
namespace Sql
open DAVerif.Ops (usedFromSources unionL)
open Rules26 (usedBy keys)

variable {Θ : Interp} {ec : EngineCfg} {env : Env} {scfg : SemCfg} {G : Near → Prop} {cfg : SqlCfg}

theorem lookupLast_filter_key {β : Type} (m : List (String × β)) (P : String → Bool) (k : String) :
    lookupLast (m.filter (fun kv => P kv.1)) k = if P k = true then lookupLast m k else none := by
  induction m with
  | nil => simp [lookupLast_nil]
  | cons kv m ih =>
    obtain ⟨k0, v0⟩ := kv
    rw [List.filter_cons]
    by_cases hP : P k0 = true
    · simp only [hP, ↓reduceIte, lookupLast_cons, ih]
      by_cases hk : k = k0
      · subst hk; simp [hP]
      · simp [hk]
    · have hP' : P k0 = false := by simpa using hP
      simp only [hP', Bool.false_eq_true, ↓reduceIte, lookupLast_cons, ih]
      by_cases hk : k = k0
      · subst hk; simp [hP']
      · simp [hk]

theorem Row.get_eq_lookupLast_of_nodup (r : Row) (h : r.keys.Nodup) (c : String) :
    r.get c = (lookupLast r c).getD .null := by
  induction r with
  | nil => rfl
  | cons kv r ih =>
    obtain ⟨k, v⟩ := kv
    simp only [Row.keys, List.map_cons, List.nodup_cons] at h
    rw [Row.get_cons, lookupLast_cons, ih h.2]
    by_cases hc : c = k
    · subst hc
      have : lookupLast r c = none := lookupLast_eq_none_iff.mpr h.1
      simp [this]
    · simp only [hc, ↓reduceIte, Option.or_none]

theorem select_setAll_select (r : Row) (kvs : List (String × Val)) {oc u' : List String}
    (h : ∀ c ∈ u', c ∈ oc ∧ c ∉ kvs.map (·.1)) :
    ((r.setAll kvs).select oc).select u' = r.select u' := by
  apply Row.select_congr.mpr
  intro c hc
  rw [Row.select_get_of_mem (h c hc).1, Row.get_setAll, lookupLast_eq_none_iff.mpr (h c hc).2]
  rfl

theorem look_extend_terms (ops : Assign) (usg : List String) (win : Option Win) {c : String} (hc : c ∈ usg) :
    lookupLast
      ((usg.filter (fun k => !((ops.filter (fun kv => usg.contains kv.1)).map (·.1)).contains k)).map
          (fun k => (k, STerm.pass)) ++
        (ops.filter (fun kv => usg.contains kv.1)).map (fun kv => (kv.1, STerm.expr kv.2 win))) c =
      match lookupLast ops c with
      | some t => some (STerm.expr t win)
      | none => some STerm.pass := by
  rw [lookupLast_append, lookupLast_map (ops.filter (fun kv => usg.contains kv.1)) (fun t => STerm.expr t win),
    lookupLast_filter_key ops (fun k => usg.contains k), if_pos (by simpa using hc)]
  cases hl : lookupLast ops c with
  | some t => rfl
  | none =>
    simp only [Option.map_none, Option.none_or, lookupLast_map_const]
    rw [if_pos]
    apply List.mem_filter.mpr
    refine ⟨hc, ?_⟩
    simp only [List.contains_eq_mem, List.mem_map, List.mem_filter, Bool.not_eq_eq_eq_not, Bool.not_true,
      decide_eq_false_iff_not, not_exists, not_and]
    intro kv hkv e
    exact lookupLast_eq_none_iff.mp hl (List.mem_map.mpr ⟨kv, hkv.1, e⟩)

theorem mem_usg {u part order rev : List String} {c : String} :
    c ∈ unionL (unionL (unionL u part) order) rev ↔ c ∈ u ∨ c ∈ part ∨ c ∈ order ∨ c ∈ rev := by
  simp only [mem_unionL, or_assoc]

theorem get_zip_keyOf (group : List String) (r : Row) {c : String} (hc : c ∈ group) :
    Row.get (group.zip (keyOf r group)) c = r.get c :=
  Row.get_zip_map hc

theorem look_project_terms (ops subops : Assign) (group : List String)
    (hdis : ∀ k ∈ ops.map (·.1), k ∉ group) (hsubkeys : ∀ k ∈ subops.map (·.1), k ∈ ops.map (·.1)) (c : String) :
    lookupLast (subops.map (fun kv => (kv.1, STerm.expr kv.2 none)) ++
        (group.filter (fun g => !(subops.map (·.1)).contains g)).map (fun g => (g, STerm.pass))) c =
      if c ∈ group then some STerm.pass else (lookupLast subops c).map (fun t => STerm.expr t none) := by
  rw [lookupLast_append, lookupLast_map_const, lookupLast_map subops (fun t => STerm.expr t none)]
  by_cases hc : c ∈ group
  · have : c ∈ group.filter (fun g => !(subops.map (·.1)).contains g) := by
      apply List.mem_filter.mpr
      refine ⟨hc, ?_⟩
      simp only [List.contains_eq_mem, Bool.not_eq_eq_eq_not, Bool.not_true, decide_eq_false_iff_not]
      intro hk
      exact hdis c (hsubkeys c hk) hc
    rw [if_pos this, if_pos hc]
    rfl
  · have : c ∉ group.filter (fun g => !(subops.map (·.1)).contains g) := fun h => hc (List.mem_filter.mp h).1
    rw [if_neg this, if_neg hc]
    rfl

theorem project_cell {Θ : Interp} (ops subops : Assign) (group : List String) (g : List Row) (k : List Val)
    (hnd : (ops.map (·.1)).Nodup) (hdis : ∀ k ∈ ops.map (·.1), k ∉ group)
    (hsubkeys : ∀ k ∈ subops.map (·.1), k ∈ ops.map (·.1))
    (hk : group ≠ [] → ∃ r1, g.head? = some r1 ∧ keyOf r1 group = k)
    {c : String} (hc : c ∈ group ∨ c ∈ ops.map (·.1)) (hlook : lookupLast subops c = lookupLast ops c) :
    aggVal Θ g c (lookT (some (subops.map (fun kv => (kv.1, STerm.expr kv.2 none)) ++
        (group.filter (fun g => !(subops.map (·.1)).contains g)).map (fun g => (g, STerm.pass)))) c) =
      Row.get (group.zip k ++ ops.map (fun kv => (kv.1, Θ.agg (opName kv.2) (argValues kv.2 g)))) c := by
  simp only [lookT, look_project_terms ops subops group hdis hsubkeys c]
  rw [Row.get_append]
  by_cases hcg : c ∈ group
  · obtain ⟨r1, hr1, rfl⟩ := hk (fun e => by rw [e] at hcg; cases hcg)
    have hkeys : c ∈ Row.keys (group.zip (keyOf r1 group)) := by
      rw [Row.keys, List.map_fst_zip (by simp [keyOf, Row.vals])]; exact hcg
    rw [if_pos hcg, if_pos hkeys, get_zip_keyOf group r1 hcg]
    simp [aggVal, hr1]
  · have hkeys : c ∉ Row.keys (group.zip k) := fun h => by
      obtain ⟨kv, hkv, e⟩ := List.mem_map.mp h
      exact hcg (e ▸ (List.of_mem_zip hkv).1)
    have hndm : (Row.keys (ops.map (fun kv => (kv.1, Θ.agg (opName kv.2) (argValues kv.2 g))))).Nodup := by
      simpa [Row.keys, List.map_map, Function.comp_def] using hnd
    rw [if_neg hcg, if_neg hkeys, hlook, Row.get_eq_lookupLast_of_nodup _ hndm,
      lookupLast_map ops (fun t => Θ.agg (opName t) (argValues t g))]
    cases hl : lookupLast ops c with
    | none => exact absurd (hc.resolve_left hcg) (lookupLast_eq_none_iff.mp hl)
    | some t => rfl

/-- the assignments a project step keeps for the request `u`, and the request it is translated for (fix D14: when
everything was pruned from an un-grouped project, its first aggregate is kept) -/
theorem project_kept (ops : Assign) (group u : List String) (hne : group ≠ [] ∨ ops ≠ []) (pr : Assign × List String)
    (hpair : (if ((ops.filter (fun kv => u.contains kv.1)).isEmpty && group.isEmpty && !ops.isEmpty) = true
      then (ops.take 1, u ++ (ops.take 1).map (·.1)) else (ops.filter (fun kv => u.contains kv.1), u)) = pr) :
    (∀ kv ∈ pr.1, kv ∈ ops ∧ kv.1 ∈ pr.2) ∧ (∀ c ∈ u, lookupLast pr.1 c = lookupLast ops c) ∧
      (pr.1 = [] → group ≠ []) := by
  by_cases hD : ((ops.filter (fun kv => u.contains kv.1)).isEmpty && group.isEmpty && !ops.isEmpty) = true
  · rw [if_pos hD] at hpair
    subst hpair
    simp only [Bool.and_eq_true, List.isEmpty_iff] at hD
    obtain ⟨⟨hf, _⟩, hops⟩ := hD
    refine ⟨fun kv hkv => ⟨List.mem_of_mem_take hkv, List.mem_append_right _ (List.mem_map.mpr ⟨kv, hkv, rfl⟩)⟩,
      fun c hc => ?_, fun he => ?_⟩
    · have hnone : lookupLast ops c = none := by
        refine lookupLast_eq_none_iff.mpr (fun hk => ?_)
        obtain ⟨kv, hkv, e⟩ := List.mem_map.mp hk
        have : kv ∈ ops.filter (fun kv => u.contains kv.1) := List.mem_filter.mpr ⟨hkv, List.contains_iff_mem.mpr (e ▸ hc)⟩
        rw [hf] at this
        cases this
      rw [hnone]
      refine lookupLast_eq_none_iff.mpr (fun hk => ?_)
      obtain ⟨kv, hkv, e⟩ := List.mem_map.mp hk
      exact lookupLast_eq_none_iff.mp hnone (List.mem_map.mpr ⟨kv, List.mem_of_mem_take hkv, e⟩)
    · cases ops with
      | nil => cases hops
      | cons a as => cases he
  · rw [if_neg hD] at hpair
    subst hpair
    refine ⟨fun kv hkv => ⟨(List.mem_filter.mp hkv).1, List.contains_iff_mem.mp (List.mem_filter.mp hkv).2⟩,
      fun c hc => by rw [lookupLast_filter_key ops (fun k => u.contains k), if_pos (List.contains_iff_mem.mpr hc)],
      fun he hg => hD ?_⟩
    have hops : ops ≠ [] := hne.resolve_left (fun h => h hg)
    simp only [Bool.and_eq_true, List.isEmpty_iff, Bool.not_eq_eq_eq_not, Bool.not_true, List.isEmpty_eq_false_iff]
    exact ⟨⟨he, hg⟩, hops⟩

namespace SqlE

theorem nodeOK_project (hG : ShapeOK Θ ec env G) (fuel : Nat) (src : Ops) (ops : Assign) (group : List String)
    (hsq : SqlWF (.project src ops group)) (hne : group ≠ [] ∨ ops ≠ [])
    {ts : Table} (ih : NodeOK Θ ec env G cfg fuel src ts) :
    NodeOK Θ ec env G cfg (fuel + 1) (.project src ops group)
      (semProject Θ ops group ts (Ops.project src ops group).cols) :=
  nodeOK_step hG fuel rfl (fun _ => ⟨_, rfl⟩) ih (fun _ _ hu hσ => stepSpec_req rfl hσ hsq hu)
    fun u σ hu hσ _ sub T0 i g1 g4 => by
  cases hσ
  obtain ⟨_, _, _, hnd, hdis⟩ := SqlWF.project_iff.mp hsq
  dsimp only [StepSpec.near] at g1 g4 ⊢
  have hncols : ∀ c, c ∈ (Ops.project src ops group).cols ↔ c ∈ group ∨ c ∈ ops.map (·.1) := by
    intro c; simp only [Ops.cols]; exact mem_appendNew
  generalize hpair : (if ((ops.filter (fun kv => u.contains kv.1)).isEmpty && group.isEmpty && !ops.isEmpty) = true
      then (ops.take 1, u ++ (ops.take 1).map (·.1)) else (ops.filter (fun kv => u.contains kv.1), u)) = pr
    at g1 g4 ⊢
  obtain ⟨hF1, hF2, hF3⟩ := project_kept ops group u hne pr hpair
  have hsubkeys : ∀ k ∈ pr.1.map (·.1), k ∈ ops.map (·.1) := by
    intro k hk
    obtain ⟨kv, hkv, e⟩ := List.mem_map.mp hk
    exact List.mem_map.mpr ⟨kv, (hF1 kv hkv).1, e⟩
  generalize hSdef : ((Ops.project src ops group).usedFromSources pr.2).headD [] = S at g1 g4 ⊢
  have hmemS : ∀ c, c ∈ S ↔ c ∈ group ∨ c ∈ Term.colsUsedOps (ops.filter (fun kv => pr.2.contains kv.1)) :=
    fun c => by rw [← hSdef]; exact mem_unionL
  have hlook := look_project_terms ops pr.1 group hdis hsubkeys
  generalize pr.1.map (fun kv => (kv.1, STerm.expr kv.2 none)) ++
      (group.filter (fun g => !(pr.1.map (·.1)).contains g)).map (fun g => (g, STerm.pass)) = terms at hlook
  have hkeysT : ∀ c, c ∈ terms.map (·.1) ↔ c ∈ group ∨ c ∈ pr.1.map (·.1) := fun c => by
    rw [← lookupLast_isSome_iff, hlook c]
    by_cases hc : c ∈ group
    · rw [if_pos hc]
      exact ⟨fun _ => Or.inl hc, fun _ => rfl⟩
    · simp only [hc, ↓reduceIte, Option.isSome_map, false_or]
      exact lookupLast_isSome_iff
  refine sound_step _ _ _ _ g1 g4 (fun x hx => ?_) (fun c hc x hx => ?_) (fun c hc => ?_) (fun k hk => ?_) fun u' hu' => ?_
  · -- GROUP BY reads the group columns
    split at hx
    · cases hx
    · exact (hmemS x).mpr (Or.inl hx)
  · -- a group column is passed through, a kept aggregate reads its argument column
    simp only [entryReads, ↓reduceIte, lookT, hlook c] at hx
    by_cases hcg : c ∈ group
    · rw [if_pos hcg] at hx
      cases List.mem_singleton.mp hx
      exact (hmemS c).mpr (Or.inl hcg)
    · rw [if_neg hcg] at hx
      cases hl : lookupLast pr.1 c with
      | none =>
        rw [hl] at hx
        exact absurd ((hncols c).mp (hu c hc)) (not_or.mpr ⟨hcg, lookupLast_eq_none_iff.mp (hF2 c hc ▸ hl)⟩)
      | some t =>
        rw [hl] at hx
        obtain ⟨hkvo, hkv2⟩ := hF1 _ (lookupLast_mem hl)
        exact (hmemS x).mpr (Or.inr (mem_colsUsedOps.mpr ⟨(c, t), List.mem_filter.mpr ⟨hkvo, by simpa using hkv2⟩,
          argCols_subset_colsRaw t x hx⟩))
  · refine (hkeysT c).mpr (((hncols c).mp (hu c hc)).imp_right fun h => ?_)
    rw [← lookupLast_isSome_iff, hF2 c hc, lookupLast_isSome_iff]
    exact h
  · exact (hncols k).mpr (((hkeysT k).mp hk).imp_right (hsubkeys k))
  · -- one output row: the SQL aggregates over a group of the rows of `ts`, as the reference does
    have hcell : ∀ (g : List Row) (k : List Val), (group ≠ [] → ∃ r1, g.head? = some r1 ∧ keyOf r1 group = k) →
        u'.map (fun c => (c, aggVal Θ g c (lookT (some terms) c))) =
          (Row.select (group.zip k ++ ops.map (fun kv => (kv.1, Θ.agg (opName kv.2) (argValues kv.2 g))))
            (Ops.project src ops group).cols).select u' := by
      intro g k hk
      rw [Row.select_select fun c hc => hu c (hu' c hc)]
      refine List.map_congr_left fun c hc => congrArg (Prod.mk c) ?_
      simp only [lookT, hlook c]
      have := project_cell (Θ := Θ) ops pr.1 group g k hnd hdis hsubkeys hk ((hncols c).mp (hu c (hu' c hc)))
        (hF2 c (hu' c hc))
      simpa only [lookT, look_project_terms ops pr.1 group hdis hsubkeys c] using this
    unfold stepRows semProject
    by_cases hg : group = []
    · subst hg
      simp only [List.isEmpty_nil, ↓reduceIte, suffixRows, List.map_cons, List.map_nil]
      rw [hcell ts.rows [] (fun h => absurd rfl h)]
      rfl
    · have hge : group.isEmpty = false := by simpa using hg
      simp only [hge, Bool.false_eq_true, ↓reduceIte, suffixRows]
      rw [List.map_map]
      refine List.map_congr_left fun k hk => hcell _ k fun _ => ?_
      obtain ⟨r0, hr0, hk0⟩ := List.mem_map.mp (List.mem_eraseDups.mp hk)
      cases hh : (ts.rows.filter (fun r => keyOf r group == k)).head? with
      | none =>
        have : r0 ∈ ts.rows.filter (fun r => keyOf r group == k) := List.mem_filter.mpr ⟨hr0, by simpa using hk0⟩
        rw [List.head?_eq_none_iff.mp hh] at this
        cases this
      | some r1 =>
        have := List.mem_of_mem_head? (by rw [hh]; rfl : r1 ∈ (ts.rows.filter (fun r => keyOf r group == k)).head?)
        exact ⟨r1, rfl, by simpa using (List.mem_filter.mp this).2⟩

end SqlE

end Sql
end DAVerif
