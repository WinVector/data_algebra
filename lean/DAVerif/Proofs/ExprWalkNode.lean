import DAVerif.Expr.Walk
/-!
`walk_ind`, the induction principle of a successful `walk`, shared by the three inductions over the tree (meaning,
well-formedness, names): a relation `W` between trees and terms that holds of every walked token and is passed on by
every way a node is walked (`WalkedNode env W`: the cases of `walk`, with `W` for the walks of the children) holds of
every walk.  A successful `walk`, `walkLevel`, `walkChain`, `walkArgs`, `walkTok` is taken apart here and nowhere else
(`Proofs/ExprPrint.lean` runs `walk` forwards on the trees `cst t`).
-/
namespace DAVerif.Expr

@[simp] theorem ok_bind {ε α β : Type} (a : α) (f : α → Except ε β) : (Except.ok a >>= f) = f a := rfl
@[simp] theorem error_bind {ε α β : Type} (e : ε) (f : α → Except ε β) : ((Except.error e : Except ε α) >>= f) = Except.error e := rfl

@[simp] theorem map_ok {ε α β : Type} (a : α) (f : α → β) : (f <$> (Except.ok a : Except ε α)) = Except.ok (f a) := rfl
@[simp] theorem map_error {ε α β : Type} (e : ε) (f : α → β) : (f <$> (Except.error e : Except ε α)) = Except.error e := rfl

theorem bind_eq_ok {ε α β : Type} {x : Except ε α} {f : α → Except ε β} {b : β} :
    (x >>= f) = .ok b ↔ ∃ a, x = .ok a ∧ f a = .ok b := by
  cases x with
  | error e => simp only [error_bind, reduceCtorEq, false_and, exists_false]
  | ok a => simp only [ok_bind, Except.ok.injEq, exists_eq_left']

theorem callMethod_split {env : Env} {recv : Term} {name : String} {args : List Term} {t : Term}
    (h : callMethod env recv name args = .ok t) :
    ∃ b, getMethod env recv name = .ok b ∧ applyBound env b recv args = .ok t :=
  bind_eq_ok.1 h

theorem walkAll_cons_ok {env : Env} {c : Cst} {cs : List Cst} {ts : List Term} :
    walkAll env (c :: cs) = .ok ts ↔ ∃ t, walk env c = .ok t ∧ ∃ ts', walkAll env cs = .ok ts' ∧ t :: ts' = ts := by
  simp only [walkAll, bind_eq_ok, pure, Except.pure, Except.ok.injEq]

section induct
variable {P : Cst → Prop} (tok : ∀ t, P (.tok t)) (none : P .none)
  (node : ∀ r ch, (∀ c ∈ ch, P c) → (∀ r' ch', Cst.node r' ch' ∈ ch → ∀ c ∈ ch', P c) → P (.node r ch))
include tok none node

mutual
theorem cst_induct_aux : ∀ c, P c ∧ ∀ r ch, c = .node r ch → ∀ c' ∈ ch, P c'
  | .tok t => ⟨tok t, fun _ _ h => by cases h⟩
  | .none => ⟨none, fun _ _ h => by cases h⟩
  | .node r ch =>
    have h := cst_induct_auxL ch
    ⟨node r ch (fun c hc => (h c hc).1) (fun r' ch' hm => (h _ hm).2 r' ch' rfl),
      fun _ _ e => by cases e; exact fun c hc => (h c hc).1⟩
theorem cst_induct_auxL : ∀ cs : List Cst, ∀ c ∈ cs, P c ∧ ∀ r ch, c = .node r ch → ∀ c' ∈ ch, P c'
  | [], _, hc => by cases hc
  | c :: cs, c', hc => by
    cases hc with
    | head => exact cst_induct_aux c
    | tail _ h => exact cst_induct_auxL cs c' h
end

/-- Induction over a tree with the hypothesis for the children and for the children of the children: the walker
looks two levels down at a call (receiver and arguments) and at list, set and dictionary literals (items). -/
theorem cst_induct (c : Cst) : P c :=
  (cst_induct_aux tok none node c).1

end induct

theorem walkTok_ok {env : Env} {tk : Token} {t : Term} (h : walkTok env tk = .ok t) :
    (tk.kind = .name ∧ env.cols.contains tk.text = true ∧ t = .col tk.text) ∨
    (∃ n : Nat, tk.kind = .dec ∧ decodeDec tk.text = some n ∧ t = .value (.int n)) ∨
    (∃ q, tk.kind = .float ∧ decodeFloat tk.text = some q ∧ t = .value (.flt q)) ∨
    (∃ s, tk.kind = .string ∧ decodeStr tk.text = some s ∧ t = .value (.str s)) := by
  unfold walkTok at h
  cases hk : tk.kind <;> simp only [hk] at h
  case name =>
    split at h
    · rename_i hc; cases h; exact .inl ⟨rfl, hc, rfl⟩
    · cases h
  case dec =>
    split at h
    · rename_i n hn; cases h; exact .inr (.inl ⟨n, rfl, hn, rfl⟩)
    · cases h
  case float =>
    split at h
    · rename_i q hq; cases h; exact .inr (.inr (.inl ⟨q, rfl, hq, rfl⟩))
    · cases h
  case string =>
    split at h
    · rename_i s hs; cases h; exact .inr (.inr (.inr ⟨s, rfl, hs, rfl⟩))
    · cases h
  all_goals contradiction

/-- the operands of `(op v)*` -/
def odds : List Cst → List Cst
  | _ :: c :: cs => c :: odds cs
  | _ => []

theorem walkOdd_eq (env : Env) : ∀ cs : List Cst, walkOdd env cs = walkAll env (odds cs)
  | [] => by simp only [walkOdd, odds, walkAll]
  | [_] => by simp only [walkOdd, odds, walkAll]
  | _ :: c :: cs => by rw [walkOdd, odds, walkAll, walkOdd_eq env cs]

theorem mem_odds : ∀ {cs : List Cst} {c : Cst}, c ∈ odds cs → c ∈ cs
  | _ :: c' :: cs, c, h => by
    rw [odds, List.mem_cons] at h
    rcases h with rfl | h
    · simp
    · simp [mem_odds h]

theorem length_odds : ∀ cs : List Cst, 2 * (odds cs).length + cs.length % 2 = cs.length
  | [] => rfl
  | [_] => rfl
  | _ :: _ :: cs => by
    have := length_odds cs
    simp only [odds, List.length_cons]; omega

inductive Walked (W : Cst → Term → Prop) : List Cst → List Term → Prop
  | nil : Walked W [] []
  | cons {c cs t ts} (h : W c t) (hs : Walked W cs ts) : Walked W (c :: cs) (t :: ts)

theorem Walked.length {W : Cst → Term → Prop} : ∀ {cs ts}, Walked W cs ts → ts.length = cs.length
  | _, _, .nil => rfl
  | _, _, .cons _ hs => congrArg (· + 1) hs.length

theorem Walked.mem {W : Cst → Term → Prop} : ∀ {cs ts}, Walked W cs ts → ∀ t ∈ ts, ∃ c ∈ cs, W c t
  | _, _, .nil, _, h => by cases h
  | _, _, .cons h hs, t, ht => by
    rcases List.mem_cons.mp ht with rfl | ht
    · exact ⟨_, List.mem_cons_self, h⟩
    · obtain ⟨c, hc, hw⟩ := hs.mem t ht
      exact ⟨c, List.mem_cons_of_mem _ hc, hw⟩

section
variable {env : Env} {W : Cst → Term → Prop}

theorem walkAll_walked : ∀ {cs : List Cst} {ts : List Term}, (∀ c ∈ cs, ∀ t, walk env c = .ok t → W c t) →
    walkAll env cs = .ok ts → Walked W cs ts
  | [], ts, _, hw => by unfold walkAll at hw; cases hw; exact .nil
  | c :: cs, ts, ih, hw => by
    obtain ⟨t, hc, ts', hr, rfl⟩ := walkAll_cons_ok.1 hw
    exact .cons (ih c List.mem_cons_self t hc) (walkAll_walked (fun c' h => ih c' (List.mem_cons_of_mem _ h)) hr)

inductive WalkedChain (env : Env) (W : Cst → Term → Prop) : Term → List Cst → Term → Prop
  | stop {res rest} (h : rest.length < 2) : WalkedChain env W res rest res
  | step {res o c rest s b arg res' t} (ho : opText o = some s)
      (hg : getMethod env res (remap env.opRemap s) = .ok b) (hc : W c arg)
      (hab : applyBound env b res [arg] = .ok res') (h : WalkedChain env W res' rest t) :
      WalkedChain env W res (o :: c :: rest) t

theorem walkChain_walked : ∀ {rest : List Cst} {res t : Term}, (∀ c ∈ rest, ∀ t, walk env c = .ok t → W c t) →
    walkChain env res rest = .ok t → WalkedChain env W res rest t
  | [], res, t, _, hw => by unfold walkChain at hw; cases hw; exact .stop (by simp)
  | [_], res, t, _, hw => by unfold walkChain at hw; cases hw; exact .stop (by simp)
  | o :: c :: rest, res, t, ih, hw => by
    unfold walkChain at hw
    split at hw
    · rename_i s ho
      obtain ⟨b, hg, hw⟩ := bind_eq_ok.1 hw
      obtain ⟨arg, hc, hw⟩ := bind_eq_ok.1 hw
      obtain ⟨res', hab, hw⟩ := bind_eq_ok.1 hw
      exact .step ho hg (ih c (by simp) arg hc) hab (walkChain_walked (fun c' h => ih c' (by simp [h])) hw)
    · cases hw

inductive WalkedLevel (env : Env) (W : Cst → Term → Prop) (kind : RuleKind) (ops : List String) (first : Term)
    (rest : List Cst) : Term → Prop
  | kary {op others t} (hm : levelMode kind ops = .kary op) (ho : Walked W (odds rest) others)
      (h : kopExpr env op (first :: others) = .ok t) : WalkedLevel env W kind ops first rest t
  | cmpChain {others comps t} (hm : levelMode kind ops = .cmpChain) (ho : Walked W (odds rest) others)
      (hcc : chainComparisons env (first :: others) ops = .ok comps) (h : kopExpr env "and" comps = .ok t) :
      WalkedLevel env W kind ops first rest t
  | linear {t} (hm : levelMode kind ops = .linear) (h : WalkedChain env W first rest t) :
      WalkedLevel env W kind ops first rest t

theorem walkLevel_walked {kind : RuleKind} {ch : List Cst} {t : Term}
    (ih : ∀ c ∈ ch, ∀ t, walk env c = .ok t → W c t) (hw : walkLevel env kind ch = .ok t) :
    ∃ c rest ops first, ch = c :: rest ∧ opTexts rest = some ops ∧ W c first ∧
      WalkedLevel env W kind ops first rest t := by
  unfold walkLevel at hw
  split at hw
  · cases hw
  split at hw
  · cases hw
  split at hw
  · cases hw
  rename_i c rest _ _ ops hops
  have first : ∀ {x}, walk env c = .ok x → W c x := ih c List.mem_cons_self _
  have others : ∀ {ts}, walkOdd env rest = .ok ts → Walked W (odds rest) ts := fun ho =>
    walkAll_walked (fun c' h => ih c' (List.mem_cons_of_mem _ (mem_odds h))) (walkOdd_eq env rest ▸ ho)
  refine ⟨c, rest, ops, ?_⟩
  split at hw
  · rename_i op hm
    obtain ⟨first', hc, hw⟩ := bind_eq_ok.1 hw
    obtain ⟨_, ho, hw⟩ := bind_eq_ok.1 hw
    exact ⟨first', rfl, hops, first hc, .kary hm (others ho) hw⟩
  · rename_i hm
    obtain ⟨first', hc, hw⟩ := bind_eq_ok.1 hw
    obtain ⟨_, ho, hw⟩ := bind_eq_ok.1 hw
    obtain ⟨comps, hcc, hw⟩ := bind_eq_ok.1 hw
    exact ⟨first', rfl, hops, first hc, .cmpChain hm (others ho) hcc hw⟩
  · rename_i hm
    obtain ⟨res, hc, hw⟩ := bind_eq_ok.1 hw
    exact ⟨res, rfl, hops, first hc, .linear hm (walkChain_walked (fun c' h => ih c' (List.mem_cons_of_mem _ h)) hw)⟩

inductive WalkedArgs (W : Cst → Term → Prop) : List Cst → List Term → Prop
  | items {r a args} (h : Walked W a args) : WalkedArgs W [.node r a] args
  | none {more} (h : ∀ r a, more ≠ [.node r a]) : WalkedArgs W more []

theorem walkArgs_walked {more : List Cst} {args : List Term}
    (ih : ∀ r a, Cst.node r a ∈ more → ∀ c ∈ a, ∀ t, walk env c = .ok t → W c t)
    (h : walkArgs env more = .ok args) : WalkedArgs W more args := by
  unfold walkArgs at h
  split at h
  · exact .items (walkAll_walked (ih _ _ List.mem_cons_self) h)
  · cases h
  · rename_i hn _
    cases h
    exact .none hn

inductive WalkedNode (env : Env) (W : Cst → Term → Prop) (rule : String) : List Cst → Term → Prop
  | const {ch l} (hk : classify rule = .constTrue ∧ l = .bool true ∨ classify rule = .constFalse ∧ l = .bool false ∨
      classify rule = .constNone ∧ l = .none) : WalkedNode env W rule ch (.value l)
  | wrapper {c rest t} (hk : classify rule = .wrapper) (hc : W c t) : WalkedNode env W rule (c :: rest) t
  | level {kind c rest ops first t} (hk : classify rule = kind)
      (hkind : kind = .arith ∨ kind = .term ∨ kind = .comparison) (hops : opTexts rest = some ops) (hc : W c first)
      (h : WalkedLevel env W kind ops first rest t) : WalkedNode env W rule (c :: rest) t
  | power {ch s rest t} (hk : classify rule = .power) (hsub : Walked W ch (s :: rest))
      (h : rest.foldlM (fun res x => callMethod env res "__pow__" [x]) s = .ok t) : WalkedNode env W rule ch t
  | factor {o : Token} {c right t} (hk : classify rule = .factor) (hc : W c right)
      (h : callMethod env right (remap env.factorRemap o.text) [] = .ok t) : WalkedNode env W rule [.tok o, c] t
  | method {recv} {nm : Token} {more var args t} (hk : classify rule = .funccall) (hr : W recv var)
      (ha : WalkedArgs W more args) (h : callMethod env var nm.text args = .ok t) :
      WalkedNode env W rule (.node "getattr" [recv, .tok nm] :: more) t
  | func {crule} {tk : Token} {cch more args t} (hk : classify rule = .funccall)
      (hcr : (crule == "getattr") = false) (ha : WalkedArgs W more args)
      (h : mkExpr env tk.text args false false = .ok t) : WalkedNode env W rule (.node crule (.tok tk :: cch) :: more) t
  | funcTok {tk : Token} {more args t} (hk : classify rule = .funccall) (ha : WalkedArgs W more args)
      (h : mkExpr env tk.text args false false = .ok t) : WalkedNode env W rule (.tok tk :: more) t
  | conn {op ch children t} (hk : classify rule = .orTest ∧ op = "or" ∨ classify rule = .andTest ∧ op = "and")
      (hlen : 2 ≤ ch.length) (ha : Walked W ch children) (h : kopExpr env op children = .ok t) :
      WalkedNode env W rule ch t
  | not {c left t} (hk : classify rule = .not) (hc : W c left)
      (h : callMethod env left "__eq__" [.value (.bool false)] = .ok t) : WalkedNode env W rule [c] t
  | comp {r2 items vs t} (hk : classify rule = .collection)
      (hr : (r2 == "tuplelist_comp" || r2 == "set_comp") = true) (ha : Walked W items vs)
      (h : mkList vs = .ok t) : WalkedNode env W rule [.node r2 items] t
  | single {c v t} (hk : classify rule = .collection)
      (hr : ∀ r2 items, c = .node r2 items → (r2 == "tuplelist_comp" || r2 == "set_comp") = false)
      (hc : W c v) (h : mkList [v] = .ok t) : WalkedNode env W rule [c] t
  | dict {r items parts t} (hk : classify rule = .dict) (ha : Walked W items parts)
      (h : mkDict parts = .ok t) : WalkedNode env W rule [.node r items] t
  | keyValue {k v kt vt t} (hk : classify rule = .keyValue) (hkt : W k kt) (hvt : W v vt)
      (h : mkKeyValue kt vt = .ok t) : WalkedNode env W rule [k, v] t

theorem WalkedNode.kv {rule : String} {ch : List Cst} {t : Term} (h : WalkedNode env W rule ch t)
    (hk : classify rule = .keyValue) : ∃ k v kt vt, ch = [k, v] ∧ W k kt ∧ W v vt ∧ mkKeyValue kt vt = .ok t := by
  cases h with
  | keyValue _ hkt hvt h => exact ⟨_, _, _, _, rfl, hkt, hvt, h⟩
  | const hk' => rcases hk' with ⟨h', _⟩ | ⟨h', _⟩ | ⟨h', _⟩ <;> cases h'.symm.trans hk
  | level hk' hkind => subst hk'; rcases hkind with h' | h' | h' <;> cases h'.symm.trans hk
  | conn hk' => rcases hk' with ⟨h', _⟩ | ⟨h', _⟩ <;> cases h'.symm.trans hk
  | wrapper hk' | power hk' | factor hk' | method hk' | func hk' | funcTok hk' | not hk' | comp hk' | single hk'
  | dict hk' => cases hk'.symm.trans hk

theorem walk_node_walked {rule : String} {ch : List Cst} {t : Term}
    (ih : ∀ c ∈ ch, ∀ t, walk env c = .ok t → W c t)
    (ih2 : ∀ r' ch', Cst.node r' ch' ∈ ch → ∀ c ∈ ch', ∀ t, walk env c = .ok t → W c t)
    (hw : walk env (.node rule ch) = .ok t) : WalkedNode env W rule ch t := by
  have args : ∀ {m more args}, ch = m :: more → walkArgs env more = .ok args → WalkedArgs W more args :=
    fun e => walkArgs_walked fun r a h => ih2 r a (e ▸ List.mem_cons_of_mem _ h)
  unfold walk at hw
  cases hk : classify rule <;> simp only [hk] at hw
  case constTrue | constFalse | constNone => cases hw; exact .const (by simp [hk])
  case wrapper =>
    split at hw
    · exact .wrapper hk (ih _ List.mem_cons_self _ hw)
    · cases hw
  case arith | term | comparison =>
    obtain ⟨c, rest, ops, first, rfl, hops, hc, hl⟩ := walkLevel_walked ih hw
    exact .level hk (by simp) hops hc hl
  case bitwise | other => cases hw
  case power =>
    split at hw
    · cases hw
    · obtain ⟨subs, hsub, hw⟩ := bind_eq_ok.1 hw
      cases subs with
      | nil => cases hw
      | cons s rest => exact .power hk (walkAll_walked ih hsub) hw
  case factor =>
    split at hw
    · rename_i o c
      cases o with
      | tok o =>
        obtain ⟨right, hc, hw⟩ := bind_eq_ok.1 hw
        exact .factor hk (ih _ (by simp) _ hc) hw
      | none => cases hw
      | node _ _ => cases hw
    · cases hw
  case funccall =>
    split at hw
    · cases hw
    · rename_i carrier more
      split at hw
      · cases hw
      · split at hw
        · rename_i crule cch
          split at hw
          · rename_i hga
            have hcr : crule = "getattr" := by simpa using hga
            subst hcr
            split at hw
            · rename_i recv nm
              obtain ⟨var, hr, hw⟩ := bind_eq_ok.1 hw
              cases nm with
              | tok nm =>
                obtain ⟨_, ha, hw⟩ := bind_eq_ok.1 hw
                exact .method hk (ih2 _ _ List.mem_cons_self _ List.mem_cons_self _ hr) (args rfl ha) hw
              | none => cases hw
              | node _ _ => cases hw
            · cases hw
          · rename_i hga
            split at hw
            · cases hw
            · rename_i tk rest
              obtain ⟨_, ha, hw⟩ := bind_eq_ok.1 hw
              exact .func hk (by simpa using hga) (args rfl ha) hw
            · obtain ⟨_, _, hw⟩ := bind_eq_ok.1 hw
              cases hw
        · rename_i tk
          obtain ⟨_, ha, hw⟩ := bind_eq_ok.1 hw
          exact .funcTok hk (args rfl ha) hw
        · cases hw
  case orTest | andTest =>
    split at hw
    · cases hw
    · obtain ⟨children, ha, hw⟩ := bind_eq_ok.1 hw
      exact .conn (by simp [hk]) (by omega) (walkAll_walked ih ha) hw
  case not =>
    split at hw
    · obtain ⟨left, hc, hw⟩ := bind_eq_ok.1 hw
      exact .not hk (ih _ (by simp) _ hc) hw
    · cases hw
  case collection =>
    split at hw
    · rename_i r2 items
      split at hw
      · rename_i hr
        obtain ⟨vs, ha, hw⟩ := bind_eq_ok.1 hw
        exact .comp hk hr (walkAll_walked (ih2 _ _ List.mem_cons_self) ha) hw
      · rename_i hr
        obtain ⟨v, hc, hw⟩ := bind_eq_ok.1 hw
        exact .single hk (fun _ _ e => by cases e; simpa using hr) (ih _ (by simp) _ hc) hw
    · rename_i c hnot
      obtain ⟨v, hc, hw⟩ := bind_eq_ok.1 hw
      exact .single hk (fun r2 items e => absurd e (hnot r2 items)) (ih _ (by simp) _ hc) hw
    · cases hw
  case dict =>
    split at hw
    · obtain ⟨parts, ha, hw⟩ := bind_eq_ok.1 hw
      exact .dict hk (walkAll_walked (ih2 _ _ List.mem_cons_self) ha) hw
    · cases hw
    · cases hw
  case keyValue =>
    split at hw
    · obtain ⟨kt, hkt, hw⟩ := bind_eq_ok.1 hw
      obtain ⟨vt, hvt, hw⟩ := bind_eq_ok.1 hw
      exact .keyValue hk (ih _ (by simp) _ hkt) (ih _ (by simp) _ hvt) hw
    · cases hw

/-- `G` is a guard on trees that passes from a node to its children (`True`, or a check of every node and token
below): the cases get it for the node at hand, the induction supplies it below. -/
theorem walk_ind {G : Cst → Prop} (hered : ∀ {r ch}, G (.node r ch) → ∀ c ∈ ch, G c)
    (tok : ∀ tk t, G (.tok tk) → walkTok env tk = .ok t → W (.tok tk) t)
    (node : ∀ rule ch t, G (.node rule ch) → WalkedNode env W rule ch t → W (.node rule ch) t) :
    ∀ c t, G c → walk env c = .ok t → W c t := by
  refine cst_induct (fun tk t hG hw => tok tk t hG (by unfold walk at hw; exact hw)) (fun t _ hw => ?_)
    (fun rule ch ih ih2 t hG hw => node rule ch t hG (walk_node_walked (fun c hc t => ih c hc t (hered hG c hc))
      (fun r' ch' hm c hc t => ih2 r' ch' hm c hc t (hered (hered hG _ hm) c hc)) hw))
  unfold walk at hw; cases hw

end

section lists
variable {env : Env} {Q : Term → Prop}

theorem powFold_forall (step : ∀ res x r, Q res → Q x → callMethod env res "__pow__" [x] = .ok r → Q r) :
    ∀ (rest : List Term) (s t : Term), Q s → (∀ x ∈ rest, Q x) →
    rest.foldlM (fun res x => callMethod env res "__pow__" [x]) s = .ok t → Q t
  | [], s, t, hs, _, h => by cases h; exact hs
  | x :: rest, s, t, hs, hr, h => by
    obtain ⟨r, hc, h⟩ := bind_eq_ok.1 h
    exact powFold_forall step rest r t (step s x r hs (hr x (by simp)) hc) (fun y hy => hr y (by simp [hy])) h

theorem chain_forall {R : String → Prop}
    (step : ∀ o a b c, R o → Q a → Q b → callMethod env a (remap env.opRemap o) [b] = .ok c → Q c) :
    ∀ (ops : List String) (ts comps : List Term), (∀ o ∈ ops, R o) → (∀ t ∈ ts, Q t) →
    chainComparisons env ts ops = .ok comps →
    (∀ c ∈ comps, Q c) ∧ (ts.length = ops.length + 1 → comps.length = ops.length)
  | [], ts, comps, _, _, h => by
    unfold chainComparisons at h
    split at h
    · contradiction
    · cases h; simp
  | o :: os, ts, comps, hops, hts, h => by
    match ts, hts, h with
    | [], _, h => simp only [chainComparisons] at h; cases h; simp
    | [_], _, h => simp only [chainComparisons] at h; cases h; simp
    | a :: b :: rest, hts, h =>
      simp only [chainComparisons] at h
      obtain ⟨c, hcall, h⟩ := bind_eq_ok.1 h
      obtain ⟨cs, hr, h⟩ := bind_eq_ok.1 h
      cases h
      obtain ⟨h1, h2⟩ := chain_forall step os (b :: rest) cs (fun o' ho' => hops o' (by simp [ho']))
        (fun t ht => hts t (List.mem_cons_of_mem _ ht)) hr
      refine ⟨List.forall_mem_cons.mpr ⟨step o a b c (hops o (by simp)) (hts a (by simp)) (hts b (by simp)) hcall, h1⟩,
        fun hl => ?_⟩
      simp only [List.length_cons] at hl h2 ⊢
      omega

end lists

end DAVerif.Expr
