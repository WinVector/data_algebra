import DAVerif.Proofs.MethodsAggOrder
import DAVerif.Proofs.MethodsFormatters
/-!
C05, aggregate formatters: the SQL text the code emits for `count size mean any all any_value`
(`Generated/SqlFormatters.lean`, regenerated from `db_model.expr_to_sql` on every run), evaluated over the rows of a
group with `Sql3.evalSqlG`, against the hand-written SQL model `ThetaSqlX.agg` – for every group (list of cells).
-/
namespace DAVerif.C05A
open DAVerif DAVerif.Doc DAVerif.C05 DAVerif.Sql3

/-- the rows of a group whose argument column `c` holds the cells `vs` -/
def rowsOf (c : String) (vs : List Val) : List (String → Val) := vs.map (fun v => env [(c, v)])

/-- the argument of the (single) aggregate call of an aggregate formatter: `FN(e)` or `(FN(e) >= k)` -/
def aggArg : SqlExpr → SqlExpr
  | .call _ (.cons e .nil) => e
  | .paren (.cmp _ (.call _ (.cons e .nil)) _) => e
  | _ => .null

theorem map_rowsOf {c : String} {vs : List Val} (f : (String → Val) → Val) (g : Val → Val)
    (h : ∀ v ∈ vs, f (env [(c, v)]) = g v) : (rowsOf c vs).map f = vs.map g := by
  unfold rowsOf
  rw [List.map_map]
  exact List.map_congr_left h

theorem rowsOf_col (vs : List Val) : (rowsOf "x" vs).map (fun ρ => ρ "x") = vs := by
  rw [map_rowsOf _ id fun _ _ => rfl, List.map_id]

def b01 (b : Bool) : Val := if b then .num 1 else .num 0

theorem nonNulls_b01 (bs : List Bool) : nonNulls (bs.map b01) = bs.map b01 := by
  unfold nonNulls
  rw [List.filter_eq_self]
  intro a ha
  obtain ⟨b, _, rfl⟩ := List.mem_map.mp ha
  cases b <;> rfl

theorem bestBy_max_b01 : ∀ (b : Bool) (bs : List Bool),
    bestBy (fun a b => !Val.lt a b) ((b :: bs).map b01) = b01 ((b :: bs).any id)
  | b, [] => by cases b <;> rfl
  | b, c :: r => by
    have ih := bestBy_max_b01 c r
    show (let m := bestBy (fun a b => !Val.lt a b) ((c :: r).map b01); if (!Val.lt (b01 b) m) = true then b01 b else m) = _
    rw [ih]
    have e : (b :: c :: r).any id = (b || (c :: r).any id) := by simp
    rw [e]
    cases b <;> cases (c :: r).any id <;> decide +kernel

theorem bestBy_min_b01 : ∀ (b : Bool) (bs : List Bool),
    bestBy (fun a b => !Val.lt b a) ((b :: bs).map b01) = b01 ((b :: bs).all id)
  | b, [] => by cases b <;> rfl
  | b, c :: r => by
    have ih := bestBy_min_b01 c r
    show (let m := bestBy (fun a b => !Val.lt b a) ((c :: r).map b01); if (!Val.lt m (b01 b)) = true then b01 b else m) = _
    rw [ih]
    have e : (b :: c :: r).all id = (b && (c :: r).all id) := by simp
    rw [e]
    cases b <;> cases (c :: r).all id <;> decide +kernel

theorem ge_one_b01 (t : Bool) : cmp3 .ge (b01 t) (.num 1) = .bool t := by cases t <;> decide +kernel

theorem aggregate_MAX_b01 (bs : List Bool) :
    cmp3 .ge (aggregate "MAX" (bs.map b01)) (.num 1) = if bs.isEmpty then .null else .bool (bs.any id) := by
  cases bs with
  | nil => rfl
  | cons b r =>
    have : aggregate "MAX" ((b :: r).map b01) = bestBy (fun a b => !Val.lt a b) ((b :: r).map b01) := by
      unfold aggregate
      rw [nonNulls_b01]
      rfl
    rw [this, bestBy_max_b01, ge_one_b01]; rfl

theorem aggregate_MIN_b01 (bs : List Bool) :
    cmp3 .ge (aggregate "MIN" (bs.map b01)) (.num 1) = if bs.isEmpty then .null else .bool (bs.all id) := by
  cases bs with
  | nil => rfl
  | cons b r =>
    have : aggregate "MIN" ((b :: r).map b01) = bestBy (fun a b => !Val.lt b a) ((b :: r).map b01) := by
      unfold aggregate
      rw [nonNulls_b01]
      rfl
    rw [this, bestBy_min_b01, ge_one_b01]; rfl

theorem sumQ_b01 : ∀ (bs : List Bool), Sql3.sumQ ((bs.map b01).filterMap numOf) = ((bs.filter id).length : Rat)
  | [] => rfl
  | b :: r => by
    have ih := sumQ_b01 r
    cases b
    · show (0 : Rat) + Sql3.sumQ ((r.map b01).filterMap numOf) = _
      rw [ih, Rat.zero_add]; rfl
    · show (1 : Rat) + Sql3.sumQ ((r.map b01).filterMap numOf) = (((r.filter id).length + 1 : Nat) : Rat)
      rw [ih, Rat.natCast_add]
      grind

theorem aggregate_SUM_b01 (bs : List Bool) :
    aggregate "SUM" (bs.map b01) = if bs.isEmpty then .null else .num ((bs.filter id).length : Rat) := by
  cases bs with
  | nil => rfl
  | cons b r =>
    have : aggregate "SUM" ((b :: r).map b01) = .num (Sql3.sumQ (((b :: r).map b01).filterMap numOf)) := by
      unfold aggregate
      rw [nonNulls_b01]
      rfl
    rw [this, sumQ_b01]; rfl

/-! ### count:  SUM(CASE WHEN "x" IS NOT NULL THEN 1 ELSE 0 END) -/

theorem fmt_count_row (v : Val) : evalSql3 (aggArg Gen.fmt_sqlite_count) (env [("x", v)]) = b01 (!v.isNull) := by
  cases v <;> rfl

theorem filter_not_isNull_length (vs : List Val) :
    ((vs.map (fun v => !v.isNull)).filter id).length = (Theta.nonNull vs).length := by
  induction vs with
  | nil => rfl
  | cons v r ih =>
    cases v with
    | null => exact ih
    | bool b => exact congrArg (· + 1) ih
    | num q => exact congrArg (· + 1) ih
    | str s => exact congrArg (· + 1) ih

theorem formatter_count (d : String) (hd : Dialect d) (vs : List Val) :
    evalSqlG (Gen.formatter d "count") (rowsOf "x" vs) = ThetaSqlX.agg "count" vs := by
  rw [formatter_eq hd (e := Gen.fmt_sqlite_count) rfl]
  show aggregate "SUM" ((rowsOf "x" vs).map (evalSql3 (aggArg Gen.fmt_sqlite_count))) = _
  rw [map_rowsOf _ (b01 ∘ fun v => !v.isNull) fun v _ => fmt_count_row v, ← List.map_map, aggregate_SUM_b01,
    filter_not_isNull_length]
  show _ = (if vs.isEmpty then Val.null else Val.num (Theta.nonNull vs).length)
  cases vs <;> rfl

/-! ### size:  SUM(1) -/

/-- `SUM(1)` reads no column: any rows -/
theorem formatter_size (d : String) (hd : Dialect d) (rows : List (String → Val)) :
    evalSqlG (Gen.formatter d "size") rows = ThetaSqlX.agg "size" (rows.map (fun ρ => ρ "x")) := by
  rw [formatter_eq hd (e := Gen.fmt_sqlite_size) rfl]
  show aggregate "SUM" (rows.map (fun _ => b01 true)) = _
  have e : rows.map (fun _ => b01 true) = (rows.map (fun _ => true)).map b01 := by rw [List.map_map]; rfl
  rw [e, aggregate_SUM_b01]
  show _ = (if (rows.map (fun ρ => ρ "x")).isEmpty then Val.null else Val.num (rows.map (fun ρ => ρ "x")).length)
  have hl : ∀ (rs : List (String → Val)), ((rs.map (fun _ => true)).filter id).length = rs.length := by
    intro rs
    induction rs with
    | nil => rfl
    | cons _ r ih => exact congrArg (· + 1) ih
  rw [hl]
  cases rows <;> simp

/-! ### mean:  AVG("x") -/

def NoStr (vs : List Val) : Prop := ∀ v ∈ vs, ∀ s, v ≠ .str s

theorem nonNulls_numOf (vs : List Val) : (nonNulls vs).filterMap numOf = Theta.nums vs := by
  induction vs with
  | nil => rfl
  | cons v r ih =>
    cases v with
    | null => exact ih
    | bool b => exact congrArg ((if b then (1 : Rat) else 0) :: ·) ih
    | num q => exact congrArg (q :: ·) ih
    | str s => exact ih

theorem nonNulls_length (vs : List Val) (h : NoStr vs) : (nonNulls vs).length = (Theta.nums vs).length := by
  induction vs with
  | nil => rfl
  | cons v r ih =>
    have hr : NoStr r := fun w hw => h w (List.mem_cons_of_mem _ hw)
    cases v with
    | null => exact ih hr
    | bool b => exact congrArg (· + 1) (ih hr)
    | num q => exact congrArg (· + 1) (ih hr)
    | str s => exact absurd rfl (h (.str s) List.mem_cons_self s)

theorem sql_sumQ_eq (xs : List Rat) : Sql3.sumQ xs = Doc.sumQ xs := by
  induction xs with
  | nil => rfl
  | cons x r ih => show x + Sql3.sumQ r = x + Doc.sumQ r; rw [ih]

theorem formatter_mean (d : String) (hd : Dialect d) (vs : List Val) (hns : NoStr vs) :
    evalSqlG (Gen.formatter d "mean") (rowsOf "x" vs) = ThetaSqlX.agg "mean" vs := by
  rw [formatter_eq hd (e := Gen.fmt_sqlite_mean) rfl]
  show aggregate "AVG" ((rowsOf "x" vs).map fun ρ => ρ "x") = Theta.meanV vs
  rw [rowsOf_col]
  have hl := nonNulls_length vs hns
  have he : (nonNulls vs).isEmpty = (Theta.nums vs).isEmpty :=
    Bool.eq_iff_iff.mpr (by rw [List.isEmpty_iff, List.isEmpty_iff, ← List.length_eq_zero_iff, ← List.length_eq_zero_iff, hl])
  show (if (nonNulls vs).isEmpty then Val.null
        else Val.num (Sql3.sumQ ((nonNulls vs).filterMap numOf) / ((nonNulls vs).length : Rat))) = _
  rw [he, nonNulls_numOf, hl, sql_sumQ_eq, ← sumR_eq_sumQ]
  rfl

/-! ### any:  (MAX(CASE WHEN "a" THEN 1 ELSE 0 END) >= 1) -/

theorem fmt_any_row (v : Val) :
    evalSql3 (aggArg Gen.fmt_sqlite_any) (env [("a", v)]) = b01 (Theta.truthy v == some true) := by
  cases v with
  | null => rfl
  | bool b => cases b <;> rfl
  | num q =>
    show (match truth (Val.num q) with | some true => _ | _ => _) = _
    show (match (some (q != 0) : Option Bool) with | some true => _ | _ => _) = b01 (some (q != 0) == some true)
    cases (q != 0) <;> rfl
  | str s => rfl

theorem any_nonNull (vs : List Val) :
    (Theta.nonNull vs).any (fun v => Theta.truthy v == some true) = vs.any (fun v => Theta.truthy v == some true) := by
  induction vs with
  | nil => rfl
  | cons v r ih =>
    cases v with
    | null => exact ih
    | bool b => exact congrArg ((Theta.truthy (Val.bool b) == some true) || ·) ih
    | num q => exact congrArg ((Theta.truthy (Val.num q) == some true) || ·) ih
    | str s => exact congrArg ((Theta.truthy (Val.str s) == some true) || ·) ih

theorem formatter_any (d : String) (hd : Dialect d) (vs : List Val) :
    evalSqlG (Gen.formatter d "any") (rowsOf "a" vs) = ThetaSqlX.agg "any" vs := by
  rw [formatter_eq hd (e := Gen.fmt_sqlite_any) rfl]
  show cmp3 .ge (aggregate "MAX" ((rowsOf "a" vs).map (evalSql3 (aggArg Gen.fmt_sqlite_any)))) (.num 1) = _
  rw [map_rowsOf _ (b01 ∘ fun v => Theta.truthy v == some true) fun v _ => fmt_any_row v, ← List.map_map,
    aggregate_MAX_b01]
  show _ = (if vs.isEmpty then Val.null else Val.bool ((Theta.nonNull vs).any (fun v => Theta.truthy v == some true)))
  rw [any_nonNull]
  cases vs with
  | nil => rfl
  | cons v r => simp [List.any_map]

/-! ### all:  (MIN(CASE WHEN "a" THEN 1 WHEN NOT "a" THEN 0 ELSE NULL END) >= 1) -/

/-- the CASE of `all` on one cell: NULL stays NULL (and is then skipped by `MIN`), a truth value becomes 1 / 0 -/
def all01 (v : Val) : Val := if v.isNull then .null else b01 (Theta.truthy v == some true)

theorem fmt_all_row (v : Val) (hs : ∀ s, v ≠ .str s) :
    evalSql3 (aggArg Gen.fmt_sqlite_all) (env [("a", v)]) = all01 v := by
  cases v with
  | null => rfl
  | bool b => cases b <;> rfl
  | num q =>
    show (match truth (Val.num q) with
          | some true => _
          | _ => match truth (not3 (Val.num q)) with | some true => _ | _ => _) = _
    show (match (some (q != 0) : Option Bool) with
          | some true => _
          | _ => match truth (match (some (q != 0) : Option Bool) with | some b => Val.bool (!b) | none => Val.null) with
                 | some true => _ | _ => _) = b01 (some (q != 0) == some true)
    cases (q != 0) <;> rfl
  | str s => exact absurd rfl (hs s)

theorem nonNulls_cons_b01 (t : Bool) (ws : List Val) : nonNulls (b01 t :: ws) = b01 t :: nonNulls ws := by
  cases t <;> rfl

theorem nonNulls_all01 (vs : List Val) :
    nonNulls (vs.map all01) = ((Theta.nonNull vs).map (fun v => Theta.truthy v == some true)).map b01 := by
  induction vs with
  | nil => rfl
  | cons v r ih =>
    cases v with
    | null => exact ih
    | bool b =>
      show nonNulls (b01 (Theta.truthy (Val.bool b) == some true) :: r.map all01) = _
      rw [nonNulls_cons_b01, ih]; rfl
    | num q =>
      show nonNulls (b01 (Theta.truthy (Val.num q) == some true) :: r.map all01) = _
      rw [nonNulls_cons_b01, ih]; rfl
    | str s =>
      show nonNulls (b01 (Theta.truthy (Val.str s) == some true) :: r.map all01) = _
      rw [nonNulls_cons_b01, ih]; rfl

theorem aggregate_nonNulls (fn : String) (ws : List Val) : aggregate fn ws = aggregate fn (nonNulls ws) := by
  unfold aggregate
  have : nonNulls (nonNulls ws) = nonNulls ws := by unfold nonNulls; rw [List.filter_filter]; simp
  rw [this]

theorem formatter_all (d : String) (hd : Dialect d) (vs : List Val) (hns : NoStr vs) :
    evalSqlG (Gen.formatter d "all") (rowsOf "a" vs) = ThetaSqlX.agg "all" vs := by
  rw [formatter_eq hd (e := Gen.fmt_sqlite_all) rfl]
  show cmp3 .ge (aggregate "MIN" ((rowsOf "a" vs).map (evalSql3 (aggArg Gen.fmt_sqlite_all)))) (.num 1) = _
  rw [map_rowsOf _ all01 fun v hv => fmt_all_row v (hns v hv), aggregate_nonNulls, nonNulls_all01, aggregate_MIN_b01]
  show _ = (if (Theta.nonNull vs).isEmpty then Val.null
            else Val.bool ((Theta.nonNull vs).all (fun v => Theta.truthy v == some true)))
  cases hn : Theta.nonNull vs with
  | nil => rfl
  | cons v r => simp [List.all_map]

/-! ### any_value:  MAX("x") -/

/-- `bestBy`'s `better a b` reads "`b` does not beat `a`" -/
theorem bestBy_isBest {L : Val → Val → Bool} (hL : Beats L) : ∀ (r : List Val) (x : Val),
    IsBest L (x :: r) (bestBy (fun a b => !L b a) (x :: r))
  | [], x => .single hL x
  | y :: r, x => by
    have ih := bestBy_isBest hL r y
    show IsBest L _ (if (!L (bestBy (fun a b => !L b a) (y :: r)) x) = true then x
      else bestBy (fun a b => !L b a) (y :: r))
    cases hc : L (bestBy (fun a b => !L b a) (y :: r)) x with
    | true => exact ih.cons hL (.inl rfl) (hL.asymm hc) (hL.irrefl _)
    | false => exact ih.cons hL (.inr rfl) (hL.irrefl x) hc

/-- `MAX("x")` and the model's left fold both return the greatest non-NULL item -/
theorem formatter_any_value (d : String) (hd : Dialect d) (vs : List Val) :
    evalSqlG (Gen.formatter d "any_value") (rowsOf "x" vs) = ThetaSqlX.agg "any_value" vs := by
  rw [formatter_eq hd (e := Gen.fmt_sqlite_any_value) rfl]
  show aggregate "MAX" ((rowsOf "x" vs).map fun ρ => ρ "x") = Theta.maxV vs
  rw [rowsOf_col]
  have hnn : nonNulls vs = Theta.nonNull vs := rfl
  cases hn : Theta.nonNull vs with
  | nil => unfold aggregate Theta.maxV; rw [hnn, hn]; rfl
  | cons x r =>
    have : aggregate "MAX" vs = bestBy (fun a b => !Val.lt a b) (x :: r) := by
      unfold aggregate; rw [hnn, hn]; rfl
    rw [this]
    exact (maxV_eq_of_isBest (by rw [← nonNull_eq, hn]; exact bestBy_isBest beats_max r x)).symm

end DAVerif.C05A
