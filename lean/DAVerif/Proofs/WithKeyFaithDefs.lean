import DAVerif.Proofs.WithKey
/-!
C04, cache keys of the translation (`C04_key_faithful`): what the files `Proofs/WithKeyFaith*.lean` share.

The CTE-cache key of a bound sub-query is `ops_key ++ "_" ++ renderStrs columns`, where `ops_key` is
`kind ++ "(" ++ renderOps n ++ "," ++ renderStrs termKeys ++ ")"` (`keyOfNode`) or `"order(" ++ renderOps n ++ ")"`.
`renderOps` (the model's `str(node)`) quotes every name with Lean's `String.quote`, which in Lean 4.33 is defined through
opaque constants (`String.Internal.append / foldl / isEmpty`): the kernel cannot prove even `"a".quote ≠ "b".quote`.
What is proved about the TEXT of a key is therefore proved under the hypotheses `QuoteCode` (below) and `QuoteHead`
(Proofs/WithKeyFaithRender1.lean); both are true of the compiled function (`"`, escaped characters, `"`).
-/
namespace DAVerif.C04K
open DAVerif DAVerif.Sql

/-- **Assumption about Lean's `String.quote`** (opaque to the kernel): it is a prefix code – from a text that starts
with a quoted string, the string and the rest of the text can be read off. -/
def QuoteCode : Prop :=
  ∀ (a b : String) (r1 r2 : List Char), a.quote.toList ++ r1 = b.quote.toList ++ r2 → a = b ∧ r1 = r2

def eqFreeStr (s : String) : Bool := !s.toList.contains '='

/-- what the model's renderer needs to be injective on a pipeline: no `convert_records` node (its record map is
rendered by its `repr` only) and no `=` in the NEW names of a `rename_columns` / the OLD names of a `map_columns`
(the model renders a mapping entry as `quote (k ++ "=" ++ v)`: a model artefact, the code prints the `repr` of the
dictionary) -/
def renderOKb : Ops → Bool
  | .table _ _ => true
  | .extend s _ _ _ _ _ | .project s _ _ | .selectRows s _ | .selectCols s _ | .dropCols s _ | .order s _ _ _ => renderOKb s
  | .rename s m => renderOKb s && m.all (fun kv => eqFreeStr kv.1)
  | .mapCols s m _ => renderOKb s && m.all (fun kv => eqFreeStr kv.1)
  | .join a b _ _ _ | .concat a b _ _ _ => renderOKb a && renderOKb b
  | .convert _ _ => false

def RenderOK (p : Ops) : Prop := renderOKb p = true
instance (p : Ops) : Decidable (RenderOK p) := by unfold RenderOK; exact inferInstance

/-- the words `ops_key` starts with -/
def kinds : List String := ["table", "extend", "project", "select", "order", "map_columns", "rename", "join", "concat"]

/-- `k` is an `ops_key` text for the operator node `n`: `kind(<str(n)>)` or `kind(<str(n)>,<term keys>)` -/
def IsKeyOf (n : Ops) (k : String) : Prop :=
  ∃ kind ∈ kinds, k = kind ++ "(" ++ renderOps n ++ ")" ∨ ∃ ks, k = kind ++ "(" ++ renderOps n ++ "," ++ renderStrs ks ++ ")"

theorem isKeyOf_keyOfNode {kind : String} (hk : kind ∈ kinds) (n : Ops) (ks : List String) {k : String}
    (h : keyOfNode kind n ks = some k) : IsKeyOf n k := by
  simp only [keyOfNode, Option.some.injEq] at h
  exact ⟨kind, hk, Or.inr ⟨ks, h.symm⟩⟩

theorem isKeyOf_order (n : Ops) : IsKeyOf n ("order(" ++ renderOps n ++ ")") :=
  ⟨"order", by decide, Or.inl (by
    have : ("order(" : String) = "order" ++ "(" := by decide
    rw [this])⟩

end DAVerif.C04K
