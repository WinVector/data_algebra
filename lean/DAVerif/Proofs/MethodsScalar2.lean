import DAVerif.Proofs.MethodsScalar
import DAVerif.Proofs.MethodsFloor
/-!
C05, row-wise methods, the operators whose proofs need the floor lemmas of `MethodsFloor` (Mathlib order facts of ℚ):
SQL rounding, integer casts, SQLite `%`.
-/
namespace DAVerif.C05
open DAVerif DAVerif.Doc

/-- SQL `ROUND(x·10ᵏ)/10ᵏ` (half away from zero) is the documented rounding wherever that is determined (no tie) -/
theorem sqlite_around (i : Bool) (args v) (h : docScalar "around" args = some v) : ThetaSqlX.scalar i "around" args = v := by
  obtain ⟨x, k, R, rfl, hd, hn, rfl⟩ := doc_around h
  show ThetaSql.scalar "around" [.v (.num x), .v (.num k)] = _
  rw [sql_around x k hd, halfAway_eq_nearest hn]

theorem scalar_round {i : Bool} {args : List ArgV} {v : Val}
    (h : num1 (fun x => (nearest? x).map (fun r => .num (r : Rat))) args = some v) :
    ThetaX.scalar "round" args = v ∧ ThetaSqlX.scalar i "round" args = v := by
  obtain ⟨a, rfl, h'⟩ := doc_round h
  exact ⟨pandas_around _ v h', sqlite_around i _ v h'⟩

/-- `astype("int64")` / `CAST(x AS INT64)` truncate; on an integer, the documented domain, that is the value itself -/
theorem scalar_as_int64 {i : Bool} {args : List ArgV} {v : Val}
    (h : num1 (fun x => if x.den = 1 then some (.num x) else none) args = some v) :
    ThetaX.scalar "as_int64" args = v ∧ ThetaSqlX.scalar i "as_int64" args = v := by
  obtain ⟨x, rfl, hf⟩ := num1_some h
  split at hf
  · obtain rfl := Option.some.inj hf
    have e : Val.num ((ThetaX.truncZ x : Int) : Rat) = .num x := by rw [truncZ_of_den_one x ‹_›]
    exact ⟨e, e⟩
  · cases hf

/-- the documented modulo (sign of the divisor) is numpy's; SQLite's `%` casts both operands to INTEGER and takes the
sign of the dividend, which is the same on non-negative integers only -/
theorem modlike {x y : Rat} {v : Val}
    (hf : (if y = 0 then none else some (Val.num (x - y * ((x / y).floor : Int)))) = some v) :
    Theta.arith2 Theta.pyMod (.num x) (.num y) = v ∧
    ((decide (0 ≤ x) && decide (0 < y) && x.den == 1 && y.den == 1) = true →
      Theta.arith2 ThetaSqlX.sqliteMod (.num x) (.num y) = v) := by
  refine ⟨arith2_guard (fun x y => x - y * ((x / y).floor : Int)) hf, fun hg => ?_⟩
  simp only [Bool.and_eq_true, decide_eq_true_eq, beq_iff_eq] at hg
  obtain ⟨⟨⟨hx, hy⟩, hdx⟩, hdy⟩ := hg
  rw [if_neg (ne_of_gt hy)] at hf
  obtain rfl := Option.some.inj hf
  exact arith2_some (sqliteMod_nonneg_int x y hx hy hdx hdy)

end DAVerif.C05
