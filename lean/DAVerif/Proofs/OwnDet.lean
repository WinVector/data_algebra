import DAVerif.Proofs.Own
/-!
# Step bodies do not depend on set iteration order  (`Heap/Own.lean`, used by `Props/C19.lean`)

`Rel R m₁ m₂`: two step bodies allocate the same number of frames, perform in-place writes of the same kinds on the
same registers in the same order, and return `R`-related values.  `Equiv = Rel Eq`.
-/
namespace DAVerif.Own

def shapeOf : Eff → Option (WKind × Reg)
  | .alloc _ _ => none
  | .write k r _ _ => some (k, r)

def Rel {α : Type} (R : α → α → Prop) (m₁ m₂ : B α) : Prop :=
  ∀ n, R (m₁ n).1 (m₂ n).1 ∧ (m₁ n).2.1 = (m₂ n).2.1 ∧ (m₁ n).2.2.map shapeOf = (m₂ n).2.2.map shapeOf

abbrev Equiv {α : Type} (m₁ m₂ : B α) : Prop := Rel Eq m₁ m₂

def HSim (h₁ h₂ : H) : Prop := h₁.reg = h₂.reg ∧ h₁.f.nrows = h₂.f.nrows

theorem bind_eq {α β : Type} (m : B α) (f : α → B β) : (m >>= f) = B.bind m f := rfl
theorem pure_eq {α : Type} (a : α) : (pure a : B α) = B.pure a := rfl

theorem Equiv.refl {α : Type} (m : B α) : Equiv m m := fun _ => ⟨rfl, rfl, rfl⟩

theorem Rel.bind {α β : Type} {R : α → α → Prop} {S : β → β → Prop} {m₁ m₂ : B α} {f₁ f₂ : α → B β}
    (hm : Rel R m₁ m₂) (hf : ∀ a₁ a₂, R a₁ a₂ → Rel S (f₁ a₁) (f₂ a₂)) :
    Rel S (m₁ >>= f₁) (m₂ >>= f₂) := by
  intro n
  obtain ⟨h1, h2, h3⟩ := hm n
  simp only [bind_eq, B.bind]
  have := hf _ _ h1 (m₁ n).2.1
  rw [h2] at this
  obtain ⟨g1, g2, g3⟩ := this
  refine ⟨?_, ?_, ?_⟩
  · rw [h2]; exact g1
  · rw [h2]; exact g2
  · rw [List.map_append, List.map_append, h3, h2, g3]

theorem Equiv.bind {α β : Type} {m₁ m₂ : B α} {f₁ f₂ : α → B β}
    (hm : Equiv m₁ m₂) (hf : ∀ a, Equiv (f₁ a) (f₂ a)) : Equiv (m₁ >>= f₁) (m₂ >>= f₂) :=
  Rel.bind hm (fun a₁ a₂ h => by subst h; exact hf a₁)

theorem Rel.pure {α : Type} {R : α → α → Prop} {a₁ a₂ : α} (h : R a₁ a₂) : Rel R (pure a₁ : B α) (pure a₂) :=
  fun _ => ⟨h, rfl, rfl⟩

theorem Rel.ite {α : Type} {R : α → α → Prop} {c : Prop} [Decidable c] {a₁ a₂ b₁ b₂ : B α}
    (ha : Rel R a₁ a₂) (hb : Rel R b₁ b₂) : Rel R (if c then a₁ else b₁) (if c then a₂ else b₂) := by
  split
  · exact ha
  · exact hb

theorem applyW_nrows (k : WKind) (c : Col) (f : Frame) : (applyW k c f).nrows = f.nrows := by
  cases k <;> rfl

theorem alloc_sim (w₁ w₂ : String) (c₁ c₂ : List Col) (n : Nat) : Rel HSim (alloc w₁ c₁ n) (alloc w₂ c₂ n) :=
  fun _ => ⟨⟨rfl, rfl⟩, rfl, rfl⟩

theorem write_sim (k : WKind) {h₁ h₂ : H} (hs : HSim h₁ h₂) (c₁ c₂ : Col) :
    Rel HSim (write k h₁ c₁) (write k h₂ c₂) := by
  intro n
  refine ⟨⟨hs.1, ?_⟩, rfl, ?_⟩
  · simp only [write, applyW_nrows]; exact hs.2
  · simp [write, shapeOf, hs.1]

theorem cleanCopy_sim {h₁ h₂ : H} (hs : HSim h₁ h₂) : Rel HSim (cleanCopy h₁) (cleanCopy h₂) := by
  unfold cleanCopy
  rw [hs.2]
  exact alloc_sim _ _ _ _ _

theorem setAll_sim {h₁ h₂ : H} (hs : HSim h₁ h₂) (cs₁ cs₂ : List Col) (hl : cs₁.length = cs₂.length) :
    Rel HSim (setAll h₁ cs₁) (setAll h₂ cs₂) := by
  induction cs₁ generalizing cs₂ h₁ h₂ with
  | nil =>
    cases cs₂ with
    | nil => exact Rel.pure hs
    | cons _ _ => simp at hl
  | cons c cs ih =>
    cases cs₂ with
    | nil => simp at hl
    | cons c' cs' =>
      simp only [setAll, foldH]
      exact Rel.bind (write_sim _ hs c c') (fun a₁ a₂ h => ih h cs' (by simpa using hl))

theorem Equiv.trans {α : Type} {m₁ m₂ m₃ : B α} (h₁ : Equiv m₁ m₂) (h₂ : Equiv m₂ m₃) : Equiv m₁ m₃ :=
  fun n => ⟨(h₁ n).1.trans (h₂ n).1, (h₁ n).2.1.trans (h₂ n).2.1, (h₁ n).2.2.trans (h₂ n).2.2⟩

theorem bind_assoc {α β γ : Type} (m : B α) (f : α → B β) (g : β → B γ) :
    (m >>= f) >>= g = m >>= fun a => f a >>= g := by
  funext n
  simp only [bind_eq, B.bind, List.append_assoc]

theorem foldH_perm {α : Type} {f : H → α → B H}
    (hf : ∀ h x y, Equiv (f h x >>= (f · y)) (f h y >>= (f · x)))
    {xs ys : List α} (hp : xs.Perm ys) (h : H) : Equiv (foldH xs h f) (foldH ys h f) := by
  induction hp generalizing h with
  | nil => exact .refl _
  | cons x _ ih => exact Equiv.bind (.refl _) ih
  | swap x y l =>
    show Equiv (f h y >>= fun h₁ => f h₁ x >>= (foldH l · f)) (f h x >>= fun h₁ => f h₁ y >>= (foldH l · f))
    rw [← bind_assoc, ← bind_assoc]
    exact Equiv.bind (hf h y x) fun _ => .refl _
  | trans _ _ ih₁ ih₂ => exact (ih₁ h).trans (ih₂ h)

theorem delAll_equiv (h : H) {xs₁ xs₂ : List Col} (hp : xs₁.Perm xs₂) : Equiv (delAll h xs₁) (delAll h xs₂) := by
  refine foldH_perm (fun h x y n => ?_) hp h
  simp [bind_eq, B.bind, write, applyW, shapeOf, List.filter_filter, Bool.and_comm]

/-- two rounds of the coalesce loop of `_natural_join_step` drop the two `_tmp_right_col` columns, in either order -/
theorem coalesce_equiv (res : H) {xs₁ xs₂ : List Col} (hp : xs₁.Perm xs₂) :
    Equiv (foldH xs₁ res coalesceOne) (foldH xs₂ res coalesceOne) := by
  refine foldH_perm (fun h x y n => ?_) hp res
  simp [coalesceOne, bind_eq, B.bind, write, alloc, applyW, shapeOf, List.filter_filter, Bool.and_comm]

/-- a set-iteration order is a permutation of the set's elements -/
def OrdOK (ord : Ord) : Prop := ∀ l, (ord l).Perm l

theorem ord_perm {ord₁ ord₂ : Ord} (h₁ : OrdOK ord₁) (h₂ : OrdOK ord₂) (l : List Col) : (ord₁ l).Perm (ord₂ l) :=
  (h₁ l).trans (h₂ l).symm

theorem addColumns_equiv {ord₁ ord₂ : Ord} (h₁ : OrdOK ord₁) (h₂ : OrdOK ord₂) (res new : H) :
    Equiv (addColumns ord₁ res new) (addColumns ord₂ res new) :=
  Rel.ite (Equiv.refl _) <| Equiv.bind (Equiv.refl _) fun _ => Rel.ite (Equiv.refl _) <| Rel.ite
    (Equiv.bind (delAll_equiv res (ord_perm h₁ h₂ _)) fun _ => Equiv.refl _) (Equiv.refl _)

/-- the scratch frame of a windowed extend is built from a column list that begins with the partition columns in
set-iteration order: for two orders the scratch frames have the same register and row count but differently ordered
columns, hence `HSim` and not equality -/
theorem winScratchA_sim (cl₁ cl₂ : List Col) (b : Bool) (keys : List Col) (res : H) :
    Rel HSim (winScratchA cl₁ b keys res) (winScratchA cl₂ b keys res) := by
  unfold winScratchA
  refine Rel.bind (alloc_sim _ _ _ _ _) (fun a₁ a₂ ha => ?_)
  refine Rel.bind (cleanCopy_sim ha) (fun s₁ s₂ hs => ?_)
  refine Rel.bind (write_sim _ hs _ _) (fun s₁ s₂ hs => ?_)
  refine Rel.bind (R := HSim) ?_ (fun s₁ s₂ hs => ?_)
  · cases b
    · exact Rel.pure hs
    · simp only [if_true]
      rw [hs.2]
      exact Rel.bind (alloc_sim _ _ _ _ _) (fun t₁ t₂ ht => cleanCopy_sim ht)
  · exact Rel.bind (write_sim _ hs _ _) (fun s₁ s₂ hs => setAll_sim hs _ _ rfl)

/-- equality is restored by `subframe.loc[:, keys]`: what is copied out has the columns `keys` and the scratch frame's
row count, whatever the order of its other columns (effect shapes erase the allocated column lists) -/
theorem winScratchB_equiv (keys : List Col) {s₁ s₂ : H} (hs : HSim s₁ s₂) :
    Equiv (winScratchB keys s₁) (winScratchB keys s₂) := by
  intro n
  simp [winScratchB, bind_eq, B.bind, alloc, cleanCopy, shapeOf, hs.2]

theorem winOrderCols_length {ord₁ ord₂ : Ord} (h₁ : OrdOK ord₁) (h₂ : OrdOK ord₂) (op : ExtendOp) :
    (winOrderCols ord₁ op).length = (winOrderCols ord₂ op).length := by
  unfold winOrderCols
  simp only [List.length_append]
  have hp := ord_perm h₁ h₂ op.partitionBy.eraseDups
  rw [hp.length_eq]
  have : op.orderBy.filter (fun x => decide (x ∉ ord₁ op.partitionBy.eraseDups)) =
      op.orderBy.filter (fun x => decide (x ∉ ord₂ op.partitionBy.eraseDups)) := by
    apply List.filter_congr
    intro c _
    simp [hp.mem_iff]
  rw [this]

theorem planExtend_equiv {ord₁ ord₂ : Ord} (h₁ : OrdOK ord₁) (h₂ : OrdOK ord₂) (op : ExtendOp) (res : H) :
    Equiv (planExtend ord₁ op res) (planExtend ord₂ op res) := by
  unfold planExtend
  refine Rel.ite (Equiv.refl _) <| Rel.ite (Equiv.bind (Equiv.refl _) fun _ => addColumns_equiv h₁ h₂ _ _) ?_
  refine Equiv.bind (Equiv.refl _) fun res' => ?_
  rw [winOrderCols_length h₁ h₂ op]
  refine Rel.bind (winScratchA_sim _ _ _ _ _) fun s₁ s₂ hs => ?_
  exact Equiv.bind (Equiv.refl _) fun _ => Equiv.bind (winScratchB_equiv _ hs) fun _ => addColumns_equiv h₁ h₂ _ _

theorem planJoin_equiv {ord₁ ord₂ : Ord} (h₁ : OrdOK ord₁) (h₂ : OrdOK ord₂) (op : JoinOp) (l r : H) :
    Equiv (planJoin ord₁ op l r) (planJoin ord₂ op l r) := by
  unfold planJoin
  refine Rel.ite (Equiv.refl _) ?_
  iterate 5 refine Equiv.bind (Equiv.refl _) fun _ => ?_
  exact Equiv.bind (coalesce_equiv _ (ord_perm h₁ h₂ _)) fun _ => Equiv.refl _

theorem planUn_equiv {ord₁ ord₂ : Ord} (h₁ : OrdOK ord₁) (h₂ : OrdOK ord₂) (k : UnKind) (res : H) :
    Equiv (planUn ord₁ k res) (planUn ord₂ k res) := by
  cases k with
  | extend op => exact planExtend_equiv h₁ h₂ op res
  | _ => exact Equiv.refl _

theorem planBin_equiv {ord₁ ord₂ : Ord} (h₁ : OrdOK ord₁) (h₂ : OrdOK ord₂) (k : BinKind) (l r : H) :
    Equiv (planBin ord₁ k l r) (planBin ord₂ k l r) := by
  cases k with
  | join op => exact planJoin_equiv h₁ h₂ op l r
  | concat op => exact Equiv.refl _

end DAVerif.Own
