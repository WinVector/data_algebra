import DAVerif.Proofs.SqlReach
import DAVerif.Proofs.SolReplicate
import DAVerif.Proofs.SqlAllTrans
/-!
C21, SQL side of `replicate_rows_query`: a plain `extend`, an INNER join with the table of powers, a `select_rows`
and a `drop_columns` – inside the join fragment of `Proofs/SqlAllTrans.lean` for every dialect configuration; no
window and no `order_rows`, so the strong scope (`OrdersNullFree`) holds for every input and the SQL result has the
promised rows in the promised order.
-/
namespace DAVerif
namespace Sol21Sql
open DAVerif.Sql DAVerif.Sol DAVerif.Solutions DAVerif.Spec21

theorem rep_reachable {powerOf : Nat → Nat} {name : String} {cols : List String} {p : Ops}
    {countCol seqCol joinTemp : String} {maxCount : Nat} {frame : Table} (hnd : cols.Nodup)
    (h : replicateRowsQuery powerOf (.table name cols) countCol seqCol joinTemp maxCount = .ok (p, frame)) :
    Reachable p := by
  simp only [replicateRowsQuery, bind_eq_ok, pure_ok, asrt, ok?_eq_ok, mkTable] at h
  obtain ⟨_, _, _, hcm, _, _, _, _, _, _, _, _, o1, h1, b, ⟨_, _, _, hbn, rfl⟩, q, hq, hpq⟩ := h
  obtain ⟨rfl, _⟩ := Prod.mk.inj hpq
  have hne : cols ≠ [] := by
    intro e
    rw [e] at hcm
    simp [Ops.cols] at hcm
  have hb : Reachable (.table joinTemp [powerCol, seqCol]) :=
    Reachable.table _ _ (by simp) (nodupB_iff.mp hbn)
  refine Reachable.buildChain
    (Reachable.step (Reachable.table name cols hne hnd) (by intro b hb; cases hb) h1) ?_ hq
  intro s hs b' hb'
  simp only [replicateSteps, List.drop_succ_cons, List.drop_zero, List.mem_cons, List.not_mem_nil, or_false] at hs
  rcases hs with rfl | rfl | rfl
  · simp only [Step.argOps, List.mem_singleton] at hb'
    exact hb' ▸ hb
  · cases hb'
  · cases hb'

theorem rep_noConcat (name : String) (cols : List String) (cc sc jt : String) :
    noConcat (repTree (.table name cols) cc sc jt) = true := rfl

theorem rep_good (cfg : SqlCfg) {env : Env} {name jt cc sc : String} {cols : List String} {t0 frame : Table}
    (hr : Reachable (repTree (.table name cols) cc sc jt))
    (henv : env.lookup name = some t0) (hsub : subset cols t0.cols = true)
    (hjt : env.lookup jt = some frame) (hfc : frame.cols = [powerCol, sc]) :
    Good cfg env (repTree (.table name cols) cc sc jt) := by
  refine ⟨rfl, C26_reachable_wf hr, C01_reachable_sqlwf hr, rfl, C16_reachable_joinwf hr, rfl, ?_, rfl, ?_⟩
  · simp [JoinsNative, joinsNativeb, repTree]
  · intro nc hnc
    have : nc = (name, cols) ∨ nc = (jt, [powerCol, sc]) := by simpa [repTree, Ops.tables] using hnc
    rcases this with rfl | rfl
    · exact ⟨t0, henv, subset_iff.mp hsub, fun h => by cases h⟩
    · exact ⟨frame, hjt, by rw [hfc]; exact fun c hc => hc, fun h => by cases h⟩

theorem rep_ordersNullFree (Θ : Interp) (cfg : SemCfg) (env : Env) (name : String) (cols : List String)
    (cc sc jt : String) : OrdersNullFree Θ cfg env (repTree (.table name cols) cc sc jt) :=
  ⟨⟨trivial, fun _ _ _ _ _ hc => by cases hc⟩, trivial⟩

end Sol21Sql
end DAVerif
