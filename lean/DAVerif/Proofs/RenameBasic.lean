import DAVerif.Spec.Rename
/-!
The list and row functions the model is written with commute with an injective map of the names; node-wise maps
(`NodeMap`) of expressions, pipelines and builder calls, with `Ops.cols` under such a map.
-/
namespace DAVerif
namespace Ren

open Function (Injective)

variable {f : String → String}

theorem beq_inj (hf : Injective f) (a b : String) : (f a == f b) = (a == b) := by
  by_cases h : a = b
  · subst h; rw [beq_self_eq_true, beq_self_eq_true]
  · have : f a ≠ f b := fun e => h (hf e)
    rw [beq_eq_false_iff_ne.mpr h, beq_eq_false_iff_ne.mpr this]

theorem bne_inj (hf : Injective f) (a b : String) : (f a != f b) = (a != b) := by
  simp only [bne, beq_inj hf]

@[simp] theorem contains_map (hf : Injective f) (l : List String) (x : String) :
    (l.map f).contains (f x) = l.contains x := by
  induction l with
  | nil => rfl
  | cons a l ih => simp only [List.map_cons, List.contains_cons, beq_inj hf, ih]

theorem elem_map (hf : Injective f) (l : List String) (x : String) :
    List.elem (f x) (l.map f) = List.elem x l := contains_map hf l x

theorem mem_map_iff (hf : Injective f) (l : List String) (x : String) : f x ∈ l.map f ↔ x ∈ l := by
  constructor
  · intro h
    obtain ⟨y, hy, e⟩ := List.mem_map.mp h
    exact hf e ▸ hy
  · exact List.mem_map_of_mem

theorem filter_map' {α β : Type} {g : α → β} (l : List α) (p : β → Bool) (q : α → Bool) (h : ∀ x, p (g x) = q x) :
    (l.map g).filter p = (l.filter q).map g := by
  rw [List.filter_map]
  exact congrArg _ (List.filter_congr (fun x _ => h x))

theorem filter_contains (hf : Injective f) (l m : List String) :
    (l.map f).filter (fun c => (m.map f).contains c) = (l.filter (fun c => m.contains c)).map f :=
  filter_map' l _ _ (fun x => contains_map hf m x)

theorem filter_not_contains (hf : Injective f) (l m : List String) :
    (l.map f).filter (fun c => !(m.map f).contains c) = (l.filter (fun c => !m.contains c)).map f :=
  filter_map' l _ _ (fun x => by simp only [contains_map hf])

theorem all_map' {α β : Type} (g : α → β) (l : List α) (p : β → Bool) (q : α → Bool) (h : ∀ x, p (g x) = q x) :
    (l.map g).all p = l.all q := by
  induction l with
  | nil => rfl
  | cons a l ih => simp only [List.map_cons, List.all_cons, h, ih]

theorem any_map' {α β : Type} (g : α → β) (l : List α) (p : β → Bool) (q : α → Bool) (h : ∀ x, p (g x) = q x) :
    (l.map g).any p = l.any q := by
  induction l with
  | nil => rfl
  | cons a l ih => simp only [List.map_cons, List.any_cons, h, ih]

theorem eraseDups_map (hf : Injective f) (l : List String) : (l.map f).eraseDups = l.eraseDups.map f := by
  generalize hn : l.length = n
  induction n using Nat.strongRecOn generalizing l with
  | _ n ih =>
    cases l with
    | nil => simp
    | cons a l =>
      simp only [List.map_cons, List.eraseDups_cons]
      have h1 : (l.map f).filter (fun b => !b == f a) = (l.filter (fun b => !b == a)).map f :=
        filter_map' l _ _ (fun x => by simp only [beq_inj hf])
      rw [h1]
      have hlen : (l.filter (fun b => !b == a)).length < n := by
        have := List.length_filter_le (fun b => !b == a) l
        simp only [List.length_cons] at hn
        omega
      rw [ih _ hlen _ rfl]

theorem appendNew_map (hf : Injective f) (xs ys : List String) :
    appendNew (xs.map f) (ys.map f) = (appendNew xs ys).map f := by
  unfold appendNew
  induction ys generalizing xs with
  | nil => rfl
  | cons y ys ih =>
    simp only [List.map_cons, List.foldl_cons, contains_map hf]
    split
    · exact ih xs
    · have : xs.map f ++ [f y] = (xs ++ [y]).map f := by simp
      rw [this]; exact ih _

theorem unionL_map (hf : Injective f) (xs ys : List String) :
    Ops.unionL (xs.map f) (ys.map f) = (Ops.unionL xs ys).map f := appendNew_map hf xs ys

theorem subset_map (hf : Injective f) (a b : List String) : subset (a.map f) (b.map f) = subset a b := by
  unfold subset
  exact all_map' f a _ _ (fun x => contains_map hf b x)

theorem disjoint_map (hf : Injective f) (a b : List String) : disjoint (a.map f) (b.map f) = disjoint a b := by
  unfold disjoint
  exact all_map' f a _ _ (fun x => by simp only [contains_map hf])

theorem nodupB_map (hf : Injective f) (a : List String) : nodupB (a.map f) = nodupB a := by
  simp only [nodupB, eraseDups_map hf, List.length_map]

theorem inter_map (hf : Injective f) (a b : List String) : inter (a.map f) (b.map f) = (inter a b).map f :=
  filter_contains hf a b

theorem map_eq_map_cases {α β γ : Type} {x : Except Err α} {y : Except Err β} {g : α → γ} {h : β → γ}
    (e : x.map g = y.map h) :
    (∃ er, x = .error er ∧ y = .error er) ∨ ∃ a b, x = .ok a ∧ y = .ok b ∧ g a = h b := by
  cases x with
  | error a =>
    cases y with
    | error b => exact Or.inl ⟨a, rfl, congrArg Except.error (Except.error.inj e).symm⟩
    | ok b => cases e
  | ok a =>
    cases y with
    | error b => cases e
    | ok b => exact Or.inr ⟨a, b, rfl, rfl, Except.ok.inj e⟩

theorem find?_map_key {β γ : Type} (hf : Injective f) (g : β → γ) (m : List (String × β)) (k : String) :
    (m.map (fun kv => (f kv.1, g kv.2))).find? (fun kv => kv.1 == f k)
      = (m.find? (fun kv => kv.1 == k)).map (fun kv => (f kv.1, g kv.2)) := by
  induction m with
  | nil => rfl
  | cons a m ih =>
    simp only [List.map_cons, List.find?_cons, beq_inj hf]
    split
    · rfl
    · exact ih

theorem lookupLast_map {β γ : Type} (hf : Injective f) (g : β → γ) (m : List (String × β)) (k : String) :
    lookupLast (m.map (fun kv => (f kv.1, g kv.2))) (f k) = (lookupLast m k).map g := by
  unfold lookupLast
  rw [← List.map_reverse, find?_map_key hf g]
  cases (m.reverse.find? (fun kv => kv.1 == k)) <;> rfl

theorem lookup_map {β γ : Type} (hf : Injective f) (g : β → γ) (m : List (String × β)) (k : String) :
    (m.map (fun kv => (f kv.1, g kv.2))).lookup (f k) = (m.lookup k).map g := by
  induction m with
  | nil => rfl
  | cons a m ih =>
    obtain ⟨a1, a2⟩ := a
    simp only [List.map_cons, List.lookup_cons, beq_inj hf]
    split
    · rfl
    · exact ih

theorem filter_key_map {β γ : Type} (g : β → γ) (d : List (String × β)) (p q : String → Bool) (h : ∀ x, p (f x) = q x) :
    (d.map (fun kv => (f kv.1, g kv.2))).filter (fun kv => p kv.1)
      = (d.filter (fun kv => q kv.1)).map (fun kv => (f kv.1, g kv.2)) :=
  filter_map' (g := fun kv : String × β => (f kv.1, g kv.2)) d (fun kv => p kv.1) (fun kv => q kv.1) (fun kv => h kv.1)

theorem lookupLast_getD_map (hf : Injective f) (m : List (String × String)) (c : String) :
    (lookupLast (m.map (fun kv => (f kv.1, f kv.2))) (f c)).getD (f c) = f ((lookupLast m c).getD c) := by
  rw [lookupLast_map hf f m c]
  cases lookupLast m c <;> rfl

theorem dictSet_map {β γ : Type} (hf : Injective f) (g : β → γ) (d : List (String × β)) (k : String) (v : β) :
    Sql.dictSet (d.map (fun kv => (f kv.1, g kv.2))) (f k) (g v)
      = (Sql.dictSet d k v).map (fun kv => (f kv.1, g kv.2)) := by
  unfold Sql.dictSet
  have h1 : (d.map (fun kv => (f kv.1, g kv.2))).any (fun kv => kv.1 == f k) = d.any (fun kv => kv.1 == k) :=
    any_map' _ d _ _ (fun x => by simp only [beq_inj hf])
  rw [h1]
  split
  · simp only [List.map_map]
    apply List.map_congr_left
    intro kv _
    simp only [Function.comp, beq_inj hf]
    split <;> rfl
  · simp

theorem Row.get_rename (hf : Injective f) (r : Row) (c : String) : (r.rename f).get (f c) = r.get c := by
  unfold Row.get Row.rename
  have := lookup_map hf (fun v : Val => v) r c
  rw [this]
  cases r.lookup c <;> rfl

theorem Row.set_rename (hf : Injective f) (r : Row) (c : String) (v : Val) :
    (r.rename f).set (f c) v = (r.set c v).rename f := by
  induction r with
  | nil => rfl
  | cons a r ih =>
    obtain ⟨k, x⟩ := a
    simp only [Row.rename, List.map_cons, Row.set, beq_inj hf] at ih ⊢
    split
    · rfl
    · simp only [List.map_cons, ih]

theorem Row.setAll_rename (hf : Injective f) (r : Row) (kvs : List (String × Val)) :
    (r.rename f).setAll (kvs.map (fun kv => (f kv.1, kv.2))) = (r.setAll kvs).rename f := by
  unfold Row.setAll
  induction kvs generalizing r with
  | nil => rfl
  | cons a kvs ih =>
    simp only [List.map_cons, List.foldl_cons, Row.set_rename hf]
    exact ih _

theorem Row.select_rename (hf : Injective f) (r : Row) (cs : List String) :
    (r.rename f).select (cs.map f) = (r.select cs).rename f := by
  simp only [Row.select, Row.rename, List.map_map]
  apply List.map_congr_left
  intro c _
  simp only [Function.comp]
  rw [show (List.map (fun kv => (f kv.1, kv.2)) r) = Row.rename r f from rfl, Row.get_rename hf]

theorem Row.drop_rename (hf : Injective f) (r : Row) (cs : List String) :
    (r.rename f).drop (cs.map f) = (r.drop cs).rename f := by
  induction r with
  | nil => rfl
  | cons a r ih =>
    simp only [Row.drop, Row.rename, List.map_cons, List.filter_cons, contains_map hf] at ih ⊢
    split
    · simp only [List.map_cons, ih]
    · exact ih

theorem Row.rename_rename (r : Row) (g h : String → String) : (r.rename g).rename h = r.rename (h ∘ g) := by
  simp [Row.rename, List.map_map, Function.comp_def]

theorem Row.rename_congr (r : Row) (g h : String → String) (e : ∀ c ∈ r.keys, g c = h c) :
    r.rename g = r.rename h := by
  unfold Row.rename
  apply List.map_congr_left
  intro kv hkv
  have : kv.1 ∈ Row.keys r := List.mem_map_of_mem (f := (·.1)) hkv
  rw [e _ this]

theorem Row.vals_rename (hf : Injective f) (r : Row) (cs : List String) :
    (r.rename f).vals (cs.map f) = r.vals cs := by
  simp only [Row.vals, List.map_map]
  apply List.map_congr_left
  intro c _
  exact Row.get_rename hf r c

theorem Row.keys_rename (r : Row) (g : String → String) : (r.rename g).keys = r.keys.map g := by
  simp [Row.rename, Row.keys, List.map_map, Function.comp_def]

/-! What the renaming of columns and tables (Spec/Rename.lean) and the forgetting of the `method` flags (Spec/Erase.lean)
have in common: column names go through `col`, base-table names through `tab`, the `method` flag of every call through
`meth`, node by node; nothing else changes.  The model only ever compares names for equality and membership and never
reads a `method` flag, so it commutes with every such map whose `col` and `tab` are injective (`NodeMap.Blind`); the
statements of this and the following modules are made for such a map and read off for the two instances
(`renMap`; `C11Sql.eraseMap` of Proofs/EraseMap.lean). -/

mutual
def mapTerm (f : String → String) (g : Bool → Bool) : Term → Term
  | .value v => .value v
  | .col c => .col (f c)
  | .list vs => .list vs
  | .dict kvs => .dict kvs
  | .app op args i m => .app op (mapTerms f g args) i (g m)
def mapTerms (f : String → String) (g : Bool → Bool) : List Term → List Term
  | [] => []
  | t :: ts => mapTerm f g t :: mapTerms f g ts
end

structure NodeMap where
  col : String → String
  tab : String → String
  meth : Bool → Bool

namespace NodeMap
variable (φ : NodeMap)

def expr : Term → Term := mapTerm φ.col φ.meth

def assign (ops : Assign) : Assign := ops.map (fun kv => (φ.col kv.1, φ.expr kv.2))

def ops : Ops → Ops
  | .table name cs => .table (φ.tab name) (cs.map φ.col)
  | .extend src as part od rv w => .extend (ops src) (φ.assign as) (part.map φ.col) (od.map φ.col) (rv.map φ.col) w
  | .project src as g => .project (ops src) (φ.assign as) (g.map φ.col)
  | .selectRows src e => .selectRows (ops src) (φ.expr e)
  | .selectCols src cs => .selectCols (ops src) (cs.map φ.col)
  | .dropCols src ds => .dropCols (ops src) (ds.map φ.col)
  | .order src cs rv lim => .order (ops src) (cs.map φ.col) (rv.map φ.col) lim
  | .rename src m => .rename (ops src) (m.map (fun kv => (φ.col kv.1, φ.col kv.2)))
  | .mapCols src m ds => .mapCols (ops src) (m.map (fun kv => (φ.col kv.1, φ.col kv.2))) (ds.map φ.col)
  | .join a b oa ob jt => .join (ops a) (ops b) (oa.map φ.col) (ob.map φ.col) jt
  | .concat a b idc an bn => .concat (ops a) (ops b) (idc.map φ.col) an bn
  | .convert src rm => .convert (ops src) (rm.rename φ.col)

def bstep : Step → Step
  | .extend as part od rv => .extend (φ.assign as) (part.rename φ.col) (od.map φ.col) (rv.map φ.col)
  | .project as g => .project (φ.assign as) (g.map φ.col)
  | .selectRows e => .selectRows (e.map φ.expr)
  | .selectCols cs => .selectCols (cs.map φ.col)
  | .dropCols cs => .dropCols (cs.map φ.col)
  | .order cs rv lim => .order (cs.map φ.col) (rv.map φ.col) lim
  | .rename m => .rename (m.map (fun kv => (φ.col kv.1, φ.col kv.2)))
  | .mapCols m => .mapCols (m.map (fun kv => (φ.col kv.1, kv.2.map φ.col)))
  | .join b oa ob jt chk => .join (φ.ops b) (oa.map φ.col) (ob.map φ.col) jt chk
  | .concat b idc an bn => .concat (b.map φ.ops) (idc.map φ.col) an bn
  | .convert rm => .convert (rm.map (RecMap.rename φ.col))

structure Blind (φ : NodeMap) : Prop where
  col_inj : Injective φ.col
  tab_inj : Injective φ.tab

end NodeMap

variable {φ : NodeMap}

theorem mapTerms_eq_map (f : String → String) (g : Bool → Bool) (ts : List Term) :
    mapTerms f g ts = ts.map (mapTerm f g) := by
  induction ts with
  | nil => rfl
  | cons t ts ih => simp only [mapTerms, List.map_cons, ih]

theorem NodeMap.expr_app (φ : NodeMap) (op : String) (args : List Term) (i m : Bool) :
    φ.expr (.app op args i m) = .app op (args.map φ.expr) i (φ.meth m) :=
  congrArg (Term.app op · i (φ.meth m)) (mapTerms_eq_map φ.col φ.meth args)

mutual
theorem colsRaw_mapTerm (f : String → String) (g : Bool → Bool) : ∀ t : Term, (mapTerm f g t).colsRaw = t.colsRaw.map f
  | .value _ => rfl
  | .col _ => rfl
  | .list _ => rfl
  | .dict _ => rfl
  | .app _ args _ _ => by
    simp only [mapTerm, Term.colsRaw]
    exact colsRawList_mapTerms f g args
theorem colsRawList_mapTerms (f : String → String) (g : Bool → Bool) : ∀ ts : List Term,
    Term.colsRawList (mapTerms f g ts) = (Term.colsRawList ts).map f
  | [] => rfl
  | t :: ts => by
    simp only [mapTerms, Term.colsRawList, List.map_append, colsRaw_mapTerm f g t, colsRawList_mapTerms f g ts]
end

theorem colsRaw_expr (φ : NodeMap) (t : Term) : (φ.expr t).colsRaw = t.colsRaw.map φ.col := colsRaw_mapTerm _ _ t

theorem colsUsed_expr (hc : Injective φ.col) (t : Term) : (φ.expr t).colsUsed = t.colsUsed.map φ.col := by
  simp only [Term.colsUsed, colsRaw_expr, eraseDups_map hc]

theorem colsUsedOps_assign (hc : Injective φ.col) (ops : Assign) :
    Term.colsUsedOps (φ.assign ops) = (Term.colsUsedOps ops).map φ.col := by
  simp only [Term.colsUsedOps, NodeMap.assign]
  rw [← eraseDups_map hc]
  congr 1
  induction ops with
  | nil => rfl
  | cons a ops ih =>
    simp only [List.map_cons, List.flatMap_cons, List.map_append, colsRaw_expr, ih]

@[simp] theorem NodeMap.assign_keys (φ : NodeMap) (as : Assign) : (φ.assign as).map (·.1) = (as.map (·.1)).map φ.col := by
  simp [NodeMap.assign, List.map_map, Function.comp_def]

theorem cols_map (hf : Injective φ.col) (p : Ops) : (φ.ops p).cols = p.cols.map φ.col := by
  induction p with
  | table name cs => rfl
  | extend src ops part od rv w ih =>
    simp only [NodeMap.ops, Ops.cols, ih, NodeMap.assign_keys, appendNew_map hf]
  | project src ops g ih => simp only [NodeMap.ops, Ops.cols, NodeMap.assign_keys, appendNew_map hf]
  | selectRows src e ih => simpa only [NodeMap.ops, Ops.cols] using ih
  | selectCols src cs ih => rfl
  | dropCols src ds ih => simp only [NodeMap.ops, Ops.cols, ih, filter_not_contains hf]
  | order src cs rv lim ih => simpa only [NodeMap.ops, Ops.cols] using ih
  | rename src m ih =>
    simp only [NodeMap.ops, Ops.cols, ih, List.map_map]
    apply List.map_congr_left
    intro c _
    simp only [Function.comp]
    have := lookupLast_getD_map hf (m.map (fun kv => (kv.2, kv.1))) c
    simpa only [List.map_map, Function.comp_def] using this
  | mapCols src m ds ih =>
    simp only [NodeMap.ops, Ops.cols, ih, filter_not_contains hf, List.map_map]
    apply List.map_congr_left
    intro c _
    simp only [Function.comp]
    exact lookupLast_getD_map hf m c
  | join a b oa ob jt iha ihb =>
    have h1 := subset_map hf b.cols (appendNew a.cols b.cols)
    have h2 := subset_map hf (appendNew a.cols b.cols) b.cols
    unfold subset at h1 h2
    simp only [NodeMap.ops, Ops.cols, iha, ihb, appendNew_map hf, List.length_map, h1, h2]
    split
    · rfl
    · split <;> rfl
  | concat a b idc an bn iha ihb =>
    cases idc <;> simp [NodeMap.ops, Ops.cols, iha]
  | convert src rm ih => rfl

theorem sources_map (φ : NodeMap) (p : Ops) : (φ.ops p).sources = p.sources.map φ.ops := by cases p <;> rfl

def renMap (ρc : ColRen) (ρt : TabRen) : NodeMap := ⟨ρc, ρt, id⟩

mutual
theorem mapTerm_id_rename (ρ : ColRen) : ∀ t : Term, mapTerm ρ id t = t.rename ρ
  | .value _ => rfl
  | .col _ => rfl
  | .list _ => rfl
  | .dict _ => rfl
  | .app op args i m => congrArg (Term.app op · i m) (mapTerms_id_rename ρ args)
theorem mapTerms_id_rename (ρ : ColRen) : ∀ ts : List Term, mapTerms ρ id ts = Term.renameList ρ ts
  | [] => rfl
  | t :: ts => by simp only [mapTerms, Term.renameList, mapTerm_id_rename ρ t, mapTerms_id_rename ρ ts]
end

theorem renMap_expr (ρc : ColRen) (ρt : TabRen) : (renMap ρc ρt).expr = Term.rename ρc :=
  funext (mapTerm_id_rename ρc)

theorem renMap_assign (ρc : ColRen) (ρt : TabRen) : (renMap ρc ρt).assign = Assign.rename ρc := by
  funext ops
  rw [NodeMap.assign, renMap_expr]
  rfl

theorem renMap_ops (ρc : ColRen) (ρt : TabRen) : (renMap ρc ρt).ops = Ops.ren ρc ρt := by
  funext p
  induction p <;> simp only [NodeMap.ops, Ops.ren, renMap_assign, renMap_expr, *] <;> rfl

theorem renMap_bstep (ρc : ColRen) (ρt : TabRen) : (renMap ρc ρt).bstep = Step.ren ρc ρt := by
  funext s
  cases s <;> simp only [NodeMap.bstep, Step.ren, renMap_ops, renMap_assign, renMap_expr] <;> rfl

theorem colsRawList_rename (ρ : ColRen) : ∀ ts : List Term,
    Term.colsRawList (Term.renameList ρ ts) = (Term.colsRawList ts).map ρ :=
  fun ts => mapTerms_id_rename ρ ts ▸ colsRawList_mapTerms ρ id ts

theorem cols_ren (hf : Injective f) (ρt : TabRen) (p : Ops) : (p.ren f ρt).cols = p.cols.map f :=
  renMap_ops f ρt ▸ cols_map (φ := renMap f ρt) hf p

theorem map_bind {α β : Type} (g : α → α) (h : β → β) (x : Except Err α) (k k' : α → Except Err β)
    (hk : ∀ a, k' (g a) = (k a).map h) : (x.map g >>= k') = (x >>= k).map h := by
  cases x with
  | error e => rfl
  | ok a => exact hk a

theorem foldlM_map {σ α : Type} (g : σ → σ) (h : α → α) (step' step : σ → α → Except Err σ)
    (hs : ∀ s a, step' (g s) (h a) = (step s a).map g) (l : List α) (s : σ) :
    (l.map h).foldlM step' (g s) = (l.foldlM step s).map g := by
  induction l generalizing s with
  | nil => rfl
  | cons a l ih =>
    rw [List.map_cons, List.foldlM_cons, List.foldlM_cons, hs]
    exact map_bind _ _ _ _ _ ih

end Ren
end DAVerif
