import DAVerif.Spec.Used
import DAVerif.Proofs.SemBasic
import DAVerif.Proofs.BuilderBasics
/-!
Rows and tables that agree on a list of columns (`Row.agreeOn`, `RowsAgree` of `Spec/Used.lean`), and `Forall₂` lifted
through the list operations the semantics uses.  The base of every statement "an operator reads only these columns"
(`Proofs/SemCongr.lean`): of C10, and of the congruences behind C01, C06, C07, C12.
-/
namespace DAVerif

theorem mem_unionL {xs ys : List String} {c : String} : c ∈ Ops.unionL xs ys ↔ c ∈ xs ∨ c ∈ ys := mem_appendNew

theorem mem_filter_contains {l u : List String} {c : String} :
    c ∈ l.filter (fun x => u.contains x) ↔ c ∈ l ∧ c ∈ u := by
  simp [List.mem_filter]

theorem mem_filter_not_contains {l u : List String} {c : String} :
    c ∈ l.filter (fun x => !u.contains x) ↔ c ∈ l ∧ c ∉ u := by
  simp [List.mem_filter]

namespace Row

theorem get_zip_of_mem {cs : List String} {vs : List Val} (h : cs.length = vs.length) (r : Row)
    (hv : vs = cs.map r.get) {c : String} (hc : c ∈ cs) : Row.get (cs.zip vs) c = r.get c := by
  subst hv
  clear h
  induction cs with
  | nil => cases hc
  | cons k cs ih =>
    rw [List.map_cons, List.zip_cons_cons, get_cons]
    by_cases e : c = k
    · rw [if_pos (beq_iff_eq.mpr e), e]
    · rw [beq_false_of_ne e]
      exact ih ((List.mem_cons.mp hc).resolve_left e)

theorem keys_zip {cs : List String} {vs : List Val} (h : cs.length = vs.length) :
    Row.keys (cs.zip vs) = cs := by
  simp only [Row.keys]
  rw [List.map_fst_zip]
  omega

end Row

theorem Forall₂.imp {α β : Type} {R S : α → β → Prop} (h : ∀ a b, R a b → S a b) {l : List α} {l' : List β}
    (hl : Forall₂ R l l') : Forall₂ S l l' := by
  induction hl with
  | nil => exact .nil
  | cons hr _ ih => exact .cons (h _ _ hr) ih

theorem Row.agreeOn.mono {cs cs' : List String} {r r' : Row} (h : Row.agreeOn cs r r')
    (hs : ∀ c ∈ cs', c ∈ cs) : Row.agreeOn cs' r r' := fun c hc => h c (hs c hc)

theorem Row.agreeOn.vals {cs cs' : List String} {r r' : Row} (h : Row.agreeOn cs r r')
    (hs : ∀ c ∈ cs', c ∈ cs) : r.vals cs' = r'.vals cs' := by
  simp only [Row.vals]
  exact List.map_congr_left (fun c hc => h c (hs c hc))

theorem RowsAgree.mono {cs cs' : List String} {l l' : List Row} (h : RowsAgree cs l l')
    (hs : ∀ c ∈ cs', c ∈ cs) : RowsAgree cs' l l' :=
  Forall₂.imp (fun _ _ hr => hr.mono hs) h

theorem Row.agreeOn_select (r : Row) (cs : List String) : Row.agreeOn cs r (r.select cs) :=
  fun _ hc => (Row.select_get_of_mem hc).symm

theorem forall₂_refl_of {α : Type} {R : α → α → Prop} (h : ∀ a, R a a) : ∀ l : List α, Forall₂ R l l
  | [] => .nil
  | a :: l => .cons (h a) (forall₂_refl_of h l)

theorem forall₂_map_right_of {α β : Type} {R : α → β → Prop} (f : α → β) (h : ∀ a, R a (f a)) :
    ∀ l : List α, Forall₂ R l (l.map f)
  | [] => .nil
  | a :: l => .cons (h a) (forall₂_map_right_of f h l)

theorem RowsAgree_selectCols (cs : List String) (t : Table) : RowsAgree cs t.rows (t.selectCols cs).rows :=
  forall₂_map_right_of _ (fun r => Row.agreeOn_select r cs) _

theorem RowsAgree.symm {cs : List String} {l l' : List Row} (h : RowsAgree cs l l') : RowsAgree cs l' l := by
  induction h with
  | nil => exact .nil
  | cons h _ ih => exact .cons (fun c hc => (h c hc).symm) ih

theorem RowsAgree.trans {cs : List String} {l l' l'' : List Row} (h : RowsAgree cs l l')
    (h' : RowsAgree cs l' l'') : RowsAgree cs l l'' := by
  induction h generalizing l'' with
  | nil => cases h'; exact .nil
  | cons h _ ih =>
    cases h' with
    | cons h2 t2 => exact .cons (fun c hc => (h c hc).trans (h2 c hc)) (ih t2)

theorem forall₂_map_eq_iff {α β γ : Type} {f : α → γ} {g : β → γ} {l : List α} {l' : List β} :
    Forall₂ (fun a b => f a = g b) l l' ↔ l.map f = l'.map g := by
  constructor
  · intro h
    induction h with
    | nil => rfl
    | cons h _ ih => rw [List.map_cons, List.map_cons, h, ih]
  · intro h
    induction l generalizing l' with
    | nil =>
      cases l' with
      | nil => exact .nil
      | cons _ _ => cases h
    | cons r l ih =>
      cases l' with
      | nil => cases h
      | cons r' l' => exact .cons (List.cons.inj h).1 (ih (List.cons.inj h).2)

theorem Row.agreeOn_iff_select {cs : List String} {r r' : Row} : Row.agreeOn cs r r' ↔ r.select cs = r'.select cs :=
  ⟨Row.select_congr, fun h c hc => by
    rw [← Row.select_get_of_mem (r := r) hc, ← Row.select_get_of_mem (r := r') hc, h]⟩

theorem rowsAgree_iff_map_select {cs : List String} {l l' : List Row} :
    RowsAgree cs l l' ↔ l.map (·.select cs) = l'.map (·.select cs) :=
  Iff.trans ⟨Forall₂.imp fun _ _ => Row.agreeOn_iff_select.mp, Forall₂.imp fun _ _ => Row.agreeOn_iff_select.mpr⟩
    forall₂_map_eq_iff

theorem selectCols_eq_iff (u : List String) (t t' : Table) :
    t.selectCols u = t'.selectCols u ↔ RowsAgree u t.rows t'.rows := by
  simp only [Table.selectCols, Table.mk.injEq, true_and]
  exact rowsAgree_iff_map_select.symm

theorem Table.eq_of_rowsAgree {t t' : Table} {oc : List String} (hs : t.selectCols oc = t) (hs' : t'.selectCols oc = t')
    (h : RowsAgree oc t.rows t'.rows) : t = t' := by
  rw [← hs, ← hs']
  exact (selectCols_eq_iff oc t t').mpr h

theorem forall₂_map_left_of_mem {α β : Type} {R : β → α → Prop} {f : α → β} :
    ∀ {l : List α}, (∀ a ∈ l, R (f a) a) → Forall₂ R (l.map f) l
  | [], _ => .nil
  | a :: _, h => .cons (h a List.mem_cons_self) (forall₂_map_left_of_mem fun b hb => h b (List.mem_cons_of_mem _ hb))

theorem RowsAgree.extend_outside {sc w v : List String} {l l' : List Row}
    (h : RowsAgree v l l') (hv : ∀ c ∈ w, c ∈ sc → c ∈ v)
    (hl : ∀ r ∈ l, ∀ c, c ∉ sc → r.get c = .null) (hl' : ∀ r ∈ l', ∀ c, c ∉ sc → r.get c = .null) :
    RowsAgree w l l' := by
  induction h with
  | nil => exact .nil
  | cons hr _ ih =>
    refine .cons ?_ (ih (fun r hr => hl r (List.mem_cons_of_mem _ hr)) (fun r hr => hl' r (List.mem_cons_of_mem _ hr)))
    intro c hc
    by_cases hs : c ∈ sc
    · exact hr c (hv c hc hs)
    · rw [hl _ List.mem_cons_self c hs, hl' _ List.mem_cons_self c hs]

theorem Table.WF.null_outside {t : Table} (h : t.WF) {sc : List String} (hs : ∀ c ∈ t.cols, c ∈ sc) :
    ∀ r ∈ t.rows, ∀ c, c ∉ sc → r.get c = .null := fun _ hr c hc => h.get_null hr fun hm => hc (hs c hm)

theorem Table.WF.keys_in {t : Table} (h : t.WF) {sc : List String} (hs : ∀ c ∈ t.cols, c ∈ sc) :
    ∀ r ∈ t.rows, ∀ k ∈ r.keys, k ∈ sc := fun r hr k hk => hs k (h r hr ▸ hk)

section lift
variable {α β γ δ : Type}

theorem Forall₂.filter' {R : α → β → Prop} {p : α → Bool} {q : β → Bool} {l : List α} {l' : List β}
    (h : Forall₂ R l l') (hpq : ∀ a b, R a b → p a = q b) :
    Forall₂ R (l.filter p) (l'.filter q) := by
  induction h with
  | nil => exact .nil
  | cons hr _ ih =>
    simp only [List.filter_cons, hpq _ _ hr]
    split
    · exact .cons hr ih
    · exact ih

theorem Forall₂.map' {R : α → β → Prop} {P : γ → δ → Prop} {f : α → γ} {g : β → δ} {l : List α} {l' : List β}
    (h : Forall₂ R l l') (hfg : ∀ a b, R a b → P (f a) (g b)) :
    Forall₂ P (l.map f) (l'.map g) := by
  induction h with
  | nil => exact .nil
  | cons hr _ ih => exact .cons (hfg _ _ hr) ih

theorem Forall₂.map_eq {R : α → β → Prop} {f : α → γ} {g : β → γ} {l : List α} {l' : List β}
    (h : Forall₂ R l l') (hfg : ∀ a b, R a b → f a = g b) : l.map f = l'.map g := by
  induction h with
  | nil => rfl
  | cons hr _ ih => simp [hfg _ _ hr, ih]

theorem Forall₂.append' {R : α → β → Prop} {l1 l2 : List α} {l1' l2' : List β}
    (h1 : Forall₂ R l1 l1') (h2 : Forall₂ R l2 l2') : Forall₂ R (l1 ++ l2) (l1' ++ l2') := by
  induction h1 with
  | nil => exact h2
  | cons hr _ ih => exact .cons hr ih

theorem Forall₂.flatMap' {R : α → β → Prop} {P : γ → δ → Prop} {f : α → List γ} {g : β → List δ}
    {l : List α} {l' : List β} (h : Forall₂ R l l') (hfg : ∀ a b, R a b → Forall₂ P (f a) (g b)) :
    Forall₂ P (l.flatMap f) (l'.flatMap g) := by
  induction h with
  | nil => exact .nil
  | cons hr _ ih =>
    simp only [List.flatMap_cons]
    exact Forall₂.append' (hfg _ _ hr) ih

theorem Forall₂.any' {R : α → β → Prop} {p : α → Bool} {q : β → Bool} {l : List α} {l' : List β}
    (h : Forall₂ R l l') (hpq : ∀ a b, R a b → p a = q b) : l.any p = l'.any q := by
  induction h with
  | nil => rfl
  | cons hr _ ih => simp [List.any_cons, hpq _ _ hr, ih]

theorem Forall₂.findIdx' {R : α → β → Prop} {p : α → Bool} {q : β → Bool} {l : List α} {l' : List β}
    (h : Forall₂ R l l') (hpq : ∀ a b, R a b → p a = q b) : l.findIdx p = l'.findIdx q := by
  induction h with
  | nil => rfl
  | cons hr _ ih => simp [List.findIdx_cons, hpq _ _ hr, ih]

theorem Forall₂.take' {R : α → β → Prop} {l : List α} {l' : List β} (h : Forall₂ R l l') (n : Nat) :
    Forall₂ R (l.take n) (l'.take n) := by
  induction h generalizing n with
  | nil => simp; exact .nil
  | cons hr _ ih =>
    cases n with
    | zero => simp; exact .nil
    | succ n => simp only [List.take_succ_cons]; exact .cons hr (ih n)

theorem Forall₂.zipIdx' {R : α → β → Prop} {l : List α} {l' : List β} (h : Forall₂ R l l') (n : Nat) :
    Forall₂ (fun a b => R a.1 b.1 ∧ a.2 = b.2) (l.zipIdx n) (l'.zipIdx n) := by
  induction h generalizing n with
  | nil => exact .nil
  | cons hr _ ih => simp only [List.zipIdx_cons]; exact .cons ⟨hr, rfl⟩ (ih (n + 1))

theorem Forall₂.exists_zip {R : α → β → Prop} {l : List α} {l' : List β} (h : Forall₂ R l l') :
    ∃ z : List (α × β), z.map Prod.fst = l ∧ z.map Prod.snd = l' ∧ ∀ p ∈ z, R p.1 p.2 := by
  induction h with
  | nil => exact ⟨[], rfl, rfl, by simp⟩
  | @cons a b _ _ hr _ ih =>
    obtain ⟨z, h1, h2, h3⟩ := ih
    refine ⟨(a, b) :: z, by simp [h1], by simp [h2], ?_⟩
    intro p hp
    rcases List.mem_cons.mp hp with rfl | hp
    · exact hr
    · exact h3 p hp

theorem forall₂_of_zip {R : α → β → Prop} (z : List (α × β)) (h : ∀ p ∈ z, R p.1 p.2) :
    Forall₂ R (z.map Prod.fst) (z.map Prod.snd) := by
  induction z with
  | nil => exact .nil
  | cons p z ih =>
    exact .cons (h p List.mem_cons_self) (ih (fun q hq => h q (List.mem_cons_of_mem _ hq)))

theorem Forall₂.mergeSort' {R : α → β → Prop} {le : α → α → Bool} {le' : β → β → Bool} {l : List α} {l' : List β}
    (h : Forall₂ R l l') (hle : ∀ a a' b b', R a a' → R b b' → le a b = le' a' b') :
    Forall₂ R (l.mergeSort le) (l'.mergeSort le') := by
  -- sort the list of related pairs once: it projects to both sorts
  obtain ⟨z, rfl, rfl, hz⟩ := h.exists_zip
  have e1 : (z.mergeSort (fun a b => le a.1 b.1)).map Prod.fst = (z.map Prod.fst).mergeSort le :=
    List.map_mergeSort (fun _ _ _ _ => rfl)
  have e2 : (z.mergeSort (fun a b => le a.1 b.1)).map Prod.snd = (z.map Prod.snd).mergeSort le' :=
    List.map_mergeSort (fun a ha b hb => hle _ _ _ _ (hz a ha) (hz b hb))
  rw [← e1, ← e2]
  apply forall₂_of_zip
  intro p hp
  exact hz p ((List.mergeSort_perm _ _).mem_iff.mp hp)

theorem Forall₂.mem_left {R : α → β → Prop} {l : List α} {l' : List β} (h : Forall₂ R l l') {a : α}
    (ha : a ∈ l) : ∃ b ∈ l', R a b := by
  induction h with
  | nil => cases ha
  | cons hr _ ih =>
    rcases List.mem_cons.mp ha with rfl | ha
    · exact ⟨_, List.mem_cons_self, hr⟩
    · obtain ⟨b, hb, hab⟩ := ih ha
      exact ⟨b, List.mem_cons_of_mem _ hb, hab⟩

end lift

theorem evalArgs_congr (Θ : Interp) {r r' : Row} :
    ∀ (ts : List Term), Row.agreeOn (Term.colsRawList ts) r r' → evalArgs Θ r ts = evalArgs Θ r' ts :=
  evalArgs_congrC Θ

end DAVerif
