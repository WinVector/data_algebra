import DAVerif.Proofs.PrintCalls
import DAVerif.Proofs.PrintSemStruct
import DAVerif.Proofs.C06Exact
/-!
C12, semantic half without guard and without scope: `replace_leaves {}` of a valid pipeline in builder normal form
evaluates to the same rows in the same order, the columns possibly permuted (`≈ʳ`), for every interpretation whose record
transforms respect `≈ʳ` (`ConvertColInvariant`).  At each node: C06's one-step statement in the row-order-keeping form
(`shape_sem`, with `shape_base_eq` because no `order_rows` without limit is skipped: the rebuilt source is in normal
form, `RebuildNF`, and is such a node only if the original is, `replace_kind`), then the node's operator on `≈ʳ`
inputs (`applyNode_congrR`).
-/
namespace DAVerif.C12S
open DAVerif Rules26 DAVerif.C12

variable {Θ : Interp} {cfg : SemCfg} {env : Env}

def SrcBEquivR (Θ : Interp) (cfg : SemCfg) (env : Env) : Option Ops → Option Ops → Prop
  | none, none => True
  | some b, some b' => ResEquivR (sem Θ cfg env b) (sem Θ cfg env b')
  | _, _ => False

theorem applyStep_congrR (hR : ConvertColInvariant Θ) {N N' : Ops} {t t' : Table}
    (happ : ∀ ta tb, applyNode Θ cfg N ta tb = applyNode Θ cfg N' ta tb)
    (hB : SrcBEquivR Θ cfg env N.srcB N'.srcB) (h : t ≈ʳ t') (hc : NodeColsOK N t.cols) :
    ResEquivR (applyStep Θ cfg env N t) (applyStep Θ cfg env N' t') := by
  unfold applyStep
  cases hN : N.srcB <;> cases hN' : N'.srcB <;> rw [hN, hN'] at hB
  · exact happ _ _ ▸ applyNode_congrR Θ cfg hR N h h hc
  · exact hB.elim
  · exact hB.elim
  · exact ResEquivR.bind hB fun tb tb' _ _ htb => happ _ _ ▸ applyNode_congrR Θ cfg hR N h htb hc

theorem replace_node_semR (hΘ : ConvertOK Θ) (hR : ConvertColInvariant Θ) {a' q p N base : Ops}
    (ha'v : a'.valid = true) (IH : ResEquivR (sem Θ cfg env a') (sem Θ cfg env p.srcA))
    (hshape : BuildShape a' q base N) (hqv : q.valid = true) (hno : a'.noTrivialOrderTop = true)
    (hpT : ∀ n cs, p ≠ .table n cs) (hB : SrcBEquivR Θ cfg env N.srcB p.srcB) (hsame : SameOp N p)
    (hcols : NodeColsOK p p.srcA.cols) :
    ResEquivR (sem Θ cfg env q) (sem Θ cfg env p) := by
  obtain ⟨happ, _, hco, _⟩ := hsame
  have hside : ∀ t, sem Θ cfg env a' = .ok t → NodeColsOK N t.cols := fun t ht => by
    obtain ⟨t', ht', htt⟩ := IH.of_ok ht
    rw [hco]
    exact (sem_cols hΘ ht' ▸ hcols : NodeColsOK p t'.cols).perm htt.cols_perm.symm
  refine (shape_base_eq hshape hno ▸ shape_sem hΘ ha'v hshape hqv).trans ?_
  rw [sem_eq_applyStep hΘ p hpT]
  exact ResEquivR.bind IH fun t t' ht _ htt => applyStep_congrR hR (happ Θ cfg) hB htt (hside t ht)

theorem not_trivial_of_strip {s : Ops} (h : strip s = s) : s.isTrivialWhenIntermediate = false :=
  h ▸ strip_isTrivial s

/-- a normal-form pipeline whose top node is not an `order_rows` without limit has none below the column selections
/ deletions at its top either (their sources are stripped) -/
theorem noTrivialOrderTop_of_nf : ∀ {q : Ops}, NF q → q.isTrivialWhenIntermediate = false →
    q.noTrivialOrderTop = true
  | .selectCols s cs, h, _ => by
    simp only [Ops.noTrivialOrderTop]
    exact noTrivialOrderTop_of_nf h.1 (not_trivial_of_strip h.2.1)
  | .dropCols s cs, h, _ => by
    simp only [Ops.noTrivialOrderTop]
    exact noTrivialOrderTop_of_nf h.1 (not_trivial_of_strip h.2.1)
  | .order s cs rv none, _, ht => by cases ht
  | .order s cs rv (some n), _, _ => rfl
  | .table .., _, _ | .extend .., _, _ | .project .., _, _ | .selectRows .., _, _ | .rename .., _, _
  | .mapCols .., _, _ | .join .., _, _ | .concat .., _, _ | .convert .., _, _ => rfl

/-- what a builder call returns is an `order_rows` without limit only if the raw node of the call is one: the call
constructs that node, or an `extend` (also after a merge) or `select_columns` node -/
theorem shape_kind {p p' base N : Ops} (h : BuildShape p p' base N) (hT : ∀ n cs, N ≠ .table n cs)
    (hN : N.isTrivialWhenIntermediate = false) : p'.isTrivialWhenIntermediate = false := by
  cases h with
  | ident hNl _ => obtain ⟨n, cs, rfl⟩ := hNl; exact absurd rfl (hT n cs)
  | plain hp _ => rw [hp, reSrc_isTrivial]; exact hN
  | merge _ _ _ _ hp => rw [hp]; rfl
  | select _ _ _ hp => rw [hp]; rfl

theorem replace_kind {p q : Ops} (hv : p.valid = true) (hq : Ops.replaceLeaves [] p = .ok q)
    (ht : p.isTrivialWhenIntermediate = false) : q.isTrivialWhenIntermediate = false := by
  by_cases hT : ∀ n cs, p ≠ .table n cs
  · obtain ⟨a', ha', h⟩ := replace_node hv hT hq
    have ha'v := (replaceId_struct _ (Ops.valid_srcA hv) a' ha').1
    have key : ∀ {base N : Ops}, BuildShape a' q base N → SameOp N p → q.isTrivialWhenIntermediate = false :=
      fun hsh hsame => shape_kind hsh hsame.2.2.2.2.1 (hsame.2.2.2.2.2 ▸ ht)
    rcases h with ⟨_, h⟩ | ⟨b, b', hB, hb', h⟩
    · obtain ⟨_, base, N, hsh, _, hsame⟩ := h ha'v
      exact key hsh hsame
    · obtain ⟨_, base, N, hsh, _, hsame⟩ := h ha'v (replaceId_struct b (valid_srcB hv hB) b' hb').1
      exact key hsh hsame
  · cases p with
    | table k cs => cases hq; rfl
    | _ => exact absurd (by intro _ _ h; cases h) hT

theorem nf_srcA {p : Ops} (h : NF p) (hT : ∀ n cs, p ≠ .table n cs) : NF p.srcA ∧ strip p.srcA = p.srcA := by
  cases p with
  | table n cs => exact absurd rfl (hT n cs)
  | join a b _ _ _ => exact ⟨h.1, h.2.1⟩
  | concat a b _ _ _ => exact ⟨h.1, h.2.1⟩
  | _ => exact ⟨h.1, h.2.1⟩

theorem nf_srcB {p b : Ops} (h : NF p) (hB : p.srcB = some b) : NF b := by
  cases p with
  | join a b' _ _ _ => cases hB; exact h.2.2.1
  | concat a b' _ _ _ => cases hB; exact h.2.2.1
  | _ => cases hB

/-- a hypothesis here and a theorem in `Props/C12sem.lean` (`rebuildNF`: a rebuild is a reachable pipeline) -/
def RebuildNF : Prop := ∀ p q : Ops, NF p → p.valid = true → Ops.replaceLeaves [] p = .ok q → NF q

theorem replaceId_semR (hΘ : ConvertOK Θ) (hR : ConvertColInvariant Θ) (hNF : RebuildNF) (p : Ops) :
    NF p → p.valid = true → ∀ q, Ops.replaceLeaves [] p = .ok q →
      ResEquivR (sem Θ cfg env q) (sem Θ cfg env p) := by
  induction p using Ops.srcInduction with
  | table n cs =>
    intro _ hv q hq
    cases hq
    exact ResEquivR.of_eq rfl (fun t ht => sem_wf_nodup hΘ hv ht)
  | node p hT IHa IHb =>
    intro hnf hv q hq
    obtain ⟨a', ha', h⟩ := replace_node hv hT hq
    obtain ⟨hnfa, hstrip⟩ := nf_srcA hnf hT
    have hav := Ops.valid_srcA hv
    have IHa' := IHa hnfa hav a' ha'
    have ha'v : a'.valid = true := (replaceId_struct p.srcA hav a' ha').1
    have hno : a'.noTrivialOrderTop = true :=
      noTrivialOrderTop_of_nf (hNF _ _ hnfa hav ha') (replace_kind hav ha' (not_trivial_of_strip hstrip))
    rcases h with ⟨hB, h⟩ | ⟨b, b', hB, hb', h⟩
    · obtain ⟨hqv, base, N, hshape, hNB, hsame⟩ := h ha'v
      exact replace_node_semR hΘ hR ha'v IHa' hshape hqv hno hT (by rw [hNB, hB]; trivial) hsame
        (nodeColsOK_of_valid hv)
    · have hbv := valid_srcB hv hB
      have IHb' := IHb b hB (nf_srcB hnf hB) hbv b' hb'
      obtain ⟨hqv, base, N, hshape, hNB, hsame⟩ := h ha'v (replaceId_struct b hbv b' hb').1
      exact replace_node_semR hΘ hR ha'v IHa' hshape hqv hno hT (by rw [hNB, hB]; exact IHb') hsame
        (nodeColsOK_of_valid hv)

end DAVerif.C12S
