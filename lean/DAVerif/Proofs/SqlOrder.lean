import DAVerif.Proofs.SqlBasic
import DAVerif.Proofs.OpsBasic
import DAVerif.Proofs.Perm
import DAVerif.Proofs.Window
/-!
C01/C02, stage B: the operators under the engine's row ordering (`semE ec`) against the reference semantics `sem`
(pandas' ordering: nulls last).

* On rows whose order columns are null free the two comparisons coincide (`sqlRowLe_eq_rowLe`), hence so do the
  sorts, `order_rows` and the ordered windows: under `OrdersNullFree` the two semantics are **equal**
  (`semE_eq_sem_of_nullFree`).
* Under the scope of C18 (`AggsOrderFree`, `WindowsTotal`) and `SqlScope` (null-free order columns at ordered
  windows – unless all window functions are order free – and at `order_rows` with a limit) they agree **up to row
  order**: node by node (`stepG_equiv`: the step of a node with one source on tables with the same rows up to order),
  hence for the pipeline (`sem_equiv_semE`); a final `order_rows` whose order is total and null free then yields the same
  row list (`semE_final_order_eq`).
-/
namespace DAVerif
namespace Sql

theorem sqlRowLe_eq_rowLe (ec : EngineCfg) {cs rev : List String} {a b : Row}
    (ha : ∀ c ∈ cs, (a.get c).isNull = false) (hb : ∀ c ∈ cs, (b.get c).isNull = false) :
    sqlRowLe ec cs rev a b = rowLe cs rev a b := by
  rw [sqlRowLe_eq_lexLe, rowLe_eq_lexLe]
  exact lexLe_congr_cle fun c hc => by
    rw [sqlCellLe_eq_pl, cellLe_eq_pl]; exact plCellLe_of_nonnull _ _ _ (ha c hc) (hb c hc)

theorem semOrderG_eq_of_nullFree (ec : EngineCfg) (cs rev : List String) (lim : Option Nat) (t : Table)
    (h : NullFreeOn cs t.rows) : semOrderG (sqlRowLe ec) cs rev lim t = semOrder cs rev lim t :=
  semOrderG_eq_of_agree cs rev lim t fun a ha b hb => sqlRowLe_eq_rowLe ec (h a ha) (h b hb)

theorem semExtendWindowG_eq_of_nullFree (ec : EngineCfg) (Θ : Interp) (ops : Assign) (p o rv : List String)
    (t : Table) (oc : List String) (h : NullFreeOn o t.rows) :
    semExtendWindowG (sqlRowLe ec) Θ ops p o rv t oc = semExtendWindow Θ ops p o rv t oc :=
  semExtendWindowG_eq_of_agree Θ ops p o rv t oc fun a ha b hb => sqlRowLe_eq_rowLe ec (h a ha) (h b hb)

theorem semE_eq_sem_of_nullFree (ec : EngineCfg) (Θ : Interp) (cfg : SemCfg) (env : Env) (p : Ops)
    (h : OrdersNullFree Θ cfg env p) : semE ec Θ cfg env p = sem Θ cfg env p := by
  induction p with
  | table name cs => rfl
  | extend src ops part od rv w ih =>
    simp only [semG, sem, ih h.1]
    exact except_bind_congr fun t hs => by rw [semExtendWindowG_eq_of_nullFree ec Θ ops part od rv t _ (h.2 t hs)]
  | order src cs rv lim ih =>
    simp only [semG, sem, ih h.1]
    exact except_bind_congr fun t hs => by rw [semOrderG_eq_of_nullFree ec cs rv lim t (h.2 t hs)]
  | project _ _ _ ih | selectRows _ _ ih | selectCols _ _ ih | dropCols _ _ ih | rename _ _ ih | mapCols _ _ _ ih
  | convert _ _ ih => simp only [semG, sem, ih h]
  | join _ _ _ _ _ iha ihb | concat _ _ _ _ _ iha ihb => simp only [semG, sem, iha h.1, ihb h.2]

theorem NullFreeOn.perm {cs : List String} {rows rows' : List Row} (h : NullFreeOn cs rows) (hp : rows.Perm rows') :
    NullFreeOn cs rows' := fun r hr => h r (hp.mem_iff.mpr hr)

theorem semExtendWindow_equiv_semG (ec : EngineCfg) (Θ : Interp) (ops : Assign) (part od rv : List String)
    {t t' : Table} (ht : t ≈ t') (oc : List String)
    (hS : NullFreeOn od t.rows ∨ ∀ kv ∈ ops, WinOrderFree Θ (opName kv.2)) (hW : WinOK Θ ops part od rv t.rows) :
    semExtendWindow Θ ops part od rv t oc ≈ semExtendWindowG (sqlRowLe ec) Θ ops part od rv t' oc := by
  refine semExtendWindowG_equiv Sol21Sql.cmpOK_rowLe Θ ops part od rv ht oc ?_
  rcases hW with htot | hfree
  · exact hS.imp_left fun hnull => ⟨htot, fun a ha b hb => (sqlRowLe_eq_rowLe ec (hnull a ha) (hnull b hb)).symm⟩
  · exact Or.inr hfree

/-- without limit both results are permutations of the source; with a limit the order columns are null free (the
comparisons coincide) and the cut is clean -/
theorem semOrder_equiv_semG (ec : EngineCfg) (cs rv : List String) (lim : Option Nat) {t t' : Table} (ht : t ≈ t')
    (hS : lim ≠ none → NullFreeOn cs t.rows) (hW : ∀ n, lim = some n → LimitOK cs rv n t.rows) :
    semOrder cs rv lim t ≈ semOrderG (sqlRowLe ec) cs rv lim t' :=
  semOrderG_equiv Sol21Sql.cmpOK_rowLe cs rv lim ht fun n e => ⟨hW n e, fun a ha b hb =>
    (sqlRowLe_eq_rowLe ec (hS (e ▸ nofun) a ha) (hS (e ▸ nofun) b hb)).symm⟩

theorem scope_src {Θ : Interp} {cfg : SemCfg} {env : Env} {p src : Ops} (hs : p.sources = [src])
    (hA : AggsOrderFree Θ p) (hW : WindowsTotal Θ cfg env p) (hS : SqlScope Θ cfg env p) :
    AggsOrderFree Θ src ∧ WindowsTotal Θ cfg env src ∧ SqlScope Θ cfg env src := by
  cases p <;> cases hs
  case extend | order => exact ⟨hA, hW.1, hS.1⟩
  case project => exact ⟨hA.1, hW, hS⟩
  all_goals exact ⟨hA, hW, hS⟩

theorem stepG_equiv (ec : EngineCfg) (Θ : Interp) (cfg : SemCfg) (env : Env) {p src : Ops} (hs : p.sources = [src])
    (hA : AggsOrderFree Θ p) (hC : InFragJ p = true ∨ ConvertPermInvariant Θ) (hW : WindowsTotal Θ cfg env p)
    (hS : SqlScope Θ cfg env p) {t t' : Table} (hx : sem Θ cfg env src = .ok t) (ht : t ≈ t') :
    ResEquiv (stepG rowLe Θ p t) (stepG (sqlRowLe ec) Θ p t') := by
  cases p <;> cases hs
  case extend ops part od rv w =>
    cases w with
    | false => exact semExtendPlain_equiv Θ ops ht _
    | true => exact semExtendWindow_equiv_semG ec Θ ops part od rv ht _ (hS.2 rfl t hx) (hW.2 rfl t hx)
  case project ops g => exact semProject_equiv Θ ops g ht _ hA.2
  case selectRows e => exact semSelectRows_equiv Θ e ht
  case selectCols cs => exact ht.selectCols cs
  case dropCols dels => exact ht.selectCols _
  case order cs rv lim =>
    exact semOrder_equiv_semG ec cs rv lim ht (fun h => hS.2 h t hx) (fun n h => hW.2 n h t hx)
  case rename m => exact semRename_equiv ht _ _
  case mapCols m dels => exact semMapCols_equiv ht _ dels _
  case convert rm => exact hC.resolve_left Bool.false_ne_true rm t t' ht

theorem sem_equiv_semE (ec : EngineCfg) (Θ : Interp) (cfg : SemCfg) (env : Env) (p : Ops)
    (hA : AggsOrderFree Θ p) (hC : InFragJ p = true ∨ ConvertPermInvariant Θ) (hW : WindowsTotal Θ cfg env p)
    (hS : SqlScope Θ cfg env p) : ResEquiv (sem Θ cfg env p) (semE ec Θ cfg env p) := by
  induction p using Ops.sources_induction with
  | table name cs => exact ResEquiv.refl _
  | un p src hs ih =>
    rw [sem_unary Θ cfg env hs, show semE ec Θ cfg env p = _ from semG_unary _ Θ cfg env hs]
    obtain ⟨hA', hW', hS'⟩ := scope_src hs hA hW hS
    exact ResEquiv.bind (ih hA' (hC.imp_left (inFragJ_src hs)) hW' hS')
      (fun t t' hx ht => stepG_equiv ec Θ cfg env hs hA hC hW hS hx ht)
  | bin p a b hs iha ihb =>
    cases p <;> cases hs
    all_goals
      simp only [sem, semG]
      refine ResEquiv.bind (iha hA.1 (hC.imp (fun h => (Bool.and_eq_true_iff.mp h).1) id) hW.1 hS.1)
        (fun ta ta' _ hta => ?_)
      refine ResEquiv.bind (ihb hA.2 (hC.imp (fun h => (Bool.and_eq_true_iff.mp h).2) id) hW.2 hS.2)
        (fun tb tb' _ htb => ?_)
    · exact (semJoin_equiv cfg _ _ _ hta htb _).selectCols _
    · exact semConcat_equiv _ _ _ hta htb _

/-- the fragment has no `convert_records`: no hypothesis on `Θ.convert` -/
theorem sem_equiv_semE_fragJ (ec : EngineCfg) (Θ : Interp) (cfg : SemCfg) (env : Env) (p : Ops)
    (hf : InFragJ p = true) (hA : AggsOrderFree Θ p) (hW : WindowsTotal Θ cfg env p)
    (hS : SqlScope Θ cfg env p) : ResEquiv (sem Θ cfg env p) (semE ec Θ cfg env p) :=
  sem_equiv_semE ec Θ cfg env p hA (Or.inl hf) hW hS

/-- a final `order_rows` whose order columns are null free and whose order is total on the rows that reach it
produces the same row **list** under both orderings, when its source is in the multiset scope -/
theorem semE_final_order_eq (ec : EngineCfg) (Θ : Interp) (cfg : SemCfg) (env : Env) (src : Ops)
    (cs rv : List String) (lim : Option Nat)
    (hA : AggsOrderFree Θ src) (hC : InFrag src = true ∨ ConvertPermInvariant Θ) (hW : WindowsTotal Θ cfg env src)
    (hS : SqlScope Θ cfg env src) {t : Table} (ht : sem Θ cfg env src = .ok t)
    (hnull : NullFreeOn cs t.rows) (htot : TotalOn cs rv t.rows) :
    semE ec Θ cfg env (.order src cs rv lim) = sem Θ cfg env (.order src cs rv lim) := by
  obtain ⟨t', hs, heq⟩ := (sem_equiv_semE ec Θ cfg env src hA (hC.imp inFragJ_of_inFrag id) hW hS).of_ok ht
  simp only [sem, semG, ht, hs, bind, Except.bind, pure, Except.pure]
  rw [semOrderG_eq_of_nullFree ec cs rv lim t' (hnull.perm heq.2)]
  exact congrArg Except.ok (semOrder_total_eq cs rv lim heq htot).symm

end Sql
end DAVerif
