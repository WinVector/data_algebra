import DAVerif.Proofs.BuilderReach
import DAVerif.Proofs.EqOps
import DAVerif.Proofs.EqSem
import DAVerif.Proofs.RenameBuild
import DAVerif.Spec.EraseSql
/-!
C11, SQL half, builder layer: every builder method, `Ops.tables` and `Ops.usedFromSources` are blind to the `method`
flag of expressions: they commute with `erase`.  (The SQL generator re-enters the builders for the SQLite FULL join and
for labelled `concat_rows`, which is why this layer is needed; it also says that two builder call sequences that differ
only in the printing form of their expressions build pipelines with the same `erase`, i.e. `==` pipelines.)
The statements are those of Proofs/RenameBuild.lean at `eraseMap` (Proofs/EraseMap.lean).
-/
namespace DAVerif
namespace C11Sql
open DAVerif.Ren (NodeMap)

theorem colsRaw_erase (t : Term) : Term.colsRaw t.erase = Term.colsRaw t := by
  rw [← mapTerm_erase, Ren.colsRaw_mapTerm, List.map_id]

theorem colsRawList_erase : ∀ ts : List Term, Term.colsRawList (Term.eraseList ts) = Term.colsRawList ts :=
  fun ts => by rw [← mapTerms_erase, Ren.colsRawList_mapTerms, List.map_id]

theorem tables_erase (p : Ops) : p.erase.tables = p.tables := by
  simpa [eraseMap_ops, eraseMap_col, eraseMap_tab] using Ren.tables_map (φ := eraseMap) p

theorem usedFromSources_erase (p : Ops) (usg : List String) :
    Ops.usedFromSources p.erase usg = Ops.usedFromSources p usg := by
  simpa [eraseMap_ops, eraseMap_col] using Ren.usedFromSources_map eraseMap_blind.col_inj p usg

/-- a builder call with the `method` flags of its expressions (and of the pipeline arguments) forgotten -/
def eraseStep : Step → Step
  | .extend ops part od rv => .extend (eraseAssign ops) part od rv
  | .project ops g => .project (eraseAssign ops) g
  | .selectRows e => .selectRows (e.map Term.erase)
  | .join b oa ob jt chk => .join b.erase oa ob jt chk
  | .concat b idc an bn => .concat (b.map Ops.erase) idc an bn
  | s => s

theorem eraseMap_bstep : eraseMap.bstep = eraseStep := by
  funext s
  cases s with
  | extend ops part od rv => cases part <;> simp [NodeMap.bstep, eraseStep, eraseMap_assign, eraseMap_col, PartArg.rename]
  | _ => simp [NodeMap.bstep, eraseStep, eraseMap_assign, eraseMap_ops, eraseMap_col, eraseMap_expr, recMap_rename_id]

theorem build_erase (p : Ops) (s : Step) : build p.erase (eraseStep s) = (build p s).map Ops.erase := by
  rw [← eraseMap_ops, ← eraseMap_bstep]
  exact Ren.build_map eraseMap_blind.col_inj eraseMap_blind.tab_inj p s

end C11Sql
end DAVerif
