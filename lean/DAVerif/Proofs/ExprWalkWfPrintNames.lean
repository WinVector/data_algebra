import DAVerif.Proofs.ExprWalkWfBuild
import DAVerif.Proofs.ExprParse
/-!
C13: the NAME tokens (`nameToks`) of the printed form of a well-formed term are among its `termNames` (column names and
the operators of the non-inline nodes): `tk_names`, `printToks_names`.
-/
namespace DAVerif.C13W
open DAVerif DAVerif.Expr

def nameToks (ts : List Token) : List String := (ts.filter (fun k => k.kind == .name)).map (·.text)

@[simp] theorem nameToks_nil : nameToks [] = [] := rfl
@[simp] theorem nameToks_append (a b : List Token) : nameToks (a ++ b) = nameToks a ++ nameToks b := by
  simp [nameToks]
@[simp] theorem nameToks_cons_o (s : String) (ts : List Token) : nameToks (o s :: ts) = nameToks ts := by
  simp [nameToks, o, Token.op]
@[simp] theorem nameToks_cons_nm (s : String) (ts : List Token) : nameToks (Token.nm s :: ts) = s :: nameToks ts := by
  simp [nameToks, Token.nm]
@[simp] theorem nameToks_paren (ts : List Token) : nameToks (parenToks ts) = nameToks ts := by
  simp [parenToks]

theorem nameToks_lit {l : Lit} (h : litOk l = true) : nameToks (litToks l) = [] := by
  cases l with
  | none => simp [litToks]
  | bool b => cases b <;> simp [litToks]
  | int i => simp only [litToks]; split <;> simp [nameToks, o, Token.op]
  | flt q => simp only [litToks]; split <;> simp [nameToks, o, Token.op]
  | nan => simp [litOk] at h
  | inf => simp [litOk] at h
  | ninf => simp [litOk] at h
  | str s => simp [litToks, nameToks]

theorem mem_nameToks_op (op : String) : ∀ (xs : List (List Token)) (n : String), n ∈ nameToks (opToks op xs) →
    ∃ x ∈ xs, n ∈ nameToks x
  | [], n, h => by simp [opToks] at h
  | [x], n, h => by simp only [opToks] at h; exact ⟨x, by simp, h⟩
  | x :: y :: ys, n, h => by
    simp only [opToks, nameToks_append, nameToks_cons_o, List.mem_append] at h
    rcases h with h | h
    · exact ⟨x, by simp, h⟩
    · obtain ⟨z, hz, hn⟩ := mem_nameToks_op op (y :: ys) n h
      exact ⟨z, List.mem_cons_of_mem _ hz, hn⟩

theorem commaToks_eq : ∀ xs : List (List Token), commaToks xs = opToks "," xs
  | [] => rfl
  | [_] => rfl
  | x :: y :: ys => by simp only [commaToks, opToks, commaToks_eq (y :: ys)]

theorem mem_nameToks_comma (xs : List (List Token)) (n : String) (h : n ∈ nameToks (commaToks xs)) :
    ∃ x ∈ xs, n ∈ nameToks x :=
  mem_nameToks_op "," xs n (commaToks_eq xs ▸ h)

theorem nameToks_lits (vs : List Lit) (h : vs.all litOk = true) : ∀ x ∈ vs.map litToks, nameToks x = [] := by
  intro x hx
  obtain ⟨v, hv, rfl⟩ := List.mem_map.mp hx
  exact nameToks_lit (List.all_eq_true.mp h v hv)

theorem nameToks_kvs (kvs : List (Lit × Lit)) (h : kvs.all (fun kv => litOk kv.1 && litOk kv.2) = true) :
    ∀ x ∈ kvs.map kvToks, nameToks x = [] := by
  intro x hx
  obtain ⟨kv, hkv, rfl⟩ := List.mem_map.mp hx
  have := List.all_eq_true.mp h kv hkv
  rw [Bool.and_eq_true] at this
  simp [kvToks, nameToks_lit this.1, nameToks_lit this.2]

mutual
theorem tk_names {env : Env} : ∀ (t : Term) (want : Bool), wf env t = true →
    ∀ n ∈ nameToks (tk t want), n ∈ termNames t
  | .value l, want, h, n, hn => by
    rw [wf_value] at h
    simp only [tk] at hn
    split at hn <;> simp [nameToks_lit h] at hn
  | .col c, want, _, n, hn => by
    simp only [tk, nameToks_cons_nm, nameToks_nil, List.mem_singleton] at hn
    simp [termNames, hn]
  | .list vs, want, h, n, hn => by
    rw [wf] at h
    simp only [Bool.and_eq_true] at h
    simp only [tk, nameToks_cons_o, nameToks_append, nameToks_nil, List.append_nil] at hn
    obtain ⟨x, hx, hnx⟩ := mem_nameToks_comma _ n hn
    rw [nameToks_lits vs h.1.1.2 x hx] at hnx
    simp at hnx
  | .dict kvs, want, h, n, hn => by
    rw [wf] at h
    simp only [Bool.and_eq_true] at h
    simp only [tk, nameToks_cons_o, nameToks_append, nameToks_nil, List.append_nil] at hn
    obtain ⟨x, hx, hnx⟩ := mem_nameToks_comma _ n hn
    rw [nameToks_kvs kvs h.1.1.1.1.2 x hx] at hnx
    simp at hnx
  | .app op [] inline method, want, h, n, hn => by
    cases (wf_app_iff.1 h).2
    simp only [tk, nameToks_cons_nm, nameToks_cons_o, nameToks_nil, List.mem_singleton] at hn
    simp [termNames_app, hn]
  | .app op (a :: rest) inline method, want, h, n, hn => by
    rw [wf, Bool.and_eq_true] at h
    have hw := h.1
    rw [wfs_cons, Bool.and_eq_true] at hw
    have iha := tk_names a false hw.1 n
    have recv : n ∈ nameToks (recvToks a) → n ∈ termNames a := by
      intro hn; unfold recvToks at hn; split at hn
      · exact iha hn
      · rw [nameToks_paren] at hn; exact iha hn
    rw [termNames_app, termNamesL_cons, List.mem_append, List.mem_append]
    cases inline
    · rw [tk_app_cons] at hn
      split at hn
      · simp only [nameToks_append, nameToks_cons_o, nameToks_cons_nm, nameToks_nil, List.mem_append,
          List.mem_cons, List.append_nil] at hn
        rcases hn with hn | hn | hn
        · exact Or.inr (Or.inl (recv hn))
        · exact Or.inl (by simp [hn])
        · obtain ⟨x, hx, hnx⟩ := mem_nameToks_comma _ n hn
          exact Or.inr (Or.inr (tkArgs_names rest false hw.2 x hx n hnx))
      · simp only [nameToks_append, nameToks_cons_o, nameToks_cons_nm, nameToks_nil, List.mem_cons,
          List.append_nil] at hn
        rcases hn with hn | hn
        · exact Or.inl (by simp [hn])
        · obtain ⟨x, hx, hnx⟩ := mem_nameToks_comma _ n hn
          exact Or.inr (List.mem_append.mp (termNamesL_cons a rest ▸ tkArgs_names (a :: rest) false h.1 x hx n hnx))
    · -- inline: one operand after the operator, or the operands joined by it
      match rest, hn with
      | [], hn =>
        simp only [tk, ↓reduceIte] at hn
        split at hn <;>
          (simp only [nameToks_paren, nameToks_cons_o] at hn; exact Or.inr (Or.inl (iha hn)))
      | b :: rest', hn =>
        simp only [tk, ↓reduceIte] at hn
        have : n ∈ nameToks (opToks op (tkArgs (a :: b :: rest') true)) := by
          split at hn
          · simpa only [nameToks_paren] using hn
          · exact hn
        obtain ⟨x, hx, hnx⟩ := mem_nameToks_op op _ n this
        exact Or.inr (List.mem_append.mp (termNamesL_cons a _ ▸ tkArgs_names (a :: b :: rest') true h.1 x hx n hnx))
theorem tkArgs_names {env : Env} : ∀ (ts : List Term) (want : Bool), wfs env ts = true →
    ∀ x ∈ tkArgs ts want, ∀ n ∈ nameToks x, n ∈ termNamesL ts
  | [], want, _, x, hx, n, _ => by simp [tkArgs] at hx
  | a :: as, want, h, x, hx, n, hn => by
    rw [wfs_cons, Bool.and_eq_true] at h
    simp only [tkArgs, List.mem_cons] at hx
    rw [termNamesL_cons, List.mem_append]
    rcases hx with rfl | hx
    · exact Or.inl (tk_names a want h.1 n hn)
    · exact Or.inr (tkArgs_names as want h.2 x hx n hn)
end

theorem printToks_names {env : Env} {t : Term} (h : wf env t = true) :
    ∀ n ∈ nameToks (printToks t), n ∈ termNames t := by
  rw [printToks_eq]; exact tk_names t false h

end DAVerif.C13W
