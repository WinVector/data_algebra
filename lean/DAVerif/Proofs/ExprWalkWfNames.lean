import DAVerif.Proofs.ExprWalkWfCalls
/-!
C13: the NAME tokens of the printed form of a walked term are NAME tokens of the input or operator names of the
builder table — under the guard `CalleeIsName` (every callee is a name or an attribute).  Without the guard the
walker takes an *operator* token as a function name (`(-x)(y)` is walked to the call `-(y)`), which prints as a NAME
token that no lexer produces (known finding `C13-call-of-unary-expression`).

`S` is an arbitrary predicate on name texts ("is an identifier", "is not a keyword", …).
-/
namespace DAVerif.C13W
open DAVerif DAVerif.Expr

def NamesIn (S : String → Prop) (t : Term) : Prop := ∀ n ∈ termNames t, S n
def NamesInL (S : String → Prop) (ts : List Term) : Prop := ∀ n ∈ termNamesL ts, S n

section names
variable {S : String → Prop}

theorem namesInL_nil : NamesInL S [] := by intro n hn; simp [termNamesL_nil] at hn
theorem namesInL_cons {a : Term} {as : List Term} : NamesInL S (a :: as) ↔ NamesIn S a ∧ NamesInL S as := by
  unfold NamesInL NamesIn; rw [termNamesL_cons]; exact List.forall_mem_append

theorem namesInL_iff : ∀ {ts : List Term}, NamesInL S ts ↔ ∀ t ∈ ts, NamesIn S t
  | [] => by simp [namesInL_nil]
  | t :: ts => by simp [namesInL_cons, namesInL_iff (ts := ts)]

theorem namesIn_value (l : Lit) : NamesIn S (.value l) := by intro n hn; simp [termNames] at hn
theorem namesIn_list (l : List Lit) : NamesIn S (.list l) := by intro n hn; simp [termNames] at hn
theorem namesIn_dict (l : List (Lit × Lit)) : NamesIn S (.dict l) := by intro n hn; simp [termNames] at hn

theorem namesIn_app {op : String} {args : List Term} {i m : Bool} (hop : i = false → S op) (ha : NamesInL S args) :
    NamesIn S (.app op args i m) := by
  intro n hn
  rw [termNames_app, List.mem_append] at hn
  rcases hn with hn | hn
  · cases i
    · simp only [Bool.false_eq_true, ↓reduceIte, List.mem_singleton] at hn
      subst hn; exact hop rfl
    · simp at hn
  · exact ha n hn

theorem mkExpr_names {env : Env} {op : String} {args : List Term} {i m : Bool} {t : Term}
    (h : mkExpr env op args i m = .ok t) (hop : i = false → S op) (ha : NamesInL S args) : NamesIn S t := by
  rw [mkExpr_ok h]; exact namesIn_app hop ha

theorem opExpr_names {env : Env} {op : String} {a b : Term} {i m c : Bool} {t : Term}
    (h : opExpr env op a b i m c = .ok t) (hop : i = false → S op) (ha : NamesIn S a) (hb : NamesIn S b) :
    NamesIn S t := by
  rw [opExpr_ok h]
  exact namesIn_app hop (namesInL_cons.mpr ⟨ha, namesInL_cons.mpr ⟨hb, namesInL_nil⟩⟩)

theorem kind_tableNames {env : Env} {name : String} {k : MethodKind} (hl : env.methods.lookup name = some k)
    {n : String} (hn : n ∈ kindNames k) : n ∈ tableNames env := by
  unfold tableNames
  rw [List.mem_flatMap]
  exact ⟨(name, k), lookup_mem _ _ _ hl, hn⟩

theorem applyBuilder_names {env : Env} (hT : ∀ n ∈ tableNames env, S n) {name : String} {k : MethodKind}
    (hl : env.methods.lookup name = some k) {self : Term} {args : List Term} {t : Term}
    (h : applyBound env (.builder k) self args = .ok t) (hs : NamesIn S self) (ha : NamesInL S args) :
    NamesIn S t := by
  have hk : ∀ n ∈ kindNames k, S n := fun n hn => hT n (kind_tableNames hl hn)
  cases k with
  | uop op inline =>
    obtain ⟨rfl, h⟩ := applyBound_uop h
    rw [uopExpr_ok h]
    exact namesIn_app (fun hi => hk op (by simp [kindNames, hi])) (namesInL_cons.mpr ⟨hs, namesInL_nil⟩)
  | bin op i m c =>
    obtain ⟨o, rfl, h⟩ := applyBound_bin h
    exact opExpr_names h (fun hi => hk op (by simp [kindNames, hi])) hs (namesInL_cons.mp ha).1
  | rbin op =>
    obtain ⟨o, rfl, h⟩ := applyBound_rbin h
    rw [ropExpr_ok h]
    exact namesIn_app (fun hf => by simp at hf)
      (namesInL_cons.mpr ⟨(namesInL_cons.mp ha).1, namesInL_cons.mpr ⟨hs, namesInL_nil⟩⟩)
  | tri op i m =>
    obtain ⟨x, y, rfl, h⟩ := applyBound_tri h
    rw [triopExpr_ok h]
    exact namesIn_app (fun hi => hk op (by simp [kindNames, hi])) (namesInL_cons.mpr ⟨hs, ha⟩)
  | special nm =>
    have hnm : S nm := hk nm (by simp [kindNames])
    simp only [applyBound] at h
    rcases applySpecial_ok h with rfl | ⟨op, i, m, c, hlc, hop⟩ | ⟨dflt, _, hshape⟩
    · exact hs
    · exact opExpr_names hop (fun hi => hT op (kind_tableNames hlc (by simp [kindNames, hi]))) hs (namesIn_value _)
    · have hr : NamesInL S (self :: args ++ dflt.map .value) := by
        refine namesInL_cons.mpr ⟨hs, namesInL_iff.mpr fun x hx => ?_⟩
        rcases List.mem_append.mp hx with hx | hx
        · exact namesInL_iff.mp ha x hx
        · obtain ⟨l, _, rfl⟩ := List.mem_map.mp hx
          exact namesIn_value l
      rcases hshape.imp (·.1) mkExpr_ok with rfl | rfl <;> exact namesIn_app (fun _ => hnm) hr
  | unmodelled => simp [applyBound] at h

theorem applyBound_names {env : Env} (hT : ∀ n ∈ tableNames env, S n) {recv : Term} {name : String} {b : Bound}
    (hg : getMethod env recv name = .ok b) {args : List Term} {t : Term}
    (h : applyBound env b recv args = .ok t) (hs : NamesIn S recv) (ha : NamesInL S args) : NamesIn S t := by
  obtain ⟨_, hb | ⟨k, hl, hb⟩⟩ := getMethod_ok hg
  · obtain ⟨rfl, _, l, rfl⟩ := hb
    obtain ⟨l', -, -, rfl⟩ := applyBound_valueNeg h
    exact namesIn_value _
  · subst hb
    exact applyBuilder_names hT hl h hs ha

theorem callMethod_names {env : Env} (hT : ∀ n ∈ tableNames env, S n) {recv : Term} {name : String}
    {args : List Term} {t : Term} (h : callMethod env recv name args = .ok t) (hs : NamesIn S recv)
    (ha : NamesInL S args) : NamesIn S t := by
  obtain ⟨b, hg, hab⟩ := callMethod_split h
  exact applyBound_names hT hg hab hs ha

def calleeIsNameL (cs : List Cst) : Bool := allPL calleeNodeOk (fun _ => true) cs

theorem calleeIsName_node (r : String) (ch : List Cst) :
    calleeIsName (.node r ch) = (calleeNodeOk r ch && calleeIsNameL ch) := by
  unfold calleeIsName calleeIsNameL; rw [allP]
theorem calleeIsNameL_cons (c : Cst) (cs : List Cst) :
    calleeIsNameL (c :: cs) = (calleeIsName c && calleeIsNameL cs) := by
  unfold calleeIsName calleeIsNameL; rw [allPL]

theorem cstNames_node (r : String) (ch : List Cst) : cstNames (.node r ch) = cstNamesL ch := by rw [cstNames]
theorem cstNamesL_cons (c : Cst) (cs : List Cst) : cstNamesL (c :: cs) = cstNames c ++ cstNamesL cs := by
  rw [cstNamesL]

def CNamesL (S : String → Prop) (cs : List Cst) : Prop := ∀ n ∈ cstNamesL cs, S n
def CNames (S : String → Prop) (c : Cst) : Prop := ∀ n ∈ cstNames c, S n

theorem cnamesL_cons {c : Cst} {cs : List Cst} : CNamesL S (c :: cs) ↔ CNames S c ∧ CNamesL S cs := by
  unfold CNamesL CNames; rw [cstNamesL_cons]; exact List.forall_mem_append

theorem cnames_node {r : String} {ch : List Cst} : CNames S (.node r ch) ↔ CNamesL S ch := by
  unfold CNames CNamesL; rw [cstNames_node]

theorem walkTok_names {env : Env} {tk : Token} {t : Term} (h : walkTok env tk = .ok t) (hc : CNames S (.tok tk)) :
    NamesIn S t := by
  rcases walkTok_ok h with ⟨hk, -, rfl⟩ | ⟨_, -, -, rfl⟩ | ⟨_, -, -, rfl⟩ | ⟨_, -, -, rfl⟩
  · intro n hn
    simp only [termNames, List.mem_singleton] at hn
    subst hn
    exact hc _ (by simp [cstNames, hk])
  all_goals exact namesIn_value _

theorem cnamesL_iff : ∀ {cs : List Cst}, CNamesL S cs ↔ ∀ c ∈ cs, CNames S c
  | [] => by simp [CNamesL, cstNamesL]
  | c :: cs => by simp [cnamesL_cons, cnamesL_iff (cs := cs)]

theorem calleeIsNameL_iff {cs : List Cst} : calleeIsNameL cs = true ↔ ∀ c ∈ cs, calleeIsName c = true := allPL_iff

/-- the guard of the induction: it passes from a node to its children -/
def NamesGuard (S : String → Prop) (c : Cst) : Prop := calleeIsName c = true ∧ CNames S c

theorem namesGuard_child {r : String} {ch : List Cst} (h : NamesGuard S (.node r ch)) : ∀ c ∈ ch, NamesGuard S c := by
  have hG := h.1
  rw [calleeIsName_node, Bool.and_eq_true] at hG
  exact fun c hc => ⟨calleeIsNameL_iff.mp hG.2 c hc, cnamesL_iff.mp (cnames_node.mp h.2) c hc⟩

section relative
variable {env : Env}

theorem walked_names {cs : List Cst} {ts : List Term} (h : Walked (fun _ => NamesIn S) cs ts) : NamesInL S ts :=
  namesInL_iff.mpr fun t ht => let ⟨_, _, hw⟩ := h.mem t ht; hw

theorem chain_names (hT : ∀ n ∈ tableNames env, S n) {rest : List Cst} {res t : Term}
    (h : WalkedChain env (fun _ => NamesIn S) res rest t) (hr : NamesIn S res) : NamesIn S t := by
  induction h with
  | stop => exact hr
  | step _ hg hca hab _ ih => exact ih (applyBound_names hT hg hab hr (namesInL_cons.mpr ⟨hca, namesInL_nil⟩))

theorem level_names (hT : ∀ n ∈ tableNames env, S n) {kind : RuleKind} {ops : List String} {first t : Term}
    {rest : List Cst} (h : WalkedLevel env (fun _ => NamesIn S) kind ops first rest t) (hfirst : NamesIn S first) :
    NamesIn S t := by
  cases h with
  | kary _ ho h => exact mkExpr_names h nofun (namesInL_cons.mpr ⟨hfirst, walked_names ho⟩)
  | cmpChain _ ho hcc h =>
    exact mkExpr_names h nofun (namesInL_iff.mpr (chain_forall (R := fun _ => True)
      (fun _ _ _ _ _ ha hb h => callMethod_names hT h ha (namesInL_cons.mpr ⟨hb, namesInL_nil⟩)) _ _ _
      (fun _ _ => trivial) (namesInL_iff.mp (namesInL_cons.mpr ⟨hfirst, walked_names ho⟩)) hcc).1)
  | linear _ h => exact chain_names hT h hfirst

theorem args_names {more : List Cst} {args : List Term} (h : WalkedArgs (fun _ => NamesIn S) more args) :
    NamesInL S args := by
  cases h with
  | items h => exact walked_names h
  | none => exact namesInL_nil

end relative

section main
set_option linter.unusedSectionVars false
variable {env : Env} (hT : ∀ n ∈ tableNames env, S n)
include hT

theorem walk_names_at : ∀ c t, NamesGuard S c → walk env c = .ok t → NamesIn S t := by
  refine walk_ind namesGuard_child (fun tk t hG hw => walkTok_names hw hG.2) (fun rule ch t hG h => ?_)
  cases h with
  | const => exact namesIn_value _
  | wrapper _ hcw => exact hcw
  | level _ _ _ hcf h => exact level_names hT h hcf
  | power _ hsub h =>
    have hsub := namesInL_cons.mp (walked_names hsub)
    exact powFold_forall (fun _ _ _ hr hx h => callMethod_names hT h hr (namesInL_cons.mpr ⟨hx, namesInL_nil⟩))
      _ _ _ hsub.1 (namesInL_iff.mp hsub.2) h
  | factor _ hcw h => exact callMethod_names hT h hcw namesInL_nil
  | method _ hr ha h => exact callMethod_names hT h hr (args_names ha)
  | @func _ tk _ _ _ _ hk hcr ha h =>
    -- the callee is a NAME token of the tree
    cases classify_funccall_inv hk
    refine mkExpr_names h (fun _ => ?_) (args_names ha)
    have hcn := hG.1
    rw [calleeIsName_node, Bool.and_eq_true] at hcn
    simp only [calleeNodeOk, beq_self_eq_true, Bool.not_true, Bool.false_or, hcr, Bool.and_eq_true,
      beq_iff_eq] at hcn
    have hkind : tk.kind = .name := by simpa using hcn.1.2
    exact (namesGuard_child (namesGuard_child hG _ List.mem_cons_self) (.tok tk) List.mem_cons_self).2 _
      (by simp [cstNames, hkind])
  | funcTok hk =>
    cases classify_funccall_inv hk
    have hcn := hG.1
    rw [calleeIsName_node, Bool.and_eq_true] at hcn
    simp [calleeNodeOk] at hcn
  | conn _ _ ha h => exact mkExpr_names h nofun (walked_names ha)
  | not _ hcw h => exact callMethod_names hT h hcw (namesInL_cons.mpr ⟨namesIn_value _, namesInL_nil⟩)
  | comp _ _ _ h => obtain ⟨lits, rfl, _⟩ := mkList_ok h; exact namesIn_list _
  | single _ _ _ h => obtain ⟨lits, rfl, _⟩ := mkList_ok h; exact namesIn_list _
  | dict _ _ h => obtain ⟨_, _, _, _, _, _, _, rfl⟩ := mkDict_ok h; exact namesIn_dict _
  | keyValue _ _ _ h => obtain ⟨a, b, _, _, rfl⟩ := mkKeyValue_ok h; exact namesIn_dict _

theorem walk_names (c : Cst) (t : Term) (hG : calleeIsName c = true) (hc : CNames S c) (hw : walk env c = .ok t) :
    NamesIn S t :=
  walk_names_at hT c t ⟨hG, hc⟩ hw

theorem walk_names_mem {cs : List Cst} (hG : calleeIsNameL cs = true) (hc : CNamesL S cs) :
    ∀ c ∈ cs, ∀ t, walk env c = .ok t → NamesIn S t :=
  fun c h t => walk_names_at hT c t ⟨calleeIsNameL_iff.mp hG c h, cnamesL_iff.mp hc c h⟩

theorem walkLevel_names : ∀ (kind : RuleKind) (ch : List Cst) (t : Term), calleeIsNameL ch = true → CNamesL S ch →
    walkLevel env kind ch = .ok t → NamesIn S t := fun kind _ _ hG hc hw => by
  obtain ⟨c, rest, ops, first, rfl, -, hcf, h⟩ := walkLevel_walked (walk_names_mem hT hG hc) hw
  exact level_names hT h hcf
theorem walkChain_names : ∀ (rest : List Cst) (res t : Term), calleeIsNameL rest = true → CNamesL S rest →
    NamesIn S res → walkChain env res rest = .ok t → NamesIn S t :=
  fun _ _ _ hG hc hr hw => chain_names hT (walkChain_walked (walk_names_mem hT hG hc) hw) hr
theorem walkAll_names : ∀ (cs : List Cst) (ts : List Term), calleeIsNameL cs = true → CNamesL S cs →
    walkAll env cs = .ok ts → NamesInL S ts :=
  fun _ _ hG hc hw => walked_names (walkAll_walked (walk_names_mem hT hG hc) hw)
theorem walkOdd_names : ∀ (cs : List Cst) (ts : List Term), calleeIsNameL cs = true → CNamesL S cs →
    walkOdd env cs = .ok ts → NamesInL S ts :=
  fun cs _ hG hc hw => walked_names (walkAll_walked (fun c h => walk_names_mem hT hG hc c (mem_odds h))
    (walkOdd_eq env cs ▸ hw))

end main
end names

end DAVerif.C13W
