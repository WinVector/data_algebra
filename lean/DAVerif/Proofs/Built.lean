import DAVerif.Proofs.MkForms
/-!
What a builder call does, as a relation.

A call `s` on a receiver `p` either has empty arguments and returns `p`, or looks at `a = strip p` only: it makes
its checks on the columns (and table descriptions) of `a` and returns a node whose source is `a`, or – `extend` on
an `extend` node that admits the merge – the node below `a`, or – `select_columns` – the first node below `a` that
is neither a column selection nor a column deletion.  `Placed a s q` lists these outcomes with the checks that
passed (the check functions of `Proofs/MkForms.lean`).  It describes the builder methods that take parsed expressions
(`extend_parsed_`, `project_parsed_`, …), which is where `replace_leaves` enters them; the user-level call parses
first (`Parsed`), so `build_eq_ok` has both.
-/
namespace DAVerif
open Rules26

/-- what the dictionary parser checks of the expressions of a call, over the receiver's column names -/
def Parsed (cols : List String) : Step → Prop
  | .extend ops _ _ _ | .project ops _ => AssignOK cols ops
  | .selectRows (some e) => ∀ c ∈ Term.colsRaw e, c ∈ cols
  | _ => True

/-- **The accepted builder calls.**  `Placed a s q`: the call `s`, with arguments that are not empty and expressions
already parsed, on a receiver whose node below the `order_rows` steps without limit is `a`, is accepted and returns
`q`. -/
inductive Placed (a : Ops) : Step → Ops → Prop
  | extend {ops pa od rv} : ops ≠ [] → extendPre a.cols ops pa od rv = .ok () →
      mergeInto a ops pa od rv = none → extendChk a.cols ops pa od rv = .ok () →
      Placed a (.extend ops pa od rv) (.extend a ops pa.cols' od rv (stepWindowed ops pa od))
  | merge {ops pa od rv src o1 o} : ops ≠ [] → extendPre a.cols ops pa od rv = .ok () →
      a = .extend src o1 pa.cols' od rv (stepWindowed ops pa od) → tryMergeOps o1 ops = some o →
      extendChk src.cols o pa od rv = .ok () →
      Placed a (.extend ops pa od rv) (.extend src o pa.cols' od rv (stepWindowed o pa od))
  | project {ops g} : projectChecks a.cols ops g = .ok () → projectChk a.cols ops g = .ok () →
      Placed a (.project ops g) (.project a ops g)
  | selectRows {e} : Placed a (.selectRows (some e)) (.selectRows a e)
  | selectCols {cs} : (∀ g ∈ a.selectGuards, ∀ c ∈ cs, c ∈ g) → selectChk a.selectBase.cols cs = .ok () →
      Placed a (.selectCols cs) (.selectCols a.selectBase cs)
  | dropCols {cs} : cs ≠ [] → dropChk a.cols cs = .ok () → Placed a (.dropCols cs) (.dropCols a cs)
  | order {cs rv lim} : (cs.isEmpty && lim.isNone) = false → orderChk a.cols cs rv = .ok () →
      Placed a (.order cs rv lim) (.order a cs rv lim)
  | rename {m} : m ≠ [] → renameChk a.cols m = .ok () → Placed a (.rename m) (.rename a m)
  | mapCols {m} : m ≠ [] → mapColsChk a.cols m = .ok () →
      Placed a (.mapCols m) (.mapCols a (mapRemap m) (mapDels m))
  | join {b oa ob jt chk t} : joinChk a.cols b.cols a.tables b.tables oa ob jt chk = .ok t →
      Placed a (.join b oa ob jt chk) (.join a b oa ob t)
  | concat {b idc an bn} : concatChk a.cols b.cols a.tables b.tables idc = .ok () →
      Placed a (.concat (some b) idc an bn) (.concat a b idc an bn)
  | convert {rm} : convertChk a.cols rm = .ok () → Placed a (.convert (some rm)) (.convert a rm)

theorem Placed.not_noop {a : Ops} {s : Step} {q : Ops} (h : Placed a s q) : s.isNoop = false := by
  cases h with
  | extend hne | merge hne | dropCols hne | rename hne | mapCols hne => exact List.isEmpty_eq_false_iff.mpr hne
  | order hne => exact hne
  | _ => rfl

theorem extendParsed_eq_ok {p : Ops} {ops : Assign} {pa : PartArg} {od rv : List String} {q : Ops} (hne : ops ≠ []) :
    extendParsed p ops pa od rv = .ok q ↔ Placed (strip p) (.extend ops pa od rv) q := by
  simp only [extendParsed_strip _ _ _ _ _ (List.isEmpty_eq_false_iff.mpr hne), extendTop_eq, bind_eq_ok,
    ← strip_cols p]
  constructor
  · rintro ⟨_, h2, h3⟩
    split at h3
    · rename_i src o hm
      obtain ⟨o1, ha, hm'⟩ := mergeInto_eq_some.mp hm
      rw [mkExtend_eqC, bind_ok_node] at h3
      exact h3.2 ▸ .merge hne h2 ha hm' h3.1
    · rename_i hm
      rw [mkExtend_eqC, bind_ok_node] at h3
      exact h3.2 ▸ .extend hne h2 hm h3.1
  · intro h
    cases h with
    | extend _ h2 hm h3 =>
      refine ⟨(), h2, ?_⟩
      rw [hm, mkExtend_eqC, h3]; rfl
    | merge _ h2 ha hm h3 =>
      refine ⟨(), h2, ?_⟩
      rw [mergeInto_eq_some.mpr ⟨_, ha, hm⟩]
      simp only [mkExtend_eqC, h3]; rfl

theorem projectParsed_eq_ok {p : Ops} {ops : Assign} {g : List String} {q : Ops} :
    projectParsed p ops g = .ok q ↔ Placed (strip p) (.project ops g) q := by
  simp only [projectParsed_strip, mkProject_eq, bind_eq_ok, ← strip_cols p]
  constructor
  · rintro ⟨_, h2, _, h3, h4⟩
    exact Except.ok.inj h4 ▸ .project h2 h3
  · intro h
    cases h with
    | project h2 h3 => exact ⟨(), h2, (), h3, rfl⟩

theorem selectRowsB_eq_ok {p : Ops} {e : Term} {q : Ops} :
    selectRowsB p e = .ok q ↔ Placed (strip p) (.selectRows (some e)) q := by
  rw [selectRowsB_eq]
  exact ⟨fun h => Except.ok.inj h ▸ .selectRows, fun h => by cases h; rfl⟩

theorem build_eq_ok {p : Ops} {s : Step} {q : Ops} :
    build p s = .ok q ↔ (s.isNoop = true ∧ q = p) ∨ (Parsed (strip p).cols s ∧ Placed (strip p) s q) := by
  cases hn : s.isNoop
  · simp only [Bool.false_eq_true, false_and, false_or]
    have hc := strip_cols p
    -- the calls that do not parse
    have plain : Parsed (strip p).cols s → (build p s = .ok q ↔ Placed (strip p) s q) →
        (build p s = .ok q ↔ Parsed (strip p).cols s ∧ Placed (strip p) s q) :=
      fun hp h => h.trans (and_iff_right hp).symm
    cases s with
    | extend ops pa od rv =>
      simp only [build, parseAssignments_eqC, bind_assoc, ok_bind, bind_eq_ok,
        extendParsed_eq_ok (List.isEmpty_eq_false_iff.mp hn), ← hc]
      exact ⟨fun ⟨_, h1, h2⟩ => ⟨parseChk_ok_iff.mp h1, h2⟩, fun ⟨h1, h2⟩ => ⟨(), parseChk_ok_iff.mpr h1, h2⟩⟩
    | project ops g =>
      simp only [build, parseAssignments_eqC, bind_assoc, ok_bind, bind_eq_ok, projectParsed_eq_ok, ← hc]
      exact ⟨fun ⟨_, h1, h2⟩ => ⟨parseChk_ok_iff.mp h1, h2⟩, fun ⟨h1, h2⟩ => ⟨(), parseChk_ok_iff.mpr h1, h2⟩⟩
    | selectRows e =>
      cases e with
      | none => cases hn
      | some e =>
        simp only [build, parseAssignments_eqC, bind_assoc, ok_bind, bind_eq_ok, selectRowsB_eq_ok, ← hc]
        exact ⟨fun ⟨_, h1, h2⟩ => ⟨parseChk_single.mp h1, h2⟩, fun ⟨h1, h2⟩ => ⟨(), parseChk_single.mpr h1, h2⟩⟩
    | selectCols cs =>
      refine plain trivial ?_
      simp only [build, selectColsB_eq, mkSelectCols_eq, selectNode_selectBase, ok?_bind_ok, bind_ok_node,
        List.all_eq_true, subset_iff, ← Ops.selectGuards_strip p, ← Ops.selectBase_strip p]
      constructor
      · rintro ⟨_, h1, h2, h3⟩
        exact h3 ▸ .selectCols h1 h2
      · intro h
        cases h with
        | selectCols h1 h2 => exact ⟨by simpa using (selectChk_ok_iff.mp h2).1, h1, h2, rfl⟩
    | dropCols cs =>
      refine plain trivial ?_
      simp only [Step.isNoop] at hn
      simp only [build, hn, Bool.false_eq_true, if_false, dropColsB_eq, mkDropCols_eq, bind_ok_node]
      exact ⟨fun h => h.2 ▸ .dropCols (List.isEmpty_eq_false_iff.mp hn) h.1,
        fun h => by cases h with | dropCols _ h => exact ⟨h, rfl⟩⟩
    | order cs rv lim =>
      refine plain trivial ?_
      simp only [Step.isNoop] at hn
      simp only [build, hn, Bool.false_eq_true, if_false, orderB_eq, mkOrder_eq, bind_ok_node]
      exact ⟨fun h => h.2 ▸ .order hn h.1, fun h => by cases h with | order _ h => exact ⟨h, rfl⟩⟩
    | rename m =>
      refine plain trivial ?_
      simp only [Step.isNoop] at hn
      simp only [build, hn, Bool.false_eq_true, if_false, renameB_eq, mkRename_eq, bind_ok_node]
      exact ⟨fun h => h.2 ▸ .rename (List.isEmpty_eq_false_iff.mp hn) h.1,
        fun h => by cases h with | rename _ h => exact ⟨h, rfl⟩⟩
    | mapCols m =>
      refine plain trivial ?_
      simp only [Step.isNoop] at hn
      simp only [build, hn, Bool.false_eq_true, if_false, mapColsB_eq, mkMapCols_eq, bind_ok_node]
      exact ⟨fun h => h.2 ▸ .mapCols (List.isEmpty_eq_false_iff.mp hn) h.1,
        fun h => by cases h with | mapCols _ h => exact ⟨h, rfl⟩⟩
    | join b oa ob jt chk =>
      refine plain trivial ?_
      simp only [build, joinB_eq, mkJoin_eq, bind_eq_ok]
      exact ⟨fun ⟨t, h1, h2⟩ => Except.ok.inj h2 ▸ .join h1, fun h => by cases h with | join h => exact ⟨_, h, rfl⟩⟩
    | concat b idc an bn =>
      cases b with
      | none => cases hn
      | some b =>
        refine plain trivial ?_
        simp only [build, concatB_eq, mkConcat_eq, bind_ok_node]
        exact ⟨fun h => h.2 ▸ .concat h.1, fun h => by cases h with | concat h => exact ⟨h, rfl⟩⟩
    | convert rm =>
      cases rm with
      | none => cases hn
      | some rm =>
        refine plain trivial ?_
        simp only [build, convertB_eq, mkConvert_eq, bind_ok_node]
        exact ⟨fun h => h.2 ▸ .convert h.1, fun h => by cases h with | convert h => exact ⟨h, rfl⟩⟩
  · rw [build_noop hn]
    exact ⟨fun h => .inl ⟨rfl, (Except.ok.inj h).symm⟩,
      fun h => h.elim (fun h => h.2 ▸ rfl) (fun h => absurd h.2.not_noop (by rw [hn]; exact Bool.noConfusion))⟩

theorem build_eq_ok_of {p : Ops} {s : Step} {q : Ops} (hn : s.isNoop = false) (hp : Parsed (strip p).cols s) :
    build p s = .ok q ↔ Placed (strip p) s q := by
  rw [build_eq_ok, hn]
  exact ⟨fun h => (h.resolve_left fun h' => Bool.noConfusion h'.1).2, fun h => .inr ⟨hp, h⟩⟩

theorem Placed.build {a : Ops} {s : Step} {q : Ops} (h : Placed a s q) (hp : Parsed a.cols s) (ha : strip a = a) :
    build a s = .ok q :=
  build_eq_ok.mpr (.inr (ha.symm ▸ ⟨hp, h⟩))

theorem Placed.selectBase {a : Ops} {cs : List String} {q : Ops} (h : Placed a (.selectCols cs) q) :
    Placed a.selectBase (.selectCols cs) q := by
  obtain ⟨hg, hb, _⟩ := Ops.selectBase_fixed a
  cases h with
  | selectCols _ hc =>
    have := Placed.selectCols (a := a.selectBase) (cs := cs) (by rw [hg]; exact nofun) (by rw [hb]; exact hc)
    rwa [hb] at this

end DAVerif
