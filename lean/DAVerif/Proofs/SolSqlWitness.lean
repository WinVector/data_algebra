import DAVerif.Proofs.SqlReach
import DAVerif.Proofs.SqlEvalI
import DAVerif.Proofs.SqlAllTrans
import DAVerif.Proofs.SolRankSql
/-!
C21, SQL side: what the SQL of a helper pipeline returns on a CONCRETE table (for the witnesses that show the guards
of `Props/C21sql.lean` necessary).  `sql_eval`: stage A of the translation proof (`joins_engine_order_merges`: the query
returns, row by row, the table `semE ec Θ SemCfg.ref env p`) composed with the kernel-evaluable evaluator of
`Proofs/SqlEvalI.lean`; the evaluation is closed by `decide +kernel` on the witness.
-/
namespace DAVerif
namespace Sol21Sql
open DAVerif.Sql DAVerif.Sol DAVerif.Solutions

theorem sql_eval {Θ : Interp} {ec : EngineCfg} {env : Env} {cfg : SqlCfg} {p : Ops} {q : Near} {tp : Table}
    (hg : Good cfg env p) (hnc : noConcat p = true) (hq : toNearSql cfg p = .ok q)
    (hev : semGI (sqlRowLe ec) Θ SemCfg.ref env p = .ok tp) :
    ∃ T, semSql Θ ec env q = .ok T ∧ (∀ c, c ∈ T.cols ↔ c ∈ p.cols) ∧
      T.rows.map (fun r => r.select p.cols) = tp.rows := by
  obtain ⟨T, tp', h1, h2, _, h4, h5⟩ := joins_engine_order_merges Θ ec env cfg p hg hnc hq
  rw [show semE ec Θ SemCfg.ref env p = .ok tp from
    semG_of_semGI (cmpOK_sql ec) Θ SemCfg.ref env p tp hev] at h2
  cases h2
  exact ⟨T, h1, h4, h5⟩

theorem rank_good (cfg : SqlCfg) {env : Env} {name : String} {cols ob part : List String} {rk tb : String}
    {t0 : Table} (hr : Reachable (rankTree (.table name cols) ob part rk tb))
    (henv : env.lookup name = some t0) (hsub : subset cols t0.cols = true) :
    Good cfg env (rankTree (.table name cols) ob part rk tb) :=
  ⟨rfl, C26_reachable_wf hr, C01_reachable_sqlwf hr, rfl, C16_reachable_joinwf hr, rfl, rfl, rfl,
    rank_envOK _ _ _ _ henv hsub⟩

theorem rank_noConcat (name : String) (cols ob part : List String) (rk tb : String) :
    noConcat (rankTree (.table name cols) ob part rk tb) = true := rfl

end Sol21Sql
end DAVerif
