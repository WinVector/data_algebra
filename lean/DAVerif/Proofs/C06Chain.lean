import DAVerif.Proofs.ChkPerm
/-!
C06 for chains: `semStep` respects `≈ᶜ` (`semStep_congrC`), and the n-step statement `buildChain_sem` by
induction over the chain, under `ChainScope` (each step in scope on the result of the steps before it).
-/
namespace DAVerif

variable {Θ : Interp} {cfg : SemCfg} {env : Env}

theorem semStep_congrC (hΘ : ConvertOK Θ) (hC : ConvertInvariant Θ) {n : String} {s : Step} {t t' : Table}
    (h : t ≈ᶜ t') (hf : Step.Fresh n s) (hb : ∀ b ∈ Step.argOps s, b.valid = true)
    (hs : StepScope Θ s t.rows) :
    ResEquivC (semStep Θ cfg env n s t) (semStep Θ cfg env n s t') := by
  rw [semStep_nf hΘ h.wf_left h.nodup_left hf, semStep_nf hΘ h.wf_right h.nodup_right hf,
    ← rawChk_perm h.cols_perm n s hf]
  cases hc : rawChk t.cols [(n, t.cols)] s with
  | error e => exact rfl
  | ok u =>
    refine applyStep_congrC hC (fun _ _ => rfl) ?_ h (NodeScope_rawNode hs) (NodeColsOK_rawNode h.nodup_left hb hc)
    -- the second source, if any, is one of the step's argument pipelines
    cases hsb : s.rawNode.srcB with
    | none => trivial
    | some b => exact ResEquivC.of_eq rfl fun tb hbs => sem_wf_nodup hΘ (hb b (rawNode_srcB hsb)) hbs

theorem list_snoc_induction {α : Type} {P : List α → Prop} (hnil : P [])
    (hsnoc : ∀ l a, P l → P (l ++ [a])) : ∀ l, P l := by
  intro l
  have : ∀ r : List α, P r.reverse := by
    intro r
    induction r with
    | nil => exact hnil
    | cons a r ih => rw [List.reverse_cons]; exact hsnoc _ _ ih
  rw [← List.reverse_reverse l]
  exact this _

theorem semSteps_snoc (Θ : Interp) (cfg : SemCfg) (env : Env) (n : String) (steps : List Step) (s : Step)
    (t : Table) :
    semSteps Θ cfg env n (steps ++ [s]) t = semSteps Θ cfg env n steps t >>= semStep Θ cfg env n s := by
  simp only [semSteps, List.foldlM_append, List.foldlM_cons, List.foldlM_nil, bind_pure]

theorem valid_buildChain {start : Ops} {steps : List Step} {p' : Ops} (hv : start.valid = true)
    (hb : ∀ s ∈ steps, ∀ b ∈ Step.argOps s, b.valid = true) (h : buildChain start steps = .ok p') :
    p'.valid = true :=
  buildChain_preserves (I := (·.valid = true)) valid_build hv hb h

def ChainScope (Θ : Interp) (cfg : SemCfg) (env : Env) (start : Ops) (steps : List Step) : Prop :=
  ∀ pre s post, steps = pre ++ s :: post → ∀ pk, buildChain start pre = .ok pk →
    ∀ t, sem Θ cfg env pk = .ok t → StepScope Θ s t.rows

/-- **C06 for chains**, for valid pipelines; `C06_chain` (`Props/C06.lean`) is its reading for reachable ones. -/
theorem buildChain_sem (hΘ : ConvertOK Θ) (hC : ConvertInvariant Θ) (n : String) {start : Ops}
    (hv : start.valid = true) (steps : List Step) :
    ∀ {p' : Ops}, (∀ s ∈ steps, ∀ b ∈ Step.argOps s, b.valid = true) → buildChain start steps = .ok p' →
      (∀ s ∈ steps, Step.Fresh n s) → ChainScope Θ cfg env start steps →
      ResEquivC (sem Θ cfg env p') (sem Θ cfg env start >>= semSteps Θ cfg env n steps) := by
  induction steps using list_snoc_induction with
  | hnil =>
    intro p' _ h _ _
    cases h
    have : (sem Θ cfg env start >>= semSteps Θ cfg env n []) = sem Θ cfg env start := by
      cases sem Θ cfg env start <;> rfl
    rw [this]
    exact ResEquivC.of_eq rfl (fun t ht => sem_wf_nodup hΘ hv ht)
  | hsnoc steps s ih =>
    intro p' hb h hf hs
    rw [buildChain_snoc] at h
    obtain ⟨pk, hk, hbuild⟩ := bind_eq_ok.mp h
    have hbk : ∀ s' ∈ steps, ∀ b ∈ Step.argOps s', b.valid = true :=
      fun s' hs' => hb s' (List.mem_append_left _ hs')
    have hvk : pk.valid = true := valid_buildChain hv hbk hk
    have hbs := hb s (by simp)
    have hfs := hf s (by simp)
    have hscope_k : ∀ t, sem Θ cfg env pk = .ok t → StepScope Θ s t.rows :=
      fun t ht => hs steps s [] rfl pk hk t ht
    have ihk := ih hbk hk (fun s' hs' => hf s' (List.mem_append_left _ hs'))
      (fun pre s' post e pk' hk' t ht => hs pre s' (post ++ [s]) (by rw [e]; simp) pk' hk' t ht)
    have hone := build_sem (Θ := Θ) (cfg := cfg) (env := env) hΘ hC n hvk hbs hbuild hfs hscope_k
    refine hone.trans ?_
    have : (sem Θ cfg env start >>= semSteps Θ cfg env n (steps ++ [s]))
        = ((sem Θ cfg env start >>= semSteps Θ cfg env n steps) >>= semStep Θ cfg env n s) := by
      rw [bind_assoc]
      apply except_bind_congr
      intro t _
      exact semSteps_snoc Θ cfg env n steps s t
    rw [this]
    apply ResEquivC.bind ihk
    intro t t' ht _ htt
    exact semStep_congrC hΘ hC htt hfs hbs (hscope_k t ht)

end DAVerif
