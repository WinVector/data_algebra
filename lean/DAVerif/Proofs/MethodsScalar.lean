import DAVerif.Proofs.Methods
/-!
C05, row-wise methods: the pandas model `ThetaX.scalar` and the SQLite model `ThetaSqlX.scalar` compute the documented
value wherever the documentation determines one.

A lemma here takes as hypothesis the clause of `Doc.docScalar` for its operator (so that `Props/C05.lean` analyses the
operator name once) and concludes for both backends; where several operators share the shape of their clause the lemma
is about that shape (`arith2_guard`, `cmp_backends`, `propagate2_some`, …) and says which function of the model the
documented value is a value of.
-/
namespace DAVerif.C05
open DAVerif DAVerif.Doc

theorem scalar_add {i : Bool} {args : List ArgV} {v : Val} (h : numK (· + ·) args = some v) :
    ThetaX.scalar "+" args = v ∧ ThetaSqlX.scalar i "+" args = v := by
  obtain ⟨x, y, r, rfl, rfl⟩ := numK_some h
  have e := foldl_arith2 (· + ·) x (y :: r)
  exact ⟨e, e⟩

theorem scalar_mul {i : Bool} {args : List ArgV} {v : Val} (h : numK (· * ·) args = some v) :
    ThetaX.scalar "*" args = v ∧ ThetaSqlX.scalar i "*" args = v := by
  obtain ⟨x, y, r, rfl, rfl⟩ := numK_some h
  have e := foldl_arith2 (· * ·) x (y :: r)
  exact ⟨e, e⟩

/-- the clause shape of `/ %/% // % mod remainder` -/
theorem arith2_guard (g : Rat → Rat → Rat) {x y : Rat} {v : Val}
    (h : (if y = 0 then none else some (Val.num (g x y))) = some v) :
    Theta.arith2 (fun x y => if y == 0 then none else some (g x y)) (.num x) (.num y) = v := by
  obtain ⟨hy, rfl⟩ : ¬ y = 0 ∧ Val.num (g x y) = v := by simpa using h
  simp [Theta.arith2, Theta.num?, hy]

theorem pow_doc (x y : Rat) :
    (if y.den = 1 then
      if 0 ≤ y.num then some (Val.num (ipow x y.num.toNat))
      else if x = 0 then none else some (.num (1 / ipow x (-y.num).toNat))
    else none) = (Theta.pow x y).map Val.num := by
  unfold Theta.pow
  by_cases hd : y.den = 1 <;> by_cases hn : 0 ≤ y.num <;> by_cases hx : x = 0 <;>
    simp [hd, hn, hx, ratPow_eq_ipow]

theorem arith2_some {f : Rat → Rat → Option Rat} {x y z : Rat} (h : f x y = some z) :
    Theta.arith2 f (.num x) (.num y) = .num z := by
  simp [Theta.arith2, Theta.num?, h]

theorem arith2_null (f : Rat → Rat → Option Rat) {a b : Val} (hnull : a = .null ∨ b = .null) :
    Theta.arith2 f a b = .null := by
  rcases hnull with rfl | rfl
  · rfl
  · cases a <;> rfl

/-- numpy's `nan ** 0 = 1 ** nan = 1` (the two guards of `ThetaX`) change nothing where `Theta.pow` has a value -/
theorem powX_of_pow {x y z : Rat} (h : Theta.pow x y = some z) :
    ThetaX.scalar "**" [.v (.num x), .v (.num y)] = .num z := by
  show (if (Theta.num? (.num y) == some 0 && ((Val.num x).isNull || (Theta.num? (.num x)).isSome)) = true then Val.num 1
        else if (Theta.num? (.num x) == some 1 && ((Val.num y).isNull || (Theta.num? (.num y)).isSome)) = true then .num 1
        else Theta.arith2 Theta.pow (.num x) (.num y)) = _
  rw [arith2_some h]
  by_cases hy : y = 0
  · subst hy
    obtain rfl : 1 = z := Option.some.inj h
    rfl
  · by_cases hx : x = 1
    · subst hx
      have h1 : (1 : Rat) / 1 = 1 := by decide +kernel
      have : z = 1 := by
        unfold Theta.pow at h
        simp only [ratPow_eq_ipow, ipow_one, h1] at h
        split at h
        · split at h
          · exact (Option.some.inj h).symm
          · exact (Option.some.inj h).symm
        · cases h
      simp [Theta.num?, Val.isNull, this]
    · simp [Theta.num?, Val.isNull, hy, hx]

theorem scalar_pow {i : Bool} {args : List ArgV} {v : Val}
    (h : num2 (fun x y =>
      if y.den = 1 then
        if 0 ≤ y.num then some (.num (ipow x y.num.toNat))
        else if x = 0 then none else some (.num (1 / ipow x (-y.num).toNat))
      else none) args = some v) :
    ThetaX.scalar "**" args = v ∧ ThetaSqlX.scalar i "**" args = v := by
  obtain ⟨x, y, rfl, hf⟩ := num2_some h
  obtain ⟨z, hz, rfl⟩ := Option.map_eq_some_iff.mp ((pow_doc x y).symm.trans hf)
  exact ⟨powX_of_pow hz, arith2_some hz⟩

theorem scalar_sign {i : Bool} {args : List ArgV} {v : Val}
    (h : num1 (fun x => some (.num (if x < 0 then -1 else if x = 0 then 0 else 1))) args = some v) :
    ThetaX.scalar "sign" args = v ∧ ThetaSqlX.scalar i "sign" args = v := by
  obtain ⟨x, rfl, hf⟩ := num1_some h
  obtain rfl := Option.some.inj hf
  have e : Theta.scalar "sign" [.v (.num x)] = .num (if x < 0 then -1 else if x = 0 then 0 else 1) := by
    show Val.num (if x < 0 then -1 else if x == 0 then 0 else 1) = _
    by_cases h0 : x = 0 <;> simp [h0]
  exact ⟨e, e⟩

theorem valEq_sameKind (a b : Val) (hk : sameKind a b = true) : Theta.valEq a b = (a == b) := by
  cases a <;> cases b <;> first | cases hk | skip
  · rename_i x y; cases x <;> cases y <;> rfl
  · exact (beq_num _ _).symm
  · rfl

theorem lt_sameKind (a b : Val) (hk : sameKind a b = true) : Val.lt a b = Doc.lt a b := by
  cases a <;> cases b <;> first | rfl | cases hk

theorem notNull_of_sameKind {a b : Val} (hk : sameKind a b = true) : a.isNull = false ∧ b.isNull = false := by
  cases a <;> cases b <;> first | exact ⟨rfl, rfl⟩ | cases hk

theorem sameKind_symm {a b : Val} (hk : sameKind a b = true) : sameKind b a = true := by
  cases a <;> cases b <;> first | rfl | cases hk

/-- cells of one kind are not null, so neither pandas' default `d` (`cmp2`) nor SQL's NULL (`cmp3`) shows -/
theorem cmp_backends {f g : Val → Val → Bool} (hfg : ∀ a b, sameKind a b = true → g a b = f a b) (d : Bool)
    {args : List ArgV} {v : Val} (h : cmp f args = some v) :
    ∃ a b, args = [.v a, .v b] ∧ Theta.cmp2 g d a b = v ∧ ThetaSql.cmp3 g a b = v := by
  obtain ⟨a, b, rfl, hk, rfl⟩ := cmp_some h
  obtain ⟨ha, hb⟩ := notNull_of_sameKind hk
  exact ⟨a, b, rfl, by simp [Theta.cmp2, ha, hb, hfg a b hk], by simp [ThetaSql.cmp3, ha, hb, hfg a b hk]⟩

theorem scalar_and {i : Bool} {args : List ArgV} {v : Val} (h : boolK (fun bs => bs.all id) args = some v) :
    ThetaX.scalar "and" args = v ∧ ThetaSqlX.scalar i "and" args = v := by
  obtain ⟨x, y, r, rfl, rfl⟩ := boolK_some h
  refine ⟨foldl_pyAnd x (y :: r), ?_⟩
  show ThetaSql.and3 (((x :: y :: r).map (fun q => ArgV.v (.bool q))).map Theta.cell) = _
  rw [map_cell_bools, and3_bools]

theorem scalar_or {i : Bool} {args : List ArgV} {v : Val} (h : boolK (fun bs => bs.any id) args = some v) :
    ThetaX.scalar "or" args = v ∧ ThetaSqlX.scalar i "or" args = v := by
  obtain ⟨x, y, r, rfl, rfl⟩ := boolK_some h
  refine ⟨foldl_pyOr x (y :: r), ?_⟩
  show ThetaSql.or3 (((x :: y :: r).map (fun q => ArgV.v (.bool q))).map Theta.cell) = _
  rw [map_cell_bools, or3_bools]

/-! Both models and the documentation round `x · scale k` and divide by `scale k` again; they differ in the rounding
rule, which does not matter where the documentation names a value (no tie: `halfEven_of_nearest`,
`halfAway_eq_nearest`). -/

theorem theta_around_closed (x k : Rat) : Theta.scalar "around" [.v (.num x), .v (.num k)] =
    (if (k.den == 1 && decide (k.num ≥ 0)) = true then
      Val.num (halfEven (x * Theta.ratPow 10 k.num.toNat) / Theta.ratPow 10 k.num.toNat)
     else if (k.den == 1) = true then
      Val.num (halfEven (x * (1 / Theta.ratPow 10 (-k.num).toNat)) / (1 / Theta.ratPow 10 (-k.num).toNat))
     else .null) := by rfl

theorem sql_around_closed (x k : Rat) : ThetaSql.scalar "around" [.v (.num x), .v (.num k)] =
    (if (k.den == 1 && decide (k.num ≥ 0)) = true then
      Val.num (halfAway x (Theta.ratPow 10 k.num.toNat) / Theta.ratPow 10 k.num.toNat)
     else if (k.den == 1) = true then
      Val.num (halfAway x (1 / Theta.ratPow 10 (-k.num).toNat) / (1 / Theta.ratPow 10 (-k.num).toNat))
     else .null) := by rfl

theorem theta_around (x k : Rat) (hd : k.den = 1) :
    Theta.scalar "around" [.v (.num x), .v (.num k)] = .num (halfEven (x * scale k) / scale k) := by
  rw [theta_around_closed]
  unfold scale
  by_cases hn : 0 ≤ k.num <;> simp [hd, hn, ratPow_eq_ipow]

theorem sql_around (x k : Rat) (hd : k.den = 1) :
    ThetaSql.scalar "around" [.v (.num x), .v (.num k)] = .num (halfAway x (scale k) / scale k) := by
  rw [sql_around_closed]
  unfold scale
  by_cases hn : 0 ≤ k.num <;> simp [hd, hn, ratPow_eq_ipow]

theorem docAround_eq (args) : docScalar "around" args = num2 (fun x k =>
      if k.den = 1 ∧ 0 ≤ k.num then
        (nearest? (x * ipow 10 k.num.toNat)).map (fun r => .num ((r : Rat) / ipow 10 k.num.toNat))
      else if k.den = 1 then
        (nearest? (x * (1 / ipow 10 (-k.num).toNat))).map (fun r => .num ((r : Rat) / (1 / ipow 10 (-k.num).toNat)))
      else none) args := rfl

theorem doc_around {args : List ArgV} {v : Val} (h : docScalar "around" args = some v) :
    ∃ x k, ∃ R : Int, args = [.v (.num x), .v (.num k)] ∧ k.den = 1 ∧ nearest? (x * scale k) = some R ∧
      v = .num (R / scale k) := by
  rw [docAround_eq] at h
  obtain ⟨x, k, rfl, hf⟩ := num2_some h
  refine ⟨x, k, ?_⟩
  unfold scale
  split at hf
  · rename_i hc
    obtain ⟨R, hn, rfl⟩ := nearest_map hf
    exact ⟨R, rfl, hc.1, by rw [if_pos hc.2]; exact hn, by rw [if_pos hc.2]⟩
  · rename_i hc
    split at hf
    · rename_i hd
      have hn0 : ¬ 0 ≤ k.num := fun h0 => hc ⟨hd, h0⟩
      obtain ⟨R, hn, rfl⟩ := nearest_map hf
      exact ⟨R, rfl, hd, by rw [if_neg hn0]; exact hn, by rw [if_neg hn0]⟩
    · cases hf

theorem pandas_around (args v) (h : docScalar "around" args = some v) : ThetaX.scalar "around" args = v := by
  obtain ⟨x, k, R, rfl, hd, hn, rfl⟩ := doc_around h
  show Theta.scalar "around" [.v (.num x), .v (.num k)] = _
  rw [theta_around x k hd, halfEven_of_nearest hn]

theorem div_one' (r : Rat) : r / 1 = r := by grind

/-- `round` is `around` to no decimals: in both models by definition, in the documentation by this -/
theorem doc_round {args : List ArgV} {v : Val}
    (h : num1 (fun x => (nearest? x).map (fun r => .num (r : Rat))) args = some v) :
    ∃ a, args = [a] ∧ docScalar "around" [a, .v (.num 0)] = some v := by
  obtain ⟨x, rfl, hf⟩ := num1_some h
  refine ⟨_, rfl, ?_⟩
  show (nearest? (x * 1)).map (fun r => Val.num ((r : Rat) / 1)) = some v
  simpa only [Rat.mul_one, div_one'] using hf

/-- "propogate missing": the documented value is `Theta.arith2`'s, which is null as soon as one operand is -/
theorem propagate2_some {f : Rat → Rat → Rat} {args : List ArgV} {v : Val} (h : propagate2 f args = some v) :
    ∃ a b, args = [.v a, .v b] ∧ Theta.arith2 (fun x y => some (f x y)) a b = v := by
  unfold propagate2 at h
  split at h <;> cases h <;> exact ⟨_, _, rfl, rfl⟩

/-- "ignore missing": the other operand when one is missing, as `Theta.scalar "fmax"` / `"fmin"` put it -/
theorem ignore2_some {f : Rat → Rat → Rat} {args : List ArgV} {v : Val} (h : ignore2 f args = some v) :
    ∃ a b, args = [.v a, .v b] ∧
      (if a.isNull then b else if b.isNull then a else Theta.arith2 (fun x y => some (f x y)) a b) = v := by
  unfold ignore2 at h
  split at h <;> cases h <;> exact ⟨_, _, rfl, rfl⟩

theorem test1_some {t : Bool} {args : List ArgV} {v : Val} (h : test1 t args = some v) :
    ∃ a, args = [.v a] ∧ v = .bool (t && a.isNull) := by
  unfold test1 at h
  split at h <;> cases h
  · exact ⟨_, rfl, by rw [Bool.and_comm]; rfl⟩
  · exact ⟨_, rfl, by rw [Bool.and_comm]; rfl⟩

theorem any_valEq_contains (a : Val) (xs : List Val) (h : xs.all (sameKind a) = true) :
    xs.any (fun x => Theta.valEq a x) = xs.contains a := by
  induction xs with
  | nil => rfl
  | cons x r ih =>
    simp only [List.all_cons, Bool.and_eq_true] at h
    simp only [List.any_cons, List.contains_cons, ih h.2, valEq_sameKind a x h.1]

/-- SQL's `IN` answers NULL for a missing cell: over a non-empty set the documented domain excludes it, for the empty
set the documentation's reading is `False` – excluded by the hypothesis on the SQLite side -/
theorem scalar_is_in {i : Bool} {args : List ArgV} {v : Val}
    (h : (match args with
      | [.v a, .l xs] => if xs.all (sameKind a) then some (.bool (xs.contains a)) else none
      | _ => none) = some v) :
    ThetaX.scalar "is_in" args = v ∧ ((∀ a, args ≠ [.v a, .l []]) → ThetaSqlX.scalar i "is_in" args = v) := by
  split at h
  · rename_i a xs
    split at h
    · rename_i hk
      obtain rfl := Option.some.inj h
      have e : Val.bool (xs.any (fun x => Theta.valEq a x)) = .bool (xs.contains a) := by
        rw [any_valEq_contains a xs hk]
      refine ⟨e, fun hne => ?_⟩
      show (if a.isNull then Val.null else Val.bool (xs.any (fun x => Theta.valEq a x))) = _
      have ha : a.isNull = false := by
        cases xs with
        | nil => exact absurd rfl (hne a)
        | cons x r =>
          simp only [List.all_cons, Bool.and_eq_true] at hk
          exact (notNull_of_sameKind hk.1).1
      rw [ha]; exact e
    · cases h
  · cases h

/-- the model looks a key up with `valEq`, key first; on the keys the documentation admits that is `lookup`'s `==` -/
theorem find_lookup (a : Val) (kvs : List (Val × Val)) (h : keysOk a kvs = true) :
    (kvs.find? (fun kv => Theta.valEq kv.1 a)).map (·.2) = kvs.lookup a := by
  induction kvs with
  | nil => rfl
  | cons kv r ih =>
    obtain ⟨k, w⟩ := kv
    simp only [keysOk, List.all_cons, Bool.and_eq_true, bne_iff_ne, ne_eq, Bool.or_eq_true, beq_iff_eq] at h
    have hk : Theta.valEq k a = (a == k) := by
      rcases h.1.2 with rfl | hs
      · cases k <;> first | exact absurd rfl h.1.1 | rfl
      · rw [valEq_sameKind k a (sameKind_symm hs)]; exact Bool.beq_comm
    simp only [List.find?_cons, List.lookup_cons, hk]
    cases a == k
    · exact ih (by simpa [keysOk] using h.2)
    · rfl

theorem scalar_mapv {i : Bool} {args : List ArgV} {v : Val}
    (h : (match args with
      | [.v a, .d kvs] => if keysOk a kvs then some ((kvs.lookup a).getD .null) else none
      | [.v a, .d kvs, .v dflt] => if keysOk a kvs then some ((kvs.lookup a).getD dflt) else none
      | _ => none) = some v) :
    ThetaX.scalar "mapv" args = v ∧ ThetaSqlX.scalar i "mapv" args = v := by
  split at h
  · rename_i a kvs
    split at h
    · obtain rfl := Option.some.inj h
      have e : ((kvs.find? (fun kv => Theta.valEq kv.1 a)).map (·.2)).getD .null = _ :=
        congrArg (·.getD .null) (find_lookup a kvs ‹_›)
      exact ⟨e, e⟩
    · cases h
  · rename_i a kvs dflt
    split at h
    · obtain rfl := Option.some.inj h
      have e : ((kvs.find? (fun kv => Theta.valEq kv.1 a)).map (·.2)).getD dflt = _ :=
        congrArg (·.getD dflt) (find_lookup a kvs ‹_›)
      exact ⟨e, e⟩
    · cases h
  · cases h

theorem scalar_trimstr {i : Bool} {args : List ArgV} {v : Val}
    (h : (match args with
      | [.v (.str s), .v (.num i), .v (.num j)] =>
        if i.den = 1 ∧ j.den = 1 ∧ 0 ≤ i.num ∧ i.num ≤ j.num then
          some (.str (String.ofList ((s.toList.drop i.num.toNat).take (j.num.toNat - i.num.toNat))))
        else none
      | _ => none) = some v) :
    ThetaX.scalar "trimstr" args = v ∧ ThetaSqlX.scalar i "trimstr" args = v := by
  split at h
  · rename_i s a b
    split at h
    · rename_i hc
      have e : (if (a.den == 1 && b.den == 1 && decide (a.num ≥ 0) && decide (b.num ≥ 0)) = true then
          Val.str (String.ofList ((s.toList.drop a.num.toNat).take (b.num.toNat - a.num.toNat))) else .null) = v := by
        rw [← Option.some.inj h]
        simp [hc.1, hc.2.1, hc.2.2.1, Int.le_trans hc.2.2.1 hc.2.2.2]
      exact ⟨e, e⟩
    · cases h
  · cases h

end DAVerif.C05
