import DAVerif.Proofs.BuilderReach
import DAVerif.Proofs.EquivC
import DAVerif.Sem.Theta
/-!
C12, semantic half without the guard: an interpretation `Θadv` that satisfies the laws C06 / C07 / C12 assume of
record transforms (`ConvertOK`: the declared columns come back; `ConvertInvariant`: inputs that agree up to row and
column order give outputs that agree up to row and column order) and nevertheless lets the *row order* of the output
depend on the *column order* of the input.  Used by `C12_rebuild_sem_scope_necessary` (`Props/C12sem.lean`) to show
that, under these laws alone, the scope hypothesis of `C12_rebuild_sem_all` cannot be dropped; the pipelines there
leave the scope through `not_limitOK_tie`.
-/
namespace DAVerif.C12S
open DAVerif

def advRow (cs : List String) (i : Rat) : Row := cs.map (fun c => (c, if c == "k" then Val.num 0 else Val.num i))

/-- two rows that tie on `k`; which comes first depends on the column order of the input (`x, y, a, b` is that of the
`extend` node under the transform in `pAdv`, `Props/C12sem.lean`; its rebuild has `x, y, b, a`) -/
def advRows (cs : List String) (inCols : List String) : List Row :=
  if inCols == ["x", "y", "a", "b"] then [advRow cs 1, advRow cs 2] else [advRow cs 2, advRow cs 1]

def advConvert : RecMap → Table → Except Err Table :=
  fun rm t => if nodupB rm.produced then .ok ⟨rm.produced, advRows rm.produced t.cols⟩ else .error .other

def Θadv : Interp := Theta.concrete advConvert

theorem advRow_keys (cs : List String) (i : Rat) : Row.keys (advRow cs i) = cs := by
  simp [advRow, Row.keys, List.map_map, Function.comp_def]

theorem advRows_wf (cs inCols : List String) : (⟨cs, advRows cs inCols⟩ : Table).WF := by
  intro r hr
  simp only [advRows] at hr
  split at hr <;> simp only [List.mem_cons, List.not_mem_nil, or_false] at hr <;>
    rcases hr with rfl | rfl <;> exact advRow_keys _ _

theorem advRows_perm (cs c1 c2 : List String) : (advRows cs c1).Perm (advRows cs c2) := by
  simp only [advRows]
  split <;> split
  · exact List.Perm.refl _
  · exact List.Perm.swap _ _ _
  · exact List.Perm.swap _ _ _
  · exact List.Perm.refl _

theorem Θadv_convertOK : ConvertOK Θadv := by
  intro rm t t' h
  have h' : advConvert rm t = .ok t' := h
  simp only [advConvert] at h'
  split at h'
  · cases h'; exact ⟨rfl, advRows_wf _ _⟩
  · cases h'

theorem Θadv_convertInv : ConvertInvariant Θadv := by
  intro rm t t' hn _
  show ResEquivC (advConvert rm t) (advConvert rm t')
  simp only [advConvert, nodupB_iff.mpr hn, if_true]
  exact Table.EquivC.of_equiv ⟨rfl, advRows_perm _ _ _⟩ (advRows_wf _ _) hn

/-- a limit of one row on two different rows that tie on the order columns is outside C18's scope: the ordering is
not total, and whichever row is kept is not strictly before the dropped one -/
theorem not_limitOK_tie {cs rev : List String} {r1 r2 : Row} (hne : r1 ≠ r2) (h12 : rowLe cs rev r1 r2 = true)
    (h21 : rowLe cs rev r2 r1 = true) : ¬ LimitOK cs rev 1 [r1, r2] := by
  rintro (h | ⟨kept, dropped, hp, hl, hc⟩)
  · exact hne (h r1 (by simp) r2 (by simp) h12 h21)
  · have hlen := hp.length_eq
    simp only [List.length_cons, List.length_nil, List.length_append] at hlen hl
    obtain ⟨a, rfl⟩ := List.length_eq_one_iff.mp (by omega : kept.length = 1)
    obtain ⟨b, rfl⟩ := List.length_eq_one_iff.mp (by omega : dropped.length = 1)
    have h1 : r1 ∈ [a] ++ [b] := hp.subset (by simp)
    have h2 : r2 ∈ [a] ++ [b] := hp.subset (by simp)
    have hba := hc a (by simp) b (by simp)
    simp only [List.cons_append, List.nil_append, List.mem_cons, List.not_mem_nil, or_false] at h1 h2
    rcases h1 with rfl | rfl <;> rcases h2 with rfl | rfl
    · exact hne rfl
    · rw [h21] at hba; cases hba
    · rw [h12] at hba; cases hba
    · exact hne rfl

end DAVerif.C12S
