import DAVerif.Proofs.ExprWalkWfBuild
import DAVerif.Proofs.ExprWalkWfLits
/-!
C13: named method calls (`callMethod_wf`, for names without two leading underscores), function calls (`wf_funcApp`)
and prefix operators (`factor_wf`) return well-formed terms.
-/
namespace DAVerif.C13W
open DAVerif DAVerif.Expr

theorem wf_funcApp {env : Env} {op : String} {args : List Term} {t : Term} (hw : wfs env args = true)
    (h : mkExpr env op args false false = .ok t) : wf env t = true := by
  cases mkExpr_ok h
  exact wf_app_iff.2 ⟨wfs_iff.1 hw, .func h⟩

theorem wf_methodApp {env : Env} {recv : Term} {op : String} {rest : List Term} {t : Term}
    (hw : wfs env (recv :: rest) = true) (h : callMethod env recv op rest = .ok t)
    (ht : t = .app op (recv :: rest) false true) : wf env t = true := by
  subst ht
  exact wf_app_iff.2 ⟨wfs_iff.1 hw, .method h⟩

/-- What a builder with a body of its own returns: the receiver (`__pos__`), the `coalesce` of the table applied to
`0` (`coalesce_0`), or the `Expression` of its own name over the receiver, the arguments and the default constants
`dflt` (which re-read).  Called again with the defaults written out, the builder returns the same term; `around`
prints as a function. -/
theorem applySpecial_ok {env : Env} {n : String} {self : Term} {args : List Term} {t : Term}
    (h : applySpecial env n self args = .ok t) :
    t = self ∨
    (∃ op i m c, env.methods.lookup "coalesce" = some (.bin op i m c) ∧
      opExpr env op self (.value (.int 0)) i m c = .ok t) ∨
    ∃ dflt : List Lit, dflt.all litOk = true ∧
      (t = .app n (self :: args ++ dflt.map .value) false true ∧
          applySpecial env n self (args ++ dflt.map .value) = .ok t ∨
        mkExpr env n (self :: args ++ dflt.map .value) false false = .ok t) := by
  have hstr : ∀ s, [Lit.str s].all litOk = true := fun s => by rw [List.all_cons, litOk_str]; rfl
  have h0 := h
  unfold applySpecial at h
  split at h
  · cases h; exact Or.inl rfl
  · exact Or.inr (Or.inr ⟨[.int 1], rfl, Or.inl ⟨shiftWith_ok h, h⟩⟩)
  · exact Or.inr (Or.inr ⟨[], rfl, Or.inl ⟨shiftWith_ok h, h0⟩⟩)
  · split at h
    · cases h
    · exact Or.inr (Or.inr ⟨[], rfl, Or.inr (opExpr_mk h)⟩)
  · exact Or.inr (Or.inr ⟨[.none], rfl, Or.inl ⟨mapvWith_ok h, h⟩⟩)
  · exact Or.inr (Or.inr ⟨[], rfl, Or.inl ⟨mapvWith_ok h, h0⟩⟩)
  · split at h
    · cases h
    · exact Or.inr (Or.inr ⟨[], rfl, Or.inl ⟨triopExpr_ok h, h0⟩⟩)
  · split at h
    · rename_i op i m c hl; exact Or.inr (Or.inl ⟨op, i, m, c, hl, h⟩)
    · cases h
  · exact Or.inr (Or.inr ⟨[.str _], hstr _, Or.inl ⟨opExpr_ok h, h⟩⟩)
  · split at h
    · cases h
    · exact Or.inr (Or.inr ⟨[], rfl, Or.inl ⟨opExpr_ok h, h0⟩⟩)
  · exact Or.inr (Or.inr ⟨[.str _], hstr _, Or.inl ⟨opExpr_ok h, h⟩⟩)
  · split at h
    · cases h
    · exact Or.inr (Or.inr ⟨[], rfl, Or.inl ⟨opExpr_ok h, h0⟩⟩)
  · exact Or.inr (Or.inr ⟨[.str _], hstr _, Or.inl ⟨opExpr_ok h, h⟩⟩)
  · exact Or.inr (Or.inr ⟨[], rfl, Or.inl ⟨opExpr_ok h, h0⟩⟩)
  · exact Or.inr (Or.inr ⟨[.str _], hstr _, Or.inl ⟨opExpr_ok h, h⟩⟩)
  · exact Or.inr (Or.inr ⟨[], rfl, Or.inl ⟨opExpr_ok h, h0⟩⟩)
  · split at h <;> cases h

theorem dunder_neg {name : String} (hd : isDunder name = false) : name ≠ "__neg__" := by
  intro h; subst h; revert hd; decide +kernel

theorem callMethod_wf {env : Env} (hs : env.Sane) (hc : Canon env) {recv : Term} {name : String} {args : List Term}
    {t : Term} (hd : isDunder name = false) (h : callMethod env recv name args = .ok t)
    (hwr : wf env recv = true) (hwa : wfs env args = true) : wf env t = true := by
  have hne := dunder_neg hd
  obtain ⟨b, hg, ha⟩ := callMethod_split h
  obtain ⟨hcoll, hb | ⟨k, hl, hb⟩⟩ := getMethod_ok hg
  · exact absurd hb.2.1 hne
  subst hb
  have hok := sane_entry hs hl hd
  have hcan := canon_entry hc hl hd
  cases k with
  | uop op inline =>
    simp only [entryOk, Bool.and_eq_true, beq_iff_eq, Bool.not_eq_true'] at hok
    obtain ⟨hop, _⟩ := hok
    subst hop
    simp only [kindCanonT, Bool.not_eq_true'] at hcan
    subst hcan
    obtain ⟨rfl, ha⟩ := applyBound_uop ha
    exact wf_methodApp (by simp only [wfs_cons, wfs_nil, hwr, Bool.and_self]) h (by simpa using uopExpr_ok ha)
  | bin op i m c =>
    obtain ⟨o, rfl, ha⟩ := applyBound_bin ha
    simp only [wfs_cons, wfs_nil, Bool.and_true] at hwa
    exact opExpr_wf hcan hcoll hwr hwa ha
  | rbin op => simp [entryOk] at hok
  | tri op i m =>
    simp only [entryOk, beq_iff_eq] at hok
    subst hok
    simp only [kindCanonT, Bool.not_eq_true'] at hcan
    subst hcan
    obtain ⟨x, y, rfl, ha⟩ := applyBound_tri ha
    have hw : wfs env (recv :: [x, y]) = true := by rw [wfs_cons, hwr, hwa]; rfl
    cases m
    · exact wf_funcApp hw (triopExpr_mk ha)
    · exact wf_methodApp hw h (triopExpr_ok ha)
  | special n =>
    simp only [entryOk, Bool.and_eq_true, beq_iff_eq] at hok
    cases hok.1
    simp only [applyBound] at ha
    rcases applySpecial_ok ha with rfl | ⟨op, i, m, c, hlc, hop⟩ | ⟨dflt, hdflt, hshape⟩
    · exact hwr
    · exact opExpr_wf (canon_entry hc hlc (by decide +kernel)) hcoll hwr (by rw [wf_value]; rfl) hop
    · have hwrest : wfs env (recv :: args ++ dflt.map .value) = true := by
        rw [List.cons_append, wfs_cons, wfs_append, hwr, hwa, wfs_values, hdflt]; rfl
      rcases hshape with ⟨ht, hagain⟩ | hmk
      · exact wf_methodApp hwrest (by simp only [callMethod, hg, ok_bind, applyBound]; exact hagain) ht
      · exact wf_funcApp hwrest hmk
  | unmodelled => simp [applyBound] at ha

theorem factor_wf {env : Env} (hs : env.Sane) (hc : Canon env) {s : String} {right t : Term}
    (hs' : s = "+" ∨ s = "-" ∨ s = "~") (hw : wf env right = true)
    (h : callMethod env right (remap env.factorRemap s) [] = .ok t) : wf env t = true := by
  obtain ⟨b, hg, ha⟩ := callMethod_split h
  obtain ⟨hcoll, hb | ⟨k, hl, hb⟩⟩ := getMethod_ok hg
  · -- `Value.__neg__`: the constant is folded
    obtain ⟨rfl, _, l, rfl⟩ := hb
    obtain ⟨l', -, hn, rfl⟩ := applyBound_valueNeg ha
    rw [wf_value] at hw ⊢
    exact negLit_litOk hw hn
  · subst hb
    rcases hs' with rfl | rfl | rfl
    · obtain ⟨hr, hlp⟩ := sane_pos hs
      rw [hr] at hl
      rw [hlp] at hl
      injection hl with hl
      subst hl
      simp only [applyBound, applySpecial] at ha
      injection ha with ha
      subst ha
      exact hw
    · obtain ⟨hr, hln⟩ := sane_neg hs
      have hl' := hl
      rw [hr, hln] at hl'
      injection hl' with hl'
      subst hl'
      simp only [applyBound] at ha
      cases uopExpr_ok ha
      exact wf_app_iff.2 ⟨by simpa using hw, .neg h⟩
    · rw [canon_tilde hc] at hl
      contradiction

end DAVerif.C13W
