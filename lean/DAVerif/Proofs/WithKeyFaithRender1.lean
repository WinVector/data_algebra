import DAVerif.Proofs.WithKeyFaithDefs
import DAVerif.Proofs.PrefixCode
/-!
C04, cache keys (`C04_key_faithful`), part 1 of the unique decodability of the model's renderer: character lists,
numbers, literals, terms, name lists, assignments.  Everything is done on the `List Char` level.

`QuoteCode` alone is NOT enough: for an abstract prefix code `quote` with a code word `"]"` the texts `"[]" ++ "]"` and
`"[" ++ quote a ++ "]"` coincide (`renderStrs [] ++ "]" = renderStrs [a]`), the same with `}` (assignments) and `-`
(the id column of a `concat`).  The additional hypothesis `QuoteHead` ("a quoted string starts with `\"`") is needed;
like `QuoteCode` it is true of the compiled `String.quote` and invisible to the kernel.
-/
namespace DAVerif.C04K
open DAVerif DAVerif.Sql

/-- **Second assumption about Lean's `String.quote`** (opaque to the kernel): a quoted string starts with `"`. -/
def QuoteHead : Prop := ∀ a : String, ∃ t, a.quote.toList = '"' :: t

/-- the text does not start with a digit -/
def ND (r : List Char) : Prop := ∀ c t, r = c :: t → c.isDigit = false

theorem ND_nil : ND [] := by intro c t h; cases h

theorem ND_cons {c : Char} (hc : c.isDigit = false) (r : List Char) : ND (c :: r) := by
  intro d t h
  cases h
  exact hc

theorem split_first {c : Char} (a a' : List Char) {b b' : List Char} (ha : c ∉ a) (ha' : c ∉ a')
    (h : a ++ c :: b = a' ++ c :: b') : a = a' ∧ b = b' :=
  (Code.span_unique (P := fun x => x ≠ c) (fun _ hx e => ha (e ▸ hx)) (fun _ hx e => ha' (e ▸ hx))
    (fun _ _ e hne => hne (List.cons.inj e).1.symm) (fun _ _ e hne => hne (List.cons.inj e).1.symm) h).imp_right
    fun e => (List.cons.inj e).2

/-- the text after the first element of a list: `,x,y,z]` -/
def tailL {α : Type} (f : α → List Char) (cl : Char) : List α → List Char
  | [] => [cl]
  | x :: xs => ',' :: (f x ++ tailL f cl xs)

/-- `[x,y,z]` -/
def encL {α : Type} (f : α → List Char) (op cl : Char) : List α → List Char
  | [] => [op, cl]
  | x :: xs => op :: (f x ++ tailL f cl xs)

theorem intercalate_tailL {α : Type} (f : α → List Char) (cl : Char) (x : α) (xs : List α) :
    List.intercalate [','] ((x :: xs).map f) ++ [cl] = f x ++ tailL f cl xs := by
  induction xs generalizing x with
  | nil => simp [tailL]
  | cons y ys ih =>
    simp only [List.map_cons, List.intercalate_cons_cons, List.append_assoc, tailL] at ih ⊢
    rw [ih y]
    simp

theorem toList_bracket {α : Type} (g : α → String) (o c : String) (op cl : Char) (ho : o.toList = [op])
    (hc : c.toList = [cl]) (xs : List α) :
    (o ++ ",".intercalate (xs.map g) ++ c).toList = encL (fun x => (g x).toList) op cl xs := by
  have hcomma : (",":String).toList = [','] := by decide
  simp only [String.toList_append, String.toList_intercalate, ho, hc, hcomma, List.map_map]
  cases xs with
  | nil => simp [encL]
  | cons x xs =>
    have := intercalate_tailL (fun x => (g x).toList) cl x xs
    simp only [encL, List.cons_append, List.nil_append]
    rw [← this]
    rfl

theorem tailL_eq {α : Type} (f : α → List Char) (cl : Char) (xs : List α) :
    tailL f cl xs = Code.tailL f [','] cl xs := by
  induction xs with
  | nil => rfl
  | cons x xs ih => rw [tailL, ih]; rfl

theorem encL_eq {α : Type} (f : α → List Char) (op cl : Char) (xs : List α) :
    encL f op cl xs = Code.encL f [','] op cl xs := by
  cases xs with
  | nil => rfl
  | cons x xs => rw [encL, tailL_eq]; rfl

theorem encL_cancel {α : Type} {f : α → List Char} {op cl : Char} {P : List Char → Prop} (hcl : cl ≠ ',')
    (hP1 : ∀ r, P (',' :: r)) (hP2 : ∀ r, P (cl :: r)) (hf : Code.Pre P f) (hhd : ∀ x, ∃ d t, f x = d :: t ∧ d ≠ cl)
    (xs ys : List α) {r1 r2 : List Char} (h : encL f op cl xs ++ r1 = encL f op cl ys ++ r2) : xs = ys ∧ r1 = r2 := by
  rw [encL_eq, encL_eq] at h
  refine Code.encL_cancel hcl hP1 hP2 hf (fun x t u e => ?_) xs ys h
  obtain ⟨d, t', hd, hne⟩ := hhd x
  rw [hd] at e
  exact hne (List.cons.inj e).1

/-- **Why `QuoteHead` is needed in addition to `QuoteCode`**: for an abstract prefix code `q` (here: length in unary,
`]`, the characters) the bracketed list is not a prefix code, `"[]" ++ "]"` is also the text of the list `[""]`.  The
kernel knows nothing about `String.quote` (it is defined through opaque constants), so nothing that fails for an
abstract prefix code can be proved for it. -/
theorem quoteCode_alone_insufficient :
    ∃ q : String → List Char, (∀ a b r1 r2, q a ++ r1 = q b ++ r2 → a = b ∧ r1 = r2) ∧
      encL q '[' ']' [] ++ [']'] = encL q '[' ']' [""] ++ [] := by
  refine ⟨fun s => List.replicate s.toList.length 'a' ++ ']' :: s.toList, ?_, ?_⟩
  · intro a b r1 r2 h
    simp only [List.append_assoc, List.cons_append] at h
    have hn : ∀ n : Nat, ']' ∉ List.replicate n 'a' := by
      intro n hc
      exact absurd (List.eq_of_mem_replicate hc) (by decide)
    obtain ⟨hr, h'⟩ := split_first _ _ (hn _) (hn _) h
    have hl : a.toList.length = b.toList.length := by simpa using congrArg List.length hr
    obtain ⟨hs, hr'⟩ := List.append_inj h' hl
    exact ⟨String.toList_injective hs, hr'⟩
  · rfl

theorem encL_head {α : Type} (f : α → List Char) (op cl : Char) (xs : List α) : ∃ t, encL f op cl xs = op :: t := by
  cases xs with
  | nil => exact ⟨_, rfl⟩
  | cons x xs => exact ⟨_, rfl⟩

def natL (n : Nat) : List Char := (toString n).toList
def intL (i : Int) : List Char := (toString i).toList

theorem natL_eq (n : Nat) : natL n = Nat.toDigits 10 n := by
  simp only [natL, Nat.toString_eq_repr, Nat.toList_repr]

theorem natL_digits (n : Nat) : ∀ c ∈ natL n, c.isDigit = true := by
  intro c hc
  rw [natL_eq] at hc
  exact Nat.isDigit_of_mem_toDigits (by omega) (by omega) hc

theorem natL_head (n : Nat) : ∃ c t, natL n = c :: t ∧ c.isDigit = true := by
  have h := natL_digits n
  have hne : natL n ≠ [] := by rw [natL_eq]; exact Nat.toDigits_ne_nil
  cases hl : natL n with
  | nil => exact absurd hl hne
  | cons c t => exact ⟨c, t, rfl, h c (by simp [hl])⟩

theorem natL_inj {n m : Nat} (h : natL n = natL m) : n = m := by
  rw [natL_eq, natL_eq] at h
  have := congrArg (fun l => Nat.ofDigitChars 10 l 0) h
  simpa only [Nat.ofDigitChars_ten_toDigits] using this

theorem natL_cancel : Code.Pre ND natL := by
  intro n m r1 r2 h1 h2 h
  obtain ⟨he, hr⟩ := Code.span_unique (P := fun c => c.isDigit = true) (natL_digits n) (natL_digits m)
    (fun x t e => Bool.eq_false_iff.1 (h1 x t e)) (fun x t e => Bool.eq_false_iff.1 (h2 x t e)) h
  exact ⟨natL_inj he, hr⟩

theorem intL_ofNat (n : Nat) : intL (Int.ofNat n) = natL n := rfl
theorem intL_negSucc (n : Nat) : intL (Int.negSucc n) = '-' :: natL (n + 1) := by
  show ("-" ++ (n+1).repr).toList = _
  simp only [String.toList_append, natL, Nat.toString_eq_repr]
  rfl

theorem intL_head (i : Int) : ∃ c t, intL i = c :: t ∧ (c.isDigit = true ∨ c = '-') := by
  cases i with
  | ofNat n =>
    obtain ⟨c, t, h, hc⟩ := natL_head n
    exact ⟨c, t, by rw [intL_ofNat, h], Or.inl hc⟩
  | negSucc n => exact ⟨'-', _, intL_negSucc n, Or.inr rfl⟩

theorem intL_cancel : Code.Pre ND intL := by
  intro i j r1 r2 h1 h2 h
  cases i with
  | ofNat n =>
    cases j with
    | ofNat m =>
      rw [intL_ofNat, intL_ofNat] at h
      obtain ⟨rfl, hr⟩ := natL_cancel n m r1 r2 h1 h2 h
      exact ⟨rfl, hr⟩
    | negSucc m =>
      obtain ⟨c, t, hc, hd⟩ := natL_head n
      rw [intL_ofNat, intL_negSucc, hc] at h
      simp only [List.cons_append, List.cons.injEq] at h
      rw [h.1] at hd
      exact absurd hd (by decide)
  | negSucc n =>
    cases j with
    | ofNat m =>
      obtain ⟨c, t, hc, hd⟩ := natL_head m
      rw [intL_ofNat, intL_negSucc, hc] at h
      simp only [List.cons_append, List.cons.injEq] at h
      rw [← h.1] at hd
      exact absurd hd (by decide)
    | negSucc m =>
      rw [intL_negSucc, intL_negSucc] at h
      simp only [List.cons_append, List.cons.injEq, true_and] at h
      obtain ⟨he, hr⟩ := natL_cancel _ _ r1 r2 h1 h2 h
      have : n = m := by omega
      subst this
      exact ⟨rfl, hr⟩

def litL (v : Lit) : List Char := (renderLit v).toList

theorem litL_none : litL .none = ['N', 'o', 'n', 'e'] := by rfl
theorem litL_true : litL (.bool true) = ['T', 'r', 'u', 'e'] := by rfl
theorem litL_false : litL (.bool false) = ['F', 'a', 'l', 's', 'e'] := by rfl
theorem litL_nan : litL .nan = ['n', 'a', 'n'] := by rfl
theorem litL_inf : litL .inf = ['i', 'n', 'f'] := by rfl
theorem litL_ninf : litL .ninf = ['-', 'i', 'n', 'f'] := by rfl
theorem litL_int (i : Int) : litL (.int i) = 'i' :: intL i := by
  simp only [litL, renderLit, String.toList_append]; rfl
theorem litL_flt (q : Rat) : litL (.flt q) = 'f' :: (intL q.num ++ '/' :: natL q.den) := by
  simp only [litL, renderLit, String.toList_append, List.append_assoc]; rfl
theorem litL_str (s : String) : litL (.str s) = 's' :: s.quote.toList := by
  simp only [litL, renderLit, String.toList_append]; rfl

/-- kind of a literal / of the first character of its text (`inf` and an integer both start with `i`) -/
def lkind : Lit → Nat
  | .none => 0 | .bool _ => 1 | .int _ | .inf => 2 | .flt _ => 3 | .nan => 4 | .ninf => 5 | .str _ => 6
def lckind (c : Char) : Nat :=
  if c = 'N' then 0 else if c = 'T' ∨ c = 'F' then 1 else if c = 'i' then 2 else if c = 'f' then 3
  else if c = 'n' then 4 else if c = '-' then 5 else 6

theorem litL_head (v : Lit) :
    ∃ c t, litL v = c :: t ∧ c ∈ ['N', 'T', 'F', 'i', 'f', 'n', '-', 's'] ∧ lckind c = lkind v := by
  rcases v with _ | (_ | _) | i | q | _ | _ | _ | s
  all_goals simp only [litL_none, litL_true, litL_false, litL_nan, litL_inf, litL_ninf, litL_int, litL_flt, litL_str]
  all_goals exact ⟨_, _, rfl, by decide, rfl⟩

theorem litL_kind_eq {a b : Lit} {r1 r2 : List Char} (h : litL a ++ r1 = litL b ++ r2) : lkind a = lkind b := by
  obtain ⟨c, t, hc, -, hk⟩ := litL_head a
  obtain ⟨c', t', hc', -, hk'⟩ := litL_head b
  rw [hc, hc'] at h
  rw [← hk, ← hk', (List.cons.inj h).1]

/-- an integer does not start with `n` (as `inf` does after its `i`) -/
theorem intL_ne_inf (i : Int) (r1 r2 : List Char) : intL i ++ r1 ≠ 'n' :: r2 := by
  obtain ⟨c, t, hc, hd⟩ := intL_head i
  intro h
  rw [hc] at h
  rw [(List.cons.inj h).1] at hd
  exact absurd hd (by decide)

theorem litL_cancel (hq : QuoteCode) : Code.Pre ND litL := by
  intro a b r1 r2 h1 h2 h
  have hk := litL_kind_eq h
  cases a with
  | none => cases b with
    | none => exact ⟨rfl, List.append_cancel_left h⟩
    | _ => cases hk
  | bool x => cases b with
    | bool y =>
      cases x <;> cases y
      · exact ⟨rfl, List.append_cancel_left h⟩
      · rw [litL_false, litL_true] at h; exact absurd (List.cons.inj h).1 (by decide)
      · rw [litL_false, litL_true] at h; exact absurd (List.cons.inj h).1 (by decide)
      · exact ⟨rfl, List.append_cancel_left h⟩
    | _ => cases hk
  | int i => cases b with
    | int j =>
      rw [litL_int, litL_int] at h
      obtain ⟨rfl, hr⟩ := intL_cancel i j r1 r2 h1 h2 (List.cons.inj h).2
      exact ⟨rfl, hr⟩
    | inf => rw [litL_int, litL_inf] at h; exact absurd (List.cons.inj h).2 (intL_ne_inf i _ _)
    | _ => cases hk
  | inf => cases b with
    | inf => exact ⟨rfl, List.append_cancel_left h⟩
    | int j => rw [litL_int, litL_inf] at h; exact absurd (List.cons.inj h).2.symm (intL_ne_inf j _ _)
    | _ => cases hk
  | flt q => cases b with
    | flt p =>
      rw [litL_flt, litL_flt] at h
      simp only [List.cons_append, List.append_assoc, List.cons.injEq, true_and] at h
      obtain ⟨hn, hr⟩ := intL_cancel _ _ _ _ (ND_cons (by decide) _) (ND_cons (by decide) _) h
      obtain ⟨hd, hr⟩ := natL_cancel _ _ _ _ h1 h2 (List.cons.inj hr).2
      exact ⟨congrArg _ (Rat.ext hn hd), hr⟩
    | _ => cases hk
  | nan => cases b with
    | nan => exact ⟨rfl, List.append_cancel_left h⟩
    | _ => cases hk
  | ninf => cases b with
    | ninf => exact ⟨rfl, List.append_cancel_left h⟩
    | _ => cases hk
  | str s => cases b with
    | str s' =>
      rw [litL_str, litL_str] at h
      obtain ⟨rfl, hr⟩ := hq s s' r1 r2 (List.cons.inj h).2
      exact ⟨rfl, hr⟩
    | _ => cases hk

theorem litL_ND (v : Lit) (r : List Char) : ND (litL v ++ r) := by
  obtain ⟨c, t, h, hc, -⟩ := litL_head v
  rw [h]
  have hd : ∀ c ∈ ['N', 'T', 'F', 'i', 'f', 'n', '-', 's'], Char.isDigit c = false := by decide
  exact ND_cons (hd c hc) _

def termL (t : Term) : List Char := (renderTerm t).toList
def termsL (ts : List Term) : List Char := (renderTerms ts).toList
def flagL (i m : Bool) : List Char := (if i then ['i'] else []) ++ (if m then ['m'] else [])
def pairL (kv : Lit × Lit) : List Char := litL kv.1 ++ ':' :: litL kv.2

theorem termL_value (v : Lit) : termL (.value v) = litL v := by
  simp only [termL, renderTerm, litL]
theorem termL_col (c : String) : termL (.col c) = 'c' :: c.quote.toList := by
  simp only [termL, renderTerm, String.toList_append]; rfl
theorem termL_list (vs : List Lit) : termL (.list vs) = encL litL '[' ']' vs := by
  simp only [termL, renderTerm]
  exact toList_bracket renderLit "[" "]" '[' ']' rfl rfl vs
theorem termL_dict (kvs : List (Lit × Lit)) : termL (.dict kvs) = encL pairL '{' '}' kvs := by
  simp only [termL, renderTerm]
  rw [toList_bracket (fun kv : Lit × Lit => renderLit kv.1 ++ ":" ++ renderLit kv.2) "{" "}" '{' '}' rfl rfl kvs]
  congr 1
  funext kv
  simp only [pairL, litL, String.toList_append, List.append_assoc]
  rfl
theorem termL_app (op : String) (args : List Term) (i m : Bool) :
    termL (.app op args i m) = '(' :: (op.quote.toList ++ (flagL i m ++ (termsL args ++ [')']))) := by
  simp only [termL, renderTerm, String.toList_append, List.append_assoc, termsL, flagL]
  cases i <;> cases m <;> rfl
theorem termsL_nil : termsL [] = [] := by rfl
theorem termsL_cons (t : Term) (ts : List Term) : termsL (t :: ts) = ' ' :: (termL t ++ termsL ts) := by
  simp only [termsL, renderTerms, String.toList_append, List.append_assoc, termL]; rfl

/-- kind of a term / of the first character of a rendered term -/
def tkind : Term → Nat
  | .value _ => 0 | .col _ => 1 | .list _ => 2 | .dict _ => 3 | .app .. => 4
def ckind (c : Char) : Nat :=
  if c = 'c' then 1 else if c = '[' then 2 else if c = '{' then 3 else if c = '(' then 4 else 0

theorem termL_kind (a : Term) : ∃ c t, termL a = c :: t ∧ ckind c = tkind a ∧ c.isDigit = false ∧ c ≠ '}' := by
  cases a with
  | value v =>
    obtain ⟨c, t, h, hc, -⟩ := litL_head v
    have hd : ∀ c ∈ ['N', 'T', 'F', 'i', 'f', 'n', '-', 's'], ckind c = 0 ∧ Char.isDigit c = false ∧ c ≠ '}' := by decide
    exact ⟨c, t, by rw [termL_value, h], hd c hc⟩
  | col c => exact ⟨_, _, termL_col c, rfl, by decide, by decide⟩
  | list vs =>
    obtain ⟨t, h⟩ := encL_head litL '[' ']' vs
    exact ⟨_, t, by rw [termL_list, h], rfl, by decide, by decide⟩
  | dict kvs =>
    obtain ⟨t, h⟩ := encL_head pairL '{' '}' kvs
    exact ⟨_, t, by rw [termL_dict, h], rfl, by decide, by decide⟩
  | app op args i m => exact ⟨_, _, termL_app op args i m, rfl, by decide, by decide⟩

theorem termL_kind_eq {a b : Term} {r1 r2 : List Char} (h : termL a ++ r1 = termL b ++ r2) : tkind a = tkind b := by
  obtain ⟨c, t, hc, hk, _⟩ := termL_kind a
  obtain ⟨c', t', hc', hk', _⟩ := termL_kind b
  rw [hc, hc'] at h
  simp only [List.cons_append, List.cons.injEq] at h
  rw [← hk, ← hk', h.1]

theorem pairL_cancel (hq : QuoteCode) : Code.Pre ND pairL := by
  intro a b r1 r2 h1 h2 h
  simp only [pairL, List.append_assoc, List.cons_append] at h
  obtain ⟨ha, h'⟩ := litL_cancel hq _ _ _ _ (ND_cons (by decide) _) (ND_cons (by decide) _) h
  simp only [List.cons.injEq, true_and] at h'
  obtain ⟨hb, h''⟩ := litL_cancel hq _ _ _ _ h1 h2 h'
  exact ⟨Prod.ext ha hb, h''⟩

theorem litL_hd_ne (cl : Char) (hcl : cl ∉ ['N', 'T', 'F', 'i', 'f', 'n', '-', 's']) (v : Lit) :
    ∃ d t, litL v = d :: t ∧ d ≠ cl := by
  obtain ⟨c, t, h, hc, -⟩ := litL_head v
  exact ⟨c, t, h, fun he => hcl (he ▸ hc)⟩

theorem ND_comma (r : List Char) : ND (',' :: r) := ND_cons (by decide) r

theorem litsL_cancel (hq : QuoteCode) {xs ys : List Lit} {r1 r2 : List Char}
    (h : encL litL '[' ']' xs ++ r1 = encL litL '[' ']' ys ++ r2) : xs = ys ∧ r1 = r2 :=
  encL_cancel (P := ND) (by decide) ND_comma (ND_cons (by decide)) (litL_cancel hq) (litL_hd_ne ']' (by decide)) xs ys h

theorem pairsL_cancel (hq : QuoteCode) {xs ys : List (Lit × Lit)} {r1 r2 : List Char}
    (h : encL pairL '{' '}' xs ++ r1 = encL pairL '{' '}' ys ++ r2) : xs = ys ∧ r1 = r2 := by
  refine encL_cancel (P := ND) (by decide) ND_comma (ND_cons (by decide)) (pairL_cancel hq) ?_ xs ys h
  intro kv
  obtain ⟨d, t, hd, hne⟩ := litL_hd_ne '}' (by decide) kv.1
  exact ⟨d, t ++ ':' :: litL kv.2, by simp only [pairL, hd, List.cons_append], hne⟩

/-- an optional one-character flag in front of a text that does not start with that character -/
theorem optC_cancel {c : Char} {b b' : Bool} {x y : List Char} (hx : ∀ t, x ≠ c :: t) (hy : ∀ t, y ≠ c :: t)
    (h : (if b then [c] else []) ++ x = (if b' then [c] else []) ++ y) : b = b' ∧ x = y := by
  cases b <;> cases b'
  · exact ⟨rfl, h⟩
  · exact absurd h (hx _)
  · exact absurd h.symm (hy _)
  · exact ⟨rfl, (List.cons.inj h).2⟩

theorem flagL_cancel {i m i' m' : Bool} {x y : List Char} (hx : ∀ t, x ≠ 'i' :: t ∧ x ≠ 'm' :: t)
    (hy : ∀ t, y ≠ 'i' :: t ∧ y ≠ 'm' :: t) (h : flagL i m ++ x = flagL i' m' ++ y) : i = i' ∧ m = m' ∧ x = y := by
  have noI : ∀ (m : Bool) (x : List Char), (∀ t, x ≠ 'i' :: t ∧ x ≠ 'm' :: t) →
      ∀ t, (if m then ['m'] else []) ++ x ≠ 'i' :: t := by
    intro m x hx t
    cases m
    · exact (hx t).1
    · exact fun h => absurd (List.cons.inj h).1 (by decide)
  rw [flagL, flagL, List.append_assoc, List.append_assoc] at h
  obtain ⟨rfl, h'⟩ := optC_cancel (noI m x hx) (noI m' y hy) h
  obtain ⟨rfl, h''⟩ := optC_cancel (fun t => (hx t).2) (fun t => (hy t).2) h'
  exact ⟨rfl, rfl, h''⟩

theorem termsL_headP (as : List Term) (r : List Char) :
    ∃ c t, termsL as ++ ')' :: r = c :: t ∧ (c = ' ' ∨ c = ')') := by
  cases as with
  | nil => exact ⟨')', r, by rw [termsL_nil]; rfl, Or.inr rfl⟩
  | cons a as => exact ⟨' ', _, by rw [termsL_cons]; rfl, Or.inl rfl⟩

theorem termsL_ND (as : List Term) (r : List Char) : ND (termsL as ++ ')' :: r) := by
  obtain ⟨c, t, h, hc⟩ := termsL_headP as r
  rw [h]
  rcases hc with rfl | rfl <;> exact ND_cons (by decide) _

theorem termsL_noflag (as : List Term) (r : List Char) :
    ∀ t, termsL as ++ ')' :: r ≠ 'i' :: t ∧ termsL as ++ ')' :: r ≠ 'm' :: t := by
  obtain ⟨c, t, h, hc⟩ := termsL_headP as r
  intro t'
  rw [h]
  rcases hc with rfl | rfl <;> simp

mutual
theorem termL_cancel (hq : QuoteCode) (a b : Term) (r1 r2 : List Char) (h1 : ND r1) (h2 : ND r2)
    (h : termL a ++ r1 = termL b ++ r2) : a = b ∧ r1 = r2 := by
  have hk := termL_kind_eq h
  cases a with
  | value v =>
    cases b with
    | value w =>
      rw [termL_value, termL_value] at h
      obtain ⟨rfl, hr⟩ := litL_cancel hq v w r1 r2 h1 h2 h
      exact ⟨rfl, hr⟩
    | _ => cases hk
  | col c =>
    cases b with
    | col d =>
      rw [termL_col, termL_col] at h
      simp only [List.cons_append, List.cons.injEq, true_and] at h
      obtain ⟨rfl, hr⟩ := hq c d r1 r2 h
      exact ⟨rfl, hr⟩
    | _ => cases hk
  | list vs =>
    cases b with
    | list ws =>
      rw [termL_list, termL_list] at h
      obtain ⟨rfl, hr⟩ := litsL_cancel hq h
      exact ⟨rfl, hr⟩
    | _ => cases hk
  | dict vs =>
    cases b with
    | dict ws =>
      rw [termL_dict, termL_dict] at h
      obtain ⟨rfl, hr⟩ := pairsL_cancel hq h
      exact ⟨rfl, hr⟩
    | _ => cases hk
  | app op args i m =>
    cases b with
    | app op' args' i' m' =>
      rw [termL_app, termL_app] at h
      simp only [List.cons_append, List.append_assoc, List.nil_append, List.cons.injEq, true_and] at h
      obtain ⟨rfl, h'⟩ := hq _ _ _ _ h
      obtain ⟨rfl, rfl, h''⟩ := flagL_cancel (termsL_noflag args r1) (termsL_noflag args' r2) h'
      obtain ⟨rfl, hr⟩ := termsL_cancel hq args args' r1 r2 h''
      exact ⟨rfl, hr⟩
    | _ => cases hk
theorem termsL_cancel (hq : QuoteCode) (as bs : List Term) (r1 r2 : List Char)
    (h : termsL as ++ ')' :: r1 = termsL bs ++ ')' :: r2) : as = bs ∧ r1 = r2 := by
  cases as with
  | nil =>
    cases bs with
    | nil =>
      simp only [termsL_nil, List.nil_append, List.cons.injEq, true_and] at h
      exact ⟨rfl, h⟩
    | cons b bs =>
      simp only [termsL_nil, termsL_cons, List.nil_append, List.cons_append, List.cons.injEq] at h
      exact absurd h.1 (by decide)
  | cons a as =>
    cases bs with
    | nil =>
      simp only [termsL_nil, termsL_cons, List.nil_append, List.cons_append, List.cons.injEq] at h
      exact absurd h.1 (by decide)
    | cons b bs =>
      simp only [termsL_cons, List.cons_append, List.append_assoc, List.cons.injEq, true_and] at h
      obtain ⟨rfl, h'⟩ := termL_cancel hq a b _ _ (termsL_ND as r1) (termsL_ND bs r2) h
      obtain ⟨rfl, hr⟩ := termsL_cancel hq as bs r1 r2 h'
      exact ⟨rfl, hr⟩
end

/-- **`renderTerm` is a prefix code** (the text after a term must not start with a digit: in the renderer a term is
followed by a blank, `)`, `,` or `}`) -/
theorem renderTerm_cancel (hq : QuoteCode) {a b : Term} {r1 r2 : List Char} (h1 : ND r1) (h2 : ND r2)
    (h : (renderTerm a).toList ++ r1 = (renderTerm b).toList ++ r2) : a = b ∧ r1 = r2 :=
  termL_cancel hq a b r1 r2 h1 h2 h

theorem renderTerm_inj (hq : QuoteCode) {a b : Term} (h : renderTerm a = renderTerm b) : a = b :=
  (renderTerm_cancel hq (r1 := []) (r2 := []) ND_nil ND_nil (by rw [h])).1

def quoteL (s : String) : List Char := s.quote.toList
def strsL (cs : List String) : List Char := (renderStrs cs).toList
def bindL (kv : String × Term) : List Char := quoteL kv.1 ++ ':' :: termL kv.2
def assignL (a : Assign) : List Char := (renderAssign a).toList

theorem strsL_eq (cs : List String) : strsL cs = encL quoteL '[' ']' cs := by
  simp only [strsL, renderStrs]
  exact toList_bracket String.quote "[" "]" '[' ']' rfl rfl cs

theorem assignL_eq (a : Assign) : assignL a = encL bindL '{' '}' a := by
  simp only [assignL, renderAssign]
  rw [toList_bracket (fun kv : String × Term => kv.1.quote ++ ":" ++ renderTerm kv.2) "{" "}" '{' '}' rfl rfl a]
  congr 1
  funext kv
  simp only [bindL, quoteL, termL, String.toList_append, List.append_assoc]
  rfl

theorem quoteL_cancel (hq : QuoteCode) : Code.Pre (fun _ => True) quoteL :=
  fun a b r1 r2 _ _ h => hq a b r1 r2 h

theorem quoteL_hd_ne (hh : QuoteHead) (cl : Char) (hcl : cl ≠ '"') (s : String) : ∃ d t, quoteL s = d :: t ∧ d ≠ cl := by
  obtain ⟨t, h⟩ := hh s
  exact ⟨'"', t, h, fun he => hcl he.symm⟩

theorem strsL_cancel (hq : QuoteCode) (hh : QuoteHead) {a b : List String} {r1 r2 : List Char}
    (h : strsL a ++ r1 = strsL b ++ r2) : a = b ∧ r1 = r2 := by
  rw [strsL_eq, strsL_eq] at h
  exact encL_cancel (P := fun _ => True) (by decide) (fun _ => trivial) (fun _ => trivial) (quoteL_cancel hq)
    (quoteL_hd_ne hh ']' (by decide)) a b h

theorem bindL_cancel (hq : QuoteCode) : Code.Pre ND bindL := by
  intro a b r1 r2 h1 h2 h
  simp only [bindL, List.append_assoc, List.cons_append] at h
  obtain ⟨ha, h'⟩ := hq _ _ _ _ h
  simp only [List.cons.injEq, true_and] at h'
  obtain ⟨hb, h''⟩ := termL_cancel hq _ _ _ _ h1 h2 h'
  exact ⟨Prod.ext ha hb, h''⟩

theorem assignL_cancel (hq : QuoteCode) (hh : QuoteHead) {a b : Assign} {r1 r2 : List Char}
    (h : assignL a ++ r1 = assignL b ++ r2) : a = b ∧ r1 = r2 := by
  rw [assignL_eq, assignL_eq] at h
  refine encL_cancel (P := ND) (by decide) ND_comma (ND_cons (by decide)) (bindL_cancel hq) ?_ a b h
  intro kv
  obtain ⟨d, t, hd, hne⟩ := quoteL_hd_ne hh '}' (by decide) kv.1
  exact ⟨d, t ++ ':' :: termL kv.2, by simp only [bindL, hd, List.cons_append], hne⟩

theorem strsL_head (cs : List String) : ∃ t, strsL cs = '[' :: t := by
  rw [strsL_eq]; exact encL_head _ _ _ _

theorem assignL_head (a : Assign) : ∃ t, assignL a = '{' :: t := by
  rw [assignL_eq]; exact encL_head _ _ _ _

theorem renderStrs_cancel (hq : QuoteCode) (hh : QuoteHead) {a b : List String} {r1 r2 : List Char}
    (h : (renderStrs a).toList ++ r1 = (renderStrs b).toList ++ r2) : a = b ∧ r1 = r2 :=
  strsL_cancel hq hh h

theorem renderAssign_cancel (hq : QuoteCode) (hh : QuoteHead) {a b : Assign} {r1 r2 : List Char}
    (h : (renderAssign a).toList ++ r1 = (renderAssign b).toList ++ r2) : a = b ∧ r1 = r2 :=
  assignL_cancel hq hh h

end DAVerif.C04K
