import DAVerif.Spec.DocSem
import DAVerif.Sem.ThetaC05
/-!
C05: what the argument combinators of `Doc.docScalar` accept, and what the folds, powers, rounding rules and connectives
of the backend models (`ThetaX` pandas, `ThetaSqlX` SQLite) compute on such arguments.

The `match op, args with` of `Theta.scalar` is never unfolded by `simp` (slow): a lemma is stated at a concrete operator
name and argument shape, so the match is evaluated once, by unification.
-/
namespace DAVerif.C05
open DAVerif DAVerif.Doc

theorem isNull_eq_beq (a : Val) : a.isNull = (a == .null) := by cases a <;> rfl

theorem beq_num (w q : Rat) : (Val.num w == Val.num q) = (w == q) := by
  by_cases hw : w = q
  · subst hw; rw [beq_self_eq_true, beq_self_eq_true]
  · rw [beq_eq_false_iff_ne.mpr hw, beq_eq_false_iff_ne.mpr (fun e => hw (Val.num.inj e))]

theorem num1_some {f : Rat → Option Val} {args : List ArgV} {v : Val} (h : num1 f args = some v) :
    ∃ x, args = [.v (.num x)] ∧ f x = some v := by
  unfold num1 at h
  split at h
  · exact ⟨_, rfl, h⟩
  · cases h

theorem num2_some {f : Rat → Rat → Option Val} {args : List ArgV} {v : Val} (h : num2 f args = some v) :
    ∃ x y, args = [.v (.num x), .v (.num y)] ∧ f x y = some v := by
  unfold num2 at h
  split at h
  · exact ⟨_, _, rfl, h⟩
  · cases h

theorem cmp_some {f : Val → Val → Bool} {args : List ArgV} {v : Val} (h : cmp f args = some v) :
    ∃ a b, args = [.v a, .v b] ∧ sameKind a b = true ∧ v = .bool (f a b) := by
  unfold cmp at h
  split at h
  · split at h
    · exact ⟨_, _, rfl, ‹_›, (Option.some.inj h).symm⟩
    · cases h
  · cases h

theorem cells?_eq_some : ∀ {args : List ArgV} {cs : List Val}, cells? args = some cs → args = cs.map ArgV.v
  | [], _, h => by cases h; rfl
  | .v x :: r, _, h => by
    obtain ⟨cs, hr, rfl⟩ := Option.map_eq_some_iff.mp h
    rw [cells?_eq_some hr]; rfl
  | .l _ :: _, _, h => nomatch h
  | .d _ :: _, _, h => nomatch h

theorem nums?_eq_some : ∀ {ws : List Val} {xs : List Rat}, nums? ws = some xs → ws = xs.map Val.num
  | [], _, h => by cases h; rfl
  | .num q :: r, _, h => by
    obtain ⟨xs, hr, rfl⟩ := Option.map_eq_some_iff.mp h
    rw [nums?_eq_some hr]; rfl
  | .null :: _, _, h => nomatch h
  | .bool _ :: _, _, h => nomatch h
  | .str _ :: _, _, h => nomatch h

theorem bools?_eq_some : ∀ {ws : List Val} {bs : List Bool}, bools? ws = some bs → ws = bs.map Val.bool
  | [], _, h => by cases h; rfl
  | .bool b :: r, _, h => by
    obtain ⟨bs, hr, rfl⟩ := Option.map_eq_some_iff.mp h
    rw [bools?_eq_some hr]; rfl
  | .null :: _, _, h => nomatch h
  | .num _ :: _, _, h => nomatch h
  | .str _ :: _, _, h => nomatch h

theorem numK_some {f : Rat → Rat → Rat} {args : List ArgV} {v : Val} (h : numK f args = some v) :
    ∃ x y r, args = (x :: y :: r).map (fun q => ArgV.v (.num q)) ∧ v = .num ((y :: r).foldl f x) := by
  unfold numK at h
  split at h
  · rename_i x y r hb
    obtain ⟨cs, hc, hn⟩ := Option.bind_eq_some_iff.mp hb
    refine ⟨x, y, r, ?_, (Option.some.inj h).symm⟩
    rw [cells?_eq_some hc, nums?_eq_some hn, List.map_map]; rfl
  · cases h

theorem boolK_some {f : List Bool → Bool} {args : List ArgV} {v : Val} (h : boolK f args = some v) :
    ∃ x y r, args = (x :: y :: r).map (fun q => ArgV.v (.bool q)) ∧ v = .bool (f (x :: y :: r)) := by
  unfold boolK at h
  split at h
  · rename_i x y r hb
    obtain ⟨cs, hc, hn⟩ := Option.bind_eq_some_iff.mp hb
    refine ⟨x, y, r, ?_, (Option.some.inj h).symm⟩
    rw [cells?_eq_some hc, bools?_eq_some hn, List.map_map]; rfl
  · cases h

theorem map_cell_nums (xs : List Rat) :
    (xs.map (fun q => ArgV.v (.num q))).map Theta.cell = xs.map Val.num := by
  rw [List.map_map]; rfl

theorem map_cell_bools (xs : List Bool) :
    (xs.map (fun q => ArgV.v (.bool q))).map Theta.cell = xs.map Val.bool := by
  rw [List.map_map]; rfl

theorem foldl_arith2 (f : Rat → Rat → Rat) (x : Rat) (ys : List Rat) :
    ((ys.map (fun q => ArgV.v (.num q))).map Theta.cell).foldl (Theta.arith2 (fun a b => some (f a b))) (.num x) =
      .num (ys.foldl f x) := by
  rw [map_cell_nums]
  induction ys generalizing x with
  | nil => rfl
  | cons y r ih => exact ih (f x y)

theorem foldl_pyAnd (a : Bool) (bs : List Bool) :
    ((bs.map (fun q => ArgV.v (.bool q))).map Theta.cell).foldl ThetaX.pyAnd (.bool a) = .bool (a && bs.all id) := by
  rw [map_cell_bools]
  induction bs generalizing a with
  | nil => simp
  | cons b r ih => cases a <;> simp [ThetaX.pyAnd, ThetaX.falsy, ih]

theorem foldl_pyOr (a : Bool) (bs : List Bool) :
    ((bs.map (fun q => ArgV.v (.bool q))).map Theta.cell).foldl ThetaX.pyOr (.bool a) = .bool (a || bs.any id) := by
  rw [map_cell_bools]
  induction bs generalizing a with
  | nil => simp
  | cons b r ih => cases a <;> simp [ThetaX.pyOr, ThetaX.falsy, ih]

theorem ratPow_succ (x : Rat) (n : Nat) : Theta.ratPow x (n + 1) = Theta.ratPow x n * x := by
  unfold Theta.ratPow
  rw [List.replicate_succ', List.foldl_append]
  rfl

theorem ratPow_eq_ipow (x : Rat) (n : Nat) : Theta.ratPow x n = ipow x n := by
  induction n with
  | zero => rfl
  | succ n ih => rw [ratPow_succ, ih]; rfl

theorem ipow_one (n : Nat) : ipow 1 n = 1 := by
  induction n with
  | zero => rfl
  | succ n ih => simp [ipow, ih]

/-- `numpy.around`'s rounding of a scaled value, half to even, as `Theta.scalar "around"` and `Theta.aroundNeg` spell it -/
def halfEven (y : Rat) : Int :=
  let f : Int := y.floor
  let d := y - f
  if d < 1/2 then f else if d > 1/2 then f + 1 else (if f % 2 == 0 then f else f + 1)

/-- SQL `ROUND` of `x·p`, half away from zero, computed on the absolute value as `ThetaSql` spells it -/
def halfAway (x p : Rat) : Rat :=
  let y := (if x < 0 then -x else x) * p
  let f : Int := y.floor
  let r : Int := if y - f < 1/2 then f else f + 1
  (if x < 0 then -1 else 1) * (r : Rat)

def scale (k : Rat) : Rat := if 0 ≤ k.num then ipow 10 k.num.toNat else 1 / ipow 10 (-k.num).toNat

theorem nearest_map {y : Rat} {g : Rat → Val} {v : Val}
    (h : Option.map g ((nearest? y : Option Int) : Option Rat) = some v) : ∃ R : Int, nearest? y = some R ∧ g R = v := by
  cases hn : nearest? y with
  | none => rw [hn] at h; cases h
  | some R => rw [hn] at h; exact ⟨R, rfl, Option.some.inj h⟩

theorem halfEven_of_nearest {y : Rat} {R : Int} (h : nearest? y = some R) : halfEven y = R := by
  unfold nearest? at h
  unfold halfEven
  simp only [] at h ⊢
  split at h
  · rw [if_pos ‹_›]; exact Option.some.inj h
  · split at h
    · rw [if_neg ‹_›, if_pos ‹_›]; exact Option.some.inj h
    · cases h

theorem tv_bool (b : Bool) : ThetaSql.tv (.bool b) = some b := rfl

/-- no NULL among booleans, so Kleene's connectives are the two-valued ones -/
theorem and3_bools (bs : List Bool) : ThetaSql.and3 (bs.map Val.bool) = .bool (bs.all id) := by
  have hN : (bs.map Val.bool).any (fun v => (ThetaSql.tv v).isNone) = false := by simp [tv_bool]
  have hF : (bs.map Val.bool).any (fun v => ThetaSql.tv v == some false) = !bs.all id := by
    simp [tv_bool, List.any_map, Function.comp_def, List.not_all_eq_any_not]
  unfold ThetaSql.and3
  rw [hN, hF]
  cases bs.all id <;> rfl

theorem or3_bools (bs : List Bool) : ThetaSql.or3 (bs.map Val.bool) = .bool (bs.any id) := by
  have hN : (bs.map Val.bool).any (fun v => (ThetaSql.tv v).isNone) = false := by simp [tv_bool]
  have hT : (bs.map Val.bool).any (fun v => ThetaSql.tv v == some true) = bs.any id := by
    simp [tv_bool, List.any_map, Function.comp_def]; rfl
  unfold ThetaSql.or3
  rw [hN, hT]
  cases bs.any id <;> rfl

end DAVerif.C05
