import DAVerif.Expr.Canon
import DAVerif.Expr.Eval
/-!
C13, "the walker only produces well-formed terms": definitions.

* `gram c`         – (decidable) the shapes of lark trees that the parser model `parseToks` produces, as far as the
                     walker looks at them: an over-approximation of the grammar (`Proofs/ExprWalkWfParse.lean` proves
                     `parseToks toks = .ok c → gram c`).
* `noDunderCall c` – guard `NoDunderCall` of the known finding `C13-dunder-bitwise-method-print`: no method call
                     `recv.__name__(…)` whose method name starts with two underscores.
* `calleeIsName c` – guard `CalleeIsName` of the known finding `C13-call-of-unary-expression`: the callee of every call
                     is a name (`f(…)`) or an attribute (`recv.f(…)`).
* `floatsInScope c`– lexical scope of the float model (`Expr/Lex.lean`): every FLOAT token's exact decimal value prints
                     (by the model's `reprFloat`) to a spelling that reads back as the same value.
* `termNames t`, `cstNames c`, `tableNames env` – the texts printed as NAME tokens, the NAME tokens of a tree, the
                     operator names of the non-inline builders.
* `Canon env`      – (decidable) condition on the tables the walker reads (`op_remap`, `factor_remap`, builder methods),
                     beside `Env.Sane`: the flags of the builders that the grammar's operators and the named methods
                     reach are the ones the printed form is re-read with.
-/
namespace DAVerif.C13W
open DAVerif DAVerif.Expr

/-! ## shapes of parser output -/

/-- the operator tokens lark keeps in the tree at the levels the walker accepts (comparison, arith_expr, term) -/
def grammarOps : List String :=
  ["<", ">", "==", ">=", "<=", "<>", "!=", "in", "not", "is", "+", "-", "*", "/", "%+%", "%?%", "%", "//", "%/%"]

/-- the prefix operators of `factor` -/
def unaryOps : List String := ["+", "-", "~"]

def isOpTokIn (ops : List String) : Cst → Bool
  | .tok t => t.kind == .op && ops.contains t.text
  | _ => false

mutual
/-- a tree of the shape the parser produces (rules classified as the walker classifies them) -/
def gram : Cst → Bool
  | .tok _ => false
  | .none => false
  | .node rule ch =>
    match classify rule with
    | .constTrue => true
    | .constFalse => true
    | .constNone => true
    | .wrapper =>                                   -- var, number, string: one token
      match ch with
      | [.tok _] => true
      | _ => false
    | .arith => gramLevel ch
    | .term => gramLevel ch
    | .comparison => gramLevel ch
    | .orTest => gramLevel ch
    | .andTest => gramLevel ch
    | .bitwise => true                              -- refused by the walker whatever is below
    | .other =>                                     -- shift_expr, atom (adjacent strings): refused whatever is below
      if rule == "getattr" then                     -- (refused when walked, but the callee of a method call)
        match ch with
        | [recv, .tok _] => gram recv
        | _ => false
      else rule == "shift_expr" || rule == "atom"
    | .power =>
      match ch with
      | [a, b] => gram a && gram b
      | _ => false
    | .factor =>
      match ch with
      | [.tok t, x] => t.kind == .op && unaryOps.contains t.text && gram x
      | _ => false
    | .not =>
      match ch with
      | [x] => gram x
      | _ => false
    | .funccall =>
      match ch with
      | [carrier, more] =>
        gram carrier &&
        (match more with
         | .none => true
         | .node _ items => gramArgs items
         | .tok _ => false)
      | _ => false
    | .collection =>
      match ch with
      | [.none] => true
      | [.node r items] =>
        if r == "tuplelist_comp" || r == "set_comp" then !items.isEmpty && gramAll items
        else gram (.node r items)
      | _ => false
    | .dict =>
      match ch with
      | [.none] => true
      | [.node _ items] => !items.isEmpty && gramKVs items
      | _ => false
    | .keyValue => false                            -- only below `dict` (see `gramKVs`)
/-- children of a binary level: operands and the operator tokens lark keeps -/
def gramLevel : List Cst → Bool
  | [] => true
  | c :: cs => (isOpTokIn grammarOps c || gram c) && gramLevel cs
def gramAll : List Cst → Bool
  | [] => true
  | c :: cs => gram c && gramAll cs
/-- children of `arguments`: tests, and the `None` placeholder a trailing comma leaves -/
def gramArgs : List Cst → Bool
  | [] => true
  | .none :: cs => gramArgs cs
  | c :: cs => gram c && gramArgs cs
/-- children of `dict_comp`: `key_value` nodes -/
def gramKVs : List Cst → Bool
  | [] => true
  | .node r [k, v] :: cs => r == "key_value" && gram k && gram v && gramKVs cs
  | _ :: _ => false
end

/-! ## guards on the tree -/

mutual
/-- every node satisfies `pn`, every token `pt` -/
def allP (pn : String → List Cst → Bool) (pt : Token → Bool) : Cst → Bool
  | .tok t => pt t
  | .none => true
  | .node r ch => pn r ch && allPL pn pt ch
def allPL (pn : String → List Cst → Bool) (pt : Token → Bool) : List Cst → Bool
  | [] => true
  | c :: cs => allP pn pt c && allPL pn pt cs
end

/-- a node that is not a call of a dunder method: not `funccall [getattr [_, __name__], …]` -/
def dunderNodeOk (r : String) (ch : List Cst) : Bool :=
  !(r == "funccall") ||
  match ch with
  | .node crule [_, .tok nm] :: _ => !(crule == "getattr" && isDunder nm.text)
  | _ => true

/-- guard `NoDunderCall`: the text calls no method whose name starts with two underscores -/
def noDunderCall (c : Cst) : Bool := allP dunderNodeOk (fun _ => true) c

/-- a node that is not a call whose callee is something other than a name (`var [NAME]`) or an attribute -/
def calleeNodeOk (r : String) (ch : List Cst) : Bool :=
  !(r == "funccall") ||
  match ch with
  | .node crule cch :: _ =>
    crule == "getattr" ||
    (crule == "var" && match cch with
      | .tok t :: _ => t.kind == .name
      | _ => false)
  | _ => false

/-- guard `CalleeIsName`: the callee of every call is a name or an attribute (not `(-x)(y)`, `5(y)`, `'a'(y)`) -/
def calleeIsName (c : Cst) : Bool := allP calleeNodeOk (fun _ => true) c

/-- a FLOAT token whose value's model spelling reads back as the value (always true for the decimals of at most 400
significant digits; `Expr/Lex.lean` states the scope of the float model) -/
def floatTokOk (t : Token) : Bool :=
  !(t.kind == .float) ||
  match decodeFloat t.text with
  | some q => litOk (.flt q)
  | none => true

/-- lexical scope of the float model -/
def floatsInScope (c : Cst) : Bool := allP (fun _ _ => true) floatTokOk c

/-- both guards the well-formedness theorem needs, as one traversal (used in the induction) -/
def guardsWf (c : Cst) : Bool := allP dunderNodeOk floatTokOk c
def guardsWfL (cs : List Cst) : Bool := allPL dunderNodeOk floatTokOk cs

/-! ## the tables -/

/-- `remapX` on the table alone -/
def remapXT (opRemap : List (String × String)) (op : String) : String :=
  if op == "**" then "__pow__" else remap opRemap op

/-- the flags of a two-argument builder are the ones the printed form is re-read with:
* inline (`a op b`): `op` is k-ary (`+ * and or`, re-read through `kop_expr`), or it is one of the binary symbols and
  the token `op` is remapped to a builder with the same body;
* method (`a.op(b)`): the attribute `op` is a builder with the same body;
* function (`op(a, b)`): nothing to ask. -/
def binCanonT (methods : List (String × MethodKind)) (opRemap : List (String × String))
    (op : String) (i m c : Bool) : Bool :=
  if i then
    m || karyOps.contains op ||
      (bin2Ops.contains op && remapXT opRemap op != "__neg__" &&
        methods.lookup (remapXT opRemap op) == some (.bin op true false c))
  else if m then op != "__neg__" && methods.lookup op == some (.bin op false true c)
  else true

/-- a named (non-dunder) builder: one-argument builders are not inline, three-argument ones neither -/
def kindCanonT (methods : List (String × MethodKind)) (opRemap : List (String × String)) : MethodKind → Bool
  | .uop _ inline => !inline
  | .bin op i m c => binCanonT methods opRemap op i m c
  | .tri _ i _ => !i
  | _ => true

/-- a builder reached through an operator token (called with one argument) -/
def reachCanonT (methods : List (String × MethodKind)) (opRemap : List (String × String)) (name : String) : Bool :=
  match methods.lookup name with
  | some (.bin op i m c) => binCanonT methods opRemap op i m c
  | some (.rbin _) => false
  | some (.special _) => false
  | _ => true

def tablesCanon (methods : List (String × MethodKind)) (opRemap factorRemap : List (String × String)) : Bool :=
  methods.all (fun kv => isDunder kv.1 || kindCanonT methods opRemap kv.2) &&
  grammarOps.all (fun s => reachCanonT methods opRemap (remap opRemap s)) &&
  reachCanonT methods opRemap "__pow__" && reachCanonT methods opRemap "__eq__" &&
  (methods.lookup (remap factorRemap "~")).isNone

/-- the tables give the builders the flags the printed forms presume -/
def Canon (env : Env) : Prop := tablesCanon env.methods env.opRemap env.factorRemap = true

/-! ## names -/

mutual
/-- the texts the printer emits as NAME tokens: column names and the operator of every non-inline `Expression` -/
def termNames : Term → List String
  | .value _ => []
  | .col c => [c]
  | .list _ => []
  | .dict _ => []
  | .app op args inline _ => (if inline then [] else [op]) ++ termNamesL args
def termNamesL : List Term → List String
  | [] => []
  | a :: as => termNames a ++ termNamesL as
end

mutual
/-- the texts of the NAME tokens of a tree -/
def cstNames : Cst → List String
  | .tok t => if t.kind == .name then [t.text] else []
  | .none => []
  | .node _ ch => cstNamesL ch
def cstNamesL : List Cst → List String
  | [] => []
  | c :: cs => cstNames c ++ cstNamesL cs
end

/-- the operator names a builder of the table can put into a non-inline `Expression` (printed as a NAME token) -/
def kindNames : MethodKind → List String
  | .uop op inline => if inline then [] else [op]
  | .bin op inline _ _ => if inline then [] else [op]
  | .rbin _ => []
  | .tri op inline _ => if inline then [] else [op]
  | .special n => [n]
  | .unmodelled => []

def tableNames (env : Env) : List String := env.methods.flatMap (fun kv => kindNames kv.2)

end DAVerif.C13W
