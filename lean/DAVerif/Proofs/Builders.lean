import DAVerif.Proofs.BuilderBasics
import DAVerif.Spec.Chain
import DAVerif.Spec.Rules
/-!
Normal forms of the builder functions of `Ops/Builder.lean`: every builder first skips the `order_rows` nodes
without limit at the top of its receiver (`strip`), makes its argument checks (which only look at the
receiver's column names), and then constructs (or, for `extend` on an `extend`, merges: `mergeInto` says when and
into what; for `select_columns` on column selections, collapses: `selectBase`, `selectGuards`).
-/
namespace DAVerif
open Rules26

/-- the node a builder call really extends: `order_rows` nodes without a limit (`is_trivial_when_intermediate_`)
are skipped -/
def strip : Ops → Ops
  | .order src _ _ none => strip src
  | p => p

/-- the shape of every builder method -/
theorem strip_rec {α : Type} {f g : Ops → α} (h1 : ∀ src cs rv, f (.order src cs rv none) = f src)
    (h2 : ∀ p, (∀ src cs rv, p = .order src cs rv none → False) → f p = g p) : ∀ p, f p = g (strip p)
  | .order src cs rv none => (h1 src cs rv).trans (strip_rec h1 h2 src)
  | .order src cs rv (some n) => h2 _ (fun _ _ _ h => by cases h)
  | .table .. | .extend .. | .project .. | .selectRows .. | .selectCols .. | .dropCols .. | .rename ..
  | .mapCols .. | .join .. | .concat .. | .convert .. => h2 _ (fun _ _ _ h => by cases h)

theorem strip_preserves {P : Ops → Prop} (h : ∀ src cs rv, P (.order src cs rv none) → P src) {p : Ops}
    (hp : P p) : P (strip p) := by
  -- by functional induction, so that `strip.induct` and the equations of its matcher exist here once, for every
  -- module further down that uses them
  fun_induction strip p with
  | case1 src cs rv ih => exact ih (h src cs rv hp)
  | case2 p _ => exact hp

theorem strip_cols (p : Ops) : (strip p).cols = p.cols :=
  (strip_rec (f := Ops.cols) (g := Ops.cols) (fun _ _ _ => rfl) (fun _ _ => rfl) p).symm

theorem strip_tables (p : Ops) : (strip p).tables = p.tables :=
  (strip_rec (f := Ops.tables) (g := Ops.tables) (fun _ _ _ => rfl) (fun _ _ => rfl) p).symm

theorem strip_isTrivial : ∀ (p : Ops), (strip p).isTrivialWhenIntermediate = false
  | .order src _ _ none => strip_isTrivial src
  | .order _ _ _ (some _) => rfl
  | .table .. | .extend .. | .project .. | .selectRows .. | .selectCols .. | .dropCols .. | .rename ..
  | .mapCols .. | .join .. | .concat .. | .convert .. => rfl

theorem strip_of_not_trivial : ∀ {p : Ops}, p.isTrivialWhenIntermediate = false → strip p = p
  | .order _ _ _ none, h => by cases h
  | .order _ _ _ (some _), _ => rfl
  | .table .., _ | .extend .., _ | .project .., _ | .selectRows .., _ | .selectCols .., _ | .dropCols .., _
  | .rename .., _ | .mapCols .., _ | .join .., _ | .concat .., _ | .convert .., _ => rfl

theorem strip_idem (p : Ops) : strip (strip p) = strip p := strip_of_not_trivial (strip_isTrivial p)

theorem joinB_eq (p b : Ops) (onA onB jt check) :
    joinB p b onA onB jt check = mkJoin (strip p) b onA onB jt check :=
  strip_rec (f := fun s => joinB s b onA onB jt check) (joinB.eq_1 b onA onB jt check)
    (fun p => joinB.eq_2 p b onA onB jt check) p

theorem concatB_eq (p b : Ops) (idc an bn) : concatB p b idc an bn = mkConcat (strip p) b idc an bn :=
  strip_rec (f := fun s => concatB s b idc an bn) (concatB.eq_1 b idc an bn)
    (fun p => concatB.eq_2 p b idc an bn) p

theorem selectRowsB_eq (p : Ops) (e : Term) : selectRowsB p e = .ok (.selectRows (strip p) e) :=
  strip_rec (f := fun s => selectRowsB s e) (g := fun s => .ok (.selectRows s e)) (selectRowsB.eq_1 e)
    (fun p => selectRowsB.eq_2 p e) p

theorem dropColsB_eq (p : Ops) (cs : List String) : dropColsB p cs = mkDropCols (strip p) cs :=
  strip_rec (f := fun s => dropColsB s cs) (dropColsB.eq_1 cs) (fun p => dropColsB.eq_2 p cs) p

theorem mapColsB_eq (p : Ops) (m) : mapColsB p m = mkMapCols (strip p) m :=
  strip_rec (f := fun s => mapColsB s m) (mapColsB.eq_1 m) (fun p => mapColsB.eq_2 p m) p

theorem renameB_eq (p : Ops) (m) : renameB p m = mkRename (strip p) m :=
  strip_rec (f := fun s => renameB s m) (renameB.eq_1 m) (fun p => renameB.eq_2 p m) p

theorem orderB_eq (p : Ops) (cs rev lim) : orderB p cs rev lim = mkOrder (strip p) cs rev lim :=
  strip_rec (f := fun s => orderB s cs rev lim) (orderB.eq_1 cs rev lim) (fun p => orderB.eq_2 p cs rev lim) p

theorem convertB_eq (p : Ops) (rm) : convertB p rm = mkConvert (strip p) rm :=
  strip_rec (f := fun s => convertB s rm) (convertB.eq_1 rm) (fun p => convertB.eq_2 p rm) p

theorem except_bind_idem {α : Type} (x : Except Err Unit) (f : Unit → Except Err α) :
    (x >>= fun _ => x >>= f) = x >>= f := by
  cases x <;> rfl

/-- the checks the skipped `order_rows` steps make are those their source makes again -/
theorem strip_rec_checked {f top : Ops → Except Err Ops} {c : List String → Except Err Unit}
    (h1 : ∀ src cs rv, f (.order src cs rv none) = c src.cols >>= fun _ => f src)
    (h2 : ∀ p, (∀ src cs rv, p = .order src cs rv none → False) → f p = c p.cols >>= fun _ => top p) :
    ∀ p, f p = c p.cols >>= fun _ => top (strip p)
  | .order src cs rv none => by
    rw [h1, strip_rec_checked h1 h2 src]
    exact except_bind_idem _ _
  | .order src cs rv (some n) => h2 _ (fun _ _ _ h => by cases h)
  | .table .. | .extend .. | .project .. | .selectRows .. | .selectCols .. | .dropCols .. | .rename ..
  | .mapCols .. | .join .. | .concat .. | .convert .. => h2 _ (fun _ _ _ h => by cases h)

theorem projectParsed_unfold (self : Ops) (ops : Assign) (group : List String) :
    projectParsed self ops group =
      projectChecks self.cols ops group >>= fun _ =>
        match self with
        | .order src _ _ none => projectParsed src ops group
        | _ => mkProject self ops group := by
  rw [projectParsed.eq_def]
  simp only [projectChecks, bind_assoc]
  cases self with
  | order src cs rv lim => cases lim <;> rfl
  | _ => rfl

theorem projectParsed_strip (self : Ops) (ops : Assign) (group : List String) :
    projectParsed self ops group = (projectChecks self.cols ops group >>= fun _ => mkProject (strip self) ops group) :=
  strip_rec_checked (f := fun s => projectParsed s ops group) (c := fun cols => projectChecks cols ops group)
    (top := fun s => mkProject s ops group) (fun _ _ _ => projectParsed_unfold _ ops group)
    (fun p hp => by
      rw [projectParsed_unfold]
      cases p with
      | order src cs rv lim =>
        cases lim with
        | none => exact (hp src cs rv rfl).elim
        | some n => rfl
      | _ => rfl) self

def extendPre (cols : List String) (ops : Assign) (partition : PartArg) (order reverse : List String) :
    Except Err Unit := do
  workColGroup (partCols partition) cols
  workColGroup order cols
  workColGroup reverse cols
  ok? (disjoint (ops.map (·.1)) (partCols partition)) .valueError
  ok? (disjoint (partCols partition) order) .valueError
  ok? (disjoint (ops.map (·.1)) order) .valueError
  ok? (subset reverse order) .valueError

/-- `compatible_partition` of `extend_parsed_` -/
def compatB (partition : PartArg) (part1 : List String) : Bool :=
  (match partition with
    | .none => part1.isEmpty | .one => false | .cols cs => cs == part1)
  || ((match partition with
    | .none => true | .one => true | .cols cs => cs.isEmpty) && part1.isEmpty)

/-- the condition under which `extend_parsed_` attempts to merge into an existing `ExtendNode` -/
def mergeCond (part1 order1 reverse1 : List String) (windowed1 : Bool)
    (ops : Assign) (partition : PartArg) (order reverse : List String) : Bool :=
  compatB partition part1 && (impliesWindowed ops || (match partition with
      | .none => false | .one => true | .cols cs => !cs.isEmpty) || !order.isEmpty) == windowed1
    && order == order1 && reverse == reverse1

/-- the merge `extend_parsed_` makes on a receiver with top node `a`: the node below `a` and the merged assignments -/
def mergeInto : Ops → Assign → PartArg → List String → List String → Option (Ops × Assign)
  | .extend src o1 p1 od1 rv1 w1, ops, pa, od, rv =>
    if mergeCond p1 od1 rv1 w1 ops pa od rv then (tryMergeOps o1 ops).map (Prod.mk src) else none
  | _, _, _, _, _ => none

/-- what `extend_parsed_` does on a node that is not a skipped `order_rows`: the merged node over the node below,
or the step's own node on top -/
def extendTop (self : Ops) (ops : Assign) (partition : PartArg) (order reverse : List String) : Except Err Ops :=
  match mergeInto self ops partition order reverse with
  | some (src, o) => mkExtend src o partition order reverse
  | none => mkExtend self ops partition order reverse

theorem impliesWindowed_eq (ops : Assign) (partition : PartArg) (order : List String) :
    windowedSituation ops partition order =
      (impliesWindowed ops || (match partition with | .none => false | .one => true | .cols cs => !cs.isEmpty)
        || !order.isEmpty) := rfl

theorem workColGroup_nil (cols : List String) : workColGroup [] cols = .ok () := rfl

theorem partCols_eq (pa : PartArg) : partCols pa = pa.cols' := by cases pa <;> rfl

theorem compatB_iff {pa : PartArg} {p1 : List String} : compatB pa p1 = true ↔ pa.cols' = p1 := by
  cases pa with
  | none | one => cases p1 <;> simp [compatB, PartArg.cols']
  | cols cs => cases cs <;> cases p1 <;> simp [compatB, PartArg.cols']

theorem mergeCond_iff {p1 od1 rv1 : List String} {w1 : Bool} {ops : Assign} {pa : PartArg} {od rv : List String} :
    mergeCond p1 od1 rv1 w1 ops pa od rv = true ↔
      pa.cols' = p1 ∧ stepWindowed ops pa od = w1 ∧ od = od1 ∧ rv = rv1 := by
  simp only [mergeCond, Bool.and_eq_true, compatB_iff, beq_iff_eq, and_assoc]
  exact Iff.rfl

theorem extendTop_eq (a : Ops) (ops : Assign) (pa : PartArg) (od rv : List String) :
    extendTop a ops pa od rv =
      match mergeInto a ops pa od rv with
      | some (src, o) => mkExtend src o pa od rv
      | none => mkExtend a ops pa od rv := rfl

/-- `extend_parsed_` on an `ExtendNode`, as the library writes it -/
theorem extendTop_extend (src : Ops) (o1 : Assign) (p1 od1 rv1 : List String) (w1 : Bool)
    (ops : Assign) (pa : PartArg) (od rv : List String) :
    extendTop (.extend src o1 p1 od1 rv1 w1) ops pa od rv =
      if mergeCond p1 od1 rv1 w1 ops pa od rv then
        match tryMergeOps o1 ops with
        | some n => mkExtend src n pa od rv
        | none => mkExtend (.extend src o1 p1 od1 rv1 w1) ops pa od rv
      else mkExtend (.extend src o1 p1 od1 rv1 w1) ops pa od rv := by
  simp only [extendTop, mergeInto]
  cases mergeCond p1 od1 rv1 w1 ops pa od rv
  · rfl
  · cases tryMergeOps o1 ops <;> rfl

theorem mergeInto_eq_some {a : Ops} {ops : Assign} {pa : PartArg} {od rv : List String} {src : Ops} {o : Assign} :
    mergeInto a ops pa od rv = some (src, o) ↔
      ∃ o1, a = .extend src o1 pa.cols' od rv (stepWindowed ops pa od) ∧ tryMergeOps o1 ops = some o := by
  cases a with
  | extend src' o1 p1 od1 rv1 w1 =>
    simp only [mergeInto]
    split
    · rename_i h
      obtain ⟨rfl, rfl, rfl, rfl⟩ := mergeCond_iff.mp h
      constructor
      · intro hm
        obtain ⟨o', ho', he⟩ := Option.map_eq_some_iff.mp hm
        cases he
        exact ⟨o1, rfl, ho'⟩
      · rintro ⟨o1', he, hm⟩
        cases he
        rw [hm]; rfl
    · rename_i h
      refine ⟨fun h' => (nomatch h'), ?_⟩
      rintro ⟨o1', he, _⟩
      cases he
      exact absurd (mergeCond_iff.mpr ⟨rfl, rfl, rfl, rfl⟩) h
  | _ => exact ⟨fun h => (nomatch h), fun ⟨_, h, _⟩ => (nomatch h)⟩

theorem ite_bind {α β : Type} (c : Prop) [Decidable c] (x y : Except Err α) (f : α → Except Err β) :
    (if c then x else y) >>= f = if c then x >>= f else y >>= f := by
  split <;> rfl

theorem extendParsed_unfold (self : Ops) (ops : Assign) (partition : PartArg) (order reverse : List String) :
    extendParsed self ops partition order reverse =
      if ops.isEmpty then .ok self
      else extendChecks self.cols ops partition order reverse >>= fun _ =>
        match self with
        | .order src _ _ none => extendParsed src ops partition order reverse
        | _ => extendTop self ops partition order reverse := by
  rw [extendParsed.eq_def]
  -- for a given form of `partition` both sides are the same chain of checks, and end alike for each form of `self`
  cases partition <;>
    simp only [extendChecks, bind_assoc, ite_bind] <;>
    cases self with
    | order src cs rv lim => cases lim <;> rfl
    | extend src o1 p1 od1 rv1 w1 =>
      rw [extendTop_extend]
      simp only [mergeCond, compatB]
      rfl
    | _ => rfl

theorem extendParsed_nil (self : Ops) (partition : PartArg) (order reverse : List String) :
    extendParsed self [] partition order reverse = .ok self := by
  rw [extendParsed_unfold]; rfl

/-- the normalised checks are those `extend_parsed_` writes out: an empty partition list has nothing to check -/
theorem extendPre_eq (cols : List String) (ops : Assign) (partition : PartArg) (order reverse : List String) :
    extendPre cols ops partition order reverse = extendChecks cols ops partition order reverse := by
  have d1 : ∀ xs : List String, disjoint xs [] = true := fun xs => by simp [disjoint]
  have d2 : ∀ xs : List String, disjoint [] xs = true := fun xs => rfl
  have okb : ∀ (f : Unit → Except Err Unit), ((Except.ok () : Except Err Unit) >>= f) = f () := fun f => rfl
  unfold extendPre extendChecks
  cases partition with
  | none | one => simp only [partCols, workColGroup_nil, d1, d2, ok?_true, okb]
  | cols cs =>
    cases cs with
    | nil => simp only [partCols, workColGroup_nil, d1, d2, ok?_true, okb]; rfl
    | cons c cs => rfl

theorem extendParsed_strip (self : Ops) (ops : Assign) (partition : PartArg) (order reverse : List String)
    (hne : ops.isEmpty = false) :
    extendParsed self ops partition order reverse =
      (extendPre self.cols ops partition order reverse >>= fun _ =>
        extendTop (strip self) ops partition order reverse) := by
  have key : ∀ p : Ops, extendParsed p ops partition order reverse =
      extendPre p.cols ops partition order reverse >>= fun _ =>
        match p with
        | .order src _ _ none => extendParsed src ops partition order reverse
        | _ => extendTop p ops partition order reverse :=
    fun p => by rw [extendParsed_unfold, hne, extendPre_eq]; rfl
  exact strip_rec_checked (f := fun s => extendParsed s ops partition order reverse)
    (c := fun cols => extendPre cols ops partition order reverse)
    (top := fun s => extendTop s ops partition order reverse) (fun _ _ _ => key _)
    (fun p hp => by
      rw [key]
      cases p with
      | order src cs rv lim =>
        cases lim with
        | none => exact (hp src cs rv rfl).elim
        | some n => rfl
      | _ => rfl) self

namespace Ops
/-- the node `select_columns` finally constructs its selection on: below the trivial `order_rows` steps and the
column selections / deletions at the top of the receiver -/
def selectBase : Ops → Ops
  | .order src _ _ none => selectBase src
  | .selectCols src _ => selectBase src
  | .dropCols src _ => selectBase src
  | p => p

/-- all the column lists `select_columns` validates against on its way down -/
def selectGuards : Ops → List (List String)
  | .order src _ _ none => selectGuards src
  | .selectCols src cs0 => cs0 :: selectGuards src
  | n@(.dropCols src _) => n.cols :: selectGuards src
  | _ => []
end Ops

theorem ok?_and_bind {α : Type} (a b : Bool) (e : Err) (f : Unit → Except Err α) :
    (ok? a e >>= fun _ => ok? b e >>= f) = ok? (a && b) e >>= f := by
  cases a <;> cases b <;> rfl

theorem selectColsB_eq (self : Ops) (cs : List String) :
    selectColsB self cs =
      ok? (self.selectGuards.all (fun g => subset cs g)) .keyError >>= fun _ =>
        mkSelectCols self.selectBase cs := by
  -- by functional induction, so that `selectColsB.induct` and the equations of its matcher exist here once, for
  -- every module further down that uses them
  fun_induction selectColsB self cs with
  | case1 src _ _ cs ih => exact ih
  | case2 src cs0 cs ih => rw [ih, ok?_and_bind]; rfl
  | case3 src dels cs ih => rw [ih, ok?_and_bind]; rfl
  | case4 self cs h1 h2 h3 =>
    have : self.selectGuards = [] ∧ self.selectBase = self := by
      cases self with
      | order s c r lim =>
        cases lim with
        | none => exact absurd rfl (h1 s c r)
        | some n => exact ⟨rfl, rfl⟩
      | selectCols s c => exact absurd rfl (h2 s c)
      | dropCols s d => exact absurd rfl (h3 s d)
      | _ => exact ⟨rfl, rfl⟩
    rw [this.1, this.2]
    rfl

theorem Ops.selectBase_preserves {P : Ops → Prop} (ho : ∀ s cs rv, P (.order s cs rv none) → P s)
    (hs : ∀ s cs, P (.selectCols s cs) → P s) (hd : ∀ s ds, P (.dropCols s ds) → P s) :
    ∀ {p : Ops}, P p → P p.selectBase
  | .order s cs rv none, hp => selectBase_preserves ho hs hd (p := s) (ho s cs rv hp)
  | .selectCols s cs, hp => selectBase_preserves ho hs hd (p := s) (hs s cs hp)
  | .dropCols s ds, hp => selectBase_preserves ho hs hd (p := s) (hd s ds hp)
  | .order _ _ _ (some _), hp => hp
  | .table .., hp | .extend .., hp | .project .., hp | .selectRows .., hp | .rename .., hp | .mapCols .., hp
  | .join .., hp | .concat .., hp | .convert .., hp => hp

theorem Ops.selectBase_fixed (p : Ops) :
    p.selectBase.selectGuards = [] ∧ p.selectBase.selectBase = p.selectBase ∧ strip p.selectBase = p.selectBase := by
  induction p with
  | order s _ _ lim ih =>
    cases lim with
    | none => exact ih
    | some _ => exact ⟨rfl, rfl, rfl⟩
  | selectCols s _ ih | dropCols s _ ih => exact ih
  | _ => exact ⟨rfl, rfl, rfl⟩

theorem Ops.selectGuards_strip (p : Ops) : (strip p).selectGuards = p.selectGuards := by
  fun_induction strip p with
  | case1 src cs rv ih => exact ih
  | case2 p _ => rfl

theorem Ops.selectBase_strip (p : Ops) : (strip p).selectBase = p.selectBase := by
  fun_induction strip p with
  | case1 src cs rv ih => exact ih
  | case2 p _ => rfl

theorem Ops.select_guard_iff {P : Ops → Prop} (ho : ∀ s cs rv, P (.order s cs rv none) → P s)
    (hs : ∀ s cs0, P (.selectCols s cs0) → P s ∧ ∀ c ∈ cs0, c ∈ s.cols) (hd : ∀ s ds, P (.dropCols s ds) → P s)
    {p : Ops} (hp : P p) (cs : List String) :
    subset cs p.cols = (p.selectGuards.all (fun g => subset cs g) && subset cs p.selectBase.cols) := by
  induction p with
  | order s cs' rv lim ih =>
    cases lim with
    | some n => simp [Ops.selectGuards, Ops.selectBase]
    | none => exact ih (ho s cs' rv hp)
  | selectCols s cs0 ih =>
    simp only [Ops.selectGuards, Ops.selectBase, List.all_cons, Bool.and_assoc, Ops.cols]
    rw [← ih (hs s cs0 hp).1]
    cases h : subset cs cs0 with
    | false => rfl
    | true =>
      rw [subset_iff.mpr fun c hc => (hs s cs0 hp).2 c (subset_iff.mp h c hc)]
      rfl
  | dropCols s ds ih =>
    simp only [Ops.selectGuards, Ops.selectBase, List.all_cons, Bool.and_assoc]
    rw [← ih (hd s ds hp)]
    cases h : subset cs (Ops.dropCols s ds).cols with
    | false => rfl
    | true =>
      rw [subset_iff.mpr fun c hc => (List.mem_filter.mp (subset_iff.mp h c hc)).1]
      rfl
  | _ => simp [Ops.selectGuards, Ops.selectBase]

end DAVerif
