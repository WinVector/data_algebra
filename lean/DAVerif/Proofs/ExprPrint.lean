import DAVerif.Proofs.ExprWf
import DAVerif.Proofs.ExprWalkNode
/-!
The print → parse → walk round trip (C13 / expression part of C12): `tk` is the token list of the printer `pp`
(`tk_eq`), and (W) the tree `cst t` of a well-formed term walks back to the term (`walk_cst`, under `Env.NegFolds`).
(P), that the parser maps the printed tokens of a well-formed term to `cst t`, is `Proofs/ExprParse.lean`.
-/
namespace DAVerif.Expr

@[simp] theorem piecesToks_nil : piecesToks [] = [] := rfl
@[simp] theorem piecesToks_append (a b : List Piece) : piecesToks (a ++ b) = piecesToks a ++ piecesToks b := by
  simp [piecesToks, List.filterMap_append]
@[simp] theorem piecesToks_cons_t (t : Token) (ps : List Piece) : piecesToks (.t t :: ps) = t :: piecesToks ps := by
  simp [piecesToks]
@[simp] theorem piecesToks_cons_sp (ps : List Piece) : piecesToks (.sp :: ps) = piecesToks ps := by
  simp [piecesToks]
@[simp] theorem piecesToks_cons_o (s : String) (ps : List Piece) : piecesToks (Piece.o s :: ps) = o s :: piecesToks ps := by
  simp [Piece.o, o]

theorem piecesToks_lit (l : Lit) : piecesToks (litPieces l) = litToks l := by
  cases l with
  | bool b => cases b <;> simp [litPieces, litToks]
  | int i => simp only [litPieces, litToks]; split <;> simp
  | flt q => simp only [litPieces, litToks]; split <;> simp
  | _ => simp [litPieces, litToks]

theorem piecesToks_parens (ps : List Piece) : piecesToks (parens ps) = parenToks (piecesToks ps) := by
  simp [parens, parenToks]

theorem piecesToks_commaJoin : ∀ (xs : List (List Piece)),
    piecesToks (commaJoin xs) = commaToks (xs.map piecesToks)
  | [] => by simp [commaJoin, commaToks]
  | [x] => by simp [commaJoin, commaToks]
  | x :: y :: ys => by
    have := piecesToks_commaJoin (y :: ys)
    simp only [commaJoin, piecesToks_append, List.map_cons, commaToks, piecesToks_cons_o, piecesToks_cons_sp,
      piecesToks_nil] at this ⊢
    rw [this]; simp

theorem piecesToks_opJoin (op : String) : ∀ (xs : List (List Piece)),
    piecesToks (opJoin op xs) = opToks op (xs.map piecesToks)
  | [] => by simp [opJoin, opToks]
  | [x] => by simp [opJoin, opToks]
  | x :: y :: ys => by
    have := piecesToks_opJoin op (y :: ys)
    simp only [opJoin, piecesToks_append, List.map_cons, opToks, piecesToks_cons_o, piecesToks_cons_sp,
      piecesToks_nil] at this ⊢
    rw [this]; simp

theorem pp_false_snd (t : Term) : (pp t false).2 = false := by
  cases t with
  | app op args i m =>
    rcases args with _ | ⟨a, _ | ⟨b, rest⟩⟩ <;> simp only [pp, Bool.false_eq_true, ↓reduceIte] <;>
      repeat' split
    all_goals rfl
  | _ => simp only [pp, Bool.false_and, Bool.false_eq_true, ↓reduceIte]

mutual
theorem tk_eq : ∀ (t : Term) (want : Bool), piecesToks (pp t want).1 = tk t want
  | .value l, want => by
    unfold pp tk
    split <;> simp [piecesToks_parens, piecesToks_lit]
  | .col c, want => by simp [pp, tk]
  | .list vs, want => by
    simp only [pp, tk, piecesToks_append, piecesToks_cons_o, piecesToks_nil, piecesToks_commaJoin, List.map_map,
      List.cons_append, List.nil_append]
    have hmap : vs.map (piecesToks ∘ litPieces) = vs.map litToks := by
      apply List.map_congr_left
      intro l _; simp [piecesToks_lit]
    rw [hmap]
  | .dict kvs, want => by
    simp only [pp, tk, piecesToks_append, piecesToks_cons_o, piecesToks_nil, piecesToks_commaJoin, List.map_map,
      List.cons_append, List.nil_append]
    have hmap : kvs.map (piecesToks ∘ fun kv => litPieces kv.fst ++ [Piece.o ":", Piece.sp] ++ litPieces kv.snd)
        = kvs.map kvToks := by
      apply List.map_congr_left
      intro kv _
      simp [kvToks, piecesToks_lit]
    rw [hmap]
  | .app op [] inline method, want => by simp [pp, tk, o, Token.op]
  | .app op [a] inline method, want => by
    have ih := tk_eq a false
    unfold pp tk
    simp only
    by_cases hi : inline = true
    · simp only [hi, ↓reduceIte]
      have h2 : (pp a false).2 = false := pp_false_snd a
      simp only [h2, Bool.false_eq_true, ↓reduceIte]
      split <;> simp [piecesToks_parens, ih, parenToks]
    · simp only [hi, Bool.false_eq_true, ↓reduceIte]
      split
      · split <;> rename_i h3
        · have h2 : (pp a false).2 = false := pp_false_snd a
          have : isCol a = true := by simpa [h2] using h3
          simp [this, ih, o, Token.op]
        · have : isCol a = false := by
            simp only [Bool.or_eq_true, not_or] at h3
            simpa using h3.2
          simp [this, ih, piecesToks_parens, o, Token.op]
      · simp [ih, o, Token.op]
  | .app op (a :: b :: rest) inline method, want => by
    have ih0 := tk_eq a false
    have iha := tkArgs_eq (a :: b :: rest) true
    have ihr := tkArgs_eq (b :: rest) false
    have ihall := tkArgs_eq (a :: b :: rest) false
    unfold pp tk
    simp only
    by_cases hi : inline = true
    · simp only [hi, ↓reduceIte]
      split <;> simp [piecesToks_parens, piecesToks_opJoin, iha]
    · simp only [hi, Bool.false_eq_true, ↓reduceIte]
      have h2 : (pp a false).2 = false := pp_false_snd a
      split
      · split <;> rename_i h3
        · have : isCol a = true := by simpa [h2] using h3
          simp [this, ih0, piecesToks_commaJoin, ihr, o, Token.op]
        · have : isCol a = false := by
            simp only [Bool.or_eq_true, not_or] at h3
            simpa using h3.2
          simp [this, ih0, piecesToks_parens, piecesToks_commaJoin, ihr, o, Token.op]
      · have : ((pp a false).1 :: ppArgs (b :: rest) false) = ppArgs (a :: b :: rest) false := by simp [ppArgs]
        rw [this]
        simp [piecesToks_commaJoin, ihall, o, Token.op]
theorem tkArgs_eq : ∀ (ts : List Term) (want : Bool), (ppArgs ts want).map piecesToks = tkArgs ts want
  | [], want => by simp [ppArgs, tkArgs]
  | t :: ts, want => by simp [ppArgs, tkArgs, tk_eq t want, tkArgs_eq ts want]
end

theorem printToks_eq (t : Term) : printToks t = tk t false := tk_eq t false


theorem decodeDec_repr (n : Nat) : decodeDec (reprInt (Int.ofNat n)) = some n := by
  have h1 : reprInt (Int.ofNat n) = Nat.repr n := rfl
  unfold decodeDec
  simp only [h1, Nat.toList_repr]
  have hne : Nat.toDigits 10 n ≠ [] := Nat.toDigits_ne_nil
  have hall : (Nat.toDigits 10 n).all isDigit = true := by
    rw [List.all_eq_true]
    intro c hc
    exact Nat.isDigit_of_mem_toDigits (by omega) (by omega) hc
  simp only [ne_eq, hne, not_false_eq_true, decide_true, hall, Bool.and_self, ↓reduceIte, Option.some.injEq]
  unfold digitsToNat
  rw [← Nat.ofDigitChars_eq_foldl]
  exact Nat.ofDigitChars_ten_toDigits


theorem classify_const_none : classify "const_none" = .constNone := by decide +kernel
theorem classify_const_true : classify "const_true" = .constTrue := by decide +kernel
theorem classify_const_false : classify "const_false" = .constFalse := by decide +kernel
theorem classify_number : classify "number" = .wrapper := by decide +kernel
theorem classify_string : classify "string" = .wrapper := by decide +kernel
theorem classify_var : classify "var" = .wrapper := by decide +kernel
theorem classify_factor : classify "factor" = .factor := by decide +kernel
theorem classify_list : classify "list" = .collection := by decide +kernel
theorem classify_dict : classify "dict" = .dict := by decide +kernel
theorem classify_key_value : classify "key_value" = .keyValue := by decide +kernel
theorem classify_funccall : classify "funccall" = .funccall := by decide +kernel
theorem classify_power : classify "power" = .power := by decide +kernel
theorem classify_or_test : classify "or_test" = .orTest := by decide +kernel
theorem classify_and_test : classify "and_test" = .andTest := by decide +kernel
theorem classify_comparison : classify "comparison" = .comparison := by decide +kernel
theorem classify_arith_expr : classify "arith_expr" = .arith := by decide +kernel
theorem classify_term : classify "term" = .term := by decide +kernel

/-- what the round trip needs of the tables besides `wf`: a negative constant is re-read through `Value.__neg__` -/
structure Env.NegFolds (env : Env) : Prop where
  folds : env.valueNegFolds = true
  negRemap : remap env.factorRemap "-" = "__neg__"

theorem walk_wrapped {env : Env} {rule : String} (h : classify rule = .wrapper) (t : Token) :
    walk env (.node rule [.tok t]) = walkTok env t := by
  rw [walk.eq_def]
  simp only [h]
  rw [walk.eq_def]

theorem walk_number_int (env : Env) {i : Int} (h : 0 ≤ i) :
    walk env (.node "number" [.tok ⟨.dec, reprInt i⟩]) = .ok (.value (.int i)) := by
  obtain ⟨n, rfl⟩ : ∃ n : Nat, i = Int.ofNat n := Int.eq_ofNat_of_zero_le h
  rw [walk_wrapped classify_number]
  simp only [walkTok, decodeDec_repr]
  rfl

theorem callNeg_value {env : Env} (hn : env.NegFolds) (l l' : Lit) (h : negLit l = .ok l') :
    callMethod env (.value l) (remap env.factorRemap "-") [] = .ok (.value l') := by
  rw [hn.negRemap]
  simp [callMethod, getMethod, isValue, hn.folds, applyBound, h, Except.map]

theorem walk_neg {env : Env} (hn : env.NegFolds) {c : Cst} {l l' : Lit} (hc : walk env c = .ok (.value l))
    (h : negLit l = .ok l') : walk env (.node "factor" [.tok (o "-"), c]) = .ok (.value l') := by
  rw [walk.eq_def]
  simp only [classify_factor, opText, o, Token.op, hc, ok_bind]
  exact callNeg_value hn l l' h

theorem walk_litCst {env : Env} (hn : env.NegFolds) (l : Lit) (hl : litOk l = true) :
    walk env (litCst l) = .ok (.value l) := by
  cases l with
  | none => rw [litCst, walk.eq_def]; simp only [classify_const_none]
  | bool b => cases b <;> (rw [litCst, walk.eq_def]) <;> simp only [classify_const_true, classify_const_false]
  | int i =>
    simp only [litCst]
    split
    · exact walk_neg hn (walk_number_int env (by omega)) (by simp only [negLit, Int.neg_neg])
    · exact walk_number_int env (by omega)
  | flt q =>
    simp only [litOk, beq_iff_eq] at hl
    simp only [litCst]
    split
    · rename_i hneg
      simp only [hneg, ↓reduceIte] at hl
      refine walk_neg hn (l := .flt (-q)) ?_ (by simp only [negLit, Rat.neg_neg])
      rw [walk_wrapped classify_number]
      simp only [walkTok, hl]
    · rename_i hneg
      simp only [hneg, ↓reduceIte] at hl
      rw [walk_wrapped classify_number]
      simp only [walkTok, hl]
  | str s =>
    simp only [litOk, beq_iff_eq] at hl
    rw [litCst, walk_wrapped classify_string]
    simp only [walkTok, hl]
  | _ => simp [litOk] at hl


def tails (op : String) : List Cst → List Cst
  | [] => []
  | c :: cs => .tok (o op) :: c :: tails op cs

theorem interleave_cons (op : String) : ∀ (c : Cst) (cs : List Cst), interleave op (c :: cs) = c :: tails op cs
  | c, [] => by simp [interleave, tails]
  | c, d :: ds => by
    have := interleave_cons op d ds
    simp only [interleave, tails, this]

theorem tails_length (op : String) : ∀ cs : List Cst, (tails op cs).length = 2 * cs.length
  | [] => by simp [tails]
  | c :: cs => by simp [tails, tails_length op cs]; omega

theorem opTexts_tails (op : String) : ∀ cs : List Cst, opTexts (tails op cs) = some (List.replicate cs.length op)
  | [] => by simp [tails, opTexts]
  | c :: cs => by simp [tails, opTexts, opText, opTexts_tails op cs, o, Token.op, List.replicate_succ]

theorem csts_length : ∀ ts : List Term, (csts ts).length = ts.length
  | [] => by simp [csts]
  | t :: ts => by simp [csts, csts_length ts]

theorem allSame_replicate (op : String) (n : Nat) : allSame (List.replicate (n + 1) op) = true := by
  simp [allSame, List.replicate_succ]

theorem litCst_rule (l : Lit) : ∃ r ch, litCst l = .node r ch ∧ (r == "tuplelist_comp" || r == "set_comp") = false := by
  cases l with
  | bool b => cases b <;> exact ⟨_, _, rfl, by decide⟩
  | int i => simp only [litCst]; split <;> exact ⟨_, _, rfl, by decide⟩
  | flt q => simp only [litCst]; split <;> exact ⟨_, _, rfl, by decide⟩
  | _ => exact ⟨_, _, rfl, by decide⟩

theorem walkAll_litCsts {env : Env} (hn : env.NegFolds) : ∀ (vs : List Lit), vs.all litOk = true →
    walkAll env (vs.map litCst) = .ok (vs.map Term.value)
  | [], _ => by simp [walkAll]
  | v :: vs, h => by
    simp only [List.all_cons, Bool.and_eq_true] at h
    simp [walkAll, walk_litCst hn v h.1, walkAll_litCsts hn vs h.2]

theorem filterMap_map_value (vs : List Lit) : (vs.map Term.value).filterMap valueLit? = vs := by
  induction vs with
  | nil => rfl
  | cons v vs ih => simp [valueLit?, ih]

theorem mkList_values (vs : List Lit) (h1 : vs.any (· == Lit.none) = false) (h2 : compatibleTys (vs.map Lit.ty) = true) :
    mkList (vs.map Term.value) = .ok (.list vs) := by
  unfold mkList
  simp only [filterMap_map_value, List.length_map, ne_eq, not_true_eq_false, ↓reduceIte, h1, Bool.false_eq_true, h2,
    Bool.not_true]

theorem dictInsert_fresh (d : List (Lit × Lit)) (k v : Lit) (h : d.any (fun kv => Term.pyEqLit kv.1 k) = false) :
    dictInsert d k v = d ++ [(k, v)] := by
  simp [dictInsert, h]

theorem foldl_dictInsert_nodup : ∀ (kvs acc : List (Lit × Lit)),
    nodupKeys (kvs.map (·.1)) = true →
    (∀ a ∈ acc, ∀ kv ∈ kvs, Term.pyEqLit a.1 kv.1 = false) →
    kvs.foldl (fun d kv => dictInsert d kv.1 kv.2) acc = acc ++ kvs
  | [], acc, _, _ => by simp
  | kv :: kvs, acc, hnd, hacc => by
    simp only [List.map_cons, nodupKeys, Bool.and_eq_true, Bool.not_eq_true'] at hnd
    have hfresh : acc.any (fun x => Term.pyEqLit x.1 kv.1) = false := by
      rw [List.any_eq_false]
      intro a ha
      simpa using hacc a ha kv (by simp)
    simp only [List.foldl_cons, dictInsert_fresh acc kv.1 kv.2 hfresh]
    rw [foldl_dictInsert_nodup kvs (acc ++ [(kv.1, kv.2)]) hnd.2]
    · simp
    · intro a ha x hx
      simp only [List.mem_append, List.mem_singleton] at ha
      rcases ha with ha | ha
      · exact hacc a ha x (by simp [hx])
      · subst ha
        have := hnd.1
        rw [List.any_eq_false] at this
        simpa using this x.1 (by simp; exact ⟨x.2, hx⟩)


theorem odds_tails (op : String) : ∀ cs : List Cst, odds (tails op cs) = cs
  | [] => rfl
  | c :: cs => by rw [tails, odds, odds_tails op cs]

theorem walkLevel_binary {env : Env} {kind : RuleKind} {op : String} {ca cb : Cst} {a b t : Term}
    (ha : walk env ca = .ok a) (hb : walk env cb = .ok b)
    (hmode : levelMode kind [op] = .linear)
    (hcall : callMethod env a (remap env.opRemap op) [b] = .ok t) :
    walkLevel env kind [ca, .tok (o op), cb] = .ok t := by
  obtain ⟨bd, hg, hab⟩ := callMethod_split hcall
  simp [walkLevel, opTexts, opText, o, Token.op, hmode, ha, walkChain, hg, hb, hab]

theorem walkLevel_kary {env : Env} {kind : RuleKind} {op : String}
    (hk : (kind = .arith ∧ op = "+") ∨ (kind = .term ∧ op = "*")) {a : Term} {ca : Cst} {b : Term} {bs : List Term}
    (ha : walk env ca = .ok a) (hw : walkAll env (csts (b :: bs)) = .ok (b :: bs)) {t : Term}
    (hbuild : kopExpr env op (a :: b :: bs) = .ok t) :
    walkLevel env kind (ca :: tails op (csts (b :: bs))) = .ok t := by
  have hodd : walkOdd env (tails op (csts (b :: bs))) = .ok (b :: bs) := by rw [walkOdd_eq, odds_tails, hw]
  have hsame : allSame (op :: List.replicate bs.length op) = true := by simp [allSame]
  have hmode : levelMode kind (List.replicate (bs.length + 1) op) = .kary op := by
    rcases hk with ⟨rfl, rfl⟩ | ⟨rfl, rfl⟩ <;> simp [levelMode, hsame, List.replicate_succ]
  have hc1 : ¬ (2 * (bs.length + 1) < 2 ∨ 2 * (bs.length + 1) % 2 ≠ 0) := by omega
  simp only [walkLevel, tails_length, opTexts_tails, csts_length, List.length_cons, Bool.or_eq_true,
    decide_eq_true_eq, hc1, ↓reduceIte, hmode, ha, hodd, ok_bind, hbuild]

theorem walk_level {env : Env} {rule : String} {kind : RuleKind} (hc : classify rule = kind)
    (hk : kind = .arith ∨ kind = .term ∨ kind = .comparison) (ch : List Cst) :
    walk env (.node rule ch) = walkLevel env kind ch := by
  rw [walk.eq_def]
  rcases hk with rfl | rfl | rfl <;> simp only [hc]

/-! The printed inline operators are `**`, `and`, `or` and those of `levelOps`, which the grammar parses at a level that
keeps the operator token in the tree. -/

def levelOps : List String := ["+", "*", "-", "/", "//", "%", "%/%", "==", "!=", "<", "<=", ">", ">="]

/-- the rule of the level of an operator of `levelOps`, as `cst` names it -/
def levelRule (op : String) : String :=
  if opLevel op == 3 then "comparison" else if opLevel op == 8 then "arith_expr" else "term"

theorem karyOps_cases : ∀ op ∈ karyOps, op = "and" ∨ op = "or" ∨ op ∈ levelOps := by decide +kernel

theorem bin2Ops_cases : ∀ op ∈ bin2Ops, op = "**" ∨ op ∈ levelOps := by decide +kernel

/-- what the walker makes of the operators of `levelOps`: the rule is one of the three levels; `+` and `*` are the
k-ary operators of their levels; any other, between two operands, is walked as a linear chain -/
theorem levelOps_walk : ∀ op ∈ levelOps, (op == "**") = false ∧ (op == "or") = false ∧ (op == "and") = false ∧
    (classify (levelRule op) = .arith ∨ classify (levelRule op) = .term ∨ classify (levelRule op) = .comparison) ∧
    (karyOps.contains op = true →
      (classify (levelRule op) = .arith ∧ op = "+") ∨ (classify (levelRule op) = .term ∧ op = "*")) ∧
    (karyOps.contains op = false → levelMode (classify (levelRule op)) [op] = .linear) := by decide +kernel

theorem cst_inline (op : String) (a b : Term) (rest : List Term) :
    cst (.app op (a :: b :: rest) true false) =
      if op == "**" then .node "power" (csts (a :: b :: rest))
      else if op == "or" then .node "or_test" (csts (a :: b :: rest))
      else if op == "and" then .node "and_test" (csts (a :: b :: rest))
      else .node (levelRule op) (interleave op (csts (a :: b :: rest))) := by
  simp only [cst, levelRule, ↓reduceIte]

theorem cst_level {op : String} (h : op ∈ levelOps) (a b : Term) (rest : List Term) :
    cst (.app op (a :: b :: rest) true false) = .node (levelRule op) (cst a :: tails op (csts (b :: rest))) := by
  obtain ⟨h1, h2, h3, _⟩ := levelOps_walk op h
  rw [cst_inline, csts, interleave_cons]
  simp only [h1, h2, h3, Bool.false_eq_true, ↓reduceIte]

theorem walk_cst_inline {env : Env} {op : String} {a b : Term} {rest : List Term}
    (hall : walkAll env (csts (a :: b :: rest)) = .ok (a :: b :: rest))
    (hp : Printed env op (a :: b :: rest) true false) :
    walk env (cst (.app op (a :: b :: rest) true false)) = .ok (.app op (a :: b :: rest) true false) := by
  obtain ⟨_, ha, _, hrest, heq⟩ := walkAll_cons_ok.1 hall
  cases heq
  have hlen : ¬ (csts (a :: b :: rest)).length < 2 := by simp [csts_length]
  cases hp with
  | kary hk hbuild =>
    rcases karyOps_cases op (List.contains_iff_mem.1 hk) with rfl | rfl | hl
    · rw [cst_inline, walk.eq_def]
      simp only [String.reduceBEq,
        beq_self_eq_true, Bool.false_eq_true, ↓reduceIte, classify_and_test, hlen, hall, ok_bind, hbuild]
    · rw [cst_inline, walk.eq_def]
      simp only [String.reduceBEq, beq_self_eq_true, Bool.false_eq_true, ↓reduceIte,
        classify_or_test, hlen, hall, ok_bind, hbuild]
    · obtain ⟨_, _, _, hkind, hkary, _⟩ := levelOps_walk op hl
      rw [cst_level hl, walk_level rfl hkind]
      exact walkLevel_kary (hkary hk) ha hrest hbuild
  | bin hk hop hcall =>
    obtain ⟨_, hb, _, _, heq⟩ := walkAll_cons_ok.1 hrest
    cases heq
    rcases bin2Ops_cases op (List.contains_iff_mem.1 hop) with rfl | hl
    · rw [cst_inline, walk.eq_def]
      simp only [beq_self_eq_true, ↓reduceIte, classify_power, hlen, hall, ok_bind, List.foldlM]
      simp only [remapX, beq_self_eq_true, ↓reduceIte] at hcall
      simp [hcall]
    · obtain ⟨h1, _, _, hkind, _, hlin⟩ := levelOps_walk op hl
      simp only [remapX, h1, Bool.false_eq_true, ↓reduceIte] at hcall
      rw [cst_level hl, walk_level rfl hkind]
      exact walkLevel_binary ha hb (hlin hk) hcall

theorem walk_cst_list {env : Env} (hn : env.NegFolds) {vs : List Lit} (h : wf env (.list vs) = true) :
    walk env (cst (.list vs)) = .ok (.list vs) := by
  simp only [wf, Bool.and_eq_true, Bool.not_eq_true', List.isEmpty_eq_false_iff] at h
  obtain ⟨⟨⟨hne, hall⟩, hnone⟩, hcomp⟩ := h
  have hm := mkList_values vs hnone hcomp
  obtain ⟨v, vs', rfl⟩ := List.exists_cons_of_ne_nil hne
  simp only [cst]
  rw [walk.eq_def]
  cases vs' with
  | nil =>
    obtain ⟨r, ch, hr, hr2⟩ := litCst_rule v
    have hw := walk_litCst hn v (by simpa using hall)
    simp only [classify_list, hr, hr2, Bool.false_eq_true, ↓reduceIte]
    rw [← hr, hw]
    exact hm
  | cons w vs'' =>
    simp only [classify_list, beq_self_eq_true, Bool.true_or, ↓reduceIte, walkAll_litCsts hn _ hall, ok_bind]
    exact hm

theorem mapM_dictEntries_singletons : ∀ (kvs : List (Lit × Lit)),
    (kvs.map (fun kv => Term.dict [kv])).mapM dictEntries = .ok (kvs.map (fun kv => [kv]))
  | [] => rfl
  | kv :: kvs => by
    simp only [List.map_cons, List.mapM_cons, dictEntries, mapM_dictEntries_singletons kvs, ok_bind]
    rfl

theorem flatten_singletons : ∀ (kvs : List (Lit × Lit)), (kvs.map (fun kv => [kv])).flatten = kvs
  | [] => rfl
  | kv :: kvs => by simp [flatten_singletons kvs]

theorem walk_cst_dict {env : Env} (hn : env.NegFolds) {kvs : List (Lit × Lit)} (h : wf env (.dict kvs) = true) :
    walk env (cst (.dict kvs)) = .ok (.dict kvs) := by
  simp only [wf, Bool.and_eq_true, Bool.not_eq_true', List.isEmpty_eq_false_iff] at h
  obtain ⟨⟨⟨⟨⟨hne, hall⟩, hnone⟩, hnd⟩, hck⟩, hcv⟩ := h
  -- each `key_value` child is walked to a one-entry dictionary …
  have hparts : ∀ (l : List (Lit × Lit)), l.all (fun kv => litOk kv.1 && litOk kv.2) = true →
      walkAll env (l.map fun kv => Cst.node "key_value" [litCst kv.1, litCst kv.2])
        = .ok (l.map fun kv => Term.dict [kv]) := by
    intro l
    induction l with
    | nil => intro _; simp only [List.map_nil, walkAll]
    | cons x xs ih =>
      intro hx
      simp only [List.all_cons, Bool.and_eq_true] at hx
      refine walkAll_cons_ok.2 ⟨_, ?_, _, ih hx.2, rfl⟩
      rw [walk.eq_def]
      simp only [classify_key_value, walk_litCst hn x.1 hx.1.1, walk_litCst hn x.2 hx.1.2, ok_bind, mkKeyValue]
  -- … and `mkDict` puts the entries together again, since no key repeats
  have hfold := foldl_dictInsert_nodup kvs [] hnd (by simp)
  simp only [List.nil_append] at hfold
  obtain ⟨kv, kvs', rfl⟩ := List.exists_cons_of_ne_nil hne
  simp only [cst]
  rw [walk.eq_def]
  simp only [classify_dict, hparts _ hall, ok_bind, mkDict, mapM_dictEntries_singletons, flatten_singletons, hnone,
    Bool.false_eq_true, ↓reduceIte, hfold, hck, hcv, Bool.not_true]

theorem cst_func (op : String) (a : Term) (rest : List Term) :
    cst (.app op (a :: rest) false false)
      = .node "funccall" [.node "var" [.tok (Token.nm op)], .node "arguments" (csts (a :: rest))] := by
  cases rest <;> simp [cst, csts]

theorem walk_func {env : Env} (op : String) (more : Cst) :
    walk env (.node "funccall" [.node "var" [.tok (Token.nm op)], more])
      = walkArgs env [more] >>= fun args => mkExpr env op args false false := by
  rw [walk.eq_def]
  simp [classify_funccall, Token.nm]

theorem walk_method {env : Env} (c : Cst) (op : String) (more : Cst) :
    walk env (.node "funccall" [.node "getattr" [c, .tok (Token.nm op)], more])
      = walk env c >>= fun var => walkArgs env [more] >>= fun args => callMethod env var op args := by
  rw [walk.eq_def]
  simp [classify_funccall, opText, Token.nm]

theorem walkAll_of_mem {env : Env} : ∀ {ts : List Term}, (∀ a ∈ ts, walk env (cst a) = .ok a) →
    walkAll env (csts ts) = .ok ts
  | [], _ => by simp [csts, walkAll]
  | t :: ts, h => by
    simp [csts, walkAll, h t List.mem_cons_self, walkAll_of_mem fun a ha => h a (List.mem_cons_of_mem _ ha)]

theorem walk_cst {env : Env} (hn : env.NegFolds) : ∀ (t : Term), wf env t = true → walk env (cst t) = .ok t := by
  refine wf_ind (fun l h => by simpa [cst] using walk_litCst hn l h) (fun c h => ?_) (fun _ => walk_cst_list hn)
    (fun _ => walk_cst_dict hn) (fun op args i m ih hp => ?_)
  · rw [cst, walk_wrapped classify_var]
    simp only [walkTok, Token.nm, h, ↓reduceIte]
  · have hall := walkAll_of_mem ih
    cases hp with
    | func h =>
      cases args with
      | nil => simp only [cst, walk_func, walkArgs, ok_bind]; exact h
      | cons a rest => simp only [cst_func, walk_func, walkArgs, hall, ok_bind]; exact h
    | @method _ a rest h =>
      obtain ⟨_, ha, _, hrest, heq⟩ := walkAll_cons_ok.1 hall
      cases heq
      cases rest <;>
        (simp only [cst, Bool.false_eq_true, ↓reduceIte, walk_method, ha, walkArgs, hrest, ok_bind]; exact h)
    | neg h =>
      simp only [cst, ↓reduceIte]
      rw [walk.eq_def]
      simp only [classify_factor, opText, o, Token.op, ih _ List.mem_cons_self, ok_bind, h]
    | kary hk h => exact walk_cst_inline hall (.kary hk h)
    | bin hk hop h => exact walk_cst_inline hall (.bin hk hop h)

theorem walkAll_csts {env : Env} (hn : env.NegFolds) : ∀ (ts : List Term), wfs env ts = true →
    walkAll env (csts ts) = .ok ts :=
  fun _ h => walkAll_of_mem fun a ha => walk_cst hn a (wfs_iff.1 h a ha)

end DAVerif.Expr
