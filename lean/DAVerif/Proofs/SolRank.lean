import DAVerif.Proofs.SolTb
import DAVerif.Proofs.SolSem
import DAVerif.Proofs.SolComb
import DAVerif.Proofs.SolBuild
import DAVerif.Proofs.SqlBasic
import DAVerif.Spec.Solutions
import DAVerif.Sem.Theta
/-!
`rank_to_average` computes the mean position of each row's tie group: proved about `semG le` for every comparison with
`CmpLex` and every interpretation with `RankSem`; `sem`, `rowLe` and the window functions of `Theta` are the instance at
the end.  Rows are addressed by position `j < n`:

1. `tb j`   = `_row_number()` over the whole table ordered by `order_by` (`rk1G`): distinct, increasing along `order_by`;
2. `rank j` = `(1.0).cumsum()` per partition ordered by `order_by ++ [tb]` (`pos2G + 1`): the window order is total, so
   the position is the number of strict predecessors (`TbRows.winPos`);
3. `rank j` = `rank.mean()` per `partition_by ++ order_by`: the mean over the tie group (`sum_positions`).
-/
namespace DAVerif.Sol
open DAVerif DAVerif.Solutions DAVerif.Spec21

theorem win_row_number (cv : RecMap → Table → Except Err Table) (cargs vs : List Val) (pos : Nat) :
    (Theta.concrete cv).win "_row_number" cargs vs pos = Val.num ((pos + 1 : Nat) : Rat) := by
  simp [Theta.concrete, Theta.win, Rat.natCast_add]

theorem cumulate_ones (m pos : Nat) (h : pos < m) :
    Theta.cumulate (· + ·) (List.replicate m (Val.num 1)) pos = Val.num ((pos + 1 : Nat) : Rat) := by
  have e : List.replicate m (Val.num 1) = (List.replicate m ()).map (fun _ => flagVal true) := by
    rw [List.map_replicate, flagVal, if_pos rfl, int_one_cast]
  rw [e, cumulate_flags _ (fun _ => true) pos (by simpa using h), List.countP_eq_length.mpr (fun _ _ => rfl),
    List.length_take, List.length_replicate, Nat.min_eq_left h]

theorem sumR_cast (l : List Nat) (a : Rat) :
    (l.map (fun x => ((x : Nat) : Rat))).foldl (· + ·) a = a + ((l.sum : Nat) : Rat) := by
  induction l generalizing a with
  | nil => simp [Rat.add_zero]
  | cons x l ih =>
    simp only [List.map_cons, List.foldl_cons, List.sum_cons, ih, Rat.natCast_add, Rat.add_assoc]

theorem nums_map_cast (l : List Nat) :
    Theta.nums (l.map (fun x => Val.num ((x : Nat) : Rat))) = l.map (fun x => ((x : Nat) : Rat)) :=
  RefSem.nums_map (fun _ => rfl) l

theorem meanV_nums (l : List Nat) (hl : l ≠ []) :
    Theta.meanV (l.map (fun x => Val.num ((x : Nat) : Rat))) = Val.num (((l.sum : Nat) : Rat) / (l.length : Rat)) := by
  have h1 := nums_map_cast l
  unfold Theta.meanV
  rw [h1]
  have h2 : (l.map (fun x => ((x : Nat) : Rat))).isEmpty = false := by
    cases l with
    | nil => exact absurd rfl hl
    | cons x l => rfl
  simp only [h2, Bool.false_eq_true, if_false, Theta.sumR, sumR_cast, List.length_map, Rat.zero_add]

theorem win_mean (cv : RecMap → Table → Except Err Table) (cargs vs : List Val) (pos : Nat) :
    (Theta.concrete cv).win "mean" cargs vs pos = Theta.meanV vs := by
  simp [Theta.concrete, Theta.win, Theta.agg]

end DAVerif.Sol

namespace DAVerif.Sol21Sql
open DAVerif DAVerif.Sol

/-- what `rank_to_average` needs of the interpretation of the window functions: `_row_number()` numbers the window
from 1, `(1.0).cumsum()` counts the rows up to the current one, `mean()` over a window is the mean of the non-missing
cells of the partition -/
structure RankSem (Θ : Interp) : Prop where
  rowNumber : ∀ cargs vs pos, Θ.win "_row_number" cargs vs pos = Val.num ((pos + 1 : Nat) : Rat)
  cumsumOnes : ∀ m pos, pos < m →
    Θ.win "cumsum" [] (List.replicate m (Val.num 1)) pos = Val.num ((pos + 1 : Nat) : Rat)
  mean : ∀ cargs vs pos, Θ.win "mean" cargs vs pos = Theta.meanV vs

theorem rankSem_concrete (cv : RecMap → Table → Except Err Table) : RankSem (Theta.concrete cv) where
  rowNumber := win_row_number cv
  cumsumOnes := fun m pos h => by
    simp only [Theta.concrete, Theta.win]
    exact cumulate_ones m pos h
  mean := win_mean cv

end DAVerif.Sol21Sql

namespace DAVerif.Sol21Sql.Cmp
open DAVerif DAVerif.Sql DAVerif.Sol DAVerif.Solutions DAVerif.Spec21

/-- stage 1: the tie-breaking row number of position `j` -/
def rk1G (le : RowCmp) (ob : List String) (rows0 : List Row) (j : Nat) : Nat := winPosG le [] ob [] rows0 j + 1

def rows1G (le : RowCmp) (cols ob : List String) (tb : String) (rows0 : List Row) : List Row :=
  addCol (cols ++ [tb]) tb (fun j => Val.num ((rk1G le ob rows0 j : Nat) : Rat)) rows0

/-- stage 2: position of `j` in its partition ordered by `order_by ++ [tb]` -/
def pos2G (le : RowCmp) (cols ob part : List String) (tb : String) (rows0 : List Row) (j : Nat) : Nat :=
  winPosG le part (ob ++ [tb]) [] (rows1G le cols ob tb rows0) j

def rows2G (le : RowCmp) (cols ob part : List String) (rk tb : String) (rows0 : List Row) : List Row :=
  addCol (cols ++ [tb, rk]) rk (fun j => Val.num ((pos2G le cols ob part tb rows0 j + 1 : Nat) : Rat))
    (rows1G le cols ob tb rows0)

/-- stage 3: the positions of the tie group of `i` -/
def group3G (le : RowCmp) (cols ob part : List String) (rk tb : String) (rows0 : List Row) (i : Nat) : List Nat :=
  (List.range rows0.length).filter (fun j =>
    keyOf ((rows2G le cols ob part rk tb rows0).getD j []) (part ++ ob)
      == keyOf ((rows2G le cols ob part rk tb rows0).getD i []) (part ++ ob))

def val3G (le : RowCmp) (cols ob part : List String) (rk tb : String) (rows0 : List Row) (i : Nat) : Val :=
  Theta.meanV ((group3G le cols ob part rk tb rows0 i).map
    (fun j => Val.num ((pos2G le cols ob part tb rows0 j + 1 : Nat) : Rat)))

def rows3G (le : RowCmp) (cols ob part : List String) (rk tb : String) (rows0 : List Row) : List Row :=
  addCol (cols ++ [tb, rk]) rk (val3G le cols ob part rk tb rows0) (rows2G le cols ob part rk tb rows0)

section
variable {le : RowCmp} {cols ob part : List String} {rk tb : String} (rows0 : List Row)

theorem rk1_inj {j k : Nat} (hj : j < rows0.length) (hk : k < rows0.length) (h : rk1G le ob rows0 j = rk1G le ob rows0 k) :
    j = k := by
  by_cases e : j = k
  · exact e
  · exfalso
    have := winPos_ne (le := le) (p := []) (o := ob) (rv := []) hj hk rfl e
    simp only [rk1G] at h
    omega

theorem rk1_lt (hle : CmpLex le) {j k : Nat} (hj : j < rows0.length) (hk : k < rows0.length)
    (h : le ob [] (rows0.getD k []) (rows0.getD j []) = false) : rk1G le ob rows0 j < rk1G le ob rows0 k :=
  Nat.succ_lt_succ (winPos_lt_of_strict hle (p := []) (o := ob) (rv := []) hj hk rfl h)

theorem rk1_over (hle : CmpLex le) {cs : List String} {R : List Row} (h : Over cs rows0 R) (ho : ∀ c ∈ ob, c ∈ cs)
    (j : Nat) : rk1G le ob R j = rk1G le ob rows0 j := by
  rw [rk1G, rk1G, h.winPos_eq hle (fun _ hc => absurd hc List.not_mem_nil) ho]

/-- number of rows of the partition of `i` strictly before `i` -/
def lessIG (le : RowCmp) (part ob : List String) (rows0 : List Row) (i : Nat) : Nat :=
  (List.range rows0.length).countP (fun k => sameP part rows0 k i && ltOG le ob rows0 k i)

theorem group3_tb_nodup (i : Nat) : ((group3G le cols ob part rk tb rows0 i).map (rk1G le ob rows0)).Nodup := by
  have hnd : (group3G le cols ob part rk tb rows0 i).Nodup := List.nodup_range.filter _
  unfold List.Nodup at hnd ⊢
  rw [List.pairwise_map]
  refine List.Pairwise.imp_of_mem ?_ hnd
  intro a b ha hb hab e
  have ha := (List.mem_range.mp (List.mem_filter.mp ha).1)
  have hb := (List.mem_range.mp (List.mem_filter.mp hb).1)
  exact hab (rk1_inj rows0 ha hb e)

theorem lessCount_eq {i : Nat} :
    lessCount (le ob []) part rows0 (rows0.getD i []) = lessIG le part ob rows0 i := by
  rw [lessCount, List.countP_filter, countP_rows]
  apply countP_congr_mem
  intro k _
  rw [Bool.and_comm]
  rfl

end

section
variable {le : RowCmp} {cols ob part : List String} {rk tb : String} (hok : RankOK cols ob part rk tb) (rows0 : List Row)
include hok

theorem over1 : Over cols rows0 (rows1G le cols ob tb rows0) :=
  (Over.refl cols rows0).addCol _ hok.tb_new fun _ h => List.mem_append_left _ h

theorem over2 : Over cols rows0 (rows2G le cols ob part rk tb rows0) :=
  (over1 hok rows0).addCol _ hok.rank_new fun _ h => List.mem_append_left _ h

theorem over3 : Over cols rows0 (rows3G le cols ob part rk tb rows0) :=
  (over2 hok rows0).addCol _ hok.rank_new fun _ h => List.mem_append_left _ h

theorem tbRows1 : TbRows cols tb (rk1G le ob rows0) rows0 (rows1G le cols ob tb rows0) where
  toOver := over1 hok rows0
  num := fun hj => get_addCol_self _ hj (by simp)
  inj := rk1_inj rows0

theorem get_rows2_rk {j : Nat} (hj : j < rows0.length) :
    ((rows2G le cols ob part rk tb rows0).getD j []).get rk
      = Val.num ((pos2G le cols ob part tb rows0 j + 1 : Nat) : Rat) :=
  get_addCol_self _ ((over1 hok rows0).length ▸ hj) (by simp)

theorem get_rows3_rk {j : Nat} (hj : j < rows0.length) :
    ((rows3G le cols ob part rk tb rows0).getD j []).get rk = val3G le cols ob part rk tb rows0 j :=
  get_addCol_self _ ((over2 hok rows0).length ▸ hj) (by simp)

theorem part_ob_sub : ∀ c ∈ part ++ ob, c ∈ cols := by
  intro c hc
  rcases List.mem_append.mp hc with h | h
  · exact hok.part_sub c h
  · exact hok.order_sub c h

theorem group3_pred {i k : Nat} (hi : i < rows0.length) (hk : k < rows0.length) :
    (keyOf ((rows2G le cols ob part rk tb rows0).getD k []) (part ++ ob)
      == keyOf ((rows2G le cols ob part rk tb rows0).getD i []) (part ++ ob))
    = (sameP part rows0 k i && tieO ob rows0 k i) := by
  rw [(over2 hok rows0).keyOf hk (part_ob_sub hok), (over2 hok rows0).keyOf hi (part_ob_sub hok)]
  rw [Bool.eq_iff_iff]
  simp only [beq_iff_eq, keyOf_append_eq_iff, sameP, tieO, Bool.and_eq_true]

theorem mem_group3 {i j : Nat} (hi : i < rows0.length) :
    j ∈ group3G le cols ob part rk tb rows0 i ↔
      j < rows0.length ∧ sameP part rows0 j i = true ∧ tieO ob rows0 j i = true := by
  simp only [group3G, List.mem_filter, List.mem_range]
  exact and_congr_right fun hj => by rw [group3_pred hok rows0 hi hj, Bool.and_eq_true]

end

set_option linter.unusedSectionVars false
section
variable {le : RowCmp} (hle : CmpLex le)
variable {cols ob part : List String} {rk tb : String} (hok : RankOK cols ob part rk tb) (rows0 : List Row)
include hle hok

theorem rk1_lt_of_strict {j k : Nat} (hj : j < rows0.length) (hk : k < rows0.length)
    (h : le ob [] (rows0.getD k []) (rows0.getD j []) = false) : rk1G le ob rows0 j < rk1G le ob rows0 k :=
  rk1_lt rows0 hle hj hk h

theorem pos2_eq {j : Nat} (hj : j < rows0.length) :
    pos2G le cols ob part tb rows0 j = (List.range rows0.length).countP (fun k =>
      sameP part rows0 k j && beforeIG le ob rows0 (rk1G le ob rows0) k j) :=
  (tbRows1 hok rows0).winPos hle hok.order_sub hok.part_sub hj

/-- for a member `j` of the tie group of `i`: strict predecessors of the partition, plus the members of the group
with a smaller tie-breaking number -/
theorem pos2_of_group {i j : Nat} (hi : i < rows0.length) (hj : j ∈ group3G le cols ob part rk tb rows0 i) :
    pos2G le cols ob part tb rows0 j = lessIG le part ob rows0 i +
      ((group3G le cols ob part rk tb rows0 i).map (rk1G le ob rows0)).countP (fun y => decide (y < rk1G le ob rows0 j)) := by
  obtain ⟨hjn, hsp, hti⟩ := (mem_group3 hok rows0 hi).mp hj
  simp only [sameP, tieO, beq_iff_eq] at hsp hti
  rw [pos2_eq hle hok rows0 hjn]
  simp only [beforeIG_eq hle]
  have hpt : ∀ k ∈ List.range rows0.length,
      (sameP part rows0 k j && (ltOG le ob rows0 k j || (tieO ob rows0 k j && decide (rk1G le ob rows0 k < rk1G le ob rows0 j))))
      = ((sameP part rows0 k i && ltOG le ob rows0 k i) ||
          ((sameP part rows0 k i && tieO ob rows0 k i) && decide (rk1G le ob rows0 k < rk1G le ob rows0 j))) := by
    intro k _
    have e1 : sameP part rows0 k j = sameP part rows0 k i := by simp only [sameP, hsp]
    have e2 : tieO ob rows0 k j = tieO ob rows0 k i := by simp only [tieO, hti]
    have hget : ∀ c ∈ ob, (rows0.getD j []).get c = (rows0.getD i []).get c := keyOf_eq_iff.mp hti
    have e3 : ltOG le ob rows0 k j = ltOG le ob rows0 k i := by
      simp only [ltOG]
      rw [hle.congr _ _ _ _ _ _ (fun _ _ => rfl) hget, hle.congr _ _ _ _ _ _ hget (fun _ _ => rfl)]
    rw [e1, e2, e3]
    cases sameP part rows0 k i <;> simp
  rw [countP_congr_mem hpt, countP_or_excl]
  · congr 1
    rw [List.countP_map]
    simp only [group3G]
    rw [List.countP_filter]
    apply countP_congr_mem
    intro k hk
    have hk := List.mem_range.mp hk
    simp only [Function.comp]
    rw [group3_pred hok rows0 hi hk, Bool.and_comm]
  · intro k _ ⟨h1, h2⟩
    simp only [Bool.and_eq_true] at h1 h2
    exact ltO_tieO_excl hle k i ⟨h1.2, h2.1.2⟩

theorem sum_group3 {i : Nat} (hi : i < rows0.length) :
    ((group3G le cols ob part rk tb rows0 i).map (fun j => pos2G le cols ob part tb rows0 j + 1)).sum
      = ((List.range (group3G le cols ob part rk tb rows0 i).length).map (fun e => lessIG le part ob rows0 i + e + 1)).sum := by
  have h := sum_positions ((group3G le cols ob part rk tb rows0 i).map (rk1G le ob rows0)) (group3_tb_nodup rows0 i)
    (lessIG le part ob rows0 i)
  rw [List.length_map, List.map_map] at h
  rw [← h]
  congr 1
  apply List.map_congr_left
  intro j hj
  simp only [Function.comp]
  rw [pos2_of_group hle hok rows0 hi hj]

theorem tieCount_eq {i : Nat} (hi : i < rows0.length) :
    tieCount (le ob []) part rows0 (rows0.getD i []) = (group3G le cols ob part rk tb rows0 i).length := by
  rw [tieCount, List.countP_filter, countP_rows, group3G, ← List.countP_eq_length_filter]
  apply countP_congr_mem
  intro k hk
  have hk := List.mem_range.mp hk
  rw [group3_pred hok rows0 hi hk]
  simp only [samePart, tiesWith, sameP, tieO]
  rw [Bool.and_comm]
  congr 1
  rw [Bool.eq_iff_iff]
  simp only [Bool.and_eq_true, beq_iff_eq]
  exact hle.tie ob [] _ _

theorem val3_eq {i : Nat} (hi : i < rows0.length) :
    val3G le cols ob part rk tb rows0 i
      = Val.num (tieGroupMeanRank (le ob []) part rows0 (rows0.getD i [])) := by
  have hne : group3G le cols ob part rk tb rows0 i ≠ [] := by
    intro e
    have : i ∈ group3G le cols ob part rk tb rows0 i :=
      (mem_group3 hok rows0 hi).mpr ⟨hi, by simp [sameP], by simp [tieO]⟩
    rw [e] at this
    cases this
  have hmap : (group3G le cols ob part rk tb rows0 i).map
      (fun j => Val.num ((pos2G le cols ob part tb rows0 j + 1 : Nat) : Rat))
      = ((group3G le cols ob part rk tb rows0 i).map (fun j => pos2G le cols ob part tb rows0 j + 1)).map
          (fun x => Val.num ((x : Nat) : Rat)) := by
    rw [List.map_map]; rfl
  rw [val3G, hmap, meanV_nums _ (by simpa using hne), List.length_map, sum_group3 hle hok rows0 hi]
  simp only [tieGroupMeanRank]
  rw [lessCount_eq rows0, tieCount_eq hle hok rows0 hi]

theorem rows3_select (hwf : ∀ r ∈ rows0, r.keys = cols) :
    (rows3G le cols ob part rk tb rows0).map (fun r => r.select (cols ++ [rk]))
      = rows0.map (fun r => r ++ [(rk, Val.num (tieGroupMeanRank (le ob []) part rows0 r))]) := by
  apply List.ext_getElem
  · simp [(over3 hok rows0).length]
  · intro i h1 h2
    have hi : i < rows0.length := by simpa using h2
    have hi3 : i < (rows3G le cols ob part rk tb rows0).length := (over3 hok rows0).length ▸ hi
    simp only [List.getElem_map]
    rw [← getD_eq [] hi3, ← getD_eq [] hi, select_append_single, get_rows3_rk hok rows0 hi, val3_eq hle hok rows0 hi]
    congr 1
    rw [Row.select_congr (fun c hc => (over3 hok rows0).get hi hc)]
    exact Row.select_self (hwf _ (by rw [getD_eq [] hi]; exact List.getElem_mem _)) hok.nodup

end

section
variable {le : RowCmp} {Θ : Interp} {cols ob part : List String} {rk tb : String}

theorem winVal_rowNumber (hrn : ∀ cargs vs pos, Θ.win "_row_number" cargs vs pos = Val.num ((pos + 1 : Nat) : Rat))
    (rows : List Row) (j : Nat) :
    winValG le Θ (fcall0 "_row_number") [] ob [] rows j = Val.num ((rk1G le ob rows j : Nat) : Rat) := by
  simp only [winValG, fcall0, opName, hrn, rk1G]

theorem winVal_cumsumOnes (hcs : ∀ m pos, pos < m →
      Θ.win "cumsum" [] (List.replicate m (Val.num 1)) pos = Val.num ((pos + 1 : Nat) : Rat))
    {rows : List Row} {o p : List String} {i : Nat} (hi : i < rows.length) :
    winValG le Θ (mcall "cumsum" (.value (.flt 1))) p o [] rows i
      = Val.num ((winPosG le p o [] rows i + 1 : Nat) : Rat) := by
  have h : argValues (mcall "cumsum" (.value (.flt 1))) ((winSortedG le p o [] rows i).map (·.1))
      = List.replicate (winSortedG le p o [] rows i).length (Val.num 1) := by
    simp only [argValues, mcall, Lit.toVal, List.map_const', List.length_map]
  show Θ.win "cumsum" [] _ _ = _
  rw [h]
  exact hcs _ _ (winPos_lt hi)

theorem winVal_mean (hle : CmpLex le) (hmean : ∀ cargs vs pos, Θ.win "mean" cargs vs pos = Theta.meanV vs)
    (rows : List Row) (p : List String) (i : Nat) :
    winValG le Θ (mcall "mean" (.col rk)) p [] [] rows i = Theta.meanV
      (((List.range rows.length).filter (fun j => keyOf (rows.getD j []) p == keyOf (rows.getD i []) p)).map
        (fun j => (rows.getD j []).get rk)) := by
  show Θ.win "mean" _ (((winSortedG le p [] [] rows i).map (·.1)).map (fun r => r.get rk)) _ = _
  rw [hmean, winSorted_nil hle, List.map_map, map_winPart]
  rfl

/-- **`rank_to_average`, for every comparison with `CmpLex` and every view `d` that evaluates to a well-formed table**: the
input rows in input order, each followed by the mean position of its tie group in the order `le order_by []`. -/
theorem semG_rankTree (hle : CmpLex le) (hΘ : RankSem Θ) (cfg : SemCfg) (env : Env) (d : Ops) (t : Table) (hok : RankOK d.cols ob part rk tb)
    (hd : semG le Θ cfg env d = .ok t) (hwf : ∀ r ∈ t.rows, r.keys = d.cols) :
    semG le Θ cfg env (rankTree d ob part rk tb)
      = .ok ⟨d.cols ++ [rk],
          t.rows.map (fun r => r ++ [(rk, Val.num (tieGroupMeanRank (le ob []) part t.rows r))])⟩ := by
  have hc1 : appendNew d.cols [tb] = d.cols ++ [tb] := appendNew_single hok.tb_new
  have hc2 : appendNew (d.cols ++ [tb]) [rk] = d.cols ++ [tb, rk] := by
    rw [appendNew_single]
    · simp
    · simp only [List.mem_append, List.mem_singleton, not_or]
      exact ⟨hok.rank_new, hok.rank_ne_tb⟩
  have hc3 : appendNew (d.cols ++ [tb, rk]) [rk] = d.cols ++ [tb, rk] :=
    appendNew_single_mem (by simp)
  have hc4 : (d.cols ++ [tb, rk]).filter (fun c => !([tb].contains c)) = d.cols ++ [rk] := by
    rw [filter_drop_append (dels := [tb]) (fun c hc e => hok.tb_new (List.mem_singleton.mp e ▸ hc))]
    simp [hok.rank_ne_tb]
  -- the first step reads only the rows of `t` (whatever columns `t` names); then node by node
  have h1 : Ev le Θ cfg env (.extend d [(tb, fcall0 "_row_number")] [] ob [] true) (d.cols ++ [tb])
      (rows1G le d.cols ob tb t.rows) :=
    (Ev.window1_of rfl hd tb _ [] ob [] hc1).rows_eq
      (addCol_congr _ _ _ fun j _ => winVal_rowNumber hΘ.rowNumber _ j)
  have h2 : Ev le Θ cfg env _ (d.cols ++ [tb, rk]) (rows2G le d.cols ob part rk tb t.rows) :=
    (h1.window1 rk (mcall "cumsum" (.value (.flt 1))) part (ob ++ [tb]) [] hc2).rows_eq
      (addCol_congr _ _ _ fun j hj => winVal_cumsumOnes hΘ.cumsumOnes hj)
  have h3 : Ev le Θ cfg env _ (d.cols ++ [tb, rk]) (rows3G le d.cols ob part rk tb t.rows) :=
    (h2.window1 rk (mcall "mean" (.col rk)) (part ++ ob) [] [] hc3).rows_eq
      (addCol_congr _ _ _ fun i _ => by
        rw [winVal_mean hle hΘ.mean, val3G, group3G, (over2 hok t.rows).length]
        exact congrArg Theta.meanV
          (List.map_congr_left fun j hj => get_rows2_rk hok t.rows (List.mem_range.mp (List.mem_filter.mp hj).1)))
  exact ((h3.dropCols [tb] hc4).rows_eq (rows3_select hle hok t.rows hwf)).sem

end

end DAVerif.Sol21Sql.Cmp

namespace DAVerif.Sol
open DAVerif DAVerif.Solutions DAVerif.Spec21 DAVerif.Sol21Sql

/-- the tie-breaking row number of position `j` -/
def rk1 (ob : List String) (rows0 : List Row) (j : Nat) : Nat := winPos [] ob [] rows0 j + 1

section
variable {cols ob part : List String} {rk tb : String} (hok : RankOK cols ob part rk tb) (rows0 : List Row)
include hok

theorem rk1_lt_of_strict {j k : Nat} (hj : j < rows0.length) (hk : k < rows0.length)
    (h : rowLe ob [] (rows0.getD k []) (rows0.getD j []) = false) : rk1 ob rows0 j < rk1 ob rows0 k :=
  Cmp.rk1_lt_of_strict Cmp.cmpLex_rowLe hok rows0 hj hk h

end

section
variable (cv : RecMap → Table → Except Err Table)
variable {cols ob part : List String} {rk tb : String}

theorem sem_rankTree (cfg : SemCfg) (env : Env) (d : Ops) (t : Table) (hok : RankOK d.cols ob part rk tb)
    (hd : sem (Theta.concrete cv) cfg env d = .ok t) (hwf : ∀ r ∈ t.rows, r.keys = d.cols) :
    sem (Theta.concrete cv) cfg env (rankTree d ob part rk tb)
      = .ok ⟨d.cols ++ [rk],
          t.rows.map (fun r => r ++ [(rk, Val.num (tieGroupMeanRank (rowLe ob []) part t.rows r))])⟩ := by
  rw [← Sql.semG_rowLe] at hd ⊢
  exact Cmp.semG_rankTree Cmp.cmpLex_rowLe (rankSem_concrete cv) cfg env d t hok hd hwf

end

end DAVerif.Sol
