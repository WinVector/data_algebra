import DAVerif.Spec.Polars
import DAVerif.Proofs.Perm
/-!
Row-level lemmas for the Polars executor model (C03), on top of `Proofs/RowBasic.lean`: rows with pairwise
different column names, the keys of a row after `set` / `setAll`, `rename` under distinct new names.
-/
namespace DAVerif
namespace PlRow

theorem get_nil (c : String) : Row.get [] c = .null := rfl

theorem mem_get {r : Row} {k : String} (h : k ∈ r.keys) : (k, Row.get r k) ∈ r := by
  induction r with
  | nil => cases h
  | cons kv r ih =>
    obtain ⟨k', v'⟩ := kv
    rw [Row.get_cons]
    by_cases e : k = k'
    · subst e; simp
    · have : (k == k') = false := beq_false_of_ne e
      rw [this]
      simp only [Row.keys, List.map_cons, List.mem_cons] at h
      rcases h with h | h
      · exact absurd h e
      · exact List.mem_cons_of_mem _ (ih h)

theorem get_of_not_mem {r : Row} {k : String} (h : k ∉ r.keys) : Row.get r k = .null :=
  Row.get_of_not_mem_keys h

theorem setAll_cons (r : Row) (kv : String × Val) (kvs : List (String × Val)) :
    r.setAll (kv :: kvs) = (r.set kv.1 kv.2).setAll kvs := rfl

theorem keys_setAll (r : Row) (kvs : List (String × Val)) (h : ∀ kv ∈ kvs, kv.1 ∈ r.keys) :
    (r.setAll kvs).keys = r.keys := by
  induction kvs generalizing r with
  | nil => rfl
  | cons kv kvs ih =>
    rw [setAll_cons]
    have h1 := Row.keys_set_of_mem r kv.2 (h kv (List.mem_cons_self ..))
    rw [ih _ (fun kv' hkv' => by rw [h1]; exact h kv' (List.mem_cons_of_mem _ hkv')), h1]

theorem get_rename_of_mem {r : Row} {f : String → String} {k : String}
    (hn : (r.keys.map f).Nodup) (h : k ∈ r.keys) : Row.get (r.rename f) (f k) = Row.get r k := by
  have hm : (k, Row.get r k) ∈ r := mem_get h
  have hm' : (f k, Row.get r k) ∈ r.rename f := by
    simp only [Row.rename, List.mem_map]
    exact ⟨(k, Row.get r k), hm, rfl⟩
  apply Row.get_of_mem_nodup _ hm'
  rw [Row.keys_rename]
  exact hn

theorem get_select {r : Row} {cs : List String} {c : String} (h : c ∈ cs) :
    Row.get (r.select cs) c = Row.get r c := Row.select_get_of_mem h

theorem select_eq_map (r : Row) (cs : List String) : r.select cs = cs.map (fun c => (c, Row.get r c)) := rfl

end PlRow
end DAVerif
