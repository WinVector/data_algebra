import DAVerif.Proofs.C06Chain
/-!
C06, the exact case: when no `order_rows` without limit is skipped (`Ops.noTrivialOrderTop`, `Proofs/C06Sem.lean`)
and the chained pipeline declares its columns in the raw node's order, chained and step-by-step evaluation give
*equal* results – the equal-columns case of `shape_sem` (`Proofs/C06Main.lean`).
-/
namespace DAVerif

variable {Θ : Interp} {cfg : SemCfg} {env : Env}

theorem shape_sem_exact (hΘ : ConvertOK Θ) {p p' base N : Ops} (hv : p.valid = true)
    (hshape : BuildShape p p' base N) (hp'v : p'.valid = true) (hno : p.noTrivialOrderTop = true)
    (hcols : ∀ t, sem Θ cfg env p = .ok t → ∀ t2, applyStep Θ cfg env N t = .ok t2 → t2.cols = p'.cols) :
    sem Θ cfg env p' = sem Θ cfg env p >>= applyStep Θ cfg env N := by
  refine (shape_base_eq hshape hno ▸ shape_sem hΘ hv hshape hp'v).eq_of_cols fun t t2 ht ht2 => ?_
  obtain ⟨t1, ht1, ht2⟩ := bind_eq_ok.mp ht2
  rw [sem_cols hΘ ht, hcols t1 ht1 t2 ht2]

/-- **C06, one step, exact form**, for valid pipelines (`C06_chain_eq_sequential_eq`, `Props/C06.lean`). -/
theorem build_sem_exact (hΘ : ConvertOK Θ) {p p' : Ops} {s : Step} (n : String) (hv : p.valid = true)
    (hb : ∀ b ∈ Step.argOps s, b.valid = true) (h : build p s = .ok p') (hf : Step.Fresh n s)
    (hno : p.noTrivialOrderTop = true)
    (hcols : ∀ N, buildRaw (.table n p.cols) s = .ok N → N.cols = p'.cols) :
    sem Θ cfg env p' = sem Θ cfg env p >>= semStep Θ cfg env n s := by
  have hc := rawChk_accepts hv n h hf
  have hstep : ∀ t, sem Θ cfg env p = .ok t → semStep Θ cfg env n s t = applyStep Θ cfg env s.rawNode t :=
    fun t ht => by
      rw [semStep_nf hΘ (sem_wf_nodup hΘ hv ht).1 (sem_wf_nodup hΘ hv ht).2 hf, sem_cols hΘ ht, hc]; rfl
  rw [except_bind_congr hstep]
  obtain ⟨_, hsh⟩ := build_shape h
  refine shape_sem_exact hΘ hv hsh (valid_build hv hb h) hno fun t ht t2 ht2 => ?_
  -- the columns of the raw step's result are the raw node's declared columns
  rw [← hstep t ht, semStep, sem_cols hΘ ht] at ht2
  obtain ⟨N, hN, ht2⟩ := bind_eq_ok.mp ht2
  rw [sem_cols hΘ ht2]
  exact hcols N hN

end DAVerif
