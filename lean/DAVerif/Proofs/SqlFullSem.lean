import DAVerif.Proofs.SqlFullPerm
import DAVerif.Proofs.SqlJoin
/-!
C16, SQLite FULL join emulation, semantic side: the pipeline `_emit_full_join_as_complex` builds,

  `keys = (a.project({}, K) ++ b.project({}, K)).project({}, K);  (keys ⟕ a on K) ⟕ b on K`,

evaluates (reference semantics) to the rows of `a ⟗ b on K`, up to order, **when no join key is null**
(`fullSim_rows_perm`).
-/
namespace DAVerif
namespace Sql
open DAVerif.Ops (usedFromSources unionL)

/-- the row `project({}, group_by=K)` builds for the key `k` -/
def keyRow (K : List String) (k : List Val) : Row := Row.select (K.zip k ++ []) K

theorem keyOf_keyRow (K : List String) (r : Row) : keyOf (keyRow K (keyOf r K)) K = keyOf r K := by
  simp only [keyRow, keyOf, Row.vals, List.append_nil]
  apply List.map_congr_left
  intro c hc
  rw [Row.select_get_of_mem hc]
  exact Row.get_zip_map hc

theorem semProject_keys_rows (Θ : Interp) {K : List String} (hK : K ≠ []) (t : Table) :
    (semProject Θ [] K t K).rows = ((t.rows.map (fun r => keyOf r K)).eraseDups).map (keyRow K) := by
  have : K.isEmpty = false := by simpa using hK
  simp only [semProject, this, Bool.false_eq_true, ↓reduceIte, List.map_nil]
  rfl

theorem keys_of_keyRows (K : List String) (ks : List (List Val)) (h : ∀ k ∈ ks, ∃ r : Row, k = keyOf r K) :
    (ks.map (keyRow K)).map (fun r => keyOf r K) = ks := by
  rw [List.map_map]
  conv => rhs; rw [← List.map_id ks]
  apply List.map_congr_left
  intro k hk
  obtain ⟨r, rfl⟩ := h k hk
  exact keyOf_keyRow K r

def unionKeys (K : List String) (la lb : List Row) : List (List Val) :=
  ((la.map (fun r => keyOf r K)).eraseDups ++ (lb.map (fun r => keyOf r K)).eraseDups).eraseDups

theorem mem_unionKeys {K : List String} {la lb : List Row} {k : List Val} :
    k ∈ unionKeys K la lb ↔ (∃ r ∈ la, keyOf r K = k) ∨ (∃ r ∈ lb, keyOf r K = k) := by
  simp only [unionKeys, List.mem_eraseDups, List.mem_append, List.mem_map]

theorem unionKeys_form {K : List String} {la lb : List Row} : ∀ k ∈ unionKeys K la lb, ∃ r : Row, k = keyOf r K := by
  intro k hk
  rcases mem_unionKeys.mp hk with ⟨r, _, e⟩ | ⟨r, _, e⟩ <;> exact ⟨r, e.symm⟩

theorem keyTable_rows (Θ : Interp) {K : List String} (hK : K ≠ []) (tsa tsb : Table) (an bn : String) :
    (semProject Θ [] K (semConcat none an bn (semProject Θ [] K tsa K) (semProject Θ [] K tsb K) K) K).rows =
      (unionKeys K tsa.rows tsb.rows).map (keyRow K) := by
  rw [semProject_keys_rows Θ hK]
  congr 1
  simp only [semConcat, semProject_keys_rows Θ hK, List.map_append, List.map_map, unionKeys]
  -- the keys of one side survive `project`, then the `select` of `concat`
  have hside : ∀ t : Table, ((t.rows.map (fun r => keyOf r K)).eraseDups).map
      ((fun r => keyOf r K) ∘ (fun r => r.select K) ∘ keyRow K) = (t.rows.map (fun r => keyOf r K)).eraseDups :=
    fun t => (List.map_congr_left fun k hk => by
      obtain ⟨r, _, rfl⟩ := List.mem_map.mp (List.mem_eraseDups.mp hk)
      exact (keyOf_select _ fun _ h => h).trans (keyOf_keyRow K r)).trans (List.map_id _)
  rw [hside tsa, hside tsb]

theorem keyTable_keys_nodup (K : List String) (la lb : List Row) :
    (((unionKeys K la lb).map (keyRow K)).map (fun r => keyOf r K)).Nodup := by
  rw [keys_of_keyRows K _ unionKeys_form]
  exact nodup_eraseDups _

theorem leftJoin_eq {ρ κ γ : Type} [BEq κ] (L : List ρ) (g : ρ → Row) (kL : ρ → κ) (tb : List Row) (kB : Row → κ)
    (m : Row → Row → Bool) (mk : Option Row → Option Row → γ)
    (hm : ∀ r ∈ L, ∀ rb ∈ tb, m (g r) rb = (kL r == kB rb)) :
    joinRows m mk true false (L.map g) tb = (leftPairs L tb kL kB).map (fun p => mk (some (g p.1)) p.2) := by
  unfold joinRows leftPairs
  simp only [↓reduceIte, Bool.false_eq_true, List.append_nil, List.flatMap_map, List.filter_map, List.map_map,
    List.map_append, List.map_flatMap]
  congr 1
  · apply flatMap_congr_of_mem
    intro r hr
    rw [List.filter_congr (fun rb hrb => hm r hr rb hrb)]
    rfl
  · have : L.filter ((fun ra => !tb.any fun rb => m ra rb) ∘ g) = L.filter (fun r => !tb.any (fun rb => kL r == kB rb)) := by
      apply List.filter_congr
      intro r hr
      simp only [Function.comp]
      rw [any_congr_of_mem (fun rb hrb => hm r hr rb hrb)]
    rw [this]
    rfl

theorem fullJoin_eq {κ γ : Type} [BEq κ] (ta tb : List Row) (kA kB : Row → κ)
    (m : Row → Row → Bool) (mk : Option Row → Option Row → γ)
    (hm : ∀ ra ∈ ta, ∀ rb ∈ tb, m ra rb = (kA ra == kB rb)) :
    joinRows m mk true true ta tb = (fullPairs ta tb kA kB).map (fun p => mk p.1 p.2) := by
  refine (joinRows_congr_match mk true true hm).trans ?_
  simp only [joinRows, fullPairs, ↓reduceIte, List.map_append, List.map_flatMap, List.map_map]
  rfl

theorem keyMatch_ref_eq {ka kb : List Val} (h : kb.all (fun v => !v.isNull) = true) :
    keyMatch SemCfg.ref ka kb = (ka == kb) := by
  unfold keyMatch
  by_cases e : ka = kb
  · subst e
    simp [SemCfg.ref, h]
  · have : (ka == kb) = false := by simpa using e
    simp [this]

theorem keyOf_all_nonnull {r : Row} {K : List String} (h : ∀ c ∈ K, (r.get c).isNull = false) :
    (keyOf r K).all (fun v => !v.isNull) = true := by
  simp only [keyOf, Row.vals, List.all_map, List.all_eq_true, Function.comp]
  intro c hc
  simp [h c hc]

theorem get_of_keyOf_eq_same {r r' : Row} {K : List String} (h : keyOf r K = keyOf r' K) {c : String} (hc : c ∈ K) :
    r.get c = r'.get c := by
  simp only [keyOf, Row.vals] at h
  exact List.map_inj_left.mp h c hc

theorem refMatch_keys_eq {K : List String} (hK : K ≠ []) (jt : JoinType) (hjt : jt ≠ .cross) {d ra : Row}
    (h : ∀ c ∈ K, (ra.get c).isNull = false) :
    refMatch SemCfg.ref jt K K d ra = (keyOf d K == keyOf ra K) := by
  have h1 : K.isEmpty = false := by simpa using hK
  have h2 : (jt == JoinType.cross) = false := by cases jt <;> first | rfl | exact absurd rfl hjt
  simp only [refMatch, h1, h2, Bool.or_false, Bool.false_or]
  exact keyMatch_ref_eq (keyOf_all_nonnull h)

theorem semProject_cols (Θ : Interp) (ops : Assign) (g : List String) (t : Table) (oc : List String) :
    (semProject Θ ops g t oc).cols = oc := by
  unfold semProject
  split <;> rfl

/-- `d`: a key row without null; `x`, `y`: the partners of `d` on the two sides (not both missing), carrying the key of
`d`.  The row `(d ⟕ x) ⟕ y` and the row `x ⟗ y` agree on every column of the FULL join node. -/
theorem fullSim_cell {K ca cb j1cols simcols ncols : List String} (hKa : ∀ c ∈ K, c ∈ ca) (hKb : ∀ c ∈ K, c ∈ cb)
    (hj1 : ∀ c, c ∈ j1cols ↔ c ∈ K ∨ c ∈ ca) (hsim : ∀ c, c ∈ simcols ↔ c ∈ j1cols ∨ c ∈ cb)
    (hn : ∀ c, c ∈ ncols ↔ c ∈ ca ∨ c ∈ cb) {d : Row} {x y : Option Row}
    (hdn : ∀ c ∈ K, (d.get c).isNull = false) (hx : ∀ ra, x = some ra → keyOf d K = keyOf ra K)
    (hy : ∀ rb, y = some rb → keyOf d K = keyOf rb K) (hnot : ¬ (x = none ∧ y = none)) {c : String}
    (hcn : c ∈ ncols) :
    ((joinRow j1cols cb (appendNew j1cols cb) (some ((joinRow K ca (appendNew K ca) (some d) x).select j1cols))
        y).select simcols).get c =
      ((joinRow ca cb (appendNew ca cb) x y).select ncols).get c := by
  have hcab : c ∈ ca ∨ c ∈ cb := (hn c).mp hcn
  have hcsim : c ∈ simcols := by
    rcases hcab with h | h
    · exact (hsim c).mpr (Or.inl ((hj1 c).mpr (Or.inr h)))
    · exact (hsim c).mpr (Or.inr h)
  have hcall2 : c ∈ appendNew j1cols cb := by
    rcases hcab with h | h
    · exact mem_appendNew.mpr (Or.inl ((hj1 c).mpr (Or.inr h)))
    · exact mem_appendNew.mpr (Or.inr h)
  have hcallF : c ∈ appendNew ca cb := mem_appendNew.mpr hcab
  generalize hr1 : (joinRow K ca (appendNew K ca) (some d) x).select j1cols = r1
  rw [Row.select_get_of_mem hcsim, Row.select_get_of_mem hcn, joinRow_eq, joinRow_eq, get_mkRow, get_mkRow,
    if_pos hcall2, if_pos hcallF, refCell_eq, refCell_eq]
  by_cases hca : c ∈ ca
  · have hcj : c ∈ j1cols := (hj1 c).mpr (Or.inr hca)
    have hcall1 : c ∈ appendNew K ca := mem_appendNew.mpr (Or.inr hca)
    have hs1 : Ref.sideCell j1cols (some r1) c =
        (if (Ref.sideCell K (some d) c).isNull then Ref.sideCell ca x c else Ref.sideCell K (some d) c) := by
      have : Ref.sideCell j1cols (some r1) c = r1.get c := by
        simp [Ref.sideCell, hcj]
      rw [this, ← hr1, Row.select_get_of_mem hcj, joinRow_eq, get_mkRow, if_pos hcall1, refCell_eq]
    rw [hs1]
    by_cases hcK : c ∈ K
    · have hdv : Ref.sideCell K (some d) c = d.get c := by simp [Ref.sideCell, hcK]
      have hdn : (d.get c).isNull = false := hdn c hcK
      rw [hdv]
      simp only [hdn, Bool.false_eq_true, ↓reduceIte]
      cases x with
      | some ra =>
        have hk := hx ra rfl
        have : Ref.sideCell ca (some ra) c = d.get c := by
          simp only [Ref.sideCell, List.contains_iff_mem.mpr hca, ↓reduceIte]
          exact (get_of_keyOf_eq_same hk hcK).symm
        rw [this]
        simp only [hdn, Bool.false_eq_true, ↓reduceIte]
      | none =>
        cases y with
        | none => exact absurd ⟨rfl, rfl⟩ hnot
        | some rb =>
          have hk := hy rb rfl
          have : Ref.sideCell cb (some rb) c = d.get c := by
            simp only [Ref.sideCell, List.contains_iff_mem.mpr (hKb c hcK), ↓reduceIte]
            exact (get_of_keyOf_eq_same hk hcK).symm
          rw [this]
          simp [Ref.sideCell, Val.isNull]
    · rw [RefSem.sideCell_of_not_mem hcK]
      rfl
  · have hcj : c ∉ j1cols := by
      intro h
      rcases (hj1 c).mp h with h | h
      · exact hca (hKa c h)
      · exact hca h
    rw [RefSem.sideCell_of_not_mem hcj, RefSem.sideCell_of_not_mem hca]

/-- **The emulation pipeline evaluates to the FULL join, up to row order, when no join key is null.**
`ta`, `tb`: the tables of the two sides; `tsa`, `tsb`: the tables the two key projections read (the sides without a
trailing `order_rows`: same rows); `j1cols`, `simcols`, `ncols`: the declared columns of the inner join, of the whole
emulation and of the FULL join node (as sets: `K ∪ ca`, `… ∪ cb`, `ca ∪ cb`); `u'`: any requested columns. -/
theorem fullSim_rows_perm (Θ : Interp) {K ca cb : List String} (hK : K ≠ []) (hKa : ∀ c ∈ K, c ∈ ca)
    (hKb : ∀ c ∈ K, c ∈ cb) (ta tb tsa tsb : Table) (hta : ta.cols = ca) (htb : tb.cols = cb)
    (hsa : ∀ r, r ∈ tsa.rows ↔ r ∈ ta.rows) (hsb : ∀ r, r ∈ tsb.rows ↔ r ∈ tb.rows)
    (hna : NullFreeOn K ta.rows) (hnb : NullFreeOn K tb.rows)
    (j1cols simcols ncols u' : List String)
    (hj1 : ∀ c, c ∈ j1cols ↔ c ∈ K ∨ c ∈ ca) (hsim : ∀ c, c ∈ simcols ↔ c ∈ j1cols ∨ c ∈ cb)
    (hn : ∀ c, c ∈ ncols ↔ c ∈ ca ∨ c ∈ cb) (hu' : ∀ c ∈ u', c ∈ ncols) (an bn : String) :
    ((((semJoin SemCfg.ref .left K K
        ((semJoin SemCfg.ref .left K K
          (semProject Θ [] K (semConcat none an bn (semProject Θ [] K tsa K) (semProject Θ [] K tsb K) K) K)
          ta (appendNew K ca)).selectCols j1cols)
        tb (appendNew j1cols cb)).selectCols simcols).rows).map (fun r => r.select u')).Perm
      (((semJoin SemCfg.ref .full K K ta tb (appendNew ca cb)).selectCols ncols).rows.map (fun r => r.select u')) := by
  -- both sides as maps over `leftPairs (leftPairs D …) …` and `fullPairs …` (`hsimrows`, `hfull`), which agree cell by
  -- cell (`hcell`) and pair the same elements (`full_emulation_perm`)
  generalize hD : (unionKeys K tsa.rows tsb.rows).map (keyRow K) = D
  have hDrows := keyTable_rows Θ hK tsa tsb an bn
  rw [hD] at hDrows
  have hDn : (D.map (fun r => keyOf r K)).Nodup := by rw [← hD]; exact keyTable_keys_nodup K _ _
  have hDkeys : D.map (fun r => keyOf r K) = unionKeys K tsa.rows tsb.rows := by
    rw [← hD]; exact keys_of_keyRows K _ unionKeys_form
  have hDcov : ∀ d ∈ D, (∃ ra ∈ ta.rows, keyOf ra K = keyOf d K) ∨ (∃ rb ∈ tb.rows, keyOf rb K = keyOf d K) := by
    intro d hd
    have : keyOf d K ∈ unionKeys K tsa.rows tsb.rows := by
      rw [← hDkeys]; exact List.mem_map.mpr ⟨d, hd, rfl⟩
    rcases mem_unionKeys.mp this with ⟨r, hr, e⟩ | ⟨r, hr, e⟩
    · exact Or.inl ⟨r, (hsa r).mp hr, e⟩
    · exact Or.inr ⟨r, (hsb r).mp hr, e⟩
  have hDnull : ∀ d ∈ D, ∀ c ∈ K, (d.get c).isNull = false := by
    intro d hd c hc
    rcases hDcov d hd with ⟨r, hr, e⟩ | ⟨r, hr, e⟩
    · rw [← get_of_keyOf_eq_same e hc]; exact hna r hr c hc
    · rw [← get_of_keyOf_eq_same e hc]; exact hnb r hr c hc
  have hA : ∀ ra ∈ ta.rows, keyOf ra K ∈ D.map (fun r => keyOf r K) := by
    intro ra hra
    rw [hDkeys]
    exact mem_unionKeys.mpr (Or.inl ⟨ra, (hsa ra).mpr hra, rfl⟩)
  have hB : ∀ rb ∈ tb.rows, keyOf rb K ∈ D.map (fun r => keyOf r K) := by
    intro rb hrb
    rw [hDkeys]
    exact mem_unionKeys.mpr (Or.inr ⟨rb, (hsb rb).mpr hrb, rfl⟩)
  have hcov : ∀ d ∈ D, (ta.rows.any (fun ra => keyOf d K == keyOf ra K) ||
      tb.rows.any (fun rb => keyOf d K == keyOf rb K)) = true := by
    intro d hd
    rcases hDcov d hd with ⟨r, hr, e⟩ | ⟨r, hr, e⟩
    · have : ta.rows.any (fun ra => keyOf d K == keyOf ra K) = true :=
        List.any_eq_true.mpr ⟨r, hr, by simp [e]⟩
      simp [this]
    · have : tb.rows.any (fun rb => keyOf d K == keyOf rb K) = true :=
        List.any_eq_true.mpr ⟨r, hr, by simp [e]⟩
      simp [this]
  let mk1 : Option Row → Option Row → Row := fun x y => (joinRow K ca (appendNew K ca) x y).select j1cols
  let g1 : Row × Option Row → Row := fun r => mk1 (some r.1) r.2
  have hflL : (JoinType.left == .left || JoinType.left == .full || JoinType.left == .outer ||
      (JoinType.left == .cross && SemCfg.ref.crossAsOuter)) = true := rfl
  have hflR : (JoinType.left == .right || JoinType.left == .full || JoinType.left == .outer ||
      (JoinType.left == .cross && SemCfg.ref.crossAsOuter)) = false := rfl
  have hj1rows : ((semJoin SemCfg.ref .left K K
        (semProject Θ [] K (semConcat none an bn (semProject Θ [] K tsa K) (semProject Θ [] K tsb K) K) K)
        ta (appendNew K ca)).selectCols j1cols).rows =
      (leftPairs D ta.rows (fun r => keyOf r K) (fun r => keyOf r K)).map g1 := by
    simp only [Table.selectCols, semJoin_eq, hflL, hflR, semProject_cols, hta, hDrows]
    rw [joinRows_map]
    have := leftJoin_eq (γ := Row) D id (fun r => keyOf r K) ta.rows (fun r => keyOf r K)
      (refMatch SemCfg.ref .left K K) (fun x y => (joinRow K ca (appendNew K ca) x y).select j1cols)
      (fun d _ ra hra => refMatch_keys_eq hK .left (by decide) (hna ra hra))
    rw [List.map_id] at this
    exact this
  have hkey1 : ∀ r ∈ leftPairs D ta.rows (fun r => keyOf r K) (fun r => keyOf r K),
      keyOf (g1 r) K = keyOf r.1 K := by
    intro r hr
    have hrD : r.1 ∈ D := (leftPairs_consistent hr).1
    apply keyOf_congr
    intro c hc
    have hcj : c ∈ j1cols := (hj1 c).mpr (Or.inl hc)
    have hcall : c ∈ appendNew K ca := mem_appendNew.mpr (Or.inl hc)
    show ((joinRow K ca (appendNew K ca) (some r.1) r.2).select j1cols).get c = r.1.get c
    rw [Row.select_get_of_mem hcj, joinRow_eq, get_mkRow, if_pos hcall, refCell_eq]
    have : Ref.sideCell K (some r.1) c = r.1.get c := by
      simp [Ref.sideCell, hc]
    rw [this, if_neg (by simp [hDnull r.1 hrD c hc])]
  let mk2 : Option Row → Option Row → Row := fun x y => (joinRow j1cols cb (appendNew j1cols cb) x y).select simcols
  have hsimrows : ((semJoin SemCfg.ref .left K K
        ((semJoin SemCfg.ref .left K K
          (semProject Θ [] K (semConcat none an bn (semProject Θ [] K tsa K) (semProject Θ [] K tsb K) K) K)
          ta (appendNew K ca)).selectCols j1cols)
        tb (appendNew j1cols cb)).selectCols simcols).rows =
      (leftPairs (leftPairs D ta.rows (fun r => keyOf r K) (fun r => keyOf r K)) tb.rows
        (fun r => keyOf r.1 K) (fun r => keyOf r K)).map (fun t => mk2 (some (g1 t.1)) t.2) := by
    rw [semJoin_eq (ta := Table.selectCols _ j1cols)]
    simp only [hflL, hflR, htb]
    rw [hj1rows]
    simp only [Table.selectCols]
    rw [joinRows_map]
    exact leftJoin_eq (γ := Row) _ g1 (fun r => keyOf r.1 K) tb.rows (fun r => keyOf r K)
      (refMatch SemCfg.ref .left K K) (fun x y => (joinRow j1cols cb (appendNew j1cols cb) x y).select simcols)
      (fun r hr rb hrb => by rw [refMatch_keys_eq hK .left (by decide) (hnb rb hrb), hkey1 r hr])
  have hflF : (JoinType.full == .left || JoinType.full == .full || JoinType.full == .outer ||
      (JoinType.full == .cross && SemCfg.ref.crossAsOuter)) = true := rfl
  have hflF' : (JoinType.full == .right || JoinType.full == .full || JoinType.full == .outer ||
      (JoinType.full == .cross && SemCfg.ref.crossAsOuter)) = true := rfl
  have hfull : ((semJoin SemCfg.ref .full K K ta tb (appendNew ca cb)).selectCols ncols).rows =
      (fullPairs ta.rows tb.rows (fun r => keyOf r K) (fun r => keyOf r K)).map
        (fun p => (joinRow ca cb (appendNew ca cb) p.1 p.2).select ncols) := by
    simp only [Table.selectCols, semJoin_eq, hflF, hflF', hta, htb]
    rw [joinRows_map]
    exact fullJoin_eq ta.rows tb.rows (fun r => keyOf r K) (fun r => keyOf r K) _ _
      (fun ra _ rb hrb => refMatch_keys_eq hK .full (by decide) (hnb rb hrb))
  rw [hsimrows, hfull, List.map_map, List.map_map]
  have hcell : ∀ t ∈ leftPairs (leftPairs D ta.rows (fun r => keyOf r K) (fun r => keyOf r K)) tb.rows
      (fun r => keyOf r.1 K) (fun r => keyOf r K),
      ((fun r : Row => r.select u') ∘ fun t => mk2 (some (g1 t.1)) t.2) t =
      ((fun r : Row => r.select u') ∘ fun p : Option Row × Option Row =>
        (joinRow ca cb (appendNew ca cb) p.1 p.2).select ncols) (t.1.2, t.2) := by
    intro t ht
    obtain ⟨hr, hy, hyn⟩ := leftPairs_consistent ht
    obtain ⟨htD, hx, hxn⟩ := leftPairs_consistent hr
    obtain ⟨⟨d, x⟩, y⟩ := t
    simp only at htD hx hxn hy hyn
    have hnot : ¬ (x = none ∧ y = none) := fun ⟨ex, ey⟩ => by
      have := hcov d htD
      rw [hxn ex, hyn ey] at this
      cases this
    simp only [Function.comp]
    apply Row.select_congr.mpr
    intro c hc
    exact fullSim_cell hKa hKb hj1 hsim hn (hDnull d htD) (fun ra e => eq_of_beq (hx ra e).2)
      (fun rb e => eq_of_beq (hy rb e).2) hnot (hu' c hc)
  rw [List.map_congr_left hcell]
  have hperm := full_emulation_perm D (fun r => keyOf r K) hDn ta.rows tb.rows (fun r => keyOf r K)
    (fun r => keyOf r K) hA hB hcov
  have := hperm.map ((fun r : Row => r.select u') ∘ fun p : Option Row × Option Row =>
    (joinRow ca cb (appendNew ca cb) p.1 p.2).select ncols)
  rw [List.map_map] at this
  exact this

end Sql
end DAVerif
