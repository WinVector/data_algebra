import DAVerif.Proofs.MethodsAgg
import DAVerif.Proofs.Order
/-!
C05, `median` and `var` of the backend models against `Doc.docAgg`.

`median`: the specification sorts with an insertion sort (`Doc.sortQ`), the backend model with `List.mergeSort`; both
are the unique ascending rearrangement of the items.  `var`: the same formula, the model divides by the natural number
`n - 1`, the specification by the rational `n - 1`.
-/
namespace DAVerif.C05A
open DAVerif DAVerif.Doc DAVerif.C05

theorem insertSorted_perm (x : Rat) : ∀ (l : List Rat), (insertSorted x l).Perm (x :: l)
  | [] => List.Perm.refl _
  | y :: r => by
    unfold insertSorted
    by_cases h : x ≤ y
    · rw [if_pos h]
    · rw [if_neg h]
      exact ((insertSorted_perm x r).cons y).trans (List.Perm.swap x y r)

theorem sortQ_perm : ∀ (l : List Rat), (sortQ l).Perm l
  | [] => List.Perm.refl _
  | x :: r => (insertSorted_perm x (sortQ r)).trans ((sortQ_perm r).cons x)

theorem insertSorted_sorted (x : Rat) : ∀ (l : List Rat), l.Pairwise (· ≤ ·) → (insertSorted x l).Pairwise (· ≤ ·)
  | [], _ => by simp [insertSorted]
  | y :: r, h => by
    unfold insertSorted
    have hy : ∀ z ∈ r, y ≤ z := (List.pairwise_cons.mp h).1
    have hr : r.Pairwise (· ≤ ·) := (List.pairwise_cons.mp h).2
    by_cases hxy : x ≤ y
    · rw [if_pos hxy]
      refine List.pairwise_cons.mpr ⟨?_, h⟩
      intro z hz
      rcases List.mem_cons.mp hz with rfl | hz
      · exact hxy
      · exact Rat.le_trans hxy (hy z hz)
    · rw [if_neg hxy]
      refine List.pairwise_cons.mpr ⟨?_, insertSorted_sorted x r hr⟩
      intro z hz
      have : z ∈ x :: r := (insertSorted_perm x r).mem_iff.mp hz
      rcases List.mem_cons.mp this with rfl | hz
      · exact Rat.le_of_lt (Rat.not_le.mp hxy)
      · exact hy z hz

theorem sortQ_sorted : ∀ (l : List Rat), (sortQ l).Pairwise (· ≤ ·)
  | [] => List.Pairwise.nil
  | x :: r => insertSorted_sorted x (sortQ r) (sortQ_sorted r)

theorem mergeSort_eq_sortQ (l : List Rat) : l.mergeSort (fun a b => decide (a ≤ b)) = sortQ l :=
  mergeSort_eq_of_sorted_perm
    (fun a b c h1 h2 => by simp only [decide_eq_true_eq] at h1 h2 ⊢; exact Rat.le_trans h1 h2)
    (fun a b => by simp only [Bool.or_eq_true, decide_eq_true_eq]; exact Rat.le_total)
    (fun a _ b _ h1 h2 => Rat.le_antisymm (of_decide_eq_true h1) (of_decide_eq_true h2))
    (sortQ_perm l) ((sortQ_sorted l).imp decide_eq_true)

theorem agg_median {vs : List Val} {v : Val}
    (h : (numItems? vs).bind (fun xs =>
      let s := sortQ xs
      let n := s.length
      if n = 0 then none
      else if n % 2 = 1 then some (.num (s.getD (n / 2) 0))
      else some (.num ((s.getD (n / 2 - 1) 0 + s.getD (n / 2) 0) / 2))) = some v) :
    ThetaX.agg "median" vs = v ∧ ThetaSqlX.agg "median" vs = v := by
  obtain ⟨xs, hn, hx⟩ := Option.bind_eq_some_iff.mp h
  have e : Theta.medianV vs = v := by
    unfold Theta.medianV
    rw [nums_of_numItems hn, mergeSort_eq_sortQ]
    simp only [beq_iff_eq] at hx ⊢
    split at hx
    · cases hx
    · rw [if_neg ‹_›]
      split at hx <;> simp only [*, if_true, if_false] <;> exact Option.some.inj hx
  exact ⟨e, e⟩

theorem natCast_pred (n : Nat) (h : ¬ n < 2) : ((n - 1 : Nat) : Rat) = (n : Rat) - 1 := by
  obtain ⟨m, rfl⟩ : ∃ m, n = m + 1 := ⟨n - 1, by omega⟩
  rw [Nat.add_sub_cancel, Rat.natCast_add]
  grind

theorem agg_var {vs : List Val} {v : Val}
    (h : (numItems? vs).bind (fun xs =>
      if xs.length < 2 then none else
        let m := sumQ xs / xs.length
        some (.num (sumQ (xs.map (fun x => (x - m) * (x - m))) / ((xs.length : Rat) - 1)))) = some v) :
    ThetaX.agg "var" vs = v ∧ ThetaSqlX.agg "var" vs = v := by
  obtain ⟨xs, hn, hx⟩ := Option.bind_eq_some_iff.mp h
  have e : Theta.varV vs = v := by
    unfold Theta.varV
    rw [nums_of_numItems hn]
    split at hx
    · cases hx
    · rename_i h2
      simp only [if_neg h2]
      rw [sumR_eq_sumQ, sumR_eq_sumQ, natCast_pred _ h2]
      exact Option.some.inj hx
  exact ⟨e, e⟩

end DAVerif.C05A
