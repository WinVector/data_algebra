import DAVerif.Proofs.BuilderReach
import DAVerif.Proofs.EqSqlNear
import DAVerif.Proofs.RenameSqlSem
import DAVerif.Proofs.RenameWith
/-!
C11, SQL half, semantics and WITH form: the SQL semantics of a NearSQL tree (`semNear`, `semSql`, `semWith`) does not
look at the `method` flag of the expressions the tree carries, nor at `ops_key`; the WITH form without CTE elimination
commutes with forgetting the flags.  All three are the statements for node-wise maps at `eraseMap`, whose action on
names - and hence on tables and environments - is the identity.
-/
namespace DAVerif
namespace C11Sql

open DAVerif.Sql

theorem lookupLast_eraseM (ts : Terms) (k : String) :
    lookupLast (Terms.eraseM ts) k = (lookupLast ts k).map STerm.eraseM :=
  lookupLast_map ts STerm.eraseM k

theorem look_eraseM (terms : Option Terms) (k : String) :
    (match terms.map Terms.eraseM with | none => none | some ts => lookupLast ts k)
      = (match terms with | none => none | some ts => lookupLast ts k).map STerm.eraseM := by
  cases terms with
  | none => rfl
  | some ts => exact lookupLast_eraseM ts k

theorem ctes_rename_id (ctes : List (String × Table)) : ctes.map (fun kv => (kv.1, kv.2.rename id)) = ctes := by
  simp [table_rename_id]

theorem semNear_eraseM (Θ : Interp) (ec : EngineCfg) (env : Env) (ctes : List (String × Table)) (n : Near)
    (cols? : Option (List String)) (force : Bool) :
    semNear Θ ec env ctes n.eraseM cols? force = semNear Θ ec env ctes n cols? force := by
  have h := Ren.semNear_map Θ ec eraseMap_blind env ctes n cols? force
  rw [eraseMap_near, eraseMap_col, eraseMap_tab, env_rename_id, ctes_rename_id, map_table_rename_id] at h
  simpa using h

theorem semSql_sqlShape (Θ : Interp) (ec : EngineCfg) (env : Env) (q : Near) :
    semSql Θ ec env q.sqlShape = semSql Θ ec env q := by
  unfold Near.sqlShape
  rw [Ren.semSql_eraseKeys]
  exact semNear_eraseM Θ ec env [] q none true

theorem semSql_congr_shape (Θ : Interp) (ec : EngineCfg) (env : Env) {q q' : Near} (h : q.sqlShape = q'.sqlShape) :
    semSql Θ ec env q = semSql Θ ec env q' := by
  rw [← semSql_sqlShape Θ ec env q, h, semSql_sqlShape]

theorem erase_erase_term : ∀ t : Term, t.erase.erase = t.erase
  | .value _ | .col _ | .list _ | .dict _ => rfl
  | .app op args i m => by
    simp only [Term.erase, eraseList_eq_map, List.map_map]
    congr 1
    apply List.map_congr_left
    intro a _
    exact erase_erase_term a

theorem eraseMap_step : eraseMap.step = WithStep.eraseM := by
  funext st
  simp [Ren.NodeMap.step, WithStep.eraseM, eraseMap_near, eraseMap_col]

theorem withFormOf_erase (cfg : SqlCfg) (p : Ops) : withFormOf cfg p.erase = (withFormOf cfg p).map withShape := by
  have h := Ren.withFormOf_map cfg eraseMap_blind p
  rw [eraseMap_ops, eraseMap_near, eraseMap_step] at h
  exact h

theorem semWith_eraseM (Θ : Interp) (ec : EngineCfg) (env : Env) (steps : List WithStep) (last : Near) :
    semWith Θ ec env (steps.map WithStep.eraseM) last.eraseM = semWith Θ ec env steps last := by
  have h := Ren.semWith_map Θ ec eraseMap_blind env steps last
  rwa [eraseMap_near, eraseMap_step, eraseMap_col, eraseMap_tab, env_rename_id, map_table_rename_id] at h

theorem map_congr_of_shape {α : Type} {x y : Except Err Near} (h : x.map Near.sqlShape = y.map Near.sqlShape)
    (f : Near → α) (hf : ∀ n n', x = .ok n → y = .ok n' → n.sqlShape = n'.sqlShape → f n = f n') :
    x.map f = y.map f := by
  rcases Ren.map_eq_map_cases h with ⟨e, rfl, rfl⟩ | ⟨n, n', rfl, rfl, hs⟩
  · rfl
  · exact congrArg Except.ok (hf n n' rfl rfl hs)

theorem toNearSql_shape_of_erase_eq (cfg : SqlCfg) {p q : Ops} (h : p.erase = q.erase) :
    (toNearSql cfg p).map Near.sqlShape = (toNearSql cfg q).map Near.sqlShape := by
  rw [← toNearSql_erase cfg p, ← toNearSql_erase cfg q, h]

theorem withFormOf_shape_of_erase_eq (cfg : SqlCfg) {p q : Ops} (h : p.erase = q.erase) :
    (withFormOf cfg p).map withShape = (withFormOf cfg q).map withShape := by
  rw [← withFormOf_erase cfg p, ← withFormOf_erase cfg q, h]

end C11Sql
end DAVerif
