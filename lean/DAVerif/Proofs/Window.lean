import DAVerif.Proofs.Perm
import DAVerif.Sem.EvalG
/-!
The windowed `extend` for an arbitrary row comparison `le` (`semExtendWindowG le`, `Sem/EvalG.lean`; `semExtendWindow` is the
instance `rowLe`, Polars' `semExtendWindowPl nl` the instance `Pl.rowLe nl`).  The executor model sorts each partition
together with the positions of its rows and finds the current row by its position.  Here it is said once where the current
row stands in its sorted partition; an index-free form of the output rows (`winRowG`) and the congruence for row order
equivalence (`semExtendWindowG_equiv`) follow.
-/
namespace DAVerif
open Sql (RowCmp winCell semExtendWindowG)

namespace Sol

theorem getD_eq {α : Type} {l : List α} {i : Nat} (d : α) (h : i < l.length) : l.getD i d = l[i] := by
  simp [List.getD_eq_getElem?_getD, h]

theorem getD_of_mem_zipIdx {rows : List Row} {r : Row} {i : Nat} (h : (r, i) ∈ rows.zipIdx) :
    rows.getD i [] = r ∧ i < rows.length := by
  have := List.mem_zipIdx_iff_getElem?.mp h
  simp only at this
  obtain ⟨hi, e⟩ := List.getElem?_eq_some_iff.mp this
  exact ⟨by rw [getD_eq _ hi, e], hi⟩

theorem mem_zipIdx_getD {rows : List Row} {i : Nat} (h : i < rows.length) : (rows.getD i [], i) ∈ rows.zipIdx := by
  apply List.mem_zipIdx_iff_getElem?.mpr
  simp only [getD_eq _ h]
  exact List.getElem?_eq_getElem h

theorem zipIdx_snd_inj {rows : List Row} {a b : Row × Nat} (ha : a ∈ rows.zipIdx) (hb : b ∈ rows.zipIdx)
    (h : a.2 = b.2) : a = b := by
  have e1 := List.mem_zipIdx_iff_getElem?.mp ha
  have e2 := List.mem_zipIdx_iff_getElem?.mp hb
  rw [h] at e1
  rw [e1] at e2
  exact Prod.ext (Option.some.inj e2) h

theorem zipIdx_nodup (rows : List Row) : rows.zipIdx.Nodup := by
  have : (rows.zipIdx.map Prod.snd).Nodup := by
    rw [List.zipIdx_map_snd]
    exact List.nodup_range' ..
  unfold List.Nodup at this ⊢
  rw [List.pairwise_map] at this
  exact this.imp (fun {a b} h e => h (by rw [e]))

theorem countP_zipIdx (rows : List Row) (Q : Row × Nat → Bool) :
    rows.zipIdx.countP Q = (List.range rows.length).countP (fun j => Q (rows.getD j [], j)) := by
  rw [zipIdx_eq_map_range, List.countP_map]
  rfl

def winPart (p : List String) (rows : List Row) (i : Nat) : List (Row × Nat) :=
  rows.zipIdx.filter (fun rj => keyOf rj.1 p == keyOf (rows.getD i []) p)

theorem winPart_eq_of_key {p : List String} {rows : List Row} {i j : Nat}
    (h : keyOf (rows.getD i []) p = keyOf (rows.getD j []) p) : winPart p rows i = winPart p rows j := by
  simp only [winPart, h]

theorem mem_winPart {p : List String} {rows : List Row} {i : Nat} {x : Row × Nat} :
    x ∈ winPart p rows i ↔ x ∈ rows.zipIdx ∧ keyOf x.1 p = keyOf (rows.getD i []) p := by
  simp [winPart, List.mem_filter]

theorem self_mem_winPart {p : List String} {rows : List Row} {i : Nat} (h : i < rows.length) :
    (rows.getD i [], i) ∈ winPart p rows i :=
  mem_winPart.mpr ⟨mem_zipIdx_getD h, rfl⟩

theorem countP_winPart (p : List String) (rows : List Row) (i : Nat) (Q : Row × Nat → Bool) :
    (winPart p rows i).countP Q = (List.range rows.length).countP (fun j =>
      (keyOf (rows.getD j []) p == keyOf (rows.getD i []) p) && Q (rows.getD j [], j)) := by
  rw [winPart, List.countP_filter, countP_zipIdx]
  apply List.countP_congr
  intro j _
  rw [Bool.and_comm]

theorem map_winPart (p : List String) (rows : List Row) (i : Nat) {β : Type} (g : Row × Nat → β) :
    (winPart p rows i).map g =
      ((List.range rows.length).filter (fun j => keyOf (rows.getD j []) p == keyOf (rows.getD i []) p)).map
        (fun j => g (rows.getD j [], j)) := by
  rw [winPart, zipIdx_eq_map_range, List.filter_map, List.map_map]
  rfl

theorem winPart_map_fst (p : List String) (rows : List Row) (i : Nat) :
    (winPart p rows i).map (·.1) = partRows p rows (rows.getD i []) := by
  have := List.filter_map (f := (Prod.fst : Row × Nat → Row))
    (p := fun r' => keyOf r' p == keyOf (rows.getD i []) p) (l := rows.zipIdx)
  rw [List.zipIdx_map_fst] at this
  exact this.symm

end Sol

namespace Sol21Sql.Cmp
open Sol

def winSortedG (le : RowCmp) (p o rv : List String) (rows : List Row) (i : Nat) : List (Row × Nat) :=
  (winPart p rows i).mergeSort (fun a b => le o rv a.1 b.1)

def winPosG (le : RowCmp) (p o rv : List String) (rows : List Row) (i : Nat) : Nat :=
  (winSortedG le p o rv rows i).findIdx (fun rj => rj.2 == i)

def winValG (le : RowCmp) (Θ : Interp) (t : Term) (p o rv : List String) (rows : List Row) (i : Nat) : Val :=
  Θ.win (opName t) (constArgs t) (argValues t ((winSortedG le p o rv rows i).map (·.1))) (winPosG le p o rv rows i)

section
variable {le : RowCmp}

theorem winSorted_perm (p o rv : List String) (rows : List Row) (i : Nat) :
    (winSortedG le p o rv rows i).Perm (winPart p rows i) := List.mergeSort_perm _ _

theorem winSorted_pairwise (hle : CmpLex le) (p o rv : List String) (rows : List Row) (i : Nat) :
    (winSortedG le p o rv rows i).Pairwise (fun a b => le o rv a.1 b.1 = true) := by
  unfold winSortedG
  exact List.pairwise_mergeSort (le := fun (a b : Row × Nat) => le o rv a.1 b.1)
    (fun a b c h1 h2 => hle.trans o rv a.1 b.1 c.1 h1 h2) (fun a b => hle.total o rv a.1 b.1) _

theorem winPos_lt {p o rv : List String} {rows : List Row} {i : Nat} (h : i < rows.length) :
    winPosG le p o rv rows i < (winSortedG le p o rv rows i).length := by
  apply List.findIdx_lt_length_of_exists
  exact ⟨(rows.getD i [], i), (winSorted_perm p o rv rows i).mem_iff.mpr (self_mem_winPart h), by simp⟩

theorem winSorted_getElem_winPos {p o rv : List String} {rows : List Row} {i : Nat} (h : i < rows.length) :
    (winSortedG le p o rv rows i)[winPosG le p o rv rows i]'(winPos_lt h) = (rows.getD i [], i) := by
  have hlt := winPos_lt (le := le) (p := p) (o := o) (rv := rv) h
  have h2 : ((winSortedG le p o rv rows i)[winPosG le p o rv rows i]'hlt).2 = i := by
    have := List.findIdx_getElem (p := fun (rj : Row × Nat) => rj.2 == i) (xs := winSortedG le p o rv rows i) (w := hlt)
    exact beq_iff_eq.mp this
  have hin : (winSortedG le p o rv rows i)[winPosG le p o rv rows i]'hlt ∈ rows.zipIdx :=
    (mem_winPart.mp ((winSorted_perm p o rv rows i).mem_iff.mp (List.getElem_mem _))).1
  exact zipIdx_snd_inj hin (mem_zipIdx_getD h) h2

theorem winPos_ne {p o rv : List String} {rows : List Row} {i j : Nat} (hi : i < rows.length)
    (hj : j < rows.length) (hk : keyOf (rows.getD i []) p = keyOf (rows.getD j []) p) (hne : i ≠ j) :
    winPosG le p o rv rows i ≠ winPosG le p o rv rows j := by
  intro e
  have hs : winSortedG le p o rv rows i = winSortedG le p o rv rows j := by
    simp only [winSortedG, winPart_eq_of_key hk]
  have h1 := winSorted_getElem_winPos (le := le) (p := p) (o := o) (rv := rv) hi
  have h2 := winSorted_getElem_winPos (le := le) (p := p) (o := o) (rv := rv) hj
  have : (rows.getD i [], i) = (rows.getD j [], j) := by
    rw [← h1, ← h2]
    congr 1
  exact hne (Prod.ext_iff.mp this).2

theorem winPos_lt_of_strict (hle : CmpLex le) {p o rv : List String} {rows : List Row} {i j : Nat} (hi : i < rows.length)
    (hj : j < rows.length) (hk : keyOf (rows.getD i []) p = keyOf (rows.getD j []) p)
    (hs : le o rv (rows.getD j []) (rows.getD i []) = false) :
    winPosG le p o rv rows i < winPosG le p o rv rows j := by
  have hne : i ≠ j := by
    intro e; subst e
    rw [hle.refl] at hs; cases hs
  have hs' : winSortedG le p o rv rows i = winSortedG le p o rv rows j := by
    simp only [winSortedG, winPart_eq_of_key hk]
  rcases Nat.lt_trichotomy (winPosG le p o rv rows i) (winPosG le p o rv rows j) with h | h | h
  · exact h
  · exact absurd h (winPos_ne hi hj hk hne)
  · exfalso
    have hpw := winSorted_pairwise hle p o rv rows j
    have hli := winPos_lt (le := le) (p := p) (o := o) (rv := rv) hi
    have hlj := winPos_lt (le := le) (p := p) (o := o) (rv := rv) hj
    have hli' : winPosG le p o rv rows i < (winSortedG le p o rv rows j).length := hs' ▸ hli
    have := (List.pairwise_iff_getElem.mp hpw) _ _ hlj hli' h
    have e1 := winSorted_getElem_winPos (le := le) (p := p) (o := o) (rv := rv) hj
    have e2 : (winSortedG le p o rv rows j)[winPosG le p o rv rows i]'hli' = (rows.getD i [], i) := by
      have := winSorted_getElem_winPos (le := le) (p := p) (o := o) (rv := rv) hi
      simp only [hs'] at this
      exact this
    rw [e1, e2] at this
    simp only at this
    rw [this] at hs
    cases hs

theorem winSorted_nil (hle : CmpLex le) (p rv : List String) (rows : List Row) (i : Nat) :
    winSortedG le p [] rv rows i = winPart p rows i := by
  unfold winSortedG
  apply List.mergeSort_of_pairwise
  apply List.pairwise_of_forall_mem_list
  intro a _ b _
  exact ((hle.tie [] rv a.1 b.1).mpr rfl).1

theorem winSorted_eq_map (le : RowCmp) (p o rv : List String) (rows : List Row) (i : Nat) :
    winSortedG le p o rv rows i =
      (((List.range rows.length).filter (fun j => keyOf (rows.getD j []) p == keyOf (rows.getD i []) p)).mergeSort
        (fun j k => le o rv (rows.getD j []) (rows.getD k []))).map (fun j => (rows.getD j [], j)) := by
  rw [winSortedG, ← List.map_id' (winPart p rows i), map_winPart]
  exact (List.map_mergeSort (f := fun j => (rows.getD j [], j)) (fun _ _ _ _ => rfl)).symm

theorem winSorted_map_snd_congr {p o rv : List String} {rows rows' : List Row}
    (hc : ∀ a a' b b' : Row, (∀ c ∈ o, a.get c = a'.get c) → (∀ c ∈ o, b.get c = b'.get c) →
      le o rv a b = le o rv a' b')
    (hlen : rows.length = rows'.length) (hp : ∀ j, keyOf (rows.getD j []) p = keyOf (rows'.getD j []) p)
    (ho : ∀ j, ∀ c ∈ o, (rows.getD j []).get c = (rows'.getD j []).get c) (i : Nat) :
    (winSortedG le p o rv rows i).map Prod.snd = (winSortedG le p o rv rows' i).map Prod.snd := by
  rw [winSorted_eq_map, winSorted_eq_map, List.map_map, List.map_map, ← hlen]
  simp only [hp]
  exact congrArg _ (mergeSort_congr fun j _ k _ => hc _ _ _ _ (ho j) (ho k))

theorem winPos_congr {p o rv : List String} {rows rows' : List Row}
    (hc : ∀ a a' b b' : Row, (∀ c ∈ o, a.get c = a'.get c) → (∀ c ∈ o, b.get c = b'.get c) →
      le o rv a b = le o rv a' b')
    (hlen : rows.length = rows'.length) (hp : ∀ j, keyOf (rows.getD j []) p = keyOf (rows'.getD j []) p)
    (ho : ∀ j, ∀ c ∈ o, (rows.getD j []).get c = (rows'.getD j []).get c) (i : Nat) :
    winPosG le p o rv rows i = winPosG le p o rv rows' i := by
  have h := winSorted_map_snd_congr hc hlen hp ho i
  have e : ∀ l : List (Row × Nat), l.findIdx (fun rj => rj.2 == i) = (l.map Prod.snd).findIdx (· == i) :=
    fun l => by rw [List.findIdx_map]; rfl
  rw [winPosG, winPosG, e, e, h]

theorem winSorted_map_fst (p o rv : List String) (rows : List Row) (i : Nat) :
    (winSortedG le p o rv rows i).map (·.1) =
      (partRows p rows (rows.getD i [])).mergeSort (fun a b => le o rv a b) := by
  rw [← winPart_map_fst]
  exact List.map_mergeSort (fun _ _ _ _ => rfl)

theorem getElem?_winPos {p o rv : List String} {rows : List Row} {i : Nat} (h : i < rows.length) :
    ((partRows p rows (rows.getD i [])).mergeSort (fun a b => le o rv a b))[winPosG le p o rv rows i]? =
      some (rows.getD i []) := by
  rw [← winSorted_map_fst, List.getElem?_map, List.getElem?_eq_getElem (winPos_lt h), winSorted_getElem_winPos h]
  rfl

theorem winCell_eq_winVal (Θ : Interp) (p o rv : List String) {rows : List Row} {ri : Row × Nat}
    (h : ri ∈ rows.zipIdx) (t : Term) : winCell le Θ p o rv rows.zipIdx ri t = winValG le Θ t p o rv rows ri.2 := by
  simp only [winCell, winValG, winPosG, winSortedG, winPart, (getD_of_mem_zipIdx h).1]

theorem semExtendWindowG_eq_winVal (le : RowCmp) (Θ : Interp) (ops : Assign) (p o rv : List String) (t : Table)
    (oc : List String) :
    semExtendWindowG le Θ ops p o rv t oc = ⟨oc, t.rows.zipIdx.map (fun ri =>
      (ri.1.setAll (ops.map (fun kv => (kv.1, winValG le Θ kv.2 p o rv t.rows ri.2)))).select oc)⟩ := by
  unfold semExtendWindowG
  exact congrArg _ (List.map_congr_left fun ri hri => by simp only [winCell_eq_winVal Θ p o rv hri])

theorem getD_semExtendWindowG (le : RowCmp) (Θ : Interp) (ops : Assign) (p o rv : List String) (t : Table)
    (oc : List String) {i : Nat} (hi : i < t.rows.length) :
    (semExtendWindowG le Θ ops p o rv t oc).rows.getD i [] =
      ((t.rows.getD i []).setAll (ops.map (fun kv => (kv.1, winValG le Θ kv.2 p o rv t.rows i)))).select oc := by
  rw [semExtendWindowG_eq_winVal, zipIdx_eq_map_range, List.map_map, List.getD_eq_getElem?_getD, List.getElem?_map,
    List.getElem?_range hi]
  rfl

end
end Sol21Sql.Cmp

open Sol Sol21Sql Sol21Sql.Cmp

theorem WinOrderFree.of_rows {Θ : Interp} {op : String} (h : WinOrderFree Θ op) (t : Term) (cargs : List Val)
    {l l' : List Row} (hp : l.Perm l') {k k' : Nat} {r : Row} (hk : l[k]? = some r) (hk' : l'[k']? = some r) :
    Θ.win op cargs (argValues t l) k = Θ.win op cargs (argValues t l') k' := by
  refine h cargs _ _ k k' (argValues_perm t hp) ?_ ?_
  · rw [argValues_eq_map, List.length_map]; exact (List.getElem?_eq_some_iff.mp hk).1
  · rw [argValues_eq_map, argValues_eq_map, List.getElem?_map, List.getElem?_map, hk, hk']

theorem getElem?_idxOf {l : List Row} {r : Row} (h : r ∈ l) : l[l.idxOf r]? = some r := by
  rw [List.getElem?_eq_getElem (List.idxOf_lt_length_of_mem h), List.getElem_idxOf]

/-- the output row from the row's partition as a list of rows, sorted, and the place of (the first copy of) the row in
it: no positions -/
def winRowG (le : RowCmp) (Θ : Interp) (ops : Assign) (partition order reverse outCols : List String)
    (rows : List Row) (r : Row) : Row :=
  let srows := (partRows partition rows r).mergeSort (fun a b => le order reverse a b)
  (r.setAll (ops.map (fun kv =>
    (kv.1, Θ.win (opName kv.2) (constArgs kv.2) (argValues kv.2 srows) (srows.idxOf r))))).select outCols

/-- The executor works with row positions (sort, compute, restore); when no partition holds a row twice, or every window
function is order free, the positions can be forgotten. -/
theorem semExtendWindowG_rows_eq (le : RowCmp) (Θ : Interp) (ops : Assign) (p o rv : List String) (t : Table)
    (oc : List String)
    (hok : (∀ r, (partRows p t.rows r).Nodup) ∨ ∀ kv ∈ ops, WinOrderFree Θ (opName kv.2)) :
    (semExtendWindowG le Θ ops p o rv t oc).rows = t.rows.map (winRowG le Θ ops p o rv oc t.rows) := by
  rw [semExtendWindowG_eq_winVal, ← List.zipIdx_map_fst 0 t.rows, List.map_map, List.zipIdx_map_fst]
  refine List.map_congr_left fun ri hri => ?_
  obtain ⟨hr, hi⟩ := getD_of_mem_zipIdx hri
  have hat := getElem?_winPos (le := le) (p := p) (o := o) (rv := rv) hi
  rw [hr] at hat
  simp only [Function.comp, winRowG]
  congr 2
  refine List.map_congr_left fun kv hkv => ?_
  simp only [winValG, winSorted_map_fst, hr]
  congr 1
  rcases hok with hnd | hfree
  · -- no repeats: the place of the position is the first place of the row
    have hnd' : ((partRows p t.rows ri.1).mergeSort (fun a b => le o rv a b)).Nodup :=
      (List.mergeSort_perm _ _).nodup_iff.mpr (hnd ri.1)
    obtain ⟨hlt, e⟩ := List.getElem?_eq_some_iff.mp hat
    exact congrArg _ (e ▸ hnd'.idxOf_getElem _ hlt).symm
  · exact (hfree kv hkv).of_rows _ _ (List.Perm.refl _) hat (getElem?_idxOf (List.mem_of_getElem? hat))

theorem winRowG_perm (le le' : RowCmp) (Θ : Interp) (ops : Assign) (p o rv oc : List String)
    {rows rows' : List Row} (hp : rows.Perm rows') {r : Row} (hr : r ∈ rows)
    (hok : (partRows p rows r).mergeSort (fun a b => le o rv a b) =
        (partRows p rows' r).mergeSort (fun a b => le' o rv a b) ∨ ∀ kv ∈ ops, WinOrderFree Θ (opName kv.2)) :
    winRowG le Θ ops p o rv oc rows r = winRowG le' Θ ops p o rv oc rows' r := by
  rcases hok with he | hfree
  · simp only [winRowG, he]
  · simp only [winRowG]
    congr 2
    refine List.map_congr_left fun kv hkv => ?_
    congr 1
    have hsp : ((partRows p rows r).mergeSort (fun a b => le o rv a b)).Perm
        ((partRows p rows' r).mergeSort (fun a b => le' o rv a b)) :=
      (List.mergeSort_perm _ _).trans ((hp.filter _).trans (List.mergeSort_perm _ _).symm)
    have hm : r ∈ (partRows p rows r).mergeSort (fun a b => le o rv a b) :=
      List.mem_mergeSort.mpr (mem_partRows_self hr)
    exact (hfree kv hkv).of_rows _ _ hsp (getElem?_idxOf hm) (getElem?_idxOf (hsp.mem_iff.mp hm))

/-- `WinTotal` (`Spec/Perm.lean`) is the case `le := rowLe` -/
def WinTotalG (le : RowCmp) (p o rv : List String) (rows : List Row) : Prop :=
  rows.Pairwise (fun a b => keyOf a p = keyOf b p → ¬ (le o rv a b = true ∧ le o rv b a = true))

theorem WinTotalG.partRows_nodup {le : RowCmp} {p o rv : List String} {rows : List Row}
    (hrefl : ∀ a, le o rv a a = true) (h : WinTotalG le p o rv rows) (r : Row) : (partRows p rows r).Nodup :=
  (List.Pairwise.filter _ h).imp_of_mem fun _ _ hab e => hab (e ▸ rfl) ⟨e ▸ hrefl _, e ▸ hrefl _⟩

theorem WinTotalG.partRows_total {le : RowCmp} {p o rv : List String} {rows : List Row} (h : WinTotalG le p o rv rows)
    (r : Row) : ∀ a ∈ partRows p rows r, ∀ b ∈ partRows p rows r, le o rv a b = true → le o rv b a = true → a = b := by
  intro a ha b hb hab hba
  rcases pairwise_mem_or_eq (fun _ _ hab e hh => hab e.symm ⟨hh.2, hh.1⟩) (List.Pairwise.filter _ h) a ha b hb with e | hn
  · exact e
  · simp only [partRows, List.mem_filter, beq_iff_eq] at ha hb
    exact absurd ⟨hab, hba⟩ (hn (ha.2.trans hb.2.symm))

theorem semExtendWindowG_equiv {le le' : RowCmp} (hle : CmpOK le) (Θ : Interp) (ops : Assign) (p o rv : List String)
    {t t' : Table} (h : t ≈ t') (oc : List String)
    (hok : (WinTotalG le p o rv t.rows ∧ ∀ a ∈ t.rows, ∀ b ∈ t.rows, le o rv a b = le' o rv a b) ∨
      ∀ kv ∈ ops, WinOrderFree Θ (opName kv.2)) :
    semExtendWindowG le Θ ops p o rv t oc ≈ semExtendWindowG le' Θ ops p o rv t' oc := by
  refine ⟨rfl, ?_⟩
  have hpart : ∀ r, (partRows p t.rows r).Perm (partRows p t'.rows r) := fun r => h.2.filter _
  have hnd : (∀ r, (partRows p t.rows r).Nodup) ∨ ∀ kv ∈ ops, WinOrderFree Θ (opName kv.2) :=
    hok.imp_left fun ⟨hw, _⟩ => hw.partRows_nodup fun a => by simpa using hle.total o rv a a
  have hrow : ∀ r ∈ t.rows, winRowG le Θ ops p o rv oc t.rows r = winRowG le' Θ ops p o rv oc t'.rows r := by
    intro r hr
    refine winRowG_perm le le' Θ ops p o rv oc h.2 hr (hok.imp_left ?_)
    rintro ⟨hw, hag⟩
    rw [mergeSort_perm_eq (hle.trans o rv) (hle.total o rv) (hw.partRows_total r) (hpart r)]
    exact mergeSort_congr fun a ha b hb => hag a (h.2.mem_iff.mpr (List.mem_filter.mp ha).1)
      b (h.2.mem_iff.mpr (List.mem_filter.mp hb).1)
  rw [semExtendWindowG_rows_eq le Θ ops p o rv t oc hnd,
    semExtendWindowG_rows_eq le' Θ ops p o rv t' oc (hnd.imp_left fun hn r => (hpart r).nodup_iff.mp (hn r)),
    List.map_congr_left hrow]
  exact h.2.map _

theorem semExtendWindowG_eq_of_agree {le le' : RowCmp} (Θ : Interp) (ops : Assign) (p o rv : List String) (t : Table)
    (oc : List String) (h : ∀ a ∈ t.rows, ∀ b ∈ t.rows, le o rv a b = le' o rv a b) :
    semExtendWindowG le Θ ops p o rv t oc = semExtendWindowG le' Θ ops p o rv t oc := by
  simp only [semExtendWindowG, winCell]
  refine congrArg _ (List.map_congr_left fun ri _ => ?_)
  rw [mergeSort_congr fun a ha b hb => h a.1 (List.fst_mem_of_mem_zipIdx (List.mem_filter.mp ha).1)
    b.1 (List.fst_mem_of_mem_zipIdx (List.mem_filter.mp hb).1)]

/-- the sort is stable; used to evaluate concrete witnesses (`mergeSort` does not reduce in the kernel) -/
theorem semExtendWindowG_of_sorted (le : RowCmp) (Θ : Interp) (ops : Assign) (p o rv : List String) (t : Table)
    (oc : List String) (h : t.rows.Pairwise (fun a b => le o rv a b = true)) :
    semExtendWindowG le Θ ops p o rv t oc = semExtendWindowU Θ ops p t oc := by
  have hz : t.rows.zipIdx.Pairwise (fun a b => le o rv a.1 b.1 = true) :=
    List.pairwise_map.mp ((List.zipIdx_map_fst 0 t.rows).symm ▸ h)
  simp only [semExtendWindowG, winCell, semExtendWindowU]
  refine congrArg _ (List.map_congr_left fun ri _ => ?_)
  rw [List.mergeSort_of_pairwise (hz.sublist List.filter_sublist)]

theorem semExtendWindow_of_sorted (Θ : Interp) (ops : Assign) (p o rv : List String) (t : Table)
    (oc : List String) (h : t.rows.Pairwise (fun a b => rowLe o rv a b = true)) :
    semExtendWindow Θ ops p o rv t oc = semExtendWindowU Θ ops p t oc :=
  semExtendWindowG_of_sorted rowLe Θ ops p o rv t oc h

theorem semExtendWindow_of_allTied (Θ : Interp) (ops : Assign) (p o rv : List String) (t : Table)
    (oc : List String) (h : ∀ a ∈ t.rows, ∀ b ∈ t.rows, rowLe o rv a b = true) :
    semExtendWindow Θ ops p o rv t oc = semExtendWindowU Θ ops p t oc :=
  semExtendWindow_of_sorted Θ ops p o rv t oc (List.pairwise_of_forall_mem_list h)

theorem semExtendWindow_unordered (Θ : Interp) (ops : Assign) (p rv : List String) (t : Table)
    (oc : List String) : semExtendWindow Θ ops p [] rv t oc = semExtendWindowU Θ ops p t oc :=
  semExtendWindow_of_allTied Θ ops p [] rv t oc (fun _ _ _ _ => rfl)

theorem WinTotal.partRows_total {p o rv : List String} {rows : List Row} (h : WinTotal p o rv rows) (r : Row) :
    TotalOn o rv (partRows p rows r) := WinTotalG.partRows_total (le := rowLe) h r

theorem semExtendWindow_rows_eq (Θ : Interp) (ops : Assign) (p o rv : List String) (t : Table)
    (oc : List String) (hok : WinOK Θ ops p o rv t.rows) :
    (semExtendWindow Θ ops p o rv t oc).rows = t.rows.map (winRowG rowLe Θ ops p o rv oc t.rows) :=
  semExtendWindowG_rows_eq rowLe Θ ops p o rv t oc
    (hok.imp_left fun h => WinTotalG.partRows_nodup (le := rowLe) (rowLe_refl o rv) h)

theorem semExtendWindow_equiv (Θ : Interp) (ops : Assign) (p o rv : List String) {t t' : Table} (h : t ≈ t')
    (oc : List String) (hok : WinOK Θ ops p o rv t.rows) :
    semExtendWindow Θ ops p o rv t oc ≈ semExtendWindow Θ ops p o rv t' oc :=
  semExtendWindowG_equiv cmpOK_rowLe Θ ops p o rv h oc (hok.imp_left fun h => ⟨h, fun _ _ _ _ => rfl⟩)

end DAVerif
