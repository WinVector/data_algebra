import DAVerif.Heap.Own
/-!
# Lemmas about the frame-ownership model (`Heap/Own.lean`)  — used by `Props/C19.lean`

What any run of the executor does to a heap: well-formed event logs (`replay`); `Ext b s s'` – `s'` only appends
frames to `s`, never writes to or returns a position below `b`, and its new events replay; `Keeps` – `Ext` together
with "a returned frame is a new one"; the decomposition of `exec` into sources first, then the step (`andThen`,
`exec_un`, `exec_bin`); and the invariant of every run, `exec_ext`.
-/
namespace DAVerif.Own

def Ev.fits (n : Nat) : Ev → Bool
  | .alloc id _ => id = n
  | .write _ id _ => id < n
  | .ret id _ => id < n

def Ev.grow : Ev → Nat
  | .alloc _ _ => 1
  | _ => 0

/-- Replay an event list against a heap of size `n`: every event must fit the size at its moment.  Result: the final
size, or `none` if the list is ill-formed. -/
def replay : Nat → List Ev → Option Nat
  | n, [] => some n
  | n, e :: es => if e.fits n then replay (n + e.grow) es else none

theorem replay_append (n : Nat) (a b : List Ev) :
    replay n (a ++ b) = (replay n a).bind fun m => replay m b := by
  induction a generalizing n with
  | nil => rfl
  | cons e a ih =>
    simp only [List.cons_append, replay, ih]
    split <;> rfl

theorem replay_le {n m : Nat} {evs : List Ev} (h : replay n evs = some m) : n ≤ m := by
  induction evs generalizing n with
  | nil => cases h; exact Nat.le_refl _
  | cons e evs ih =>
    rw [replay] at h
    split at h
    · exact Nat.le_trans (Nat.le_add_right _ _) (ih h)
    · cases h

theorem replay_alloc_mem {n m : Nat} {evs : List Ev} (h : replay n evs = some m) (id : Nat)
    (h1 : n ≤ id) (h2 : id < m) : ∃ w, Ev.alloc id w ∈ evs := by
  induction evs generalizing n with
  | nil => cases h; omega
  | cons e evs ih =>
    rw [replay] at h
    split at h
    · rename_i hf
      by_cases hid : n + e.grow ≤ id
      · obtain ⟨w, hw⟩ := ih h hid
        exact ⟨w, List.mem_cons_of_mem _ hw⟩
      · -- only an allocation grows the heap, and it fits only at position `n`
        cases e with
        | alloc id' w =>
          have e1 : id' = n := of_decide_eq_true hf
          have e2 : id = n := by simp only [Ev.grow] at hid; omega
          exact ⟨w, by rw [e2, ← e1]; exact List.mem_cons_self⟩
        | write _ _ _ => exact absurd h1 hid
        | ret _ _ => exact absurd h1 hid
    · cases h

theorem replay_split {n m : Nat} {pre post : List Ev} {e : Ev} (h : replay n (pre ++ e :: post) = some m) :
    ∃ n', replay n pre = some n' ∧ e.fits n' = true := by
  rw [replay_append] at h
  cases hp : replay n pre with
  | none => rw [hp] at h; cases h
  | some n' =>
    rw [hp, Option.bind_some, replay] at h
    split at h
    · exact ⟨n', rfl, ‹_›⟩
    · cases h

def WritesGE (b : Nat) (evs : List Ev) : Prop := ∀ k id c, Ev.write k id c ∈ evs → b ≤ id
def RetsGE (b : Nat) (evs : List Ev) : Prop := ∀ id f, Ev.ret id f ∈ evs → b ≤ id

structure Ext (b : Nat) (s s' : St) : Prop where
  ex : ∃ new, s'.log = s.log ++ new ∧ replay s.heap.length new = some s'.heap.length ∧
        WritesGE b new ∧ RetsGE b new
  keep : s'.heap.take b = s.heap.take b

theorem Ext.refl (b : Nat) (s : St) : Ext b s s := by
  refine ⟨⟨[], by simp, rfl, ?_, ?_⟩, rfl⟩
  · intro k id c h; cases h
  · intro id f h; cases h

theorem Ext.len_le {b : Nat} {s s' : St} (h : Ext b s s') : s.heap.length ≤ s'.heap.length := by
  obtain ⟨new, _, hr, _⟩ := h.ex
  exact replay_le hr

theorem Ext.trans {b : Nat} {s s1 s2 : St} (h1 : Ext b s s1) (h2 : Ext b s1 s2) : Ext b s s2 := by
  obtain ⟨n1, hl1, hr1, hw1, ht1⟩ := h1.ex
  obtain ⟨n2, hl2, hr2, hw2, ht2⟩ := h2.ex
  refine ⟨⟨n1 ++ n2, ?_, ?_, ?_, ?_⟩, ?_⟩
  · rw [hl2, hl1, List.append_assoc]
  · rw [replay_append, hr1]; simpa using hr2
  · intro k id c hm
    rcases List.mem_append.mp hm with hm | hm
    · exact hw1 k id c hm
    · exact hw2 k id c hm
  · intro id f hm
    rcases List.mem_append.mp hm with hm | hm
    · exact ht1 id f hm
    · exact ht2 id f hm
  · rw [h2.keep, h1.keep]

theorem Ext.mono {b b' : Nat} {s s' : St} (hb : b' ≤ b) (h : Ext b s s') : Ext b' s s' := by
  obtain ⟨n1, hl1, hr1, hw1, ht1⟩ := h.ex
  refine ⟨⟨n1, hl1, hr1, ?_, ?_⟩, ?_⟩
  · intro k id c hm; exact Nat.le_trans hb (hw1 k id c hm)
  · intro id f hm; exact Nat.le_trans hb (ht1 id f hm)
  · have := congrArg (List.take b') h.keep
    simpa [List.take_take, Nat.min_eq_left hb] using this

theorem resolve_spec {b base len : Nat} {srcIds : List FrameId} {r : Reg} {id : FrameId}
    (hsrc : ∀ i ∈ srcIds, b ≤ i) (hb : b ≤ base) (h : resolve base srcIds len r = some id) :
    b ≤ id ∧ id < len := by
  cases r with
  | src i =>
    simp only [resolve] at h
    split at h
    · rename_i id' hi
      split at h
      · cases h
        exact ⟨hsrc _ (List.mem_of_getElem? hi), by assumption⟩
      · cases h
    · cases h
  | loc n =>
    simp only [resolve] at h
    split at h
    · cases h; exact ⟨by omega, by assumption⟩
    · cases h

theorem Ext.alloc {b : Nat} (s : St) (hb : b ≤ s.heap.length) (f : Frame) (w : String) :
    Ext b s ⟨s.heap ++ [f], s.log ++ [.alloc s.heap.length w]⟩ :=
  ⟨⟨_, rfl, by simp [replay, Ev.fits, Ev.grow], fun _ _ _ h => by simp at h, fun _ _ h => by simp at h⟩,
    List.take_append_of_le_length hb⟩

theorem Ext.write {b id : Nat} (s : St) (h1 : b ≤ id) (h2 : id < s.heap.length) (k : WKind) (c : Col) (f : Frame) :
    Ext b s ⟨s.heap.set id f, s.log ++ [.write k id c]⟩ := by
  refine ⟨⟨_, rfl, by simp [replay, Ev.fits, Ev.grow, h2], fun _ _ _ h => ?_, fun _ _ h => by simp at h⟩,
    List.take_set_of_le h1⟩
  cases List.mem_singleton.mp h
  exact h1

theorem Ext.ret {b id : Nat} (s : St) (h1 : b ≤ id) (h2 : id < s.heap.length) (f : Frame) :
    Ext b s ⟨s.heap, s.log ++ [.ret id f]⟩ := by
  refine ⟨⟨_, rfl, by simp [replay, Ev.fits, Ev.grow, h2], fun _ _ _ h => by simp at h, fun _ _ h => ?_⟩, rfl⟩
  cases List.mem_singleton.mp h
  exact h1

/-- performing any effect list: writes go to source results (`≥ b`) or to frames allocated by the step -/
theorem commit_ext {b base : Nat} {srcIds : List FrameId} (hsrc : ∀ i ∈ srcIds, b ≤ i) (hb : b ≤ base)
    (effs : List Eff) (s : St) (hs : base ≤ s.heap.length) :
    Ext b s (commit base srcIds effs s).2 := by
  induction effs generalizing s with
  | nil => exact Ext.refl b s
  | cons e es ih =>
    cases e with
    | alloc w f =>
      exact (Ext.alloc s (Nat.le_trans hb hs) f w).trans (ih _ (by simp; omega))
    | write k r c f =>
      simp only [commit]
      split
      · rename_i id hres
        obtain ⟨h1, h2⟩ := resolve_spec hsrc hb hres
        exact (Ext.write s h1 h2 k c f).trans (ih _ (by simpa using hs))
      · exact Ext.refl b s

structure Keeps (b : Nat) (s : St) (x : Except Err (FrameId × Frame) × St) : Prop where
  ext : Ext b s x.2
  res : ∀ id f, x.1 = .ok (id, f) → b ≤ id ∧ id < x.2.heap.length

theorem Keeps.of_error {b : Nat} {s s' : St} (h : Ext b s s') (e : Err) : Keeps b s (.error e, s') :=
  ⟨h, nofun⟩

theorem Keeps.mono {b b' : Nat} {s : St} {x : Except Err (FrameId × Frame) × St} (hb : b' ≤ b)
    (h : Keeps b s x) : Keeps b' s x :=
  ⟨h.ext.mono hb, fun id f e => ⟨Nat.le_trans hb (h.res id f e).1, (h.res id f e).2⟩⟩

theorem runPlan_ext {b : Nat} {srcIds : List FrameId} (hsrc : ∀ i ∈ srcIds, b ≤ i)
    (fail : Option Fail) (m : B H) (s : St) (hs : b ≤ s.heap.length) :
    Keeps b s (runPlan fail srcIds m s) := by
  unfold runPlan
  cases fail with
  | some fl =>
    have hc := commit_ext hsrc hs (truncate fl.writes (m 0).2.2) s (Nat.le_refl _)
    dsimp only
    split <;> exact .of_error hc _
  | none =>
    have hc := commit_ext hsrc hs (m 0).2.2 s (Nat.le_refl _)
    dsimp only
    split
    · split
      · rename_i id hres
        obtain ⟨h1, h2⟩ := resolve_spec hsrc hs hres
        refine ⟨hc.trans (Ext.ret _ h1 h2 _), ?_⟩
        rintro id' f' ⟨⟩
        exact ⟨h1, h2⟩
      · exact .of_error hc _
    · exact .of_error hc _

/-- what `exec` does with the outcome `x` of a source step: an exception propagates with the state it left, a
returned frame goes to the step body -/
def andThen (x : Except Err (FrameId × Frame) × St)
    (g : FrameId → Frame → St → Except Err (FrameId × Frame) × St) : Except Err (FrameId × Frame) × St :=
  match x with
  | (.error e, s1) => (.error e, s1)
  | (.ok (r, f), s1) => g r f s1

theorem exec_un (ord : Ord) (dm : DataMap) (k : UnKind) (fail : Option Fail) (src : Pipe) (s : St) :
    exec ord dm (.un k fail src) s =
      andThen (exec ord dm src s) fun r f s1 => runPlan fail [r] (planUn ord k ⟨.src 0, f⟩) s1 := by
  rw [exec]; rfl

theorem exec_bin (ord : Ord) (dm : DataMap) (k : BinKind) (fail : Option Fail) (l r : Pipe) (s : St) :
    exec ord dm (.bin k fail l r) s =
      andThen (exec ord dm l s) fun rl fl s1 => andThen (exec ord dm r s1) fun rr fr s2 =>
        runPlan fail [rl, rr] (planBin ord k ⟨.src 0, fl⟩ ⟨.src 1, fr⟩) s2 := by
  rw [exec]; rfl

theorem Keeps.andThen {b : Nat} {s : St} {x : Except Err (FrameId × Frame) × St}
    {g : FrameId → Frame → St → Except Err (FrameId × Frame) × St} (hx : Keeps b s x)
    (hg : ∀ r f, b ≤ r → r < x.2.heap.length → Keeps b x.2 (g r f x.2)) : Keeps b s (andThen x g) := by
  obtain ⟨_ | ⟨r, f⟩, s1⟩ := x
  · exact .of_error hx.ext _
  · have h := hg r f (hx.res r f rfl).1 (hx.res r f rfl).2
    exact ⟨hx.ext.trans h.ext, h.res⟩

/-- **Main invariant.**  A run of the executor from `s` only appends to the heap, writes only to positions that did
not exist in `s`, and returns a position that did not exist in `s`. -/
theorem exec_ext (ord : Ord) (dm : DataMap) (p : Pipe) (s : St) :
    Keeps s.heap.length s (exec ord dm p s) := by
  induction p generalizing s with
  | table t =>
    simp only [exec]
    split
    · exact .of_error (.refl _ _) _
    · split
      · exact .of_error (.refl _ _) _
      · split
        · exact .of_error (.refl _ _) _
        · exact runPlan_ext (List.forall_mem_nil _) none _ s (Nat.le_refl _)
  | un k fail src ih =>
    rw [exec_un]
    exact (ih s).andThen fun r f h1 h2 =>
      runPlan_ext (List.forall_mem_singleton.mpr h1) fail _ _ (ih s).ext.len_le
  | bin k fail l r ihl ihr =>
    rw [exec_bin]
    refine (ihl s).andThen fun rl fl h1 h2 => ?_
    have hr := (ihr (exec ord dm l s).2).mono (ihl s).ext.len_le
    exact hr.andThen fun rr fr h3 h4 =>
      runPlan_ext (List.forall_mem_cons.mpr ⟨h1, List.forall_mem_singleton.mpr h3⟩) fail _ _
        (Nat.le_trans (ihl s).ext.len_le hr.ext.len_le)

end DAVerif.Own
