import DAVerif.Proofs.RenameBasic
/-!
The action of a node-wise map (`NodeMap`, Proofs/RenameBasic.lean) on NearSQL trees (`NodeMap.near`: column
occurrences, base-table names and carried expressions; the generated query names, the flags and the `ops_key`s stay);
the relation "image under the map, modulo `ops_key`" (`NRel`); a relational calculus (`MRel`) for the generator's state
monad (the counter that numbers the query names); the generator's helper functions under such a map, stated for an
injective map of the keys and any map of the entries.
-/
namespace DAVerif
namespace Ren

open Function (Injective)
open DAVerif.Sql

namespace NodeMap
variable (φ : NodeMap)

def term : STerm → STerm
  | .pass => .pass
  | .ident c => .ident (φ.col c)
  | .expr t w => .expr (φ.expr t) (w.map (Win.rename φ.col))
  | .coalesce lf c => .coalesce lf (φ.col c)
  | .qual l c => .qual l (φ.col c)

def suffix : Suffix → Suffix
  | .none => .none
  | .whereE e => .whereE (φ.expr e)
  | .groupBy cs => .groupBy (cs.map φ.col)
  | .orderBy cs rv lim => .orderBy (cs.map φ.col) (rv.map φ.col) lim

def terms (ts : Terms) : Terms := ts.map (fun kv => (φ.col kv.1, φ.term kv.2))

def near : Near → Near
  | .table name ts => .table (φ.tab name) (ts.map φ.col)
  | .cte name => .cte name
  | .unary name ts agg sub sc sf mg deps key =>
      .unary name (ts.map φ.terms) agg (near sub) (sc.map (·.map φ.col)) (φ.suffix sf) mg
        (deps.map (·.map (fun kv => (φ.col kv.1, kv.2.map φ.col)))) key
  | .join name ts l lc ln r rc rn jt oa ob key =>
      .join name (φ.terms ts) (near l) (lc.map φ.col) ln (near r) (rc.map φ.col) rn jt (oa.map φ.col) (ob.map φ.col) key
  | .union name ts l r cols key => .union name (ts.map φ.col) (near l) (near r) (cols.map φ.col) key

theorem isTable_near (n : Near) : (φ.near n).isTable = n.isTable := by cases n <;> rfl

/-- a generated query name stays (the name of a base table does not) -/
theorem name_near (n : Near) (h : n.isTable = false) : (φ.near n).name = n.name := by
  cases n <;> first | rfl | (simp [Near.isTable] at h)

theorem near_eraseKeys (n : Near) : (φ.near n).eraseKeys = φ.near n.eraseKeys := by
  induction n with
  | table _ _ | cte _ => rfl
  | unary name terms agg sub subCols suffix mg deps key ih => simp only [near, Near.eraseKeys, ih]
  | join name terms l lc ln r rc rn jt oa ob key ihl ihr | union name terms l r cols key ihl ihr =>
    simp only [near, Near.eraseKeys, ihl, ihr]

theorem size_ops (p : Ops) : (φ.ops p).size = p.size := by
  induction p <;> simp only [ops, Ops.size, *]

end NodeMap

theorem renMap_term (ρc : ColRen) (ρt : TabRen) : (renMap ρc ρt).term = STerm.rename ρc := by
  funext t
  cases t <;> simp only [NodeMap.term, STerm.rename, renMap_expr] <;> rfl

theorem renMap_suffix (ρc : ColRen) (ρt : TabRen) : (renMap ρc ρt).suffix = Suffix.rename ρc := by
  funext sf
  cases sf <;> simp only [NodeMap.suffix, Suffix.rename, renMap_expr] <;> rfl

theorem renMap_terms (ρc : ColRen) (ρt : TabRen) : (renMap ρc ρt).terms = Terms.rename ρc := by
  funext ts
  rw [NodeMap.terms, renMap_term]
  rfl

theorem renMap_near (ρc : ColRen) (ρt : TabRen) : (renMap ρc ρt).near = Near.rename ρc ρt := by
  funext n
  induction n with
  | table _ _ | cte _ => rfl
  | unary name terms agg sub subCols suffix mg deps key ih =>
    simp only [NodeMap.near, Near.rename, ih, renMap_terms, renMap_suffix]
    rfl
  | join name terms l lc ln r rc rn jt oa ob key ihl ihr | union name terms l r cols key ihl ihr =>
    simp only [NodeMap.near, Near.rename, ihl, ihr, renMap_terms]
    rfl

def NRel (φ : NodeMap) (n' n : Near) : Prop := n'.eraseKeys = (φ.near n).eraseKeys

variable {φ : NodeMap}

theorem NRel.table (name : String) (ts : List String) : NRel φ (.table (φ.tab name) (ts.map φ.col)) (.table name ts) :=
  rfl

theorem NRel.unary {s' s : Near} (h : NRel φ s' s) (name : String) (ts : Option Terms) (agg : Bool)
    (sc : Option (List String)) (sf : Suffix) (mg : Bool) (deps : Option (List (String × List String)))
    (k' k : Option String) :
    NRel φ (.unary name (ts.map φ.terms) agg s' (sc.map (·.map φ.col)) (φ.suffix sf) mg
        (deps.map (·.map (fun kv => (φ.col kv.1, kv.2.map φ.col)))) k')
      (.unary name ts agg s sc sf mg deps k) := by
  unfold NRel at h ⊢
  simp only [Near.eraseKeys, NodeMap.near, h]

theorem NRel.join {l' l r' r : Near} (hl : NRel φ l' l) (hr : NRel φ r' r) (name : String) (ts : Terms)
    (lc : List String) (ln : String) (rc : List String) (rn : String) (jt : JoinType) (oa ob : List String)
    (k' k : Option String) :
    NRel φ (.join name (φ.terms ts) l' (lc.map φ.col) ln r' (rc.map φ.col) rn jt (oa.map φ.col) (ob.map φ.col) k')
      (.join name ts l lc ln r rc rn jt oa ob k) := by
  unfold NRel at hl hr ⊢
  simp only [Near.eraseKeys, NodeMap.near, hl, hr]

theorem NRel.union {l' l r' r : Near} (hl : NRel φ l' l) (hr : NRel φ r' r) (name : String) (ts : List String)
    (cols : List String) (k' k : Option String) :
    NRel φ (.union name (ts.map φ.col) l' r' (cols.map φ.col) k') (.union name ts l r cols k) := by
  unfold NRel at hl hr ⊢
  simp only [Near.eraseKeys, NodeMap.near, hl, hr]

theorem NRel.unary_inv {n' : Near} {name : String} {ts : Option Terms} {agg : Bool} {s : Near}
    {sc : Option (List String)} {sf : Suffix} {mg : Bool} {deps : Option (List (String × List String))}
    {k : Option String} (h : NRel φ n' (.unary name ts agg s sc sf mg deps k)) :
    ∃ s' k', NRel φ s' s ∧
      n' = .unary name (ts.map φ.terms) agg s' (sc.map (·.map φ.col)) (φ.suffix sf) mg
        (deps.map (·.map (fun kv => (φ.col kv.1, kv.2.map φ.col)))) k' := by
  unfold NRel at h
  cases n' with
  | unary n1 t1 a1 s1 c1 f1 m1 d1 k1 =>
    simp only [Near.eraseKeys, NodeMap.near, Near.unary.injEq] at h
    obtain ⟨rfl, rfl, rfl, hs, rfl, rfl, rfl, rfl, _⟩ := h
    exact ⟨s1, k1, hs, rfl⟩
  | _ => simp [Near.eraseKeys, NodeMap.near] at h

def MRel {α' α : Type} (rel : α' → α → Prop) (x' : M α') (x : M α) : Prop :=
  ∀ s : Nat,
    match x' s, x s with
    | .ok (a', s1'), .ok (a, s1) => rel a' a ∧ s1' = s1
    | .error e', .error e => e' = e
    | _, _ => False

theorem MRel.pure {α' α : Type} {rel : α' → α → Prop} {a' : α'} {a : α} (h : rel a' a) :
    MRel rel (pure a' : M α') (pure a : M α) := by
  intro s
  exact ⟨h, rfl⟩

theorem MRel.bind {α' α β' β : Type} {r1 : α' → α → Prop} {r2 : β' → β → Prop} {x' : M α'} {x : M α}
    {k' : α' → M β'} {k : α → M β} (hx : MRel r1 x' x) (hk : ∀ a' a, r1 a' a → MRel r2 (k' a') (k a)) :
    MRel r2 (x' >>= k') (x >>= k) := by
  intro s
  have h := hx s
  have e1 : (x' >>= k') s = (x' s >>= fun p => k' p.1 p.2) := rfl
  have e2 : (x >>= k) s = (x s >>= fun p => k p.1 p.2) := rfl
  rw [e1, e2]
  cases hx' : x' s with
  | error e' =>
    cases hx0 : x s with
    | error e =>
      rw [hx', hx0] at h
      exact h
    | ok v => rw [hx', hx0] at h; exact h.elim
  | ok v' =>
    cases hx0 : x s with
    | error e => rw [hx', hx0] at h; exact h.elim
    | ok v =>
      rw [hx', hx0] at h
      obtain ⟨a', s1'⟩ := v'
      obtain ⟨a, s1⟩ := v
      obtain ⟨hr, rfl⟩ := h
      exact hk a' a hr s1'

theorem MRel.fresh : MRel (fun (a b : Nat) => a = b) fresh fresh := by
  intro s
  exact ⟨rfl, rfl⟩

theorem MRel.liftE {α' α : Type} {rel : α' → α → Prop} {e' : Except Err α'} {e : Except Err α}
    (h : match e', e with | .ok a', .ok a => rel a' a | .error x', .error x => x' = x | _, _ => False) :
    MRel rel (Sql.liftE e') (Sql.liftE e) := by
  intro s
  cases e' <;> cases e <;> simp_all [DAVerif.Sql.liftE, Except.map]

theorem MRel.error {α' α : Type} {rel : α' → α → Prop} (e : Err) :
    MRel rel (Sql.liftE (Except.error e) : M α') (Sql.liftE (Except.error e) : M α) := by
  intro s; rfl

theorem MRel.guard (c : Bool) (e : Err) : MRel (fun _ _ => True) (guardM c e) (guardM c e) := by
  intro s
  cases c <;> simp [guardM, DAVerif.Sql.liftE, ok?, Except.map]

theorem MRel.guard_bind {β' β : Type} {r2 : β' → β → Prop} {c' c : Bool} (hc : c' = c) (e : Err) {k' : Unit → M β'}
    {k : Unit → M β} (hk : MRel r2 (k' ()) (k ())) : MRel r2 (guardM c' e >>= k') (guardM c e >>= k) := by
  subst hc
  exact MRel.bind (MRel.guard c' e) (fun _ _ _ => hk)

theorem MRel.ite {β' β : Type} {r2 : β' → β → Prop} {c' c : Bool} (hc : c' = c) {a' b' : M β'} {a b : M β}
    (ha : MRel r2 a' a) (hb : MRel r2 b' b) :
    MRel r2 (if c' = true then a' else b') (if c = true then a else b) := by
  subst hc
  cases c' <;> simp [ha, hb]

theorem MRel.step {rel : Near → Near → Prop} {x' x : M Near} (hx : MRel rel x' x) {mk' mk : Near → Nat → Near}
    (h : ∀ s' s i, rel s' s → rel (mk' s' i) (mk s i)) :
    MRel rel (x' >>= fun s => Sql.fresh >>= fun i => Pure.pure (mk' s i))
      (x >>= fun s => Sql.fresh >>= fun i => Pure.pure (mk s i)) :=
  MRel.bind hx (fun s' s hs => MRel.bind MRel.fresh (fun i' _ hi => hi ▸ MRel.pure (h s' s i' hs)))

theorem MRel.map_fst {α' α β : Type} {rel : α' → α → Prop} {x' : M α'} {x : M α} (h : MRel rel x' x) (s : Nat)
    {g' : α' → β} {g : α → β} (hg : ∀ a' a, rel a' a → g' a' = g a) :
    (x' s).map (fun r => g' r.1) = (x s).map (fun r => g r.1) := by
  have h := h s
  cases hx' : x' s with
  | error e' =>
    cases hx0 : x s with
    | error e => rw [hx', hx0] at h; exact congrArg Except.error h
    | ok v => rw [hx', hx0] at h; exact h.elim
  | ok v' =>
    cases hx0 : x s with
    | error e => rw [hx', hx0] at h; exact h.elim
    | ok v => rw [hx', hx0] at h; exact congrArg Except.ok (hg _ _ h.1)

theorem toNearSql_run {β : Type} (cfg : SqlCfg) (p : Ops) (g : Near → β) :
    (toNearSql cfg p).map g = (toNear cfg (6 * p.size + 6) p none 0).map (fun r => g r.1) := by
  unfold toNearSql
  simp only [StateT.run]
  cases toNear cfg (6 * p.size + 6) p none 0 <;> rfl

variable {f : String → String}

theorem mkTerms_map (h : String × STerm → String × STerm) (ts : Terms) :
    mkTerms (ts.map h) = (mkTerms ts).map (List.map h) := by
  unfold mkTerms
  rw [List.isEmpty_map]
  split <;> rfl

theorem mkTerms_terms (ts : Terms) : mkTerms (φ.terms ts) = (mkTerms ts).map φ.terms := mkTerms_map _ ts

theorem pass_terms (l : List String) :
    (l.map φ.col).map (fun k => (k, STerm.pass)) = φ.terms (l.map (fun k => (k, STerm.pass))) := by
  simp [NodeMap.terms, NodeMap.term, List.map_map, Function.comp_def]

theorem NodeMap.terms_keys (φ : NodeMap) (ts : Terms) : (φ.terms ts).map (·.1) = (ts.map (·.1)).map φ.col := by
  simp [NodeMap.terms, List.map_map, Function.comp_def]

theorem filterMap_lookup_map {β γ : Type} (hf : Injective f) (g : β → γ) (ts : List (String × β)) (keys : List String) :
    (keys.map f).filterMap (fun k => (lookupLast (ts.map (fun kv => (f kv.1, g kv.2))) k).map (fun t => (k, t)))
      = (keys.filterMap (fun k => (lookupLast ts k).map (fun t => (k, t)))).map (fun kv => (f kv.1, g kv.2)) := by
  induction keys with
  | nil => rfl
  | cons k keys ih =>
    rw [List.map_cons, List.filterMap_cons, List.filterMap_cons, lookupLast_map hf g ts k]
    cases lookupLast ts k with
    | none => exact ih
    | some t =>
      simp only [Option.map_some, List.map_cons]
      rw [ih]

theorem filterMap_lookup (hf : Injective φ.col) (ts : Terms) (keys : List String) :
    (keys.map φ.col).filterMap (fun k => (lookupLast (φ.terms ts) k).map (fun t => (k, t)))
      = φ.terms (keys.filterMap (fun k => (lookupLast ts k).map (fun t => (k, t)))) :=
  filterMap_lookup_map hf φ.term ts keys

theorem setTermKeys_map (hf : Injective φ.col) (n : Near) (keys : List String) (sel : Bool) :
    setTermKeys (φ.near n) (keys.map φ.col) sel = (setTermKeys n keys sel).map φ.near := by
  cases n with
  | unary name ts agg sub sc sf mg deps key =>
    cases ts <;>
      simp only [NodeMap.near, setTermKeys, apply_ite (Option.map φ.near), Option.map_some, Option.map_none,
        List.isEmpty_map, subset_map hf, NodeMap.terms_keys, pass_terms, filterMap_lookup hf]
  | _ =>
    simp only [NodeMap.near, setTermKeys, apply_ite (Option.map φ.near), Option.map_some, Option.map_none,
      List.isEmpty_map, subset_map hf, NodeMap.terms_keys, filterMap_lookup hf]

theorem setTermKeys_eraseKeys (n : Near) (keys : List String) (sel : Bool) :
    setTermKeys n.eraseKeys keys sel = (setTermKeys n keys sel).map Near.eraseKeys := by
  cases n with
  | unary name ts agg sub sc sf mg deps key =>
    cases ts <;>
      simp only [Near.eraseKeys, setTermKeys, apply_ite (Option.map Near.eraseKeys), Option.map_some, Option.map_none]
  | _ => simp only [Near.eraseKeys, setTermKeys, apply_ite (Option.map Near.eraseKeys), Option.map_some, Option.map_none]

theorem setTermKeys_NRel (hf : Injective φ.col) {n' n : Near} (h : NRel φ n' n) (keys : List String) (sel : Bool) :
    match setTermKeys n' (keys.map φ.col) sel, setTermKeys n keys sel with
    | some m', some m => NRel φ m' m
    | none, none => True
    | _, _ => False := by
  have h1 := setTermKeys_eraseKeys n' (keys.map φ.col) sel
  have h2 := setTermKeys_eraseKeys (φ.near n) (keys.map φ.col) sel
  rw [setTermKeys_map hf] at h2
  unfold NRel at h
  rw [h, h2] at h1
  cases h' : setTermKeys n' (keys.map φ.col) sel <;> cases h0 : setTermKeys n keys sel <;>
    simp only [h', h0, Option.map_none, Option.map_some, reduceCtorEq, Option.some.injEq] at h1
  · trivial
  · exact h1.symm

abbrev Deps := List (String × List String)
def Deps.rename (f : String → String) (d : Deps) : Deps := d.map (fun kv => (f kv.1, kv.2.map f))

theorem isPass_term (t : STerm) : isPass (φ.term t) = isPass t := by cases t <;> rfl

def ntPred (terms : Terms) (kv : String × List String) : Bool :=
  terms.any (fun t => t.1 == kv.1) &&
    (!(kv.2.filter (fun c => c != kv.1)).isEmpty || !kv.2.contains kv.1 ||
      (match lookupLast terms kv.1 with | some t => !isPass t | none => false))

theorem nonTrivialTerms_eq (deps : Deps) (terms : Terms) :
    nonTrivialTerms deps terms = (deps.filter (ntPred terms)).map (·.1) := rfl

theorem ntPred_map (hf : Injective f) {g : STerm → STerm} (hg : ∀ t, isPass (g t) = isPass t) (terms : Terms)
    (kv : String × List String) :
    ntPred (terms.map (fun t => (f t.1, g t.2))) (f kv.1, kv.2.map f) = ntPred terms kv := by
  unfold ntPred
  have h1 : (terms.map (fun t => (f t.1, g t.2))).any (fun t => t.1 == f kv.1) = terms.any (fun t => t.1 == kv.1) :=
    any_map' _ terms _ _ (fun x => by simp only [beq_inj hf])
  have h2 : ((kv.2.map f).filter (fun c => c != f kv.1)).isEmpty = (kv.2.filter (fun c => c != kv.1)).isEmpty := by
    rw [filter_map' kv.2 (fun c => c != f kv.1) (fun c => c != kv.1) (fun x => bne_inj hf x kv.1), List.isEmpty_map]
  simp only [h1, h2, lookupLast_map hf g terms kv.1, contains_map hf]
  cases lookupLast terms kv.1 with
  | none => rfl
  | some t => simp only [Option.map_some, hg]

theorem nonTrivialTerms_map (hf : Injective f) {g : STerm → STerm} (hg : ∀ t, isPass (g t) = isPass t) (deps : Deps)
    (terms : Terms) :
    nonTrivialTerms (Deps.rename f deps) (terms.map (fun t => (f t.1, g t.2))) = (nonTrivialTerms deps terms).map f := by
  rw [nonTrivialTerms_eq, nonTrivialTerms_eq, Deps.rename, filter_map' deps _ _ (ntPred_map hf hg terms), List.map_map,
    List.map_map]
  rfl

theorem nonTrivialTerms_terms (hf : Injective φ.col) (deps : Deps) (terms : Terms) :
    nonTrivialTerms (Deps.rename φ.col deps) (φ.terms terms) = (nonTrivialTerms deps terms).map φ.col :=
  nonTrivialTerms_map hf isPass_term deps terms

theorem deps_needs_rename (hf : Injective f) (deps : Deps) (nt : List String) :
    ((Deps.rename f deps).filter (fun kv => (nt.map f).contains kv.1)).flatMap (·.2)
      = ((deps.filter (fun kv => nt.contains kv.1)).flatMap (·.2)).map f := by
  unfold Deps.rename
  rw [List.filter_map, List.flatMap_map, List.map_flatMap]
  have : (List.filter ((fun kv : String × List String => (nt.map f).contains kv.1) ∘ fun kv => (f kv.1, kv.2.map f)) deps)
      = deps.filter (fun kv => nt.contains kv.1) := by
    apply List.filter_congr
    intro kv _
    simp only [Function.comp, contains_map hf]
  rw [this]

theorem foldl_dictSet_map {α β γ : Type} (hf : Injective f) (g : β → γ) (k k' : α → String) (v : α → β) (v' : α → γ)
    (hk : ∀ a, k' a = f (k a)) (hv : ∀ a, v' a = g (v a)) (l : List α) (d : List (String × β)) :
    l.foldl (fun d a => dictSet d (k' a) (v' a)) (d.map (fun kv => (f kv.1, g kv.2)))
      = (l.foldl (fun d a => dictSet d (k a) (v a)) d).map (fun kv => (f kv.1, g kv.2)) := by
  induction l generalizing d with
  | nil => rfl
  | cons a l ih => rw [List.foldl_cons, List.foldl_cons, hk, hv, dictSet_map hf g, ih]

/-- term dictionary of `map_columns`: `terms[new] = ident old` -/
theorem fold_ident_map_nil (hf : Injective φ.col) (m : List (String × String)) :
    (m.map (fun kv => (φ.col kv.1, φ.col kv.2))).foldl (fun d kv => dictSet d kv.2 (STerm.ident kv.1)) ([] : Terms)
      = φ.terms (m.foldl (fun d kv => dictSet d kv.2 (STerm.ident kv.1)) []) := by
  rw [List.foldl_map]
  exact foldl_dictSet_map hf φ.term (·.2) _ (fun kv => .ident kv.1) _ (fun _ => rfl) (fun _ => rfl) m []

/-- term dictionary of `rename_columns`: `terms[new] = ident old` with the pairs the other way round -/
theorem fold_ident_ren_nil (hf : Injective φ.col) (m : List (String × String)) :
    (m.map (fun kv => (φ.col kv.1, φ.col kv.2))).foldl (fun d kv => dictSet d kv.1 (STerm.ident kv.2)) ([] : Terms)
      = φ.terms (m.foldl (fun d kv => dictSet d kv.1 (STerm.ident kv.2)) []) := by
  rw [List.foldl_map]
  exact foldl_dictSet_map hf φ.term (·.1) _ (fun kv => .ident kv.2) _ (fun _ => rfl) (fun _ => rfl) m []

theorem fold_pass (hf : Injective φ.col) (l : List String) (d : Terms) :
    (l.map φ.col).foldl (fun d c => dictSet d c STerm.pass) (φ.terms d)
      = φ.terms (l.foldl (fun d c => dictSet d c STerm.pass) d) := by
  rw [List.foldl_map]
  exact foldl_dictSet_map hf φ.term id _ (fun _ => .pass) _ (fun _ => rfl) (fun _ => rfl) l d

theorem headD_map (l : List (List String)) : (l.map (·.map f)).headD [] = (l.headD []).map f := by
  cases l <;> rfl

theorem take_map (n : Nat) (l : List String) : (l.map f).take n = (l.take n).map f := by
  simp [List.map_take]

end Ren
end DAVerif
