import DAVerif.Proofs.SqlAllTrans
/-!
C01/C02/C16, **SQLite's emulated RIGHT / FULL joins**, up to row order: the root call for the second reading of the main
induction (`SqlE.claim_all`, `Proofs/SqlAllTrans.lean`: the table the SQL lists is the table of the reference semantics
`sem` up to row order within the data-side scope `ScopeE`), and for an emulated join at the root over two pipelines whose
own joins are rendered natively.
-/
namespace DAVerif
namespace Sql
namespace SqlE
open DAVerif.Ops (usedFromSources unionL)

variable {Θ : Interp} {ec : EngineCfg} {env : Env} {cfg : SqlCfg}

/-- **The root call, nested emulation.**  For a pipeline in scope the query `to_sql` renders – every dialect
configuration, emulated RIGHT / FULL joins anywhere – evaluated as a forced SELECT, returns a table with exactly the
declared column set and the **multiset** of rows of the reference semantics; the translation satisfies the invariant
of mergeable steps. -/
theorem nested_root (Θ : Interp) (ec : EngineCfg) (env : Env) (cfg : SqlCfg) (p : Ops) (hg : GoodE env p)
    (hs : ScopeE Θ env cfg p) {fuel st st' : Nat} {q : Near} (h : toNear cfg fuel p none st = .ok (q, st')) :
    ∃ T t, semNear Θ ec env [] q none true = .ok T ∧ sem Θ SemCfg.ref env p = .ok t ∧ t.cols = p.cols ∧
      T.EquivS t ∧ MergeInv q := by
  obtain ⟨tp, htp⟩ := semG_ok_fragJ rowLe Θ SemCfg.ref env p hg.frag false hg.env
  obtain ⟨htpc, _⟩ := semG_cols_wf_fragJ _ Θ SemCfg.ref env p hg.frag tp htp
  obtain ⟨tp', hp⟩ := claim_all Θ ec env cfg fuel p (.of_goodE hg)
  have e := hp.lists.equiv hs tp htp
  rw [toNear_getD] at h
  obtain ⟨hju, u₁, hu₁, hu₁', hsound⟩ := hp.node p.cols st q st' (fun c hc => hc) h
  obtain ⟨T, t1, t2, t3⟩ := root_of_sound_ju hsound hju hu₁ hu₁' hg.wf.cols_ne_nil
  have hself : tp'.rows.map (fun r => r.select p.cols) = tp'.rows := by
    rw [← hp.lists.cols]; exact map_select_self_of_wf hp.lists.wf (by rw [hp.lists.cols]; exact hg.wf.cols_nodup)
  refine ⟨T, tp, t1, semG_rowLe Θ _ env p ▸ htp, htpc, ⟨?_, ?_⟩, hp.merge p.cols st q st' (fun c hc => hc) h⟩
  · intro c; rw [htpc]; exact t2 c
  · rw [htpc, t3, hself]; exact e.2.symm

/-- **A final `order_rows` re-establishes list equality.**  Pipeline `src.order_rows(cs, reverse, limit)` with `src`
in scope (emulated joins anywhere in `src`): if the order is total on the rows of `src` and its columns hold no null
there, the query returns the reference rows **in the reference order**. -/
theorem nested_root_final_order (Θ : Interp) (ec : EngineCfg) (env : Env) (cfg : SqlCfg) (src : Ops)
    (cs rv : List String) (lim : Option Nat) (hg : GoodE env (.order src cs rv lim)) (hs : ScopeE Θ env cfg src)
    {ts : Table} (hts : sem Θ SemCfg.ref env src = .ok ts) (hnull : NullFreeOn cs ts.rows)
    (htot : TotalOn cs rv ts.rows) {fuel st st' : Nat} {q : Near}
    (h : toNear cfg (fuel + 1) (.order src cs rv lim) none st = .ok (q, st')) :
    ∃ T, semNear Θ ec env [] q none true = .ok T ∧ (∀ c, c ∈ T.cols ↔ c ∈ src.cols) ∧
      T.rows.map (fun r => r.select src.cols) = (semOrder cs rv lim ts).rows := by
  have hG := shapeOK_ju Θ ec env
  have hsq := SqlWF.order_iff.mp hg.sqlwf
  have hgs : GoodE env src := ⟨hg.frag, hg.wf, hsq.1, hg.maps, hg.jwf, hg.types, hg.keylen, hg.label, hg.env⟩
  have hts' : semG rowLe Θ SemCfg.ref env src = .ok ts := by rw [semG_rowLe]; exact hts
  obtain ⟨htsc, htsw⟩ := semG_cols_wf_fragJ _ Θ SemCfg.ref env src hgs.frag ts hts'
  obtain ⟨ts', hp⟩ := claim_all Θ ec env cfg fuel src (.of_goodE hgs)
  have e := hp.lists.equiv hs ts hts'
  have hNo := nodeOK_order hG fuel src cs rv lim hsq.2 hp.node
  have href : semOrderG (sqlRowLe ec) cs rv lim ts' = semOrder cs rv lim ts := by
    rw [semOrderG_eq_of_nullFree ec cs rv lim ts' (hnull.perm e.2)]
    exact (semOrder_total_eq cs rv lim e htot).symm
  rw [href] at hNo
  rw [toNear_getD] at h
  obtain ⟨hju, u₁, hu₁, hu₁', hsound⟩ := hNo (Ops.order src cs rv lim).cols st q st' (fun c hc => hc) h
  obtain ⟨T, t1, t2, t3⟩ := root_of_sound_ju hsound hju hu₁ hu₁' hg.wf.cols_ne_nil
  refine ⟨T, t1, t2, ?_⟩
  have hcols : (Ops.order src cs rv lim).cols = src.cols := rfl
  rw [hcols] at t3
  rw [t3]
  have hwfo : (semOrder cs rv lim ts).WF := by
    intro r hr
    have : r ∈ ts.rows := by
      simp only [semOrder] at hr
      cases lim with
      | none => exact (sortRows_perm cs rv ts.rows).mem_iff.mp hr
      | some k => exact (sortRows_perm cs rv ts.rows).mem_iff.mp (List.mem_of_mem_take hr)
    exact htsw r this
  have hco : (semOrder cs rv lim ts).cols = src.cols := htsc
  rw [← hco]
  exact map_select_self_of_wf hwfo (by rw [hco]; exact hg.wf.cols_nodup)

end SqlE
open SqlE

/-- **The root call of a RIGHT join on SQLite** over two pipelines whose own joins are rendered natively, every dialect
configuration and all data: the query evaluates, has exactly the columns of the two sides, and returns the rows of the
reference RIGHT join as a multiset (in order: the RIGHT join listed right-row-major, `swapJoinTable`). -/
theorem sqlite_right_root (hemu : cfg.emulateRightFull = true) (a b : Ops) (onA onB : List String)
    (hga : Good cfg env a) (hgb : Good cfg env b) (hoa : ∀ c ∈ onA, c ∈ a.cols) (hob : ∀ c ∈ onB, c ∈ b.cols)
    (hle : onA.isEmpty = onB.isEmpty) {fuel st' : Nat} {q : Near}
    (hrun : toNear cfg (fuel + 1) (.join a b onA onB .right) none 0 = .ok (q, st')) :
    ∃ T ta tb, semNear Θ ec env [] q none true = .ok T ∧ semE ec Θ SemCfg.ref env a = .ok ta ∧
      semE ec Θ SemCfg.ref env b = .ok tb ∧ (∀ c, c ∈ T.cols ↔ c ∈ a.cols ∨ c ∈ b.cols) ∧
      (T.rows.map (fun r => r.select (Ops.join a b onA onB .right).cols)).Perm
        ((semJoin SemCfg.ref .right onA onB ta tb (appendNew a.cols b.cols)).selectCols
          (Ops.join a b onA onB .right).cols).rows := by
  rw [toNear_getD] at hrun
  obtain ⟨ta, ha⟩ := claim_all Θ ec env cfg fuel a (.of_good hga)
  obtain ⟨tb, hb⟩ := claim_all Θ ec env cfg fuel b (.of_good hgb)
  obtain ⟨hju, u₁, hu₁, hu₁', hsound⟩ :=
    nodeOK_join_sqlite_right (G := fun q => q.isJU = true) (fun _ h => h) fuel a b onA onB hemu hoa hob hle ha.node
      hb.node _ 0 q st' (fun c hc => hc) hrun
  obtain ⟨T, t1, t2, t3⟩ :=
    root_of_sound_ju hsound hju hu₁ hu₁' (WF.cols_ne_nil (p := .join a b onA onB .right) ⟨hga.wf, hgb.wf⟩)
  refine ⟨T, ta, tb, t1, ha.lists.native hga.native, hb.lists.native hgb.native,
    fun c => (t2 c).trans (mem_join_cols a b onA onB .right c), ?_⟩
  rw [t3]
  have := ((swapJoinTable_equiv a b onA onB ha.lists.cols hb.lists.cols).2.symm.map
    (fun r : Row => r.select (Ops.join a b onA onB .right).cols))
  simp only [Table.selectCols] at this ⊢
  rwa [select_map_select _ (fun c hc => hc)] at this

/-- **The root call of a FULL join on SQLite**, no join key of either side null: the key lists are non-empty and
identical, the query evaluates, has exactly the columns of the two sides, and returns the rows of the reference FULL
join as a multiset (`C16_sqlite_full_nullkeys_necessary`: with null keys all null-key rows collapse into one all-null
row). -/
theorem sqlite_full_root (hemu : cfg.emulateRightFull = true) (a b : Ops) (onA onB : List String)
    (hga : Good cfg env a) (hgb : Good cfg env b)
    (hna : ∀ ta, semE ec Θ SemCfg.ref env a = .ok ta → NullFreeOn onA ta.rows)
    (hnb : ∀ tb, semE ec Θ SemCfg.ref env b = .ok tb → NullFreeOn onB tb.rows)
    {fuel st' : Nat} {q : Near} (hrun : toNear cfg (fuel + 1) (.join a b onA onB .full) none 0 = .ok (q, st')) :
    (onA ≠ [] ∧ onA = onB) ∧
    ∃ T ta tb, semNear Θ ec env [] q none true = .ok T ∧ semE ec Θ SemCfg.ref env a = .ok ta ∧ semE ec Θ SemCfg.ref env b = .ok tb ∧
      (∀ c, c ∈ T.cols ↔ c ∈ a.cols ∨ c ∈ b.cols) ∧
      (T.rows.map (fun r => r.select (Ops.join a b onA onB .full).cols)).Perm
        ((semJoin SemCfg.ref .full onA onB ta tb (appendNew a.cols b.cols)).selectCols
          (Ops.join a b onA onB .full).cols).rows := by
  rw [toNear_getD] at hrun
  obtain ⟨hK, rfl, sim, hsim, _⟩ := toNear_join_sqlite_full hemu hrun
  obtain ⟨rfl, hnd, hKa, hKb⟩ := fullSim_shape hsim
  refine ⟨⟨hK, rfl⟩, ?_⟩
  have hgs : Good cfg env (fullSimOps a b onA) := good_fullSim hga hgb hK hnd hKa hKb
  obtain ⟨ta, hta⟩ := semG_ok_fragJ (sqlRowLe ec) Θ SemCfg.ref env a hga.frag false hga.env
  obtain ⟨tb, htb⟩ := semG_ok_fragJ (sqlRowLe ec) Θ SemCfg.ref env b hgb.frag false hgb.env
  obtain ⟨tsim, hs⟩ := claim_all Θ ec env cfg fuel _ (.of_good hgs)
  obtain ⟨hju, u₁, hu₁, hu₁', hsound⟩ :=
    (nodeOK_join_sqlite_full hemu fuel hKa hs.node hs.merge).1 _ 0 q st' (fun c hc => hc) hrun
  obtain ⟨T, t1, t2, t3⟩ :=
    root_of_sound_ju hsound hju hu₁ hu₁' (WF.cols_ne_nil (p := .join a b onA onA .full) ⟨hga.wf, hgb.wf⟩)
  refine ⟨T, ta, tb, t1, hta, htb, fun c => (t2 c).trans (mem_join_cols a b onA onA .full c), ?_⟩
  rw [t3]
  have := fullSimOps_rows_perm hK hKa hKb hga.frag hgb.frag hta htb (hs.lists.native hgs.native) (hna ta hta)
    (hnb tb htb) _ (fun c hc => hc)
  simp only [Table.selectCols] at this ⊢
  rw [select_map_select _ (fun c hc => hc)] at this ⊢
  exact this

end Sql
end DAVerif
