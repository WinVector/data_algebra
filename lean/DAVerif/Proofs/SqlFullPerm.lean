import DAVerif.Proofs.Perm
/-!
C16, SQLite FULL join emulation, the combinatorial core (no tables, no SQL): for a duplicate-free list `D` of key
carriers that covers exactly the keys of two lists `ta`, `tb`,

  (`D` ⟕ `ta`) ⟕ `tb`   and   `ta` ⟗ `tb`

pair the same elements, up to order (`full_emulation_perm`).  Keys are compared by plain equality: this is the
situation of null-free join keys.
-/
namespace DAVerif
namespace Sql

variable {α β δ κ γ : Type} [BEq κ] [LawfulBEq κ]

theorem flatMap_const_ite {l : List α} (c : Bool) (g : α → γ) :
    l.flatMap (fun x => if c then [g x] else []) = if c then l.map g else [] := by
  cases c
  · simp
  · simp only [↓reduceIte]
    induction l with
    | nil => rfl
    | cons x l ih => simp [List.flatMap_cons, ih]

theorem filter_flatMap_ite (l : List α) (p : α → Bool) (f : α → List γ) :
    (l.filter p).flatMap f = l.flatMap (fun x => if p x then f x else []) := by
  induction l with
  | nil => rfl
  | cons x l ih =>
    simp only [List.filter_cons, List.flatMap_cons]
    cases p x <;> simp [ih]

theorem flatMap_flatMap' (l : List α) (f : α → List β) (g : β → List γ) :
    (l.flatMap f).flatMap g = l.flatMap (fun x => (f x).flatMap g) := by
  induction l with
  | nil => rfl
  | cons x l ih => simp [List.flatMap_cons, List.flatMap_append, ih]

/-- exactly one carrier of a duplicate-free key list has a given key of the list -/
theorem flatMap_unique_key (D : List δ) (kD : δ → κ) (hn : (D.map kD).Nodup) {k : κ} (hk : k ∈ D.map kD)
    (X : List γ) : D.flatMap (fun d => if kD d == k then X else []) = X := by
  induction D with
  | nil => cases hk
  | cons d D ih =>
    simp only [List.map_cons, List.nodup_cons] at hn
    simp only [List.flatMap_cons]
    by_cases hd : kD d = k
    · subst hd
      have hrest : D.flatMap (fun d' => if kD d' == kD d then X else []) = [] := by
        have : ∀ d' ∈ D, (if kD d' == kD d then X else []) = [] := by
          intro d' hd'
          have : kD d' ≠ kD d := fun e => hn.1 (e ▸ List.mem_map.mpr ⟨d', hd', rfl⟩)
          simp [this]
        rw [flatMap_congr_of_mem this]
        clear this ih hk hn
        induction D with
        | nil => rfl
        | cons _ _ ih => simp
      simp [hrest]
    · have : (kD d == k) = false := by simpa using hd
      simp only [this, Bool.false_eq_true, ↓reduceIte, List.nil_append]
      apply ih hn.2
      simp only [List.map_cons, List.mem_cons] at hk
      exact hk.resolve_left (fun e => hd e.symm)

theorem perm_partition_by_key (D : List δ) (kD : δ → κ) (hn : (D.map kD).Nodup) (ta : List α) (kA : α → κ)
    (hA : ∀ ra ∈ ta, kA ra ∈ D.map kD) (f : α → List γ) :
    (ta.flatMap f).Perm (D.flatMap (fun d => (ta.filter (fun ra => kD d == kA ra)).flatMap f)) := by
  induction ta with
  | nil =>
    have : D.flatMap (fun d => (([] : List α).filter (fun ra => kD d == kA ra)).flatMap f) = [] := by
      induction D with
      | nil => rfl
      | cons _ _ ih => simp
    rw [this]
    exact List.Perm.refl _
  | cons ra ta ih =>
    have hinner : ∀ d, ((ra :: ta).filter (fun ra => kD d == kA ra)).flatMap f =
        (if kD d == kA ra then f ra else []) ++ (ta.filter (fun ra => kD d == kA ra)).flatMap f := by
      intro d
      simp only [List.filter_cons]
      cases kD d == kA ra <;> simp
    simp only [List.flatMap_cons, hinner]
    refine List.Perm.trans ?_ (perm_flatMap_append _ _ D).symm
    rw [flatMap_unique_key D kD hn (hA ra List.mem_cons_self)]
    exact List.Perm.append_left _ (ih (fun r hr => hA r (List.mem_cons_of_mem _ hr)))

theorem filter_eq_nil_iff_any {l : List α} {p : α → Bool} : (l.filter p).isEmpty = !l.any p := by
  induction l with
  | nil => rfl
  | cons x l ih =>
    simp only [List.filter_cons, List.any_cons]
    cases p x <;> simp [ih]

/-- the block of one key in either join: the pairs, the unmatched `a`-elements, the unmatched `b`-elements -/
def keyBlock (ta : List α) (tb : List β) (kA : α → κ) (kB : β → κ) (k : κ) : List (Option α × Option β) :=
  ((ta.filter (fun ra => k == kA ra)).flatMap (fun ra =>
      (tb.filter (fun rb => k == kB rb)).map (fun rb => (some ra, some rb))))
  ++ (if !tb.any (fun rb => k == kB rb) then (ta.filter (fun ra => k == kA ra)).map (fun ra => (some ra, none)) else [])
  ++ (if !ta.any (fun ra => k == kA ra) then (tb.filter (fun rb => k == kB rb)).map (fun rb => (none, some rb)) else [])

def fullPairs (ta : List α) (tb : List β) (kA : α → κ) (kB : β → κ) : List (Option α × Option β) :=
  ta.flatMap (fun ra => (tb.filter (fun rb => kA ra == kB rb)).map (fun rb => (some ra, some rb)))
  ++ (ta.filter (fun ra => !tb.any (fun rb => kA ra == kB rb))).map (fun ra => (some ra, none))
  ++ (tb.filter (fun rb => !ta.any (fun ra => kA ra == kB rb))).map (fun rb => (none, some rb))

theorem beq_comm' (a b : κ) : (a == b) = (b == a) := by
  by_cases h : a = b
  · subst h; rfl
  · have h1 : (a == b) = false := by simpa using h
    have h2 : (b == a) = false := by simpa using fun e : b = a => h e.symm
    rw [h1, h2]

theorem fullPairs_perm_blocks (D : List δ) (kD : δ → κ) (hn : (D.map kD).Nodup) (ta : List α) (tb : List β)
    (kA : α → κ) (kB : β → κ) (hA : ∀ ra ∈ ta, kA ra ∈ D.map kD) (hB : ∀ rb ∈ tb, kB rb ∈ D.map kD) :
    (fullPairs ta tb kA kB).Perm (D.flatMap (fun d => keyBlock ta tb kA kB (kD d))) := by
  unfold fullPairs keyBlock
  refine List.Perm.trans ?_ (perm_flatMap_append _ _ D).symm
  refine List.Perm.append ?_ ?_
  · refine List.Perm.trans ?_ (perm_flatMap_append _ _ D).symm
    refine List.Perm.append ?_ ?_
    · refine (perm_partition_by_key D kD hn ta kA hA _).trans ?_
      apply List.Perm.of_eq
      apply flatMap_congr_of_mem
      intro d _
      apply flatMap_congr_of_mem
      intro ra hra
      have hk : kD d = kA ra := by simpa using (List.mem_filter.mp hra).2
      rw [hk]
    · rw [← flatMap_ite_singleton]
      refine (perm_partition_by_key D kD hn ta kA hA _).trans ?_
      apply List.Perm.of_eq
      apply flatMap_congr_of_mem
      intro d _
      rw [← flatMap_const_ite]
      apply flatMap_congr_of_mem
      intro ra hra
      have hk : kD d = kA ra := by simpa using (List.mem_filter.mp hra).2
      rw [hk]
  · rw [← flatMap_ite_singleton]
    refine (perm_partition_by_key D kD hn tb kB hB _).trans ?_
    apply List.Perm.of_eq
    apply flatMap_congr_of_mem
    intro d _
    rw [← flatMap_const_ite]
    apply flatMap_congr_of_mem
    intro rb hrb
    have hk : kD d = kB rb := by simpa using (List.mem_filter.mp hrb).2
    have : (ta.any fun ra => kA ra == kB rb) = (ta.any fun ra => kD d == kA ra) := by
      apply any_congr_of_mem
      intro ra _
      rw [hk, beq_comm']
    rw [this]

/-- `L ⟕ tb`; the emulation `(D ⟕ ta) ⟕ tb` is `leftPairs (leftPairs D ta kD kA) tb (fun r => kD r.1) kB` -/
def leftPairs (L : List δ) (tb : List β) (kL : δ → κ) (kB : β → κ) : List (δ × Option β) :=
  L.flatMap (fun r => (tb.filter (fun rb => kL r == kB rb)).map (fun rb => (r, some rb)))
  ++ (L.filter (fun r => !tb.any (fun rb => kL r == kB rb))).map (fun r => (r, none))

omit [LawfulBEq κ] in
theorem leftPairs_perm_blocks (D : List δ) (kD : δ → κ) (ta : List α) (tb : List β) (kA : α → κ) (kB : β → κ)
    (hcov : ∀ d ∈ D, (ta.any (fun ra => kD d == kA ra) || tb.any (fun rb => kD d == kB rb)) = true) :
    ((leftPairs (leftPairs D ta kD kA) tb (fun r => kD r.1) kB).map (fun t => (t.1.2, t.2))).Perm
      (D.flatMap (fun d => keyBlock ta tb kA kB (kD d))) := by
  unfold leftPairs keyBlock
  simp only [List.flatMap_append, List.filter_append, List.map_append, List.map_flatMap, List.map_map]
  -- (matched | unmatched in `ta`) × (matched | unmatched in `tb`); the last part is empty by `hcov`
  have p1 : (D.flatMap (fun d => (ta.filter (fun ra => kD d == kA ra)).map (fun ra => (d, some ra)))).flatMap
        (fun r => ((tb.filter (fun rb => kD r.1 == kB rb)).map
          ((fun t : (δ × Option α) × Option β => (t.1.2, t.2)) ∘ fun rb => (r, some rb)))) =
      D.flatMap (fun d => (ta.filter (fun ra => kD d == kA ra)).flatMap (fun ra =>
        (tb.filter (fun rb => kD d == kB rb)).map (fun rb => (some ra, some rb)))) := by
    rw [flatMap_flatMap']
    apply flatMap_congr_of_mem
    intro d _
    rw [List.flatMap_map]
    rfl
  have p2 : ((D.filter (fun d => !ta.any (fun ra => kD d == kA ra))).map (fun d => (d, (none : Option α)))).flatMap
        (fun r => ((tb.filter (fun rb => kD r.1 == kB rb)).map
          ((fun t : (δ × Option α) × Option β => (t.1.2, t.2)) ∘ fun rb => (r, some rb)))) =
      D.flatMap (fun d => if !ta.any (fun ra => kD d == kA ra) then
        (tb.filter (fun rb => kD d == kB rb)).map (fun rb => (none, some rb)) else []) := by
    rw [List.flatMap_map, filter_flatMap_ite]
    rfl
  have p3 : ((D.flatMap (fun d => (ta.filter (fun ra => kD d == kA ra)).map (fun ra => (d, some ra)))).filter
        (fun r => !tb.any (fun rb => kD r.1 == kB rb))).map
          ((fun t : (δ × Option α) × Option β => (t.1.2, t.2)) ∘ fun r => (r, none)) =
      D.flatMap (fun d => if !tb.any (fun rb => kD d == kB rb) then
        (ta.filter (fun ra => kD d == kA ra)).map (fun ra => (some ra, none)) else []) := by
    rw [← flatMap_ite_singleton, flatMap_flatMap']
    apply flatMap_congr_of_mem
    intro d _
    rw [List.flatMap_map, ← flatMap_const_ite]
    rfl
  have p4 : (((D.filter (fun d => !ta.any (fun ra => kD d == kA ra))).map (fun d => (d, (none : Option α)))).filter
        (fun r => !tb.any (fun rb => kD r.1 == kB rb))).map
          ((fun t : (δ × Option α) × Option β => (t.1.2, t.2)) ∘ fun r => (r, none)) = [] := by
    rw [List.map_eq_nil_iff, List.filter_eq_nil_iff]
    intro r hr
    obtain ⟨d, hd, rfl⟩ := List.mem_map.mp hr
    obtain ⟨hdD, hda⟩ := List.mem_filter.mp hd
    have := hcov d hdD
    simp only [Bool.not_eq_eq_eq_not, Bool.not_true] at hda
    rw [hda, Bool.false_or] at this
    simp [this]
  rw [p1, p2, p3, p4, List.append_nil]
  refine List.Perm.trans ?_ (perm_flatMap_append _ _ D).symm
  refine List.Perm.trans ?_ (List.Perm.append_right _ (perm_flatMap_append _ _ D).symm)
  rw [List.append_assoc, List.append_assoc]
  exact List.Perm.append_left _ List.perm_append_comm

theorem full_emulation_perm (D : List δ) (kD : δ → κ) (hn : (D.map kD).Nodup) (ta : List α) (tb : List β)
    (kA : α → κ) (kB : β → κ) (hA : ∀ ra ∈ ta, kA ra ∈ D.map kD) (hB : ∀ rb ∈ tb, kB rb ∈ D.map kD)
    (hcov : ∀ d ∈ D, (ta.any (fun ra => kD d == kA ra) || tb.any (fun rb => kD d == kB rb)) = true) :
    ((leftPairs (leftPairs D ta kD kA) tb (fun r => kD r.1) kB).map (fun t => (t.1.2, t.2))).Perm
      (fullPairs ta tb kA kB) :=
  (leftPairs_perm_blocks D kD ta tb kA kB hcov).trans (fullPairs_perm_blocks D kD hn ta tb kA kB hA hB).symm

omit [LawfulBEq κ] in
theorem leftPairs_consistent {L : List δ} {kL : δ → κ} {tb : List β} {kB : β → κ} {r : δ × Option β}
    (hr : r ∈ leftPairs L tb kL kB) :
    r.1 ∈ L ∧ (∀ rb, r.2 = some rb → rb ∈ tb ∧ (kL r.1 == kB rb) = true) ∧
      (r.2 = none → tb.any (fun rb => kL r.1 == kB rb) = false) := by
  simp only [leftPairs, List.mem_append, List.mem_flatMap, List.mem_map, List.mem_filter] at hr
  rcases hr with ⟨d, hd, rb, ⟨hrb, hk⟩, rfl⟩ | ⟨d, ⟨hd, hno⟩, rfl⟩
  · exact ⟨hd, fun rb' e => by cases e; exact ⟨hrb, hk⟩, fun e => nomatch e⟩
  · exact ⟨hd, fun _ e => (nomatch e), fun _ => Bool.not_eq_true' _ ▸ hno⟩

end Sql
end DAVerif
