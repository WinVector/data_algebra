import DAVerif.Proofs.Order
import DAVerif.Proofs.CData
import DAVerif.Spec.SqlSem
/-!
A kernel-evaluable copy of `semG` (`Sem/EvalG.lean`) for concrete instances.  `semG` sorts with `List.mergeSort`
(well-founded recursion: `decide` / `rfl` cannot evaluate it; `C01_nullorder_necessary_sqlite` sorts by hand).  `semGI`
is the same definition with the structurally recursive stable insertion sort `isort` (`CData/Record.lean`), and it
checks before each sort that no two different elements tie (an error if they do); then both sorts return THE sorted
permutation, so what `semGI` returns `semG` returns (`semG_of_semGI`, for every total and transitive comparison).
`semGI` reduces by `decide +kernel`: used for the necessity witnesses of `Props/C21sql.lean`, where the SQL result on
rows with NULL order keys has to be computed.
-/
namespace DAVerif
namespace Sol21Sql
open DAVerif.Sql
open DAVerif.CData (isort insSorted)

/-- no two different elements of the list tie -/
def tieFree {α : Type} [BEq α] (le : α → α → Bool) (l : List α) : Bool :=
  l.all (fun a => l.all (fun b => !(le a b && le b a) || a == b))

theorem mergeSort_eq_isort {α : Type} [BEq α] [LawfulBEq α] (le : α → α → Bool)
    (htr : ∀ a b c, le a b = true → le b c = true → le a c = true) (htot : ∀ a b, (le a b || le b a) = true)
    (l : List α) (h : tieFree le l = true) : l.mergeSort le = isort le l := by
  have hp : (l.mergeSort le).Perm (isort le l) := (List.mergeSort_perm l le).trans (CData.isort_perm le l).symm
  refine List.Perm.eq_of_pairwise (le := fun a b => le a b = true) ?_ (List.pairwise_mergeSort htr htot l)
    (CData.isort_sorted htr htot l) hp
  intro a b ha hb hab hba
  have ha' : a ∈ l := (List.mergeSort_perm l le).mem_iff.mp ha
  have hb' : b ∈ l := (CData.isort_perm le l).mem_iff.mp hb
  have := List.all_eq_true.mp (List.all_eq_true.mp h a ha') b hb'
  simpa [hab, hba] using this

def semOrderGI (le : RowCmp) (cs reverse : List String) (limit : Option Nat) (t : Table) : Table :=
  let s := isort (fun a b => le cs reverse a b) t.rows
  ⟨t.cols, match limit with | none => s | some n => s.take n⟩

def winCellI (le : RowCmp) (Θ : Interp) (partition order reverse : List String) (idx : List (Row × Nat))
    (ri : Row × Nat) (t : Term) : Val :=
  let part := idx.filter (fun rj => keyOf rj.1 partition == keyOf ri.1 partition)
  let sorted := isort (fun a b => le order reverse a.1 b.1) part
  let pos := sorted.findIdx (fun rj => rj.2 == ri.2)
  Θ.win (opName t) (constArgs t) (argValues t (sorted.map (·.1))) pos

def semExtendWindowGI (le : RowCmp) (Θ : Interp) (ops : Assign) (partition order reverse : List String) (t : Table)
    (outCols : List String) : Table :=
  let idx := t.rows.zipIdx
  ⟨outCols, idx.map (fun ri =>
    (ri.1.setAll (ops.map (fun kv => (kv.1, winCellI le Θ partition order reverse idx ri kv.2)))).select outCols)⟩

/-- every window of the step is tie free -/
def winTieFree (le : RowCmp) (partition order reverse : List String) (t : Table) : Bool :=
  t.rows.zipIdx.all (fun ri =>
    tieFree (fun (a b : Row × Nat) => le order reverse a.1 b.1)
      (t.rows.zipIdx.filter (fun rj => keyOf rj.1 partition == keyOf ri.1 partition)))

/-- `semG` with insertion sort, as far as no sort sees a tie between two different elements (an error otherwise) -/
def semGI (le : RowCmp) (Θ : Interp) (cfg : SemCfg) (env : Env) : Ops → Except Err Table
  | .table name cs =>
    match env.lookup name with
    | none => .error .valueError
    | some t => if subset cs t.cols then .ok (t.selectCols cs) else .error .valueError
  | n@(.extend src ops partition order reverse windowed) => do
    let t ← semGI le Θ cfg env src
    if windowed then
      if winTieFree le partition order reverse t then return semExtendWindowGI le Θ ops partition order reverse t n.cols
      else throw .other
    else return semExtendPlain Θ ops t n.cols
  | n@(.project src ops group) => do
    let t ← semGI le Θ cfg env src
    return semProject Θ ops group t n.cols
  | .selectRows src e => do
    let t ← semGI le Θ cfg env src
    return semSelectRows Θ e t
  | .selectCols src cs => do
    let t ← semGI le Θ cfg env src
    return t.selectCols cs
  | n@(.dropCols src _) => do
    let t ← semGI le Θ cfg env src
    return t.selectCols n.cols
  | .order src cs reverse limit => do
    let t ← semGI le Θ cfg env src
    if tieFree (fun a b => le cs reverse a b) t.rows then return semOrderGI le cs reverse limit t else throw .other
  | n@(.rename src m) => do
    let t ← semGI le Θ cfg env src
    let rev := m.map (fun kv => (kv.2, kv.1))
    return ⟨n.cols, t.rows.map (fun r => r.rename (fun c => (lookupLast rev c).getD c))⟩
  | n@(.mapCols src m dels) => do
    let t ← semGI le Θ cfg env src
    return ⟨n.cols, t.rows.map (fun r => (r.drop dels).rename (fun c => (lookupLast m c).getD c))⟩
  | n@(.join a b onA onB jt) => do
    let ta ← semGI le Θ cfg env a
    let tb ← semGI le Θ cfg env b
    return semJoin cfg jt onA onB ta tb (appendNew a.cols b.cols) |>.selectCols n.cols
  | n@(.concat a b idc an bn) => do
    let ta ← semGI le Θ cfg env a
    let tb ← semGI le Θ cfg env b
    return semConcat idc an bn ta tb n.cols
  | .convert src rm => do
    let t ← semGI le Θ cfg env src
    Θ.convert rm t

theorem winCell_eq_I {le : RowCmp} (hle : CmpOK le) (Θ : Interp) (partition order reverse : List String)
    (idx : List (Row × Nat)) (ri : Row × Nat)
    (h : tieFree (fun (a b : Row × Nat) => le order reverse a.1 b.1)
      (idx.filter (fun rj => keyOf rj.1 partition == keyOf ri.1 partition)) = true) (t : Term) :
    winCell le Θ partition order reverse idx ri t = winCellI le Θ partition order reverse idx ri t := by
  simp only [winCell, winCellI]
  rw [mergeSort_eq_isort _ (fun a b c => hle.trans order reverse a.1 b.1 c.1)
    (fun a b => hle.total order reverse a.1 b.1) _ h]

theorem semExtendWindowG_eq_I {le : RowCmp} (hle : CmpOK le) (Θ : Interp) (ops : Assign)
    (partition order reverse : List String) (t : Table) (outCols : List String)
    (h : winTieFree le partition order reverse t = true) :
    semExtendWindowG le Θ ops partition order reverse t outCols
      = semExtendWindowGI le Θ ops partition order reverse t outCols := by
  simp only [semExtendWindowG, semExtendWindowGI]
  refine congrArg (Table.mk outCols) (List.map_congr_left fun ri hri => ?_)
  simp only [winCell_eq_I hle Θ partition order reverse _ ri (List.all_eq_true.mp h ri hri)]

theorem semOrderG_eq_I {le : RowCmp} (hle : CmpOK le) (cs reverse : List String) (limit : Option Nat) (t : Table)
    (h : tieFree (fun a b => le cs reverse a b) t.rows = true) :
    semOrderG le cs reverse limit t = semOrderGI le cs reverse limit t := by
  simp only [semOrderG, semOrderGI]
  rw [mergeSort_eq_isort (fun a b => le cs reverse a b) (hle.trans cs reverse) (hle.total cs reverse) _ h]
  rfl

theorem bind_ok_imp {α β : Type} {x y : Except Err α} {f g : α → Except Err β} {b : β}
    (hx : ∀ a, x = .ok a → y = .ok a) (hf : ∀ a, f a = .ok b → g a = .ok b) (h : x >>= f = .ok b) :
    y >>= g = .ok b := by
  cases x with
  | error e => cases h
  | ok a => rw [hx a rfl]; exact hf a h

theorem semG_of_semGI {le : RowCmp} (hle : CmpOK le) (Θ : Interp) (cfg : SemCfg) (env : Env) (p : Ops) :
    ∀ t, semGI le Θ cfg env p = .ok t → semG le Θ cfg env p = .ok t := by
  induction p with
  | table name cs => exact fun t h => h
  | extend src ops part od rv w ih =>
    intro t h
    simp only [semGI] at h
    simp only [semG]
    refine bind_ok_imp ih (fun t' h' => ?_) h
    cases w with
    | false => exact h'
    | true =>
      simp only [if_true] at h' ⊢
      split at h'
      next htf => rw [semExtendWindowG_eq_I hle Θ ops part od rv t' _ htf]; exact h'
      next => cases h'
  | order src cs rv lim ih =>
    intro t h
    simp only [semGI] at h
    simp only [semG]
    refine bind_ok_imp ih (fun t' h' => ?_) h
    split at h'
    next htf => rw [semOrderG_eq_I hle cs rv lim t' htf]; exact h'
    next => cases h'
  | project src _ _ ih | selectRows src _ ih | selectCols src _ ih | dropCols src _ ih | rename src _ ih
  | mapCols src _ _ ih | convert src _ ih =>
    intro t h
    simp only [semGI] at h
    simp only [semG]
    exact bind_ok_imp ih (fun _ h' => h') h
  | join a b _ _ _ iha ihb | concat a b _ _ _ iha ihb =>
    intro t h
    simp only [semGI] at h
    simp only [semG]
    exact bind_ok_imp iha (fun _ h' => bind_ok_imp ihb (fun _ h'' => h'') h') h

end Sol21Sql
end DAVerif
