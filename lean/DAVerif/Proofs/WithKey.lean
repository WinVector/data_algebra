import DAVerif.Proofs.WithSound
/-!
CTE-cache keys (property C04): "equal up to the numbering of query names" implies "same semantics" (`semNear_unname`);
a syntactic sufficient condition (`ShapeDet`) for `KeyOK` – keys faithful and closed, the hypothesis of the theorem about
the stub before fix N28 (`toWithFormOld_sound`).  Its first half `KeyOK.faith` is `KeyFaith`, the hypothesis of the
theorem about the code as it is (`toWithFormG_sound`).
-/
namespace DAVerif.Sql
open DAVerif

/-- the tree with the generated query names (and join aliases) erased; keys, columns and terms are kept -/
def Near.unname : Near → Near
  | .table n ts => .table n ts
  | .cte n => .cte n
  | .unary _ ts agg sub sc sf mg deps k => .unary "" ts agg sub.unname sc sf mg deps k
  | .join _ ts l lc _ r rc _ jt oa ob k => .join "" ts l.unname lc "" r.unname rc "" jt oa ob k
  | .union _ ts l r cs k => .union "" ts l.unname r.unname cs k

section
variable (Θ : Interp) (ec : EngineCfg) (env : Env)

theorem semNear_unname (ctes : List (String × Table)) (q : Near) :
    ∀ cols f, semNear Θ ec env ctes q cols f = semNear Θ ec env ctes q.unname cols f := by
  induction q with
  | table n ts => intro cols f; rfl
  | cte n => intro cols f; rfl
  | unary name terms agg sub sc sf mg deps k ih =>
    intro cols f
    exact semNear_unary_congr Θ ec (ih sc false)
  | join name terms l lc ln r rc rn jt oa ob k ihl ihr =>
    intro cols f
    exact semNear_join_congr Θ ec (ihl (some lc) false) (ihr (some rc) false)
  | union name terms l r cs k ihl ihr =>
    intro cols f
    exact semNear_union_congr Θ ec (ihl (some cs) true) (ihr (some cs) true)

/-- `force_sql` only matters on table-like nodes -/
theorem semNear_force (ctes : List (String × Table)) (q : Near) (h : ¬ q.isTable = true) (cols : Option (List String))
    (f f' : Bool) : semNear Θ ec env ctes q cols f = semNear Θ ec env ctes q cols f' := by
  cases q with
  | table n ts => exact absurd rfl h
  | cte n => exact absurd rfl h
  | unary => rfl
  | join => rfl
  | union => rfl
end

theorem unname_isTable (q : Near) : q.unname.isTable = q.isTable := by cases q <;> rfl

theorem unname_key (q : Near) : q.unname.key = q.key := by cases q <;> rfl

theorem desc_unname (q : Near) : q.unname.desc = q.desc.map (fun x => (x.1.unname, x.2.1, x.2.2)) := by
  have stub : ∀ (n : Near) (c : Option (List String)) (f : Bool),
      n.unname.desc = n.desc.map (fun x => (x.1.unname, x.2.1, x.2.2)) →
      bdesc n.unname c f = (bdesc n c f).map (fun x => (x.1.unname, x.2.1, x.2.2)) := by
    intro n c f ih
    rw [bdesc, bdesc, unname_isTable, ih, List.map_append]
    split <;> rfl
  induction q with
  | table n ts => rfl
  | cte n => rfl
  | unary name terms agg sub sc sf mg deps k ih => exact stub sub sc false ih
  | join name terms l lc ln r rc rn jt oa ob k ihl ihr =>
    rw [desc_join, List.map_append, ← stub l _ _ ihl, ← stub r _ _ ihr]; rfl
  | union name terms l r cs k ihl ihr =>
    rw [desc_union, List.map_append, ← stub l _ _ ihl, ← stub r _ _ ihr]; rfl

/-- **the key determines the sub-query up to the numbering of query names** (syntactic condition) -/
def ShapeDet (q : Near) : Prop :=
  ∀ x ∈ q.desc, ∀ y ∈ q.desc, cacheKey x.1 x.2.1 = cacheKey y.1 y.2.1 → x.1.unname = y.1.unname ∧ x.2.1 = y.2.1

theorem ShapeDet.of_pairwise {q : Near} (h : q.desc.Pairwise fun x y =>
    cacheKey x.1 x.2.1 = cacheKey y.1 y.2.1 → x.1.unname = y.1.unname ∧ x.2.1 = y.2.1) : ShapeDet q :=
  fun _ hx _ hy => List.Pairwise.forall_of_forall_of_flip (fun _ _ _ => ⟨rfl, rfl⟩) h
    (h.imp fun hxy he => ⟨(hxy he.symm).1.symm, (hxy he.symm).2.symm⟩) hx hy

/-- if equal cache keys mean "same sub-tree up to query names, bound with the same columns", the key function of the
code is faithful and closed on `q`, for every interpretation, engine and environment -/
theorem KeyOK_of_shape (Θ : Interp) (ec : EngineCfg) (env : Env) (q : Near) (h : ShapeDet q) :
    KeyOK Θ ec env cacheKey q := by
  constructor
  · intro x hx y hy he
    obtain ⟨h1, h2⟩ := h x hx y hy he
    unfold den
    rw [semNear_unname, semNear_unname Θ ec env [] y.1, h1, h2]
    apply semNear_force
    rw [unname_isTable]
    exact desc_not_isTable q y hy
  · intro x hx y hy he m hm
    obtain ⟨h1, -⟩ := h x hx y hy he
    have hm' : (m.1.unname, m.2.1, m.2.2) ∈ x.1.unname.desc := by
      rw [desc_unname]; exact List.mem_map.mpr ⟨m, hm, rfl⟩
    rw [h1, desc_unname, List.mem_map] at hm'
    obtain ⟨m0, hm0, he0⟩ := hm'
    refine ⟨m0, hm0, ?_⟩
    simp only [Prod.mk.injEq] at he0
    simp only [bkey, cacheKey]
    rw [← unname_key m0.1, ← unname_key m.1, he0.1, he0.2.1]

end DAVerif.Sql
