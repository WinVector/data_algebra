import DAVerif.Proofs.BuilderReach
import DAVerif.Proofs.EqSqlBuild
import DAVerif.Proofs.RenameNear
/-!
C11, SQL half, generator layer: `toNear` (Sql/ToNearSql.lean) does not look at the `method` flag of the expressions it
carries: the translation of `p.erase` is the translation of `p` with the flags of the carried expressions forgotten,
with the same generated query names and the same counter, **except for the `ops_key` strings** (these are
`str(node)`-texts and do contain the printing form).  This is `Ren.toNearSql_map` (Proofs/RenameNear.lean) at `eraseMap`
(Proofs/EraseMap.lean).
-/
namespace DAVerif
namespace C11Sql

open DAVerif.Sql
open DAVerif.Ren (NodeMap)

theorem eraseMap_term : eraseMap.term = STerm.eraseM := by
  funext t
  cases t with
  | expr t w => cases w <;> simp [NodeMap.term, STerm.eraseM, eraseMap_expr, eraseMap_col, Win.rename]
  | _ => rfl

theorem eraseMap_suffix : eraseMap.suffix = Suffix.eraseM := by
  funext sf
  cases sf <;> simp [NodeMap.suffix, Suffix.eraseM, eraseMap_expr, eraseMap_col]

theorem eraseMap_terms : eraseMap.terms = Terms.eraseM := by
  funext ts
  rw [NodeMap.terms, eraseMap_term]
  rfl

theorem eraseMap_near : eraseMap.near = Near.eraseM := by
  funext n
  induction n with
  | table _ _ | cte _ => simp [NodeMap.near, Near.eraseM, eraseMap_col, eraseMap_tab]
  | unary name terms agg sub subCols suffix mg deps key ih =>
    simp [NodeMap.near, Near.eraseM, ih, eraseMap_terms, eraseMap_suffix, eraseMap_col]
  | join name terms l lc ln r rc rn jt oa ob key ihl ihr | union name terms l r cols key ihl ihr =>
    simp [NodeMap.near, Near.eraseM, ihl, ihr, eraseMap_terms, eraseMap_col]

theorem toNearSql_erase (cfg : SqlCfg) (p : Ops) :
    (toNearSql cfg p.erase).map Near.eraseKeys = (toNearSql cfg p).map Near.sqlShape := by
  have h := Ren.toNearSql_map cfg eraseMap_blind p
  rw [eraseMap_ops, eraseMap_near] at h
  exact h

end C11Sql
end DAVerif
