import DAVerif.Ops.UsedDag
import DAVerif.Proofs.UsedSem
/-!
The shared-object (`DAG`) computation of `columns_used` is a `Run`: at a node object visited for the second time the
accumulated record – a superset of the request – is what is passed on, and it stays inside the node's columns because
one object has one `column_names` (`Labeled`, decided by `idsConsistent`).  Hence everything proved for runs
(`sem_narrow_agree`) holds for reports computed on DAGs.
-/
namespace DAVerif
open Ops

def RecsIn (m : Nat → List String) (recs : Recs) : Prop := ∀ i cs, (i, cs) ∈ recs → ∀ c ∈ cs, c ∈ m i

/-- `m` gives, for every object id of the tree, that object's column set -/
def Labeled (m : Nat → List String) (p : Ops) (ids : IdTree) : Prop :=
  ∀ x ∈ labelPairs p ids, ∀ c, c ∈ m x.1 ↔ c ∈ x.2

theorem lookup_mem {P : List (Nat × List String)} {i : Nat} {cs : List String} (h : P.lookup i = some cs) :
    (i, cs) ∈ P := by
  induction P with
  | nil => simp at h
  | cons x P ih =>
    obtain ⟨j, ds⟩ := x
    simp only [List.lookup_cons] at h
    split at h
    · rename_i e
      have : i = j := by simpa using e
      cases h; subst this; exact List.mem_cons_self
    · exact List.mem_cons_of_mem _ (ih h)

theorem lookup_of_mem {P : List (Nat × List String)} {i : Nat} {cs : List String} (h : (i, cs) ∈ P) :
    ∃ cs0, P.lookup i = some cs0 := by
  induction P with
  | nil => cases h
  | cons x P ih =>
    obtain ⟨j, ds⟩ := x
    simp only [List.lookup_cons]
    by_cases e : i == j
    · simp [e]
    · simp only [e]
      rcases List.mem_cons.mp h with h1 | h1
      · cases h1; simp at e
      · exact ih h1

theorem RecsIn.get {m : Nat → List String} {recs : Recs} (h : RecsIn m recs) (i : Nat) :
    ∀ c ∈ recs.get i, c ∈ m i := by
  intro c hc
  simp only [Recs.get] at hc
  cases e : recs.lookup i with
  | none => simp [e] at hc
  | some cs =>
    simp only [e, Option.getD_some] at hc
    exact h i cs (lookup_mem e) c hc

theorem RecsIn.cons {m : Nat → List String} {recs : Recs} (h : RecsIn m recs) {i : Nat} {cs : List String}
    (hcs : ∀ c ∈ cs, c ∈ m i) : RecsIn m ((i, cs) :: recs) := by
  intro j ds hj c hc
  rcases List.mem_cons.mp hj with e | e
  · cases e; exact hcs c hc
  · exact h j ds e c hc

/-!
A node with one source succeeds only at a `.un` position of the id tree, one with two only at a `.bin` position. -/

theorem columnsUsedDag_un {n s : Ops} (hn : n.sources = [s]) (ids : IdTree) (u : List String) (recs : Recs)
    (acc : Used) :
    columnsUsedDag n ids u recs acc = match ids with
      | .un i k => ok? (subset u n.cols) .valueError >>= fun _ =>
          columnsUsedDag s k ((usedFromSources n (unionL (recs.get i) u)).headD [])
            ((i, unionL (recs.get i) u) :: recs) acc
      | _ => .error .other := by
  cases n <;> cases hn <;> cases ids <;> rfl

theorem columnsUsedDag_bin {n a b : Ops} (hn : n.sources = [a, b]) (ids : IdTree) (u : List String) (recs : Recs)
    (acc : Used) :
    columnsUsedDag n ids u recs acc = match ids with
      | .bin i ka kb => ok? (subset u n.cols) .valueError >>= fun _ =>
          columnsUsedDag a ka ((usedFromSources n (unionL (recs.get i) u)).headD [])
            ((i, unionL (recs.get i) u) :: recs) acc >>= fun ra =>
          columnsUsedDag b kb (((usedFromSources n (unionL (recs.get i) u)).drop 1).headD []) ra.1 ra.2
      | _ => .error .other := by
  cases n <;> cases hn <;> cases ids <;> rfl

theorem labelPairs_un {n s : Ops} (hn : n.sources = [s]) (i : Nat) (k : IdTree) :
    labelPairs n (.un i k) = (i, n.cols) :: labelPairs s k := by
  cases n <;> cases hn <;> rfl

theorem labelPairs_bin {n a b : Ops} (hn : n.sources = [a, b]) (i : Nat) (ka kb : IdTree) :
    labelPairs n (.bin i ka kb) = (i, n.cols) :: (labelPairs a ka ++ labelPairs b kb) := by
  cases n <;> cases hn <;> rfl

/-- **the DAG computation is a run**: the accumulated record handed to `usedFromSources` contains the request and,
the object having one column set, lies inside the node's columns -/
theorem dag_run (m : Nat → List String) (p : Ops) : ∀ (ids : IdTree) (u : List String) (recs : Recs) (acc : Used)
    (r : Recs × Used), Labeled m p ids → RecsIn m recs → columnsUsedDag p ids u recs acc = .ok r →
    Run p u acc r.2 ∧ RecsIn m r.1 := by
  have hcrec : ∀ {n : Ops} {i : Nat} {u : List String} {recs : Recs}, (∀ c, c ∈ m i ↔ c ∈ n.cols) → RecsIn m recs →
      (∀ c ∈ u, c ∈ n.cols) → ∀ c ∈ unionL (recs.get i) u, c ∈ m i := by
    intro n i u recs hm hr hs c hc
    rcases mem_unionL.mp hc with h1 | h1
    · exact hr.get i c h1
    · exact (hm c).mpr (hs c h1)
  induction p using Ops.sources_induction with
  | table k cs =>
    intro ids u recs acc r _ hr h
    cases ids <;> simp only [columnsUsedDag] at h
    · obtain ⟨hs, h⟩ := ok?_bind_ok.mp h
      cases h
      exact ⟨⟨subset_iff.mp hs, rfl⟩, hr⟩
    · cases h
    · cases h
  | un n s hn ih =>
    intro ids u recs acc r hl hr h
    rw [columnsUsedDag_un hn] at h
    cases ids with
    | leaf _ => cases h
    | bin _ _ _ => cases h
    | un i k =>
      obtain ⟨hs, h⟩ := ok?_bind_ok.mp h
      rw [Labeled, labelPairs_un hn, List.forall_mem_cons] at hl
      have hc := hcrec hl.1 hr (subset_iff.mp hs)
      obtain ⟨hrun, hr'⟩ := ih k _ _ acc r hl.2 (hr.cons hc) h
      exact ⟨(run_un hn).mpr ⟨_, fun c hc => mem_unionL.mpr (.inr hc), fun c h => (hl.1 c).mp (hc c h), hrun⟩, hr'⟩
  | bin n a b hn iha ihb =>
    intro ids u recs acc r hl hr h
    rw [columnsUsedDag_bin hn] at h
    cases ids with
    | leaf _ => cases h
    | un _ _ => cases h
    | bin i ka kb =>
      obtain ⟨hs, h⟩ := ok?_bind_ok.mp h
      obtain ⟨ra, h1, h2⟩ := bind_eq_ok.mp h
      rw [Labeled, labelPairs_bin hn, List.forall_mem_cons, List.forall_mem_append] at hl
      have hc := hcrec hl.1 hr (subset_iff.mp hs)
      obtain ⟨hruna, hra⟩ := iha ka _ _ acc ra hl.2.1 (hr.cons hc) h1
      obtain ⟨hrunb, hrb⟩ := ihb kb _ _ ra.2 r hl.2.2 hra h2
      exact ⟨(run_bin hn).mpr ⟨_, ra.2, fun c hc => mem_unionL.mpr (.inr hc), fun c h => (hl.1 c).mp (hc c h),
        hruna, hrunb⟩, hrb⟩

/-- consistent ids give a labelling: look the object's columns up among the pairs -/
theorem labeled_of_consistent {p : Ops} {ids : IdTree} (h : idsConsistent p ids = true) :
    ∃ m, Labeled m p ids := by
  simp only [idsConsistent, Bool.and_eq_true, List.all_eq_true, Bool.or_eq_true, bne_iff_ne, ne_eq] at h
  refine ⟨fun i => ((labelPairs p ids).lookup i).getD [], ?_⟩
  intro x hx c
  obtain ⟨cs0, h0⟩ := lookup_of_mem hx
  show c ∈ ((labelPairs p ids).lookup x.1).getD [] ↔ _
  rw [h0, Option.getD_some]
  rcases h.2 (x.1, cs0) (lookup_mem h0) x hx with h1 | h1
  · exact absurd rfl h1
  · exact ⟨fun hc => subset_iff.mp h1.1 c hc, fun hc => subset_iff.mp h1.2 c hc⟩

theorem run_of_shared {p : Ops} {ids : IdTree} {U : Used} (hc : idsConsistent p ids = true)
    (h : columnsUsedShared p ids = .ok U) :
    Run p p.cols ((p.tables.map (·.1)).eraseDups.map (fun k => (k, []))) U := by
  obtain ⟨m, hm⟩ := labeled_of_consistent hc
  obtain ⟨r, h1, h2⟩ := bind_eq_ok.mp h
  cases h2
  exact (dag_run m p ids _ _ _ r hm (fun _ _ hx => by cases hx) h1).1

end DAVerif
