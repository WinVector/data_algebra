import DAVerif.Proofs.SolComb
/-!
The counting argument behind `last_observed_carried_forward`: positions `0 … n-1` carry a strict total order
`before`, a partition `sameP` and a flag `nn` ("value not missing").  `cnt i` counts the flagged positions of `i`'s
partition at or before `i`.  Then two flagged positions of one partition have different counts, and for an unflagged
position `i` the flagged position of its partition with the same count is the latest flagged position before `i`.
-/
namespace DAVerif.Sol.Locf

theorem countP_lt_of_imp {α : Type} {p q : α → Bool} {l : List α} (h : ∀ x ∈ l, p x = true → q x = true)
    {a : α} (ha : a ∈ l) (hqa : q a = true) (hpa : p a = false) : l.countP p < l.countP q := by
  have hsplit : l.countP q = l.countP p + l.countP (fun x => q x && !p x) := by
    rw [← Sol.countP_or_excl p (fun x => q x && !p x) l (fun x _ hx => by
      rcases hx with ⟨h1, h2⟩
      rw [h1] at h2
      simp at h2)]
    apply List.countP_congr
    intro x hx
    have := h x hx
    cases hp : p x <;> cases hq : q x <;> simp_all
  have hpos : 0 < l.countP (fun x => q x && !p x) :=
    List.countP_pos_iff.mpr ⟨a, ha, by rw [hqa, hpa]; rfl⟩
  omega

theorem find?_congr_mem {α : Type} {p q : α → Bool} {l : List α} (h : ∀ x ∈ l, p x = q x) :
    l.find? p = l.find? q := by
  induction l with
  | nil => rfl
  | cons a l ih =>
    simp only [List.find?_cons, h a List.mem_cons_self, ih (fun x hx => h x (List.mem_cons_of_mem _ hx))]

theorem filter_range_eq_single {n i : Nat} {p : Nat → Bool} (hi : i < n) (hp : p i = true)
    (hu : ∀ j, j < n → p j = true → j = i) : (List.range n).filter p = [i] := by
  induction n with
  | zero => omega
  | succ n ih =>
    rw [List.range_succ, List.filter_append]
    by_cases e : i = n
    · subst e
      have h1 : (List.range i).filter p = [] := by
        rw [List.filter_eq_nil_iff]
        intro j hj hpj
        have := List.mem_range.mp hj
        have := hu j (by omega) hpj
        omega
      simp [h1, hp]
    · have hi' : i < n := by omega
      have h1 := ih hi' (fun j hj hpj => hu j (by omega) hpj)
      have h2 : p n = false := by
        cases h : p n with
        | false => rfl
        | true => exact absurd (hu n (by omega) h) (fun e' => e e'.symm)
      simp [h1, h2]

theorem filter_range_length_le_one {n : Nat} {p : Nat → Bool}
    (hu : ∀ j k, j < n → k < n → p j = true → p k = true → j = k) : ((List.range n).filter p).length ≤ 1 := by
  by_cases h : ∃ i, i < n ∧ p i = true
  · obtain ⟨i, hi, hp⟩ := h
    rw [filter_range_eq_single hi hp (fun j hj hpj => hu j i hj hi hpj hp)]
    simp
  · have : (List.range n).filter p = [] := by
      rw [List.filter_eq_nil_iff]
      intro j hj hpj
      exact h ⟨j, List.mem_range.mp hj, hpj⟩
    simp [this]

section
variable (n : Nat) (before sameP : Nat → Nat → Bool) (nn : Nat → Bool)

/-- `before` is a strict total order on the positions below `n`, `sameP` an equivalence -/
structure Ord : Prop where
  irrefl : ∀ i, before i i = false
  trans : ∀ i j k, i < n → j < n → k < n → before i j = true → before j k = true → before i k = true
  total : ∀ i j, i < n → j < n → i ≠ j → before i j = true ∨ before j i = true
  prefl : ∀ i, sameP i i = true
  psymm : ∀ i j, sameP i j = true → sameP j i = true
  ptrans : ∀ i j k, sameP i j = true → sameP j k = true → sameP i k = true

/-- the number of flagged positions of `i`'s partition at or before `i` -/
def cnt (i : Nat) : Nat := (List.range n).countP (fun k => sameP k i && nn k && !before i k)

/-- flagged positions of `i`'s partition strictly before `i` -/
def cands (i : Nat) : List Nat := (List.range n).filter (fun j => sameP j i && nn j && before j i)

/-- flagged positions of `i`'s partition with the same count as `i` -/
def hits (i : Nat) : List Nat :=
  (List.range n).filter (fun j => nn j && sameP j i && (cnt n before sameP nn j == cnt n before sameP nn i))

variable {n before sameP nn} (ho : Ord n before sameP)
include ho

theorem not_before_of_before {i j : Nat} (hi : i < n) (hj : j < n) (h : before i j = true) : before j i = false := by
  cases h' : before j i with
  | false => rfl
  | true =>
    have := ho.trans i j i hi hj hi h h'
    rw [ho.irrefl] at this
    cases this

theorem cnt_lt {i j : Nat} (hi : i < n) (hj : j < n) (hb : before i j = true) (hs : sameP i j = true)
    (hnj : nn j = true) : cnt n before sameP nn i < cnt n before sameP nn j := by
  unfold cnt
  apply countP_lt_of_imp (a := j)
  · intro k hk hpk
    have hkn := List.mem_range.mp hk
    simp only [Bool.and_eq_true, Bool.not_eq_true'] at hpk ⊢
    obtain ⟨⟨h1, h2⟩, h3⟩ := hpk
    refine ⟨⟨ho.ptrans k i j h1 hs, h2⟩, ?_⟩
    cases h : before j k with
    | false => rfl
    | true =>
      have := ho.trans i j k hi hj hkn hb h
      rw [this] at h3
      cases h3
  · exact List.mem_range.mpr hj
  · simp [ho.prefl, hnj, ho.irrefl]
  · simp [hb]

theorem cnt_inj {i j : Nat} (hi : i < n) (hj : j < n) (hs : sameP i j = true) (hni : nn i = true)
    (hnj : nn j = true) (hc : cnt n before sameP nn i = cnt n before sameP nn j) : i = j := by
  by_cases e : i = j
  · exact e
  · exfalso
    rcases ho.total i j hi hj e with h | h
    · have := cnt_lt ho hi hj h hs hnj
      omega
    · have := cnt_lt ho hj hi h (ho.psymm _ _ hs) hni
      omega

theorem before_of_cnt_eq {i j : Nat} (hi : i < n) (hj : j < n) (hs : sameP j i = true) (hni : nn i = false)
    (hnj : nn j = true) (hc : cnt n before sameP nn j = cnt n before sameP nn i) : before j i = true := by
  have hne : j ≠ i := by
    intro e; subst e; rw [hni] at hnj; cases hnj
  rcases ho.total j i hj hi hne with h | h
  · exact h
  · exfalso
    have := cnt_lt ho hi hj h (ho.psymm _ _ hs) hnj
    omega

theorem hits_eq_cands_filter {i : Nat} (hi : i < n) (hni : nn i = false) :
    hits n before sameP nn i =
      (cands n before sameP nn i).filter (fun j => cnt n before sameP nn j == cnt n before sameP nn i) := by
  unfold hits cands
  rw [List.filter_filter]
  apply List.filter_congr
  intro j hj
  have hjn := List.mem_range.mp hj
  cases hnj : nn j <;> cases hs : sameP j i <;> cases hc : (cnt n before sameP nn j == cnt n before sameP nn i) <;>
    simp
  exact before_of_cnt_eq ho hi hjn hs hni hnj (by simpa using hc)

theorem cnt_unflagged {i : Nat} (hi : i < n) (hni : nn i = false) :
    cnt n before sameP nn i = (cands n before sameP nn i).length := by
  unfold cnt cands
  rw [← List.countP_eq_length_filter]
  apply List.countP_congr
  intro k hk
  have hkn := List.mem_range.mp hk
  simp only [Bool.and_eq_true, Bool.not_eq_true']
  constructor
  · rintro ⟨⟨hs, hnk⟩, hb⟩
    refine ⟨⟨hs, hnk⟩, ?_⟩
    have hne : k ≠ i := by
      intro e; subst e; rw [hni] at hnk; cases hnk
    rcases ho.total k i hkn hi hne with h' | h'
    · exact h'
    · rw [h'] at hb; cases hb
  · rintro ⟨⟨hs, hnk⟩, hb⟩
    exact ⟨⟨hs, hnk⟩, not_before_of_before ho hkn hi hb⟩

theorem cnt_cand {i j : Nat} (hi : i < n) (hj : j ∈ cands n before sameP nn i) :
    cnt n before sameP nn j = (cands n before sameP nn i).countP (fun k => !before j k) := by
  have hj' := List.mem_filter.mp hj
  have hjn := List.mem_range.mp hj'.1
  simp only [Bool.and_eq_true] at hj'
  obtain ⟨_, ⟨hsj, hnj⟩, hbj⟩ := hj'
  unfold cnt cands
  rw [List.countP_filter]
  apply List.countP_congr
  intro k hk
  have hkn := List.mem_range.mp hk
  simp only [Bool.and_eq_true, Bool.not_eq_true']
  constructor
  · rintro ⟨⟨hs, hnk⟩, hb⟩
    refine ⟨hb, ⟨ho.ptrans k j i hs hsj, hnk⟩, ?_⟩
    by_cases e : k = j
    · subst e; exact hbj
    · rcases ho.total k j hkn hjn e with h | h
      · exact ho.trans k j i hkn hjn hi h hbj
      · rw [h] at hb; cases hb
  · rintro ⟨hb, ⟨hs, hnk⟩, _⟩
    exact ⟨⟨ho.ptrans k i j hs (ho.psymm _ _ hsj), hnk⟩, hb⟩

/-- **The candidate with the count of `i` is the latest candidate.** -/
theorem latest_iff {i j : Nat} (hi : i < n) (hni : nn i = false) (hj : j ∈ cands n before sameP nn i) :
    (cands n before sameP nn i).all (fun k => k == j || before k j)
      = (cnt n before sameP nn j == cnt n before sameP nn i) := by
  have hjn := List.mem_range.mp (List.mem_filter.mp hj).1
  rw [cnt_cand ho hi hj, cnt_unflagged ho hi hni]
  rw [Bool.eq_iff_iff]
  simp only [List.all_eq_true, Bool.or_eq_true, beq_iff_eq]
  rw [List.countP_eq_length]
  constructor
  · intro h k hk
    have hkn := List.mem_range.mp (List.mem_filter.mp hk).1
    rcases h k hk with e | hb
    · subst e; simp [ho.irrefl]
    · simp [not_before_of_before ho hkn hjn hb]
  · intro h k hk
    have hkn := List.mem_range.mp (List.mem_filter.mp hk).1
    have := h k hk
    simp only [Bool.not_eq_true'] at this
    by_cases e : k = j
    · exact Or.inl e
    · rcases ho.total k j hkn hjn e with h' | h'
      · exact Or.inr h'
      · rw [h'] at this; cases this

theorem hits_length_le_one (i : Nat) : (hits n before sameP nn i).length ≤ 1 := by
  unfold hits
  apply filter_range_length_le_one
  intro j k hj hk hpj hpk
  simp only [Bool.and_eq_true, beq_iff_eq] at hpj hpk
  exact cnt_inj ho hj hk (ho.ptrans _ _ _ hpj.1.2 (ho.psymm _ _ hpk.1.2)) hpj.1.1 hpk.1.1 (hpj.2.trans hpk.2.symm)

/-- what the spec's search finds is the head of the match list -/
theorem find_latest_eq {i : Nat} (hi : i < n) (hni : nn i = false) :
    (cands n before sameP nn i).find? (fun j => (cands n before sameP nn i).all (fun k => k == j || before k j))
      = (hits n before sameP nn i).head? := by
  rw [hits_eq_cands_filter ho hi hni, List.head?_filter]
  apply find?_congr_mem
  intro j hj
  exact latest_iff ho hi hni hj

end

end DAVerif.Sol.Locf
