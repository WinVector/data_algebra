/-!
Texts that can be read back: prefix codes on `List Char`.  `Pre P f`: from a text `f a ++ r` (with a continuation `r`
satisfying `P`) both `a` and `r` can be read off.  Three ways to build such codes: a run of characters of one class before
a character outside it (`span_unique`); a string written character by character through an escaping map and closed by a
terminator, given a reader for one escaped character (`flatMap_term_unique`); a bracketed list with a separator
(`encL_cancel`).  Beside them `map_inj_on`: a list mapped by a function that is injective where a predicate holds.
-/
namespace DAVerif.Code

theorem map_inj_on {α β : Type} {f : α → β} {P : α → Prop} (hf : ∀ a b, P a → P b → f a = f b → a = b) :
    ∀ {l1 l2 : List α}, (∀ a ∈ l1, P a) → (∀ a ∈ l2, P a) → l1.map f = l2.map f → l1 = l2
  | [], [], _, _, _ => rfl
  | [], _ :: _, _, _, h => by simp at h
  | _ :: _, [], _, _, h => by simp at h
  | a :: l1, b :: l2, h1, h2, h => by
    simp only [List.map_cons, List.cons.injEq] at h
    have hab := hf a b (h1 a List.mem_cons_self) (h2 b List.mem_cons_self) h.1
    have := map_inj_on hf (fun a ha => h1 a (List.mem_cons_of_mem _ ha))
      (fun a ha => h2 a (List.mem_cons_of_mem _ ha)) h.2
    rw [hab, this]

def Pre {α : Type} (P : List Char → Prop) (f : α → List Char) : Prop :=
  ∀ a b r1 r2, P r1 → P r2 → f a ++ r1 = f b ++ r2 → a = b ∧ r1 = r2

theorem span_unique {α : Type} {P : α → Prop} {l1 l2 r1 r2 : List α} (h1 : ∀ a ∈ l1, P a) (h2 : ∀ a ∈ l2, P a)
    (hr1 : ∀ x t, r1 = x :: t → ¬ P x) (hr2 : ∀ x t, r2 = x :: t → ¬ P x) (h : l1 ++ r1 = l2 ++ r2) :
    l1 = l2 ∧ r1 = r2 := by
  induction l1 generalizing l2 with
  | nil =>
    cases l2 with
    | nil => exact ⟨rfl, h⟩
    | cons b l2 => exact absurd (h2 b List.mem_cons_self) (hr1 b _ h)
  | cons a l1 ih =>
    cases l2 with
    | nil => exact absurd (h1 a List.mem_cons_self) (hr2 a _ h.symm)
    | cons b l2 =>
      obtain ⟨hab, h⟩ := List.cons.inj h
      obtain ⟨hl, hr⟩ := ih (fun a ha => h1 a (List.mem_cons_of_mem _ ha)) (fun a ha => h2 a (List.mem_cons_of_mem _ ha)) h
      exact ⟨by rw [hab, hl], hr⟩

theorem flatMap_term_unique {α : Type} {enc : α → List Char} {q : Char} {dec : List Char → Option (α × List Char)}
    (hdec : ∀ c X, dec (enc c ++ X) = some (c, X)) (hq : ∀ c X r, enc c ++ X ≠ q :: r) :
    ∀ (s s' : List α) (r r' : List Char), s.flatMap enc ++ q :: r = s'.flatMap enc ++ q :: r' → s = s' ∧ r = r'
  | [], [], _, _, h => ⟨rfl, (List.cons.inj h).2⟩
  | [], c :: _, _, _, h => by
    rw [List.flatMap_cons, List.append_assoc] at h; exact absurd h.symm (hq c _ _)
  | c :: _, [], _, _, h => by
    rw [List.flatMap_cons, List.append_assoc] at h; exact absurd h (hq c _ _)
  | c :: s, c' :: s', r, r', h => by
    rw [List.flatMap_cons, List.flatMap_cons, List.append_assoc, List.append_assoc] at h
    have h2 := congrArg dec h
    rw [hdec, hdec, Option.some.injEq, Prod.mk.injEq] at h2
    obtain ⟨rfl, hs⟩ := flatMap_term_unique hdec hq s s' r r' h2.2
    exact ⟨congrArg (· :: s) h2.1, hs⟩

/-- the text after the first element of a list: `, x, y, z]` -/
def tailL {α : Type} (f : α → List Char) (sep : List Char) (cl : Char) : List α → List Char
  | [] => [cl]
  | x :: xs => sep ++ (f x ++ tailL f sep cl xs)

/-- `[x, y, z]` -/
def encL {α : Type} (f : α → List Char) (sep : List Char) (op cl : Char) : List α → List Char
  | [] => [op, cl]
  | x :: xs => op :: (f x ++ tailL f sep cl xs)

section
variable {α : Type} {f : α → List Char} {s0 cl : Char} {st : List Char} {P : List Char → Prop}

theorem tailL_P (hP1 : ∀ r, P (s0 :: r)) (hP2 : ∀ r, P (cl :: r)) (xs : List α) (r : List Char) :
    P (tailL f (s0 :: st) cl xs ++ r) := by
  cases xs with
  | nil => exact hP2 r
  | cons x xs => exact hP1 _

theorem tailL_cancel (hcl : cl ≠ s0) (hP1 : ∀ r, P (s0 :: r)) (hP2 : ∀ r, P (cl :: r)) (hf : Pre P f) :
    ∀ (xs ys : List α) {r1 r2 : List Char},
      tailL f (s0 :: st) cl xs ++ r1 = tailL f (s0 :: st) cl ys ++ r2 → xs = ys ∧ r1 = r2
  | [], [], _, _, h => ⟨rfl, (List.cons.inj h).2⟩
  | [], _ :: _, _, _, h => absurd (List.cons.inj h).1 hcl
  | _ :: _, [], _, _, h => absurd (List.cons.inj h).1.symm hcl
  | x :: xs, y :: ys, r1, r2, h => by
    simp only [tailL, List.append_assoc] at h
    obtain ⟨rfl, h'⟩ := hf x y _ _ (tailL_P hP1 hP2 xs r1) (tailL_P hP1 hP2 ys r2) (List.append_cancel_left h)
    obtain ⟨rfl, h''⟩ := tailL_cancel hcl hP1 hP2 hf xs ys h'
    exact ⟨rfl, h''⟩

theorem encL_cancel {op : Char} (hcl : cl ≠ s0) (hP1 : ∀ r, P (s0 :: r)) (hP2 : ∀ r, P (cl :: r)) (hf : Pre P f)
    (hhd : ∀ x t u, f x ++ t ≠ cl :: u) (xs ys : List α) {r1 r2 : List Char}
    (h : encL f (s0 :: st) op cl xs ++ r1 = encL f (s0 :: st) op cl ys ++ r2) : xs = ys ∧ r1 = r2 := by
  cases xs <;> cases ys <;>
    simp only [encL, List.cons_append, List.cons.injEq, true_and, List.append_assoc, List.nil_append] at h
  · exact ⟨rfl, h⟩
  · exact absurd h.symm (hhd _ _ _)
  · exact absurd h (hhd _ _ _)
  · rename_i x xs y ys
    obtain ⟨rfl, h'⟩ := hf x y _ _ (tailL_P hP1 hP2 xs r1) (tailL_P hP1 hP2 ys r2) h
    obtain ⟨rfl, h''⟩ := tailL_cancel hcl hP1 hP2 hf xs ys h'
    exact ⟨rfl, h''⟩

end

end DAVerif.Code
