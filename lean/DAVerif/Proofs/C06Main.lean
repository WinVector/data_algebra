import DAVerif.Proofs.C06Sem
import DAVerif.Proofs.C06Accept
/-!
C06, assembled (`build_sem`).  `Step.rawNode` is the operator of a step (`semStep_nf`); what a builder returns has
one of the four forms of `BuildShape`, each built on a pipeline `base`; it evaluates to the raw node's operator on
`base` up to column order only (`shape_sem`), and `base` is the receiver up to row order (`shape_base_equiv`), the
receiver itself when nothing is skipped (`shape_base_eq`).
-/
namespace DAVerif

variable {Θ : Interp} {cfg : SemCfg} {env : Env}

/-- The table description stands for any: what matters of the raw node is its operator and its second source. -/
def Step.rawNode (s : Step) : Ops := rawNodeOf (.table "" []) s

theorem rawNode_noop {s : Step} (hn : s.isNoop = true) : s.rawNode = .table "" [] := rawNodeOf_noop hn _

/-- `select_columns` constructs `selectNode`, which looks at its source: hence the second alternative of `h`. -/
theorem nodeOn_rawNode {s : Step} (hn : s.isNoop = false) (a : Ops)
    (h : (∀ cs, s ≠ .selectCols cs) ∨ ∃ n cs, a = .table n cs) :
    s.nodeOn a = s.rawNode.reSrc a ∧ ∀ n cs, s.rawNode ≠ .table n cs := by
  unfold Step.rawNode
  rw [rawNodeOf_node hn]
  cases s with
  | selectCols cs =>
    rcases h with h | ⟨n, cs', rfl⟩
    · exact absurd rfl (h cs)
    · exact ⟨rfl, nofun⟩
  | selectRows e | concat e _ _ _ | convert e =>
    cases e with
    | none => cases hn
    | some _ => exact ⟨rfl, nofun⟩
  | _ => exact ⟨rfl, nofun⟩

theorem rawNode_srcB {s : Step} {b : Ops} (h : s.rawNode.srcB = some b) : b ∈ Step.argOps s := by
  cases s with
  | join b' oa ob jt chk => cases h; exact List.mem_singleton.mpr rfl
  | concat b' idc an bn =>
    cases b' with
    | none => cases h
    | some b' => cases h; exact List.mem_singleton.mpr rfl
  | extend ops pa od rv => unfold Step.rawNode rawNodeOf at h; split at h <;> cases h
  | dropCols cs => unfold Step.rawNode rawNodeOf at h; split at h <;> cases h
  | order cs rv lim => unfold Step.rawNode rawNodeOf at h; split at h <;> cases h
  | rename m => unfold Step.rawNode rawNodeOf at h; split at h <;> cases h
  | mapCols m => unfold Step.rawNode rawNodeOf at h; split at h <;> cases h
  | selectRows e => cases e <;> cases h
  | convert rm => cases rm <;> cases h
  | project ops g | selectCols cs => cases h

theorem NodeScope_rawNode {s : Step} {rows : List Row} (h : StepScope Θ s rows) : NodeScope Θ s.rawNode rows := by
  cases hn : s.isNoop
  · unfold Step.rawNode
    rw [rawNodeOf_node hn]
    cases s with
    | extend ops pa od rv | project ops g => exact h
    | order cs rv lim =>
      cases lim with
      | none => trivial
      | some n => exact h
    | selectRows e | concat e _ _ _ | convert e =>
      cases e with
      | none => cases hn
      | some _ => trivial
    | selectCols cs | dropCols cs | rename m | mapCols m | join b oa ob jt chk => trivial
  · rw [rawNode_noop hn]; trivial

/-- What a successful builder call returns, relative to the raw node `N` of the step, and the pipeline `base` it is
built on: the receiver without the steps the builder skips. -/
inductive BuildShape (p p' : Ops) : Ops → Ops → Prop
  | ident {N : Ops} : (∃ n cs, N = .table n cs) → p' = p → BuildShape p p' p N
  | plain {N : Ops} : p' = N.reSrc (strip p) → (∀ n cs, N ≠ .table n cs) → BuildShape p p' (strip p) N
  | merge {N : Ops} (leaf : Ops) {src : Ops} {o1 ops o : Assign} {pa : PartArg} {od rv : List String} :
      strip p = .extend src o1 pa.cols' od rv (stepWindowed ops pa od) → tryMergeOps o1 ops = some o →
      extendChk src.cols o pa od rv = .ok () → p' = .extend src o pa.cols' od rv (stepWindowed o pa od) →
      N = .extend leaf ops pa.cols' od rv (stepWindowed ops pa od) → BuildShape p p' (strip p) N
  | select {N : Ops} (leaf : Ops) (cs : List String) : p.selectGuards.all (fun g => subset cs g) = true →
      p' = .selectCols p.selectBase cs → N = .selectCols leaf cs → BuildShape p p' p.selectBase N

theorem Placed.shape {p q : Ops} {s : Step} (h : Placed (strip p) s q) : ∃ base, BuildShape p q base s.rawNode := by
  have hn := h.not_noop
  have plain : q = s.nodeOn (strip p) → (∀ cs, s ≠ .selectCols cs) → ∃ base, BuildShape p q base s.rawNode :=
    fun hq hs => ⟨_, .plain (hq.trans (nodeOn_rawNode hn _ (.inl hs)).1) (nodeOn_rawNode hn (strip p) (.inl hs)).2⟩
  cases h with
  | merge _ _ ha hm hc => exact ⟨_, .merge _ ha hm hc rfl (rawNodeOf_node hn _)⟩
  | selectCols hg _ =>
    rw [Ops.selectGuards_strip] at hg
    rw [Ops.selectBase_strip]
    exact ⟨_, .select _ _ (List.all_eq_true.mpr fun g hgm => subset_iff.mpr (hg g hgm)) rfl (rawNodeOf_node hn _)⟩
  | join hc => exact plain (by rw [Step.nodeOn, joinChk_parse hc]; rfl) nofun
  | _ => exact plain rfl nofun

theorem build_shape {p p' : Ops} {s : Step} (h : build p s = .ok p') : ∃ base, BuildShape p p' base s.rawNode := by
  rcases build_eq_ok.mp h with ⟨hn, rfl⟩ | ⟨_, hpl⟩
  · exact ⟨_, .ident ⟨_, _, rawNode_noop hn⟩ rfl⟩
  · exact hpl.shape

theorem build_table (n : String) (cs : List String) (s : Step) :
    build (.table n cs) s = buildRaw (.table n cs) s := by
  cases hn : s.isNoop
  · refine build_direct hn ?_
    cases s with
    | extend => exact fun _ _ _ _ _ _ e => nomatch e
    | selectCols => exact rfl
    | _ => trivial
  · rw [build_noop hn, buildRaw_eq, rawChk_noop hn, rawNodeOf_noop hn]; rfl

/-- Idea: over the table description the raw node is a valid pipeline (`build_table`, `valid_build`). -/
theorem NodeColsOK_rawNode {n : String} {cs : List String} {s : Step} (hn : cs.Nodup)
    (hb : ∀ b ∈ Step.argOps s, b.valid = true) (hc : rawChk cs [(n, cs)] s = .ok ()) :
    NodeColsOK s.rawNode cs := by
  cases hs : s.isNoop
  · obtain ⟨e, hT⟩ := nodeOn_rawNode hs (.table n cs) (.inr ⟨_, _, rfl⟩)
    have hr : build (.table n cs) s = .ok (s.rawNode.reSrc (.table n cs)) := by
      rw [build_table, buildRaw_eq]
      show (rawChk cs [(n, cs)] s >>= fun _ => .ok (rawNodeOf (.table n cs) s)) = _
      rw [hc, rawNodeOf_node hs, e]; rfl
    have := nodeColsOK_of_valid (valid_build (self := .table n cs) (nodupB_iff.mpr hn) hb hr)
    rwa [reSrc_srcA _ hT, NodeColsOK_reSrc] at this
  · rw [rawNode_noop hs]; trivial

theorem semStep_nf (hΘ : ConvertOK Θ) {n : String} {s : Step} {t : Table} (hw : t.WF) (hn : t.cols.Nodup)
    (hf : Step.Fresh n s) :
    semStep Θ cfg env n s t = rawChk t.cols [(n, t.cols)] s >>= fun _ => applyStep Θ cfg env s.rawNode t := by
  have hleaf := sem_table_self Θ cfg env n hw hn
  simp only [semStep, buildRaw_eq, bind_assoc]
  refine except_bind_congr fun _ _ => ?_
  show sem Θ cfg ((n, t) :: env) (rawNodeOf (.table n t.cols) s) = _
  cases hs : s.isNoop
  · obtain ⟨e, hT⟩ := nodeOn_rawNode hs (.table n t.cols) (.inr ⟨_, _, rfl⟩)
    rw [rawNodeOf_node hs, e, sem_eq_applyStep hΘ _ (reSrc_ne_table _ hT), reSrc_srcA _ hT, hleaf, ok_bind,
      applyStep_reSrc]
    -- the second source, an argument pipeline of the step, does not read the fresh table
    unfold applyStep
    cases hb : s.rawNode.srcB with
    | none => rfl
    | some b =>
      show (sem Θ cfg ((n, t) :: env) b >>= fun tb => applyNode Θ cfg s.rawNode t tb) = _
      rw [sem_cons_fresh Θ cfg env n t b (hf b (rawNode_srcB hb))]
  · rw [rawNodeOf_noop hs, hleaf, rawNode_noop hs]; rfl

/-- `≈ʳ` and not `=`: an `extend` merge may put the columns in another order. -/
theorem shape_sem (hΘ : ConvertOK Θ) {p p' base N : Ops} (hv : p.valid = true) (hshape : BuildShape p p' base N)
    (hp'v : p'.valid = true) :
    ResEquivR (sem Θ cfg env p') (sem Θ cfg env base >>= applyStep Θ cfg env N) := by
  have hwf' : ∀ t, sem Θ cfg env p' = .ok t → t.WF ∧ t.cols.Nodup := fun t ht => sem_wf_nodup hΘ hp'v ht
  cases hshape with
  | ident hNl hp =>
    subst hp
    obtain ⟨n, cs, rfl⟩ := hNl
    refine ResEquivR.of_eq ?_ hwf'
    cases sem Θ cfg env p' <;> rfl
  | plain hp hT =>
    subst hp
    refine ResEquivR.of_eq ?_ hwf'
    rw [sem_eq_applyStep hΘ _ (reSrc_ne_table _ hT), reSrc_srcA _ hT]
    exact except_bind_congr fun t _ => applyStep_reSrc N (strip p) t
  | @merge _ leaf src o1 ops o pa od rv hst hm hc hp hNe =>
    subst hNe hp
    have hq := valid_strip hv
    rw [hst] at hq ⊢
    rw [merge_sem (leaf := leaf) hΘ hq hm rfl hc]
    refine ResEquivR.bind (ResEquivR.of_eq rfl fun t ht => sem_wf_nodup hΘ hq ht) fun t t' ht ht' _ => ?_
    cases ht.symm.trans ht'
    have hwn := sem_wf_nodup hΘ hq ht
    -- the merged node lists the columns of the receiver and the assigned ones, in its own order
    have key : ∀ X : Table, X.WF → X.cols = appendNew t.cols (ops.map (·.1)) →
        X.selectCols (appendNew src.cols (o.map (·.1))) ≈ʳ X :=
      fun X hX hXc => Table.EquivR.selectCols_left hX (Ops.valid_cols_nodup hp'v)
        (perm_of_mem_iff (Ops.valid_cols_nodup hp'v) (hXc ▸ appendNew_nodup hwn.2) fun c =>
          (merge_cols hm c).trans (by rw [hXc, sem_cols hΘ ht]; exact mem_appendNew.symm))
    simp only [applyStep, Ops.srcB, applyNode]
    split
    · exact key _ (semExtendWindow_wf _ _ _ _ _ _ _) rfl
    · exact key _ (semExtendPlain_wf _ _ _ _) rfl
  | select leaf cs hg hp hNe =>
    subst hNe hp
    exact ResEquivR.of_eq rfl hwf'

theorem shape_base_equiv (hΘ : ConvertOK Θ) (hC : ConvertInvariant Θ) {p p' base N : Ops} (hv : p.valid = true)
    (hshape : BuildShape p p' base N) (hscope : ∀ t, sem Θ cfg env p = .ok t → NodeScope Θ N t.rows)
    (hcols : ∀ t, sem Θ cfg env p = .ok t → NodeColsOK N t.cols) :
    ResEquiv (sem Θ cfg env base >>= applyStep Θ cfg env N) (sem Θ cfg env p >>= applyStep Θ cfg env N) := by
  cases hshape with
  | ident => exact ResEquiv.refl _
  | plain | merge => exact strip_apply_equiv hΘ hC hv N hscope hcols
  | select leaf cs hg _ hNe =>
    subst hNe
    exact select_collapse_sound Θ cfg env p cs hg

theorem shape_base_eq {p p' base N : Ops} (hshape : BuildShape p p' base N) (hno : p.noTrivialOrderTop = true) :
    (sem Θ cfg env base >>= applyStep Θ cfg env N) = (sem Θ cfg env p >>= applyStep Θ cfg env N) := by
  cases hshape with
  | ident => rfl
  | plain | merge => rw [strip_of_noTrivialOrderTop hno]
  | select leaf cs hg _ hNe =>
    subst hNe
    exact select_collapse_exact Θ cfg env p cs hg hno

theorem shape_sem_apply (hΘ : ConvertOK Θ) (hC : ConvertInvariant Θ) {p p' base N : Ops} (hv : p.valid = true)
    (hshape : BuildShape p p' base N) (hp'v : p'.valid = true)
    (hscope : ∀ t, sem Θ cfg env p = .ok t → NodeScope Θ N t.rows)
    (hcols : ∀ t, sem Θ cfg env p = .ok t → NodeColsOK N t.cols) :
    ResEquivC (sem Θ cfg env p') (sem Θ cfg env p >>= applyStep Θ cfg env N) :=
  .of_R_equiv (shape_sem hΘ hv hshape hp'v) (shape_base_equiv hΘ hC hv hshape hscope hcols)

/-- **C06, one step**, for valid pipelines; `C06_chain_eq_sequential` (`Props/C06.lean`) is its reading for reachable ones. -/
theorem build_sem (hΘ : ConvertOK Θ) (hC : ConvertInvariant Θ) {p p' : Ops} {s : Step} (n : String)
    (hv : p.valid = true) (hb : ∀ b ∈ Step.argOps s, b.valid = true) (h : build p s = .ok p')
    (hf : Step.Fresh n s) (hs : ∀ t, sem Θ cfg env p = .ok t → StepScope Θ s t.rows) :
    ResEquivC (sem Θ cfg env p') (sem Θ cfg env p >>= semStep Θ cfg env n s) := by
  have hc := rawChk_accepts hv n h hf
  have : (sem Θ cfg env p >>= semStep Θ cfg env n s) = (sem Θ cfg env p >>= applyStep Θ cfg env s.rawNode) :=
    except_bind_congr fun t ht => by
      rw [semStep_nf hΘ (sem_wf_nodup hΘ hv ht).1 (sem_wf_nodup hΘ hv ht).2 hf, sem_cols hΘ ht, hc]; rfl
  rw [this]
  obtain ⟨_, hsh⟩ := build_shape h
  exact shape_sem_apply hΘ hC hv hsh (valid_build hv hb h) (fun t ht => NodeScope_rawNode (hs t ht))
    fun t ht => sem_cols hΘ ht ▸ NodeColsOK_rawNode (Ops.valid_cols_nodup hv) hb hc

end DAVerif
