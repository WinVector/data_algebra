import DAVerif.Space.EvalCache
import DAVerif.Proofs.PrefixCode
/-!
Lemmas about the eval_cache model (the property statements are in `Props/C25.lean`): the text of the f-string key can
be read back (a prefix code, `Proofs/PrefixCode.lean`, with the one-character decoder `decode1`); `makeKey` against the
data maps; what the hash view determines; and for `ResultCache` the map a state denotes (`abs`), the invariant `Inv`
and the one simulation lemma `abs_step`.
-/
namespace DAVerif.EvalCache
open DAVerif.Code

def isDec (c : Char) : Prop := 48 ≤ c.toNat ∧ c.toNat ≤ 57

theorem toNat_ofNat_small {n : Nat} (h : n < 55296) : (Char.ofNat n).toNat = n := by
  have hv : n.isValidChar := Or.inl h
  simp [Char.ofNat, hv, Char.toNat, Char.ofNatAux]

theorem decDigit_toNat {n : Nat} (h : n < 10) : (decDigit n).toNat = 48 + n := by
  unfold decDigit; exact toNat_ofNat_small (by omega)

def decVal (s : Str) : Nat := s.foldl (fun a c => 10 * a + (c.toNat - 48)) 0

theorem decVal_snoc (s : Str) (c : Char) : decVal (s ++ [c]) = 10 * decVal s + (c.toNat - 48) := by
  simp [decVal, List.foldl_append]

theorem decVal_decDigits (n : Nat) : decVal (decDigits n) = n := by
  fun_induction decDigits n with
  | case1 n h => simp [decVal, decDigit_toNat h]
  | case2 n h ih => rw [decVal_snoc, ih, decDigit_toNat (by omega)]; omega

theorem decDigits_inj {a b : Nat} (h : decDigits a = decDigits b) : a = b := by
  have := congrArg decVal h
  rwa [decVal_decDigits, decVal_decDigits] at this

theorem decDigits_isDec (n : Nat) : ∀ c ∈ decDigits n, isDec c := by
  have hd : ∀ k, k < 10 → isDec (decDigit k) := fun k hk => by unfold isDec; rw [decDigit_toNat hk]; omega
  fun_induction decDigits n with
  | case1 n h => intro c hc; rw [List.mem_singleton.1 hc]; exact hd n h
  | case2 n h ih =>
    intro c hc
    rcases List.mem_append.1 hc with hc | hc
    · exact ih c hc
    · rw [List.mem_singleton.1 hc]; exact hd _ (by omega)

def hexVal1 (c : Char) : Nat := if c.toNat < 58 then c.toNat - 48 else c.toNat - 87
def hexVal (s : Str) : Nat := s.foldl (fun a c => 16 * a + hexVal1 c) 0

theorem hexVal1_hexDigit {n : Nat} (h : n < 16) : hexVal1 (hexDigit n) = n :=
  (by decide : ∀ n < 16, hexVal1 (hexDigit n) = n) n h

theorem hexVal_snoc (s : Str) (c : Char) : hexVal (s ++ [c]) = 16 * hexVal s + hexVal1 c := by
  simp [hexVal, List.foldl_append]

theorem hexVal_hexDigits (w n : Nat) (h : n < 16 ^ w) : hexVal (hexDigits w n) = n := by
  induction w generalizing n with
  | zero => simp at h; subst h; rfl
  | succ w ih =>
    rw [hexDigits, hexVal_snoc, ih (n / 16) (by rw [Nat.pow_succ] at h; omega),
      hexVal1_hexDigit (Nat.mod_lt _ (by omega))]
    omega

theorem length_hexDigits (w n : Nat) : (hexDigits w n).length = w := by
  induction w generalizing n with
  | zero => rfl
  | succ w ih => simp [hexDigits, ih]

/-- reads one (possibly escaped) character from the front of a string-literal body -/
def decode1 : Str → Option (Char × Str)
  | [] => none
  | c :: r =>
    if c ≠ '\\' then some (c, r) else
    match r with
    | [] => none
    | d :: r2 =>
      if d = 'x' then some (Char.ofNat (hexVal (r2.take 2)), r2.drop 2)
      else if d = 'u' then some (Char.ofNat (hexVal (r2.take 4)), r2.drop 4)
      else if d = 'U' then some (Char.ofNat (hexVal (r2.take 8)), r2.drop 8)
      else if d = 't' then some ('\t', r2)
      else if d = 'n' then some ('\n', r2)
      else if d = 'r' then some ('\r', r2)
      else some (d, r2)

theorem decode1_plain {c : Char} (h : c ≠ '\\') (r : Str) : decode1 (c :: r) = some (c, r) := by
  simp only [decode1, h, ne_eq, not_false_eq_true, if_true]

theorem decode1_bs {d : Char} (h : d ∉ ['x', 'u', 'U', 't', 'n', 'r']) (r : Str) :
    decode1 ('\\' :: d :: r) = some (d, r) := by
  simp only [List.mem_cons, List.not_mem_nil, or_false, not_or] at h
  simp only [decode1, ne_eq, not_true_eq_false, if_false, h]

theorem decode1_hexDigits {k : Char} {w : Nat} (hk : (k, w) ∈ [('x', 2), ('u', 4), ('U', 8)]) (c : Char) (X : Str)
    (hc : c.toNat < 16 ^ w) : decode1 ('\\' :: k :: (hexDigits w c.toNat ++ X)) = some (c, X) := by
  have : ∀ r, decode1 ('\\' :: k :: r) = some (Char.ofNat (hexVal (r.take w)), r.drop w) := by
    simp only [List.mem_cons, List.not_mem_nil, or_false, Prod.mk.injEq] at hk
    rcases hk with ⟨rfl, rfl⟩ | ⟨rfl, rfl⟩ | ⟨rfl, rfl⟩ <;> exact fun _ => rfl
  have hl := length_hexDigits w c.toNat
  rw [this, List.take_left' hl, List.drop_left' hl, hexVal_hexDigits w _ hc, Char.ofNat_toNat]

theorem char_toNat_lt (c : Char) : c.toNat < 16 ^ 8 := by
  have := c.valid
  unfold Char.toNat
  rcases this with h | h <;> omega

/-- one case per branch of `escChar`, in its order -/
theorem decode1_esc (np : Char → Bool) (q c : Char) (hq : q = '\'' ∨ q = '"') (X : Str) :
    decode1 (escChar np q c ++ X) = some (c, X) := by
  unfold escChar
  by_cases h1 : c = q ∨ c = '\\'
  · have : ∀ k ∈ ['\'', '"', '\\'], k ∉ ['x', 'u', 'U', 't', 'n', 'r'] := by decide
    rw [if_pos h1]
    refine decode1_bs (this c ?_) X
    rcases h1 with rfl | rfl
    · rcases hq with rfl | rfl <;> simp
    · simp
  have hbs : c ≠ '\\' := fun h => h1 (.inr h)
  rw [if_neg h1]
  by_cases h2 : c = '\t'
  · rw [if_pos h2, h2]; rfl
  rw [if_neg h2]
  by_cases h3 : c = '\n'
  · rw [if_pos h3, h3]; rfl
  rw [if_neg h3]
  by_cases h4 : c = '\r'
  · rw [if_pos h4, h4]; rfl
  rw [if_neg h4]
  by_cases h5 : c.toNat < 32 ∨ c.toNat = 127
  · rw [if_pos h5]; exact decode1_hexDigits (k := 'x') (by simp) c X (by omega)
  rw [if_neg h5]
  by_cases h6 : c.toNat < 127
  · rw [if_pos h6]; exact decode1_plain hbs X
  rw [if_neg h6]
  cases np c
  · exact decode1_plain hbs X
  rw [if_pos rfl]
  by_cases h7 : c.toNat ≤ 0xff
  · rw [if_pos h7]; exact decode1_hexDigits (k := 'x') (by simp) c X (by omega)
  rw [if_neg h7]
  by_cases h8 : c.toNat ≤ 0xffff
  · rw [if_pos h8]; exact decode1_hexDigits (k := 'u') (by simp) c X (by omega)
  rw [if_neg h8]
  exact decode1_hexDigits (k := 'U') (by simp) c X (char_toNat_lt c)

theorem escBody_cons (np : Char → Bool) (q c : Char) (s : Str) :
    escBody np q (c :: s) = escChar np q c ++ escBody np q s := by
  simp [escBody]

theorem escBody_unique (np : Char → Bool) (q : Char) (hq : q = '\'' ∨ q = '"') :
    ∀ (s s' r r' : Str), escBody np q s ++ q :: r = escBody np q s' ++ q :: r' → s = s' ∧ r = r' := by
  have hqb : q ≠ '\\' := by rcases hq with h | h <;> (subst h; decide)
  refine fun s s' => flatMap_term_unique (decode1_esc np q · hq) (fun c X r h => ?_) s s'
  -- an escaped character that started with the quote would be the quote itself, which is written `\q`
  have h2 := congrArg decode1 h
  rw [decode1_esc np q c hq, decode1_plain hqb, Option.some.injEq, Prod.mk.injEq] at h2
  rw [h2.1, escChar, if_pos (.inl rfl)] at h
  exact hqb (List.cons.inj h).1.symm

theorem quoteOf_cases (s : Str) : quoteOf s = '\'' ∨ quoteOf s = '"' := by
  unfold quoteOf; split <;> simp

theorem pyReprStr_unique (np : Char → Bool) (s s' r r' : Str)
    (h : pyReprStr np s ++ r = pyReprStr np s' ++ r') : s = s' ∧ r = r' := by
  unfold pyReprStr at h
  simp only [List.cons_append, List.append_assoc, List.cons.injEq, List.nil_append] at h
  obtain ⟨hq, h⟩ := h
  rw [← hq] at h
  exact escBody_unique np (quoteOf s) (quoteOf_cases s) s s' r r' h

theorem reprTail_eq (np : Char → Bool) (l : List Str) : reprTail np l = tailL (pyReprStr np) [',', ' '] ']' l := by
  induction l with
  | nil => rfl
  | cons x xs ih => rw [reprTail, ih]; rfl

theorem pyReprList_unique (np : Char → Bool) (l l' : List Str) (r r' : Str)
    (h : pyReprList np l ++ r = pyReprList np l' ++ r') : l = l' ∧ r = r' := by
  have he : ∀ l, pyReprList np l = encL (pyReprStr np) [',', ' '] '[' ']' l := fun l => by
    cases l with
    | nil => rfl
    | cons x xs => rw [pyReprList, reprTail_eq]; rfl
  rw [he, he] at h
  refine encL_cancel (P := fun _ => True) (by decide) (fun _ => trivial) (fun _ => trivial)
    (fun a b r1 r2 _ _ => pyReprStr_unique np a b r1 r2) (fun y t u e => ?_) l l' h
  -- `repr` of a string starts with a quote, not with `]`
  rcases quoteOf_cases y with hq | hq <;>
    (rw [pyReprStr, hq] at e; exact absurd (List.cons.inj e).1 (by decide))

theorem renderShape_unique (r c r' c' : Nat) (X X' : Str)
    (h : renderShape r c ++ X = renderShape r' c' ++ X') : r = r' ∧ c = c' ∧ X = X' := by
  unfold renderShape at h
  simp only [List.cons_append, List.append_assoc, List.cons.injEq, true_and, List.nil_append] at h
  -- a numeral ends at `,` resp. `)`, which are no digits
  have hnd : ∀ k ∈ [',', ')'], ∀ (t : Str) x u, k :: t = x :: u → ¬ isDec x := fun k hk t x u e =>
    (List.cons.inj e).1 ▸ (by unfold isDec; decide : ∀ k ∈ [',', ')'], ¬ isDec k) k hk
  have h1 := span_unique (decDigits_isDec r) (decDigits_isDec r') (hnd ',' (by simp) _) (hnd ',' (by simp) _) h
  have h2 := h1.2
  simp only [List.cons.injEq, true_and] at h2
  have h3 := span_unique (decDigits_isDec c) (decDigits_isDec c') (hnd ')' (by simp) _) (hnd ')' (by simp) _) h2
  exact ⟨decDigits_inj h1.1, decDigits_inj h3.1, (List.cons.inj h3.2).2⟩

theorem leStr_total : ∀ (a b : Str), (leStr a b || leStr b a) = true
  | [], _ => by simp [leStr]
  | _ :: _, [] => by simp [leStr]
  | a :: as, b :: bs => by
    have ih := leStr_total as bs
    simp only [leStr, Bool.or_eq_true, Bool.and_eq_true, decide_eq_true_eq, beq_iff_eq] at ih ⊢
    by_cases h1 : a.toNat < b.toNat
    · exact Or.inl (Or.inl h1)
    · by_cases h2 : b.toNat < a.toNat
      · exact Or.inr (Or.inl h2)
      · have : a = b := Char.toNat_inj.mp (by omega)
        rcases ih with ih | ih
        · exact Or.inl (Or.inr ⟨this, ih⟩)
        · exact Or.inr (Or.inr ⟨this.symm, ih⟩)

theorem leStr_trans : ∀ (a b c : Str), leStr a b = true → leStr b c = true → leStr a c = true
  | [], _, _, _, _ => by simp [leStr]
  | _ :: _, [], _, h, _ => by simp [leStr] at h
  | _ :: _, _ :: _, [], _, h => by simp [leStr] at h
  | a :: as, b :: bs, c :: cs, h1, h2 => by
    have ih := leStr_trans as bs cs
    simp only [leStr, Bool.or_eq_true, Bool.and_eq_true, decide_eq_true_eq, beq_iff_eq] at h1 h2 ih ⊢
    rcases h1 with h1 | ⟨h1, h1'⟩ <;> rcases h2 with h2 | ⟨h2, h2'⟩
    · exact Or.inl (by omega)
    · subst h2; exact Or.inl h1
    · subst h1; exact Or.inl h2
    · subst h1; subst h2; exact Or.inr ⟨rfl, ih h1' h2'⟩

theorem leStr_antisymm : ∀ (a b : Str), leStr a b = true → leStr b a = true → a = b
  | [], [], _, _ => rfl
  | [], _ :: _, _, h => by simp [leStr] at h
  | _ :: _, [], h, _ => by simp [leStr] at h
  | a :: as, b :: bs, h1, h2 => by
    have ih := leStr_antisymm as bs
    simp only [leStr, Bool.or_eq_true, Bool.and_eq_true, decide_eq_true_eq, beq_iff_eq] at h1 h2 ih
    rcases h1 with h1 | ⟨h1, h1'⟩ <;> rcases h2 with h2 | ⟨h2, h2'⟩
    · omega
    · subst h2; omega
    · subst h1; omega
    · subst h1; rw [ih h1' h2']

/-- sorting the key list of a dict does not depend on the insertion order -/
theorem sortKeys_perm {l1 l2 : List Str} (h : l1.Perm l2) : l1.mergeSort leStr = l2.mergeSort leStr := by
  apply List.Perm.eq_of_pairwise (le := fun a b => leStr a b = true)
  · intro a b _ _ h1 h2; exact leStr_antisymm a b h1 h2
  · exact List.pairwise_mergeSort leStr_trans leStr_total l1
  · exact List.pairwise_mergeSort leStr_trans leStr_total l2
  · exact (List.mergeSort_perm l1 leStr).trans (h.trans (List.mergeSort_perm l2 leStr).symm)

section MakeKey
variable {F K : Type}

theorem lookup_isSome_iff (dm : List (Str × F)) (k : Str) :
    (∃ d, dm.lookup k = some d) ↔ k ∈ dm.map Prod.fst := by
  induction dm with
  | nil => simp
  | cons p dm ih =>
    obtain ⟨k', v⟩ := p
    by_cases h : k = k'
    · subst h; simp [List.lookup]
    · have hb : (k == k') = false := by simpa using h
      simp [List.lookup, hb, ih, h]

theorem lookup_none_iff (dm : List (Str × F)) (k : Str) : dm.lookup k = none ↔ k ∉ dm.map Prod.fst := by
  rw [← lookup_isSome_iff]
  cases dm.lookup k <;> simp

theorem dat_fst (hk : F → K) (dm : List (Str × F)) :
    ∀ (l : List Str), (∀ k ∈ l, k ∈ dm.map Prod.fst) →
      (l.filterMap (fun k => (dm.lookup k).map (fun d => (k, hk d)))).map Prod.fst = l := by
  intro l
  induction l with
  | nil => intro _; rfl
  | cons k l ih =>
    intro h
    obtain ⟨d, hd⟩ := (lookup_isSome_iff dm k).mpr (h k List.mem_cons_self)
    simp only [List.filterMap_cons, hd, Option.map_some, List.map_cons]
    rw [ih (fun k' hk' => h k' (List.mem_cons_of_mem _ hk'))]

theorem makeKey_dat_fst (hk : F → K) (d s : Str) (dm : List (Str × F)) :
    (makeKey hk d s dm).dat.map Prod.fst = (dm.map Prod.fst).mergeSort leStr := by
  unfold makeKey
  exact dat_fst hk dm _ (fun k h => List.mem_mergeSort.mp h)

theorem mem_makeKey_dat (hk : F → K) (d s : Str) (dm : List (Str × F)) (k : Str) (x : K) :
    (k, x) ∈ (makeKey hk d s dm).dat ↔ ∃ v, dm.lookup k = some v ∧ x = hk v := by
  unfold makeKey
  simp only [List.mem_filterMap, List.mem_mergeSort, Option.map_eq_some_iff, Prod.mk.injEq]
  constructor
  · rintro ⟨k', _, v, hv, hk', hx⟩
    subst hk'
    exact ⟨v, hv, hx.symm⟩
  · rintro ⟨v, hv, hx⟩
    exact ⟨k, (lookup_isSome_iff dm k).mp ⟨v, hv⟩, v, hv, rfl, hx.symm⟩

/-- The converse, `makeKey_complete`, needs the dict invariant: no repeated key. -/
theorem makeKey_sound (hk : F → K) (d1 s1 d2 s2 : Str) (m1 m2 : List (Str × F))
    (h : makeKey hk d1 s1 m1 = makeKey hk d2 s2 m2) :
    d1 = d2 ∧ s1 = s2 ∧ ∀ name, (m1.lookup name).map hk = (m2.lookup name).map hk := by
  have hd : d1 = d2 := congrArg EvalKey.dialect h
  have hs : s1 = s2 := congrArg EvalKey.sql h
  have hdat : (makeKey hk d1 s1 m1).dat = (makeKey hk d2 s2 m2).dat := congrArg EvalKey.dat h
  refine ⟨hd, hs, fun name => ?_⟩
  have hkeys : ∀ k, k ∈ m1.map Prod.fst ↔ k ∈ m2.map Prod.fst := by
    intro k
    have := congrArg (List.map Prod.fst) hdat
    rw [makeKey_dat_fst, makeKey_dat_fst] at this
    rw [← List.mem_mergeSort (le := leStr), this, List.mem_mergeSort]
  cases h1 : m1.lookup name with
  | none =>
    have : m2.lookup name = none := by
      rw [lookup_none_iff, ← hkeys]; exact (lookup_none_iff m1 name).mp h1
    rw [this]
  | some a =>
    have hm : (name, hk a) ∈ (makeKey hk d1 s1 m1).dat := (mem_makeKey_dat hk d1 s1 m1 name (hk a)).mpr ⟨a, h1, rfl⟩
    rw [hdat, mem_makeKey_dat] at hm
    obtain ⟨b, hb, hab⟩ := hm
    rw [hb]; simp [hab]

theorem makeKey_complete (hk : F → K) (d s : Str) (m1 m2 : List (Str × F))
    (n1 : (m1.map Prod.fst).Nodup) (n2 : (m2.map Prod.fst).Nodup)
    (h : ∀ name, (m1.lookup name).map hk = (m2.lookup name).map hk) :
    makeKey hk d s m1 = makeKey hk d s m2 := by
  have hkeys : ∀ k, k ∈ m1.map Prod.fst ↔ k ∈ m2.map Prod.fst := by
    intro k
    rw [← lookup_isSome_iff, ← lookup_isSome_iff]
    have := h k
    cases h1 : m1.lookup k <;> cases h2 : m2.lookup k <;> simp [h1, h2] at this ⊢
  have hsort := sortKeys_perm ((List.perm_ext_iff_of_nodup n1 n2).mpr hkeys)
  unfold makeKey
  rw [hsort]
  congr 1
  have hf : (fun k => (m1.lookup k).map (fun d => (k, hk d))) = (fun k => (m2.lookup k).map (fun d => (k, hk d))) := by
    funext k
    have := h k
    cases h1 : m1.lookup k <;> cases h2 : m2.lookup k <;> simp [h1, h2] at this ⊢
    exact this
  rw [hf]

end MakeKey

theorem u64_inj {a b : Int} (ha : -9223372036854775808 ≤ a ∧ a < 9223372036854775808)
    (hb : -9223372036854775808 ≤ b ∧ b < 9223372036854775808) (h : u64 a = u64 b) : a = b := by
  unfold u64 at h
  omega

theorem col_eq_of_atoms {c c' : Column} (ht : c.dtype = c'.dtype) (w : c.wf = true) (w' : c'.wf = true)
    (p : c.objPlain = true) (p' : c'.objPlain = true) (h : c.atoms = c'.atoms) : c = c' := by
  cases c <;> cases c' <;> simp [Column.dtype] at ht
  · simp only [Column.wf, List.all_eq_true, decide_eq_true_eq] at w w'
    exact congrArg _ (map_inj_on (f := fun n => Atom.u (u64 n))
      (fun a b ha hb hab => u64_inj ha hb (Atom.u.inj hab)) w w' h)
  · exact congrArg _ ((List.map_inj_right fun _ _ => Atom.u.inj).1 h)
  · exact congrArg _ ((List.map_inj_right fun a b hab => by cases a <;> cases b <;> first | rfl | cases hab).1 h)
  · exact congrArg _
      ((List.map_inj_right fun a b hab => by cases a <;> cases b <;> first | rfl | cases hab <;> rfl).1 h)
  · rename_i xs ys
    simp only [Column.objPlain, List.all_eq_true] at p p'
    simp only [Column.atoms] at h
    have := map_inj_on (P := fun c : OCell => (match c with | .int _ => false | _ => true) = true)
      (f := OCell.atom)
      (fun a b ha hb hab => by cases a <;> cases b <;> simp [OCell.atom] at ha hb hab ⊢; exact hab)
      p p' h
    rw [this]

theorem col_eq_of_len0 {c c' : Column} (ht : c.dtype = c'.dtype) (h : c.len = 0) (h' : c'.len = 0) : c = c' := by
  cases c <;> cases c' <;> simp [Column.dtype] at ht <;>
    simp only [Column.len, List.length_eq_zero_iff] at h h' <;> rw [h, h']

theorem frame_eq_of_hview {a b : Frame} (wa : a.wf = true) (wb : b.wf = true)
    (pa : a.objPlain = true) (pb : b.objPlain = true) (hd : sameDtypes a b = true)
    (hshape : a.shape = b.shape) (hnames : a.names = b.names) (hv : hview a = hview b) : a = b := by
  obtain ⟨na, ca, ia⟩ := a
  obtain ⟨nb, cb, ib⟩ := b
  simp only [Frame.shape, Prod.mk.injEq] at hshape
  simp only at hnames
  subst hnames
  simp only [Frame.wf, Bool.and_eq_true, beq_iff_eq, List.all_eq_true, decide_eq_true_eq] at wa wb
  simp only [Frame.objPlain, List.all_eq_true] at pa pb
  simp only [sameDtypes, beq_iff_eq] at hd
  obtain ⟨⟨_, wca⟩, wia⟩ := wa
  obtain ⟨⟨_, wcb⟩, wib⟩ := wb
  have hlen : ia.length = ib.length := hshape.1
  cases ia with
  | nil =>
    have hib : ib = [] := List.length_eq_zero_iff.mp hlen.symm
    subst hib
    rw [map_inj_on (f := Column.dtype) (P := fun c => c.len = 0) (fun _ _ h h' ht => col_eq_of_len0 ht h h')
      (fun c hc => by simpa using (wca c hc).1) (fun c hc => by simpa using (wcb c hc).1) hd]
  | cons i ia =>
    cases ib with
    | nil => simp at hlen
    | cons j ib =>
      simp only [hview, List.isEmpty_cons, Bool.false_eq_true, if_false] at hv
      have hv2 := List.append_inj' hv rfl
      have hcols := map_inj_on (f := fun c => (c.dtype, c.atoms)) (P := fun c => c.wf = true ∧ c.objPlain = true)
        (fun _ _ h h' e => col_eq_of_atoms (congrArg Prod.fst e) h.1 h'.1 h.2 h'.2 (congrArg Prod.snd e))
        (fun c hc => ⟨(wca c hc).2, pa c hc⟩) (fun c hc => ⟨(wcb c hc).2, pb c hc⟩)
        (by rw [← List.zip_map', ← List.zip_map', hd, hv2.1])
      have hidx := map_inj_on (P := fun n : Int => -9223372036854775808 ≤ n ∧ n < 9223372036854775808)
        (f := fun n => Atom.u (u64 n))
        (fun a b ha hb hab => u64_inj ha hb (by simpa using hab)) wia wib (by simpa using hv2.2)
      rw [hcols, hidx]

section Cache
variable {F K : Type} [DecidableEq K]

/-- Specification-side: the finite map a cache state denotes (key ↦ content of the stored object). -/
def abs (s : State F K) (k : EvalKey K) : Option F := (dictGet s.result k).bind (fun i => s.heap[i]?)

/-- Specification-side: `store` on a plain map.  A value `equals` to the present one is not stored again. -/
def specStore (eqv : F → F → Bool) (M : EvalKey K → Option F) (k : EvalKey K) (v : F) : EvalKey K → Option F :=
  if (M k).any (fun p => eqv p v) then M
  else fun k' => if k' = k then some v else M k'

/-- the `(key, content of res)` of a `store` call whose assertions pass, read at call time -/
def storeEvent (hk : F → K) (s : State F K) : Op F → Option (EvalKey K × F)
  | .store a res =>
    match s.heap[res]?, keyOf hk s.heap a with
    | some rv, some k => some (k, rv)
    | _, _ => none
  | _ => none

/-- no reference held by the cache is held by the caller, and all references are live -/
structure Inv (s : State F K) : Prop where
  ext_lt : ∀ i ∈ s.ext, i < s.heap.length
  res_ok : ∀ p ∈ s.result, p.2 < s.heap.length ∧ p.2 ∉ s.ext
  data_ok : ∀ dc, s.data = some dc → ∀ p ∈ dc, p.2 < s.heap.length ∧ p.2 ∉ s.ext

theorem dictGet_mem {α β : Type} [DecidableEq α] {d : List (α × β)} {k : α} {v : β}
    (h : dictGet d k = some v) : (k, v) ∈ d := by
  induction d with
  | nil => simp [dictGet] at h
  | cons p d ih =>
    simp only [dictGet] at h
    split at h
    · rename_i hp
      simp only [Option.some.injEq] at h
      rw [← hp, ← h]; exact List.mem_cons_self
    · exact List.mem_cons_of_mem _ (ih h)

theorem mem_dictSet {α β : Type} [DecidableEq α] {d : List (α × β)} {k : α} {v : β} {p : α × β}
    (h : p ∈ dictSet d k v) : p ∈ d ∨ p = (k, v) := by
  induction d with
  | nil => simp [dictSet] at h; exact Or.inr h
  | cons q d ih =>
    simp only [dictSet] at h
    split at h
    · rcases List.mem_cons.mp h with h | h
      · exact Or.inr h
      · exact Or.inl (List.mem_cons_of_mem _ h)
    · rcases List.mem_cons.mp h with h | h
      · exact Or.inl (h ▸ List.mem_cons_self)
      · rcases ih h with h | h
        · exact Or.inl (List.mem_cons_of_mem _ h)
        · exact Or.inr h

theorem dictGet_dictSet {α β : Type} [DecidableEq α] (d : List (α × β)) (k k' : α) (v : β) :
    dictGet (dictSet d k v) k' = if k' = k then some v else dictGet d k' := by
  induction d with
  | nil =>
    by_cases h : k' = k
    · subst h; simp [dictSet, dictGet]
    · have : ¬ k = k' := fun e => h e.symm
      simp [dictSet, dictGet, h, this]
  | cons q d ih =>
    simp only [dictSet]
    split
    · rename_i hq
      by_cases h : k' = k
      · subst h; simp [dictGet]
      · have h1 : ¬ k = k' := fun e => h e.symm
        have h2 : ¬ q.1 = k' := fun e => h (by rw [← e, hq])
        simp [dictGet, h, h1, h2]
    · rename_i hq
      simp only [dictGet]
      split
      · rename_i hq'
        have : ¬ k' = k := fun e => hq (by rw [hq', e])
        simp [this]
      · exact ih

theorem dataStep_spec (hk : F → K) (st : List F × List (K × Nat)) (i : Nat) :
    (∃ t, (dataStep hk st i).1 = st.1 ++ t) ∧
    ∀ p ∈ (dataStep hk st i).2, p ∈ st.2 ∨ (st.1.length ≤ p.2 ∧ p.2 < (dataStep hk st i).1.length) := by
  unfold dataStep
  split
  · exact ⟨⟨[], by simp⟩, fun p hp => Or.inl hp⟩
  · split
    · exact ⟨⟨[], by simp⟩, fun p hp => Or.inl hp⟩
    · refine ⟨⟨_, rfl⟩, fun p hp => ?_⟩
      simp only [List.mem_append, List.mem_singleton] at hp
      rcases hp with hp | hp
      · exact Or.inl hp
      · subst hp; simp

theorem dataFold_spec (hk : F → K) (l : List Nat) (st : List F × List (K × Nat)) :
    (∃ t, (l.foldl (dataStep hk) st).1 = st.1 ++ t) ∧
    ∀ p ∈ (l.foldl (dataStep hk) st).2, p ∈ st.2 ∨ (st.1.length ≤ p.2 ∧ p.2 < (l.foldl (dataStep hk) st).1.length) := by
  induction l generalizing st with
  | nil => exact ⟨⟨[], by simp⟩, fun p hp => Or.inl hp⟩
  | cons i l ih =>
    simp only [List.foldl_cons]
    obtain ⟨⟨t1, h1⟩, h2⟩ := dataStep_spec hk st i
    obtain ⟨⟨t2, h3⟩, h4⟩ := ih (dataStep hk st i)
    refine ⟨⟨t1 ++ t2, by rw [h3, h1, List.append_assoc]⟩, fun p hp => ?_⟩
    have hlen : (dataStep hk st i).1.length ≤ (l.foldl (dataStep hk) (dataStep hk st i)).1.length := by
      rw [h3]; simp
    rcases h4 p hp with h | h
    · rcases h2 p h with h | h
      · exact Or.inl h
      · exact Or.inr ⟨h.1, by omega⟩
    · refine Or.inr ⟨?_, h.2⟩
      rw [h1] at h; simp at h; omega

omit [DecidableEq K] in
theorem inv_init : Inv (State.init : State F K) :=
  ⟨by simp [State.init], by simp [State.init], by simp [State.init]⟩

omit [DecidableEq K] in
theorem inv_alloc_ext {s : State F K} (hs : Inv s) (v : F) :
    Inv { s with heap := s.heap ++ [v], ext := s.ext ++ [s.heap.length] } := by
  refine ⟨?_, ?_, ?_⟩
  · intro i hi
    simp only [List.mem_append, List.mem_singleton] at hi
    simp only [List.length_append, List.length_singleton]
    rcases hi with hi | hi
    · have := hs.ext_lt i hi; omega
    · omega
  · intro p hp
    have := hs.res_ok p hp
    simp only [List.length_append, List.length_singleton, List.mem_append, List.mem_singleton]
    exact ⟨by omega, fun h => by rcases h with h | h; exact this.2 h; omega⟩
  · intro dc hdc p hp
    have := hs.data_ok dc hdc p hp
    simp only [List.length_append, List.length_singleton, List.mem_append, List.mem_singleton]
    exact ⟨by omega, fun h => by rcases h with h | h; exact this.2 h; omega⟩

theorem step_store_fail (hk : F → K) (eqv : F → F → Bool) (s : State F K) (a : Args) (res : Nat)
    (h : storeEvent hk s (.store a res) = none) : (step hk eqv s (.store a res)).1 = s := by
  cases hrv : s.heap[res]? with
  | none => simp only [step, hrv]
  | some rv =>
    cases hkk : keyOf hk s.heap a with
    | none => simp only [step, hrv, hkk]
    | some k => simp [storeEvent, hrv, hkk] at h

/-- What a `store` whose assertions pass does.  If it takes effect, the result is copied to the end of the heap and
bound to the key; further copies `t` may follow for the debugging cache, whose new entries all point into them. -/
theorem step_store_ok (hk : F → K) (eqv : F → F → Bool) (s : State F K) (a : Args) (res : Nat) {k : EvalKey K} {rv : F}
    (h : storeEvent hk s (.store a res) = some (k, rv)) :
    if (abs s k).any (fun p => eqv p rv) then (step hk eqv s (.store a res)).1 = s
    else ∃ t dc', (step hk eqv s (.store a res)).1 =
        { heap := s.heap ++ [rv] ++ t, ext := s.ext, result := dictSet s.result k s.heap.length, data := dc',
          dirty := true } ∧
      ∀ dc1, dc' = some dc1 → ∃ dc, s.data = some dc ∧
        ∀ p ∈ dc1, p ∈ dc ∨ (s.heap.length + 1 ≤ p.2 ∧ p.2 < (s.heap ++ [rv] ++ t).length) := by
  simp only [storeEvent] at h
  cases hrv : s.heap[res]? with
  | none => simp [hrv] at h
  | some rv' =>
    cases hkk : keyOf hk s.heap a with
    | none => simp [hrv, hkk] at h
    | some k' =>
      simp only [hrv, hkk, Option.some.injEq, Prod.mk.injEq] at h
      obtain ⟨rfl, rfl⟩ := h
      cases hany : (abs s k').any (fun p => eqv p rv') with
      | true =>
        have hany' : ((dictGet s.result k').bind fun i => s.heap[i]?).any (fun p => eqv p rv') = true := hany
        simp only [step, hrv, hkk, hany', if_true]
      | false =>
        have hany' : ((dictGet s.result k').bind fun i => s.heap[i]?).any (fun p => eqv p rv') = false := hany
        simp only [Bool.false_eq_true, if_false]
        cases hdc : s.data with
        | none => exact ⟨[], none, by simp [step, hrv, hkk, hany', hdc], by simp⟩
        | some dc =>
          obtain ⟨⟨t, ht⟩, hmem⟩ := dataFold_spec hk (a.data.map Prod.snd ++ [res]) (s.heap ++ [rv'], dc)
          refine ⟨t, some ((a.data.map Prod.snd ++ [res]).foldl (dataStep hk) (s.heap ++ [rv'], dc)).2,
            by simp only [step, hrv, hkk, hany', hdc, ht, Bool.false_eq_true, if_false], ?_⟩
          intro dc1 h1
          cases h1
          refine ⟨dc, rfl, fun p hp => ?_⟩
          rcases hmem p hp with h | h
          · exact .inl h
          · rw [ht] at h; exact .inr (by simpa using h)

theorem step_inv (hk : F → K) (eqv : F → F → Bool) (s : State F K) (hs : Inv s) (op : Op F) :
    Inv (step hk eqv s op).1 := by
  cases op with
  | new v => exact inv_alloc_ext hs v
  | mutate i v =>
    by_cases hi : i ∈ s.ext
    · rw [show (step hk eqv s (.mutate i v)).1 = { s with heap := s.heap.set i v } by simp only [step, if_pos hi]]
      exact ⟨fun j hj => by rw [List.length_set]; exact hs.ext_lt j hj,
        fun p hp => by rw [List.length_set]; exact hs.res_ok p hp,
        fun dc hdc p hp => by rw [List.length_set]; exact hs.data_ok dc hdc p hp⟩
    · rw [show (step hk eqv s (.mutate i v)).1 = s by simp only [step, if_neg hi]]; exact hs
  | dataOff => exact ⟨hs.ext_lt, hs.res_ok, fun _ h => nomatch h⟩
  | get a =>
    simp only [step]
    split
    · exact hs
    · split
      · exact hs
      · exact inv_alloc_ext hs _
  | store a res =>
    cases hev : storeEvent hk s (.store a res) with
    | none => rw [step_store_fail hk eqv s a res hev]; exact hs
    | some e =>
      have h := step_store_ok hk eqv s a res hev
      split at h
      · rw [h]; exact hs
      · obtain ⟨t, dc', h, hdc⟩ := h
        rw [h]
        refine ⟨fun i hi => ?_, fun p hp => ?_, fun dc1 h1 p hp => ?_⟩
        · have := hs.ext_lt i hi; simp only [List.length_append]; omega
        · simp only [List.length_append, List.length_singleton]
          rcases mem_dictSet hp with h | h
          · have := hs.res_ok p h; exact ⟨by omega, this.2⟩
          · subst h; exact ⟨by simp only; omega, fun h => by have := hs.ext_lt _ h; simp at this⟩
        · obtain ⟨dc, hdc0, hmem⟩ := hdc dc1 h1
          rcases hmem p hp with h | h
          · have := hs.data_ok dc hdc0 p h
            exact ⟨by simp only [List.length_append]; omega, this.2⟩
          · exact ⟨h.2, fun hx => by have := hs.ext_lt _ hx; omega⟩

theorem run_inv (hk : F → K) (eqv : F → F → Bool) (h : List (Op F)) (s : State F K) (hs : Inv s) :
    Inv (run hk eqv s h).1 := by
  induction h generalizing s with
  | nil => exact hs
  | cons op h ih => exact ih _ (step_inv hk eqv s hs op)

/-- `s'` has every cell of `s` to which the caller holds no reference (by `Inv` these include all the cells the cache of
`s` refers to): its heap may be longer, and different where the caller holds a reference -/
def Keeps (s s' : State F K) : Prop := ∀ i, i < s.heap.length ∧ i ∉ s.ext → s'.heap[i]? = s.heap[i]?

omit [DecidableEq K] in
theorem keeps_append (s : State F K) {s' : State F K} (t : List F) (h : s'.heap = s.heap ++ t) : Keeps s s' :=
  fun _ hi => h ▸ List.getElem?_append_left hi.1

omit [DecidableEq K] in
theorem keeps_set {s s' : State F K} {i : Nat} (hi : i ∈ s.ext) (v : F) (h : s'.heap = s.heap.set i v) : Keeps s s' :=
  fun j hj => h ▸ List.getElem?_set_ne fun e : i = j => hj.2 (e ▸ hi)

theorem read_of_keeps {s s' : State F K} (hs : Inv s) (h : Keeps s s') (k : EvalKey K) :
    (dictGet s.result k).bind (fun i => s'.heap[i]?) = abs s k := by
  unfold abs
  cases hk : dictGet s.result k with
  | none => rfl
  | some i => exact h i (hs.res_ok _ (dictGet_mem hk))

theorem abs_of_keeps {s s' : State F K} (hs : Inv s) (h : Keeps s s') (hr : s'.result = s.result) : abs s' = abs s :=
  funext fun k => by rw [abs, hr]; exact read_of_keeps hs h k

theorem abs_step (hk : F → K) (eqv : F → F → Bool) (s : State F K) (hs : Inv s) (op : Op F) :
    abs (step hk eqv s op).1 =
      match storeEvent hk s op with
      | none => abs s
      | some (k, rv) => specStore eqv (abs s) k rv := by
  cases op with
  | new v => exact abs_of_keeps hs (keeps_append s [v] rfl) rfl
  | mutate i v =>
    simp only [step]
    split
    · exact abs_of_keeps hs (keeps_set ‹_› v rfl) rfl
    · rfl
  | dataOff => rfl
  | get a =>
    simp only [step]
    split
    · rfl
    · split
      · rfl
      · exact abs_of_keeps hs (keeps_append s [_] rfl) rfl
  | store a res =>
    cases hev : storeEvent hk s (.store a res) with
    | none => rw [step_store_fail hk eqv s a res hev]
    | some e =>
      obtain ⟨k, rv⟩ := e
      have h := step_store_ok hk eqv s a res hev
      simp only [specStore]
      split at h
      · rename_i hany; rw [h, if_pos hany]
      · rename_i hany
        obtain ⟨t, dc', h, -⟩ := h
        rw [h, if_neg hany]
        funext k'
        simp only [abs, dictGet_dictSet]
        split
        · simp
        · exact read_of_keeps hs (s' := { s with heap := s.heap ++ [rv] ++ t })
            (keeps_append s ([rv] ++ t) (List.append_assoc ..)) k'

theorem step_get (hk : F → K) (eqv : F → F → Bool) (s : State F K) (a : Args) :
    step hk eqv s (.get a) =
      match keyOf hk s.heap a with
      | none => (s, .err .assertion)
      | some k =>
        match abs s k with
        | none => (s, .err .key)
        | some v => ({ s with heap := s.heap ++ [v], ext := s.ext ++ [s.heap.length] }, .obj s.heap.length) := by
  rfl

end Cache

end DAVerif.EvalCache
