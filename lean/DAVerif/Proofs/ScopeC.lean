import DAVerif.Proofs.C06Chain
/-!
The scope conditions (`WinOK`, `LimitOK`, hence `NodeScope`) and the column conditions (`NodeColsOK`) are
invariant under `≈ᶜ`: they only speak about what `get` reads in the rows, and about the multiset of rows.
-/
namespace DAVerif

theorem select_inj_of_wf {t' : Table} (hw : t'.WF) (hn : t'.cols.Nodup) {cs : List String}
    (hs : ∀ c ∈ t'.cols, c ∈ cs) {a b : Row} (ha : a ∈ t'.rows) (hb : b ∈ t'.rows)
    (h : a.select cs = b.select cs) : a = b := by
  have hget : ∀ c ∈ t'.cols, a.get c = b.get c := by
    intro c hc
    have := congrArg (fun r => Row.get r c) h
    simp only [Row.select_get_of_mem (hs c hc)] at this
    exact this
  rw [← Row.select_self (hw a ha) hn, ← Row.select_self (hw b hb) hn]
  exact Row.select_congr hget

theorem Table.EquivC.get_select {t t' : Table} (h : t ≈ᶜ t') {a : Row} (ha : a ∈ t'.rows) (c : String) :
    (a.select t.cols).get c = a.get c :=
  h.wf_right.get_select (fun c => h.mem_cols c) ha c

theorem WinTotal.of_equivC {p o rv : List String} {t t' : Table} (h : t ≈ᶜ t')
    (hw : WinTotal p o rv t.rows) : WinTotal p o rv t'.rows := by
  have h1 : WinTotal p o rv (t'.rows.map (fun r => r.select t.cols)) := hw.perm h.2.2.2.2
  unfold WinTotal at h1 ⊢
  rw [List.pairwise_map] at h1
  refine List.Pairwise.imp_of_mem ?_ h1
  intro a b ha hb hab
  have ga := fun {cs : List String} c (_ : c ∈ cs) => h.get_select ha c
  have gb := fun {cs : List String} c (_ : c ∈ cs) => h.get_select hb c
  rwa [keyOf_congr ga, keyOf_congr gb, rowLe_congr ga gb, rowLe_congr gb ga] at hab

theorem TotalOn.of_equivC {cs rv : List String} {t t' : Table} (h : t ≈ᶜ t')
    (hw : TotalOn cs rv t.rows) : TotalOn cs rv t'.rows := by
  have h1 : TotalOn cs rv (t'.rows.map (fun r => r.select t.cols)) := hw.perm h.2.2.2.2
  intro a ha b hb hab hba
  have ga := fun c (_ : c ∈ cs) => h.get_select ha c
  have gb := fun c (_ : c ∈ cs) => h.get_select hb c
  have := h1 _ (List.mem_map.mpr ⟨a, ha, rfl⟩) _ (List.mem_map.mpr ⟨b, hb, rfl⟩)
    (by rw [rowLe_congr ga gb]; exact hab) (by rw [rowLe_congr gb ga]; exact hba)
  exact select_inj_of_wf h.wf_right h.nodup_right (fun c hc => (h.mem_cols c).mpr hc) ha hb this

theorem CutClean.of_equivC {cs rv : List String} {n : Nat} {t t' : Table} (h : t ≈ᶜ t')
    (hw : CutClean cs rv n t.rows) : CutClean cs rv n t'.rows := by
  obtain ⟨kept, dropped, hp, hl, hlt⟩ := hw
  have hs := h.symm
  -- `t'.rows` is `t.rows` with the columns in the order of `t'`
  have hrows : t'.rows.Perm (t.rows.map (fun r => r.select t'.cols)) := hs.2.2.2.2
  refine ⟨kept.map (fun r => r.select t'.cols), dropped.map (fun r => r.select t'.cols), ?_, ?_, ?_⟩
  · rw [← List.map_append]
    exact hrows.trans (hp.map _)
  · rw [List.length_map, hl, hrows.length_eq, List.length_map]
  · intro a ha b hb
    simp only [List.mem_map] at ha hb
    obtain ⟨a0, ha0, rfl⟩ := ha
    obtain ⟨b0, hb0, rfl⟩ := hb
    have ha1 : a0 ∈ t.rows := hp.mem_iff.mpr (List.mem_append_left _ ha0)
    have hb1 : b0 ∈ t.rows := hp.mem_iff.mpr (List.mem_append_right _ hb0)
    rw [rowLe_congr (fun c _ => hs.get_select hb1 c) (fun c _ => hs.get_select ha1 c)]
    exact hlt a0 ha0 b0 hb0

theorem NodeScope.of_equivC {Θ : Interp} {N : Ops} {t t' : Table} (h : t ≈ᶜ t') (hs : NodeScope Θ N t.rows) :
    NodeScope Θ N t'.rows := by
  cases N with
  | extend s ops part od rv w =>
    intro hw
    exact (hs hw).imp (fun hh => hh.of_equivC h) id
  | order s cs rv lim =>
    cases lim with
    | none => trivial
    | some n => exact hs.imp (fun hh => hh.of_equivC h) (fun hh => hh.of_equivC h)
  | project s ops g => exact hs
  | _ => trivial

theorem concatCols_perm {ca ca' : List String} (h : ca.Perm ca') (idc : Option String) :
    (concatCols ca idc).Perm (concatCols ca' idc) := by
  cases idc with
  | none => exact h
  | some c => exact h.append_right _

theorem NodeColsOK.perm {N : Ops} {ca ca' : List String} (h : ca.Perm ca') (hc : NodeColsOK N ca) :
    NodeColsOK N ca' := by
  cases N with
  | selectCols s cs => exact ⟨hc.1, fun c hcc => h.mem_iff.mp (hc.2 c hcc)⟩
  | rename s m => exact (h.map _).nodup_iff.mp hc
  | mapCols s m ds => exact ((h.filter _).map _).nodup_iff.mp hc
  | concat a b idc an bn => exact (concatCols_perm h idc).nodup_iff.mp hc
  | project s ops g => exact hc
  | convert s rm => exact hc
  | _ => trivial

end DAVerif
