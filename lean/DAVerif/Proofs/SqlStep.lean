import DAVerif.Proofs.SqlCongr
/-!
C01/C02/C16: the shape of `semNear` on each kind of step.  A unary step (`semNear_unary`) returns `stepRows`; what the
result restricted to some columns is (`stepRows_select`), dependence on the terms (`stepRows_congr`).  A join step
(`semNear_join`) returns `joinRows` (`Proofs/Perm.lean`, as the reference join does, `semJoin_eq`) of the match predicate
`refMatch` and the row `sqlJoinRow`, whose cells are `sqlCell` (`COALESCE`, which is the reference cell `refCell`, or a
qualified pass-through); a union step: `semNear_union`.  Then Python-dict updates (`dictSet`) and `setTermKeys` (what
`select_columns` / `drop_columns` do to a step).
-/
namespace DAVerif
namespace Sql
open DAVerif.Ops (usedFromSources unionL)

/-! ### rows built column by column -/

theorem get_mkRow (out : List String) (V : String → Val) (c : String) :
    Row.get (out.map (fun c => (c, V c))) c = if c ∈ out then V c else .null := by
  induction out with
  | nil => rfl
  | cons x out ih =>
    rw [List.map_cons, Row.get_cons, ih]
    by_cases h : c = x
    · subst h; simp
    · simp [h]

theorem select_mkRow {out u : List String} (V : String → Val) (h : ∀ c ∈ u, c ∈ out) :
    Row.select (out.map (fun c => (c, V c))) u = u.map (fun c => (c, V c)) := by
  unfold Row.select
  apply List.map_congr_left
  intro c hc
  rw [get_mkRow, if_pos (h c hc)]

theorem mkRow_congr {out : List String} {V V' : String → Val} (h : ∀ c ∈ out, V c = V' c) :
    out.map (fun c => (c, V c)) = out.map (fun c => (c, V' c)) :=
  List.map_congr_left (fun c hc => by rw [h c hc])

/-! ### one SELECT step -/

/-- the term of a key (`terms.get(k)`); `SELECT *` has none -/
def lookT (terms : Option Terms) (k : String) : Option STerm :=
  match terms with | none => none | some ts => lookupLast ts k

/-- the rows after WHERE / ORDER BY -/
def suffixRows (Θ : Interp) (ec : EngineCfg) (sfx : Suffix) (rows : List Row) : List Row :=
  match sfx with
  | .whereE e => rows.filter (fun r => evalCell Θ r e == .bool true)
  | .orderBy cs rev _ => rows.mergeSort (fun a b => sqlRowLe ec cs rev a b)
  | _ => rows

def limitOf {α : Type} (sfx : Suffix) (l : List α) : List α :=
  match sfx with
  | .orderBy _ _ (some n) => l.take n
  | _ => l

/-- the rows a unary step returns for the output columns `out` from the rows `rows0` of its FROM clause -/
def stepRows (Θ : Interp) (ec : EngineCfg) (terms : Option Terms) (agg : Bool) (sfx : Suffix) (out : List String)
    (rows0 : List Row) : List Row :=
  let rows := suffixRows Θ ec sfx rows0
  if agg then
    match sfx with
    | .groupBy gs =>
      ((rows.map (fun r => keyOf r gs)).eraseDups).map (fun k =>
        out.map (fun c => (c, aggVal Θ (rows.filter (fun r => keyOf r gs == k)) c (lookT terms c))))
    | _ => [out.map (fun c => (c, aggVal Θ rows c (lookT terms c)))]
  else
    limitOf sfx (rows.zipIdx.map (fun ri => out.map (fun c => (c, termVal Θ ec rows.zipIdx ri c (lookT terms c)))))

theorem semNear_unary (Θ : Interp) (ec : EngineCfg) (env : Env) (ctes : List (String × Table)) (nm : String)
    (terms : Option Terms) (agg : Bool) (sub : Near) (sc : Option (List String)) (sfx : Suffix) (mg : Bool)
    (dp : Option (List (String × List String))) (key : Option String) (cols? : Option (List String)) (force : Bool) :
    semNear Θ ec env ctes (.unary nm terms agg sub sc sfx mg dp key) cols? force =
      (semNear Θ ec env ctes sub sc false).bind (fun t =>
        .ok ⟨outCols terms cols? t.cols, stepRows Θ ec terms agg sfx (outCols terms cols? t.cols) t.rows⟩) := by
  rw [semNear]
  cases semNear Θ ec env ctes sub sc false with
  | error e => rfl
  | ok t =>
    cases agg
    · cases sfx with
      | orderBy cs rev lim => cases lim <;> rfl
      | _ => rfl
    · cases sfx <;> rfl

theorem semNear_unary_ok {Θ : Interp} {ec : EngineCfg} {env : Env} {ctes : List (String × Table)} {nm : String}
    {terms : Option Terms} {agg : Bool} {sub : Near} {sc : Option (List String)} {sfx : Suffix} {mg : Bool}
    {dp : Option (List (String × List String))} {key : Option String} {t : Table}
    (h : semNear Θ ec env ctes sub sc false = .ok t) (cols? : Option (List String)) (force : Bool) :
    semNear Θ ec env ctes (.unary nm terms agg sub sc sfx mg dp key) cols? force =
      .ok ⟨outCols terms cols? t.cols, stepRows Θ ec terms agg sfx (outCols terms cols? t.cols) t.rows⟩ := by
  rw [semNear_unary, h]; rfl

theorem semNear_unary_inv {Θ : Interp} {ec : EngineCfg} {env : Env} {ctes : List (String × Table)} {nm : String}
    {terms : Option Terms} {agg : Bool} {sub : Near} {sc : Option (List String)} {sfx : Suffix} {mg : Bool}
    {dp : Option (List (String × List String))} {key : Option String} {cols? : Option (List String)} {force : Bool}
    {T : Table} (h : semNear Θ ec env ctes (.unary nm terms agg sub sc sfx mg dp key) cols? force = .ok T) :
    ∃ t, semNear Θ ec env ctes sub sc false = .ok t ∧
      T = ⟨outCols terms cols? t.cols, stepRows Θ ec terms agg sfx (outCols terms cols? t.cols) t.rows⟩ := by
  rw [semNear_unary] at h
  cases hsub : semNear Θ ec env ctes sub sc false with
  | error e => rw [hsub] at h; cases h
  | ok t => rw [hsub] at h; exact ⟨t, rfl, (Except.ok.inj h).symm⟩

/-- the result of a step restricted to some of its output columns is the step computed for those columns -/
theorem stepRows_select (Θ : Interp) (ec : EngineCfg) (terms : Option Terms) (agg : Bool) (sfx : Suffix)
    {out u : List String} (h : ∀ c ∈ u, c ∈ out) (rows0 : List Row) :
    (stepRows Θ ec terms agg sfx out rows0).map (fun r => r.select u) = stepRows Θ ec terms agg sfx u rows0 := by
  unfold stepRows
  cases agg
  · simp only [Bool.false_eq_true, ↓reduceIte]
    have : ∀ l : List Row, (limitOf sfx l).map (fun r => r.select u) = limitOf sfx (l.map (fun r => r.select u)) := by
      intro l; unfold limitOf; split
      · rw [List.map_take]
      · rfl
    rw [this, List.map_map]
    congr 1
    apply List.map_congr_left
    intro ri _
    exact select_mkRow _ h
  · simp only [↓reduceIte]
    split
    · rw [List.map_map]
      apply List.map_congr_left
      intro k _
      exact select_mkRow _ h
    · simp only [List.map_cons, List.map_nil]
      rw [select_mkRow _ h]

/-- a step only depends on the terms of its output columns, and only through their values -/
theorem stepRows_congr (Θ : Interp) (ec : EngineCfg) {terms terms' : Option Terms} (agg : Bool) (sfx : Suffix)
    {out : List String} (rows0 : List Row)
    (h : ∀ c ∈ out, (∀ idx ri, termVal Θ ec idx ri c (lookT terms c) = termVal Θ ec idx ri c (lookT terms' c)) ∧
      (∀ g, aggVal Θ g c (lookT terms c) = aggVal Θ g c (lookT terms' c))) :
    stepRows Θ ec terms agg sfx out rows0 = stepRows Θ ec terms' agg sfx out rows0 := by
  unfold stepRows
  cases agg
  · simp only [Bool.false_eq_true, ↓reduceIte]
    congr 1
    apply List.map_congr_left
    intro ri _
    exact mkRow_congr (fun c hc => (h c hc).1 _ _)
  · simp only [↓reduceIte]
    split
    · apply List.map_congr_left
      intro k _
      exact mkRow_congr (fun c hc => (h c hc).2 _)
    · rw [mkRow_congr (fun c hc => (h c hc).2 _)]

theorem length_stepRows_rowwise (Θ : Interp) (ec : EngineCfg) (terms : Option Terms) (sfx : Suffix)
    (out : List String) (rows0 : List Row) :
    (stepRows Θ ec terms false sfx out rows0).length = (limitOf sfx (suffixRows Θ ec sfx rows0)).length := by
  unfold stepRows limitOf
  simp only [Bool.false_eq_true, ↓reduceIte]
  split <;> simp

/-! ### a join step, a union step -/

/-- the match predicate of a join: CROSS and joins without keys match everything; otherwise the keys are equal and
(standard SQL, `SemCfg.ref`) not null -/
def refMatch (cfg : SemCfg) (jt : JoinType) (onA onB : List String) (ra rb : Row) : Bool :=
  (jt == .cross || onA.isEmpty) || keyMatch cfg (keyOf ra onA) (keyOf rb onB)

/-- the cell of output column `c` in the reference join: `a`'s value unless it is null or `a` lacks the column -/
def refCell (ca cb : List String) (ra rb : Option Row) (c : String) : Val :=
  if (Ref.sideCell ca ra c).isNull then Ref.sideCell cb rb c else Ref.sideCell ca ra c

theorem joinRow_eq (ca cb out : List String) (ra rb : Option Row) :
    joinRow ca cb out ra rb = out.map (fun c => (c, refCell ca cb ra rb c)) :=
  RefSem.joinRow_eq_map ca cb out ra rb

/-- the value a join step's SELECT list gives the output column `c`: `COALESCE(l.c, r.c)` is the reference cell,
`COALESCE(r.c, l.c)` the reference cell of the mirrored join, any other entry a qualified pass-through -/
def sqlCell (lC rC : List String) (terms : Terms) (ra rb : Option Row) (c : String) : Val :=
  match lookupLast terms c with
  | some (.coalesce leftFirst _) => if leftFirst then refCell lC rC ra rb c else refCell rC lC rb ra c
  | _ => if lC.contains c then Ref.sideCell lC ra c else Ref.sideCell rC rb c

theorem sqlJoinRow_eq (lC rC : List String) (terms : Terms) (out : List String) (ra rb : Option Row) :
    sqlJoinRow lC rC terms out ra rb = out.map (fun c => (c, sqlCell lC rC terms ra rb c)) := by
  unfold sqlJoinRow sqlCell
  apply List.map_congr_left
  intro c _
  cases lookupLast terms c with
  | none => cases ra <;> cases rb <;> rfl
  | some t => cases t <;> cases ra <;> cases rb <;> rfl

/-- the output columns of a binary step: the requested ones; nothing requested → all its terms -/
def joinOut (keys : List String) (cols? : Option (List String)) : List String :=
  match cols? with | some cs => if cs.isEmpty then keys else cs | none => keys

theorem semNear_join (Θ : Interp) (ec : EngineCfg) (env : Env) (ctes : List (String × Table)) (n : String)
    (terms : Terms) (l : Near) (lC : List String) (ln : String) (r : Near) (rC : List String) (rn : String)
    (jt : JoinType) (oa ob : List String) (key : Option String) (cols? : Option (List String)) (force : Bool) :
    semNear Θ ec env ctes (.join n terms l lC ln r rC rn jt oa ob key) cols? force =
      (semNear Θ ec env ctes l (some lC) false).bind (fun tl =>
        (semNear Θ ec env ctes r (some rC) false).bind (fun tr =>
          if jt == .outer then .error .other
          else .ok ⟨joinOut (terms.map (·.1)) cols?,
            joinRows (refMatch SemCfg.ref jt oa ob) (sqlJoinRow lC rC terms (joinOut (terms.map (·.1)) cols?))
              (jt == .left || jt == .full) (jt == .right || jt == .full) tl.rows tr.rows⟩)) := by
  conv => lhs; unfold semNear
  rfl

theorem semNear_join_ok {Θ : Interp} {ec : EngineCfg} {env : Env} {ctes : List (String × Table)} {n : String}
    {terms : Terms} {l : Near} {lC : List String} {ln : String} {r : Near} {rC : List String} {rn : String}
    {jt : JoinType} {oa ob : List String} {key : Option String} {cols? : Option (List String)} {force : Bool}
    {T : Table} :
    semNear Θ ec env ctes (.join n terms l lC ln r rC rn jt oa ob key) cols? force = .ok T ↔
      ∃ tl tr, semNear Θ ec env ctes l (some lC) false = .ok tl ∧ semNear Θ ec env ctes r (some rC) false = .ok tr ∧
        jt ≠ .outer ∧
        T = ⟨joinOut (terms.map (·.1)) cols?,
          joinRows (refMatch SemCfg.ref jt oa ob) (sqlJoinRow lC rC terms (joinOut (terms.map (·.1)) cols?))
            (jt == .left || jt == .full) (jt == .right || jt == .full) tl.rows tr.rows⟩ := by
  rw [semNear_join]
  constructor
  · intro h
    obtain ⟨tl, hl, h⟩ := bind_eq_ok.mp h
    obtain ⟨tr, hr, h⟩ := bind_eq_ok.mp h
    split at h
    · cases h
    · rename_i hj
      exact ⟨tl, tr, hl, hr, fun e => hj (beq_iff_eq.mpr e), (Except.ok.inj h).symm⟩
  · rintro ⟨tl, tr, hl, hr, hj, rfl⟩
    rw [hl, hr]
    exact if_neg (fun e => hj (eq_of_beq e))

theorem semNear_union (Θ : Interp) (ec : EngineCfg) (env : Env) (ctes : List (String × Table)) (n : String)
    (terms : List String) (l r : Near) (cols : List String) (key : Option String) (cols? : Option (List String))
    (force : Bool) :
    semNear Θ ec env ctes (.union n terms l r cols key) cols? force =
      (semNear Θ ec env ctes l (some cols) true).bind (fun tl =>
        (semNear Θ ec env ctes r (some cols) true).bind (fun tr =>
          .ok ⟨joinOut terms cols?, (tl.rows ++ tr.rows).map (fun row => row.select (joinOut terms cols?))⟩)) := by
  conv => lhs; unfold semNear
  rfl

theorem semNear_union_ok {Θ : Interp} {ec : EngineCfg} {env : Env} {ctes : List (String × Table)} {n : String}
    {terms : List String} {l r : Near} {cols : List String} {key : Option String} {cols? : Option (List String)}
    {force : Bool} {T : Table} :
    semNear Θ ec env ctes (.union n terms l r cols key) cols? force = .ok T ↔
      ∃ tl tr, semNear Θ ec env ctes l (some cols) true = .ok tl ∧ semNear Θ ec env ctes r (some cols) true = .ok tr ∧
        T = ⟨joinOut terms cols?, (tl.rows ++ tr.rows).map (fun row => row.select (joinOut terms cols?))⟩ := by
  rw [semNear_union]
  constructor
  · intro h
    obtain ⟨tl, hl, h⟩ := bind_eq_ok.mp h
    obtain ⟨tr, hr, h⟩ := bind_eq_ok.mp h
    exact ⟨tl, tr, hl, hr, (Except.ok.inj h).symm⟩
  · rintro ⟨tl, tr, hl, hr, rfl⟩
    rw [hl, hr]
    rfl

/-- matched pairs (left-major), then unmatched left rows (`keepL`), then unmatched right rows (`keepR`): the same
function as `joinRows` (`Proofs/Perm.lean`), for which the lemmas are stated -/
def joinRowsG {α : Type} (m : Row → Row → Bool) (mk : Option Row → Option Row → α) (keepL keepR : Bool)
    (la lb : List Row) : List α :=
  la.flatMap (fun ra => (lb.filter (fun rb => m ra rb)).map (fun rb => mk (some ra) (some rb)))
  ++ (if keepL then (la.filter (fun ra => !(lb.any (fun rb => m ra rb)))).map (fun ra => mk (some ra) none) else [])
  ++ (if keepR then (lb.filter (fun rb => !(la.any (fun ra => m ra rb)))).map (fun rb => mk none (some rb)) else [])

theorem joinRowsG_eq {α : Type} : @joinRowsG α = joinRows := rfl

theorem length_joinRowsG {α β : Type} (m : Row → Row → Bool) (mk : Option Row → Option Row → α)
    (mk' : Option Row → Option Row → β) (kl kr : Bool) (la lb : List Row) :
    (joinRowsG m mk kl kr la lb).length = (joinRowsG m mk' kl kr la lb).length := by
  have h1 := joinRows_map (fun _ => ()) m mk kl kr la lb
  have h2 := joinRows_map (fun _ => ()) m mk' kl kr la lb
  have := congrArg List.length (h1.trans h2.symm)
  rw [joinRowsG_eq, joinRowsG_eq]
  simpa using this

/-! ### Python dict assignment -/

theorem lookupLast_map_replace {β : Type} (d : List (String × β)) (k : String) (v : β) (k' : String) :
    lookupLast (d.map (fun kv => if kv.1 == k then (k, v) else kv)) k' =
      if k' = k then (lookupLast d k').map (fun _ => v) else lookupLast d k' := by
  induction d with
  | nil => simp [lookupLast_nil]
  | cons kv d ih =>
    obtain ⟨k0, v0⟩ := kv
    by_cases hk0 : k0 = k
    · subst hk0
      simp only [List.map_cons, beq_self_eq_true, ↓reduceIte, lookupLast_cons, ih]
      by_cases hk' : k' = k0
      · subst hk'
        simp only [↓reduceIte]
        cases lookupLast d k' <;> rfl
      · simp [hk']
    · have hb : (k0 == k) = false := by simpa using hk0
      simp only [List.map_cons, hb, Bool.false_eq_true, ↓reduceIte, lookupLast_cons, ih]
      by_cases hk' : k' = k
      · subst hk'
        have : ¬ k' = k0 := fun e => hk0 e.symm
        simp [this]
      · simp [hk']

theorem lookupLast_dictSet {β : Type} (d : List (String × β)) (k : String) (v : β) (k' : String) :
    lookupLast (dictSet d k v) k' = if k' = k then some v else lookupLast d k' := by
  unfold dictSet
  split
  · rename_i hany
    rw [lookupLast_map_replace]
    by_cases hk' : k' = k
    · subst hk'
      simp only [↓reduceIte]
      have hmem : k' ∈ d.map (·.1) := by
        simp only [List.any_eq_true, beq_iff_eq] at hany
        obtain ⟨kv, hkv, e⟩ := hany
        exact List.mem_map.mpr ⟨kv, hkv, e⟩
      cases hl : lookupLast d k' with
      | none => exact absurd hmem (lookupLast_eq_none_iff.mp hl)
      | some x => rfl
    · simp [hk']
  · rw [lookupLast_concat]

theorem keys_dictSet {β : Type} (d : List (String × β)) (k : String) (v : β) (k' : String) :
    k' ∈ (dictSet d k v).map (·.1) ↔ k' = k ∨ k' ∈ d.map (·.1) := by
  rw [← lookupLast_isSome_iff, ← lookupLast_isSome_iff, lookupLast_dictSet]
  by_cases h : k' = k <;> simp [h]

/-- the dictionary built by assigning `g x` to the key `f x` for the `x` of a list, in order -/
theorem lookupLast_foldl_dictSet {α β : Type} (xs : List α) (f : α → String) (g : α → β) (d : List (String × β))
    (k : String) :
    lookupLast (xs.foldl (fun d x => dictSet d (f x) (g x)) d) k =
      (lookupLast (xs.map (fun x => (f x, g x))) k).or (lookupLast d k) := by
  induction xs generalizing d with
  | nil => simp [lookupLast_nil]
  | cons x xs ih =>
    rw [List.foldl_cons, ih, lookupLast_dictSet, List.map_cons, lookupLast_cons]
    cases lookupLast (xs.map (fun x => (f x, g x))) k with
    | some y => rfl
    | none => by_cases h : k = f x <;> simp [h]

/-! ### `setTermKeys`: what `select_columns` / `drop_columns` do to the step they are applied to -/

theorem lookupLast_map_fn {β : Type} (ks : List String) (f : String → β) (c : String) :
    lookupLast (ks.map (fun k => (k, f k))) c = if c ∈ ks then some (f c) else none := by
  induction ks with
  | nil => rfl
  | cons k ks ih =>
    rw [List.map_cons, lookupLast_cons, ih]
    by_cases h : c = k
    · subst h; by_cases h2 : c ∈ ks <;> simp [h2]
    · by_cases h2 : c ∈ ks <;> simp [h, h2]

theorem lookupLast_map_const {β : Type} (ks : List String) (x : β) (c : String) :
    lookupLast (ks.map (fun k => (k, x))) c = if c ∈ ks then some x else none :=
  lookupLast_map_fn ks (fun _ => x) c

theorem lookupLast_filterMap_keys {β : Type} (ts : List (String × β)) (ks : List String) (c : String) :
    lookupLast (ks.filterMap (fun k => (lookupLast ts k).map (fun t => (k, t)))) c =
      if c ∈ ks then lookupLast ts c else none := by
  induction ks with
  | nil => rfl
  | cons k ks ih =>
    rw [List.filterMap_cons]
    cases hk : lookupLast ts k with
    | none =>
      simp only [Option.map_none, ih]
      by_cases h : c = k
      · subst h; by_cases h2 : c ∈ ks <;> simp [h2, hk]
      · simp [h]
    | some t =>
      simp only [Option.map_some, lookupLast_cons, ih]
      by_cases h : c = k
      · subst h; by_cases h2 : c ∈ ks <;> simp [h2, hk]
      · by_cases h2 : c ∈ ks <;> simp [h, h2]

theorem keys_filterMap_keys {β : Type} (ts : List (String × β)) (ks : List String)
    (h : ∀ k ∈ ks, k ∈ ts.map (·.1)) :
    (ks.filterMap (fun k => (lookupLast ts k).map (fun t => (k, t)))).map (·.1) = ks := by
  induction ks with
  | nil => rfl
  | cons k ks ih =>
    rw [List.filterMap_cons]
    cases hk : lookupLast ts k with
    | none => exact absurd (h k List.mem_cons_self) (lookupLast_eq_none_iff.mp hk)
    | some t =>
      simp only [Option.map_some, List.map_cons, List.cons.injEq, true_and]
      exact ih (fun k' hk' => h k' (List.mem_cons_of_mem _ hk'))

theorem keys_map_const {β : Type} (ks : List String) (x : β) : (ks.map (fun k => (k, x))).map (·.1) = ks := by
  rw [List.map_map]; exact List.map_id' ks

/-- tables and unary steps (what the translation of the fragment returns) -/
def Near.isSimple : Near → Bool
  | .table .. | .unary .. => true
  | _ => false

/-- **What a successful `setTermKeys` does to a table or a unary step**: nothing when no key is kept (fix D36); a
table keeps the keys; a unary step gets a term dictionary with exactly the kept keys, whose terms are the old ones
or, when `select_columns` names the columns of a `SELECT *` step (fix D35), pass-through terms. -/
theorem setTermKeys_inv {q q' : Near} {ks : List String} {sel : Bool} (h : setTermKeys q ks sel = some q')
    (hs : q.isSimple = true) :
    (q' = q ∧ ks = []) ∨
    (∃ n ts, q = .table n ts ∧ q' = .table n ks ∧ ks ≠ []) ∨
    (∃ n ts ts' agg sub sc sf mg deps key, q = .unary n ts agg sub sc sf mg deps key ∧
      q' = .unary n (some ts') agg sub sc sf mg deps key ∧ ts'.map (·.1) = ks ∧ (ts = none ∨ ks ≠ []) ∧
      ∀ c ∈ ks, lookupLast ts' c = lookT ts c ∨ (lookT ts c = none ∧ lookupLast ts' c = some .pass)) := by
  cases hk : ks.isEmpty with
  | true =>
    have hnil : ks = [] := List.isEmpty_iff.mp hk
    cases q with
    | table n ts =>
      simp only [setTermKeys, hk, ↓reduceIte] at h
      exact Or.inl ⟨(Option.some.inj h).symm, hnil⟩
    | unary n ts agg sub sc sf mg deps key =>
      cases ts with
      | some ts =>
        simp only [setTermKeys, hk, ↓reduceIte] at h
        exact Or.inl ⟨(Option.some.inj h).symm, hnil⟩
      | none =>
        subst hnil
        cases sel
        · exact Or.inl ⟨(Option.some.inj h).symm, rfl⟩
        · exact Or.inr (Or.inr ⟨n, none, [], agg, sub, sc, sf, mg, deps, key, rfl, (Option.some.inj h).symm, rfl,
            Or.inl rfl, fun _ hc => nomatch hc⟩)
    | cte _ => cases hs
    | join => cases hs
    | union => cases hs
  | false =>
    have hne : ks ≠ [] := by rintro rfl; cases hk
    cases q with
    | table n ts =>
      simp only [setTermKeys, hk, Bool.false_eq_true, ↓reduceIte] at h
      split at h
      · exact Or.inr (Or.inl ⟨n, ts, rfl, (Option.some.inj h).symm, hne⟩)
      · cases h
    | unary n ts agg sub sc sf mg deps key =>
      cases ts with
      | some ts =>
        simp only [setTermKeys, hk, Bool.false_eq_true, ↓reduceIte] at h
        split at h
        · rename_i hsub
          exact Or.inr (Or.inr ⟨n, some ts, _, agg, sub, sc, sf, mg, deps, key, rfl, (Option.some.inj h).symm,
            keys_filterMap_keys ts ks (subset_iff.mp hsub), Or.inr hne,
            fun c hc => Or.inl (by rw [lookupLast_filterMap_keys, if_pos hc]; rfl)⟩)
        · cases h
      | none =>
        cases sel
        · simp only [setTermKeys, hk, ↓reduceIte, Bool.false_eq_true] at h
          cases h
        · exact Or.inr (Or.inr ⟨n, none, _, agg, sub, sc, sf, mg, deps, key, rfl, (Option.some.inj h).symm,
            keys_map_const ks STerm.pass, Or.inl rfl,
            fun c hc => Or.inr ⟨rfl, by rw [lookupLast_map_const, if_pos hc]⟩⟩)
    | cte _ => cases hs
    | join => cases hs
    | union => cases hs

/-- the term keys after a successful `setTermKeys` with a non-empty key list -/
theorem termKeys_setTermKeys {q q' : Near} {ks : List String} {sel : Bool} (h : setTermKeys q ks sel = some q')
    (hs : q.isSimple = true) (hne : ks ≠ []) : q'.termKeys = some ks := by
  rcases setTermKeys_inv h hs with ⟨_, hk⟩ | ⟨n, ts, _, rfl, _⟩ | ⟨n, ts, ts', agg, sub, sc, sf, mg, deps, key, _, rfl, hk, _⟩
  · exact absurd hk hne
  · rfl
  · exact congrArg some hk

theorem isSimple_setTermKeys {q q' : Near} {ks : List String} {sel : Bool} (h : setTermKeys q ks sel = some q')
    (hs : q.isSimple = true) : q'.isSimple = true := by
  rcases setTermKeys_inv h hs with ⟨rfl, _⟩ | ⟨n, ts, _, rfl, _⟩ | ⟨n, ts, ts', agg, sub, sc, sf, mg, deps, key, _, rfl, _⟩
  · exact hs
  · rfl
  · rfl

/-- with nothing to keep, `setTermKeys` keeps the step (fix D36) -/
theorem setTermKeys_nil {q q' : Near} {sel : Bool} (h : setTermKeys q [] sel = some q')
    (hs : q.isSimple = true) :
    q' = q ∨ ∃ n agg sub sc sf mg deps key, q = .unary n none agg sub sc sf mg deps key ∧
      q' = .unary n (some []) agg sub sc sf mg deps key := by
  rcases setTermKeys_inv h hs with ⟨e, _⟩ | ⟨n, ts, _, _, hne⟩ |
    ⟨n, ts, ts', agg, sub, sc, sf, mg, deps, key, rfl, rfl, hk, hts | hne, _⟩
  · exact Or.inl e
  · exact absurd rfl hne
  · rw [List.map_eq_nil_iff.mp hk, hts]
    exact Or.inr ⟨n, agg, sub, sc, sf, mg, deps, key, rfl, rfl⟩
  · exact absurd rfl hne

theorem outCols_some_mem {terms : Option Terms} {u fc : List String} (hne : u ≠ []) (hterms : terms ≠ none) :
    outCols terms (some u) fc = u := by
  cases terms with
  | none => exact absurd rfl hterms
  | some ts =>
    cases u with
    | nil => exact absurd rfl hne
    | cons _ _ => rfl

theorem subset_outCols_some {ts : Terms} {u fc : List String} : ∀ c ∈ u, c ∈ outCols (some ts) (some u) fc := by
  intro c hc
  cases u with
  | nil => cases hc
  | cons _ _ => exact hc

/-- **`setTermKeys` does not change what the step returns for the kept keys.**  For every request `u'` within the
kept keys `ks`: the modified step evaluates when the original does, to the same rows as far as `u'` goes; its
columns are columns of the original result or requested ones. -/
theorem setTermKeys_req {Θ : Interp} {ec : EngineCfg} {env : Env} {q q' : Near} {ks : List String} {sel : Bool}
    (h : setTermKeys q ks sel = some q') (hs : q.isSimple = true)
    {u' : List String} (hu : ∀ c ∈ u', c ∈ ks) (force : Bool) {T : Table}
    (hT : semNear Θ ec env [] q (some u') force = .ok T) (hcols : ∀ c ∈ u', c ∈ T.cols) :
    ∃ T', semNear Θ ec env [] q' (some u') force = .ok T' ∧ (∀ c ∈ u', c ∈ T'.cols) ∧
      (u' ≠ [] → ∀ c ∈ T'.cols, c ∈ T.cols ∨ c ∈ u') ∧
      T'.rows.map (fun r => r.select u') = T.rows.map (fun r => r.select u') := by
  rcases setTermKeys_inv h hs with ⟨rfl, _⟩ | ⟨n, ts, rfl, rfl, _⟩ |
    ⟨n, ts, ts', agg, sub, sc, sf, mg, deps, key, rfl, rfl, _, _, hlook⟩
  · exact ⟨T, hT, hcols, fun _ c hc => Or.inl hc, rfl⟩
  · -- a table bound with requested columns does not look at its terms
    exact ⟨T, hT, hcols, fun _ c hc => Or.inl hc, rfl⟩
  · -- a unary step whose terms change to terms with the same values on `u'`
    obtain ⟨t, hsub, rfl⟩ := semNear_unary_inv hT
    refine ⟨_, semNear_unary_ok hsub (some u') force, subset_outCols_some (fc := t.cols), fun hne c hc => ?_, ?_⟩
    · rw [outCols_some_mem hne (Option.some_ne_none ts')] at hc
      exact Or.inr hc
    · show (stepRows Θ ec (some ts') agg sf _ t.rows).map _ = (stepRows Θ ec ts agg sf _ t.rows).map _
      rw [stepRows_select Θ ec (some ts') agg sf (subset_outCols_some (fc := t.cols)), stepRows_select Θ ec ts agg sf hcols]
      apply stepRows_congr
      intro c hc
      rcases hlook c (hu c hc) with e | ⟨e1, e2⟩
      · rw [show lookT (some ts') c = lookT ts c from e]
        exact ⟨fun _ _ => rfl, fun _ => rfl⟩
      · rw [e1, show lookT (some ts') c = some .pass from e2]
        exact ⟨fun _ _ => rfl, fun _ => rfl⟩

end Sql
end DAVerif
