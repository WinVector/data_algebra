import Mathlib.Data.Rat.Floor
import Mathlib.Tactic.Linarith
import Mathlib.Tactic.Push
import DAVerif.Proofs.Methods
/-!
Numeric lemmas of C05 about `Rat.floor` (the only place of C05 that uses Mathlib: order facts of ℚ and `linarith`):
rounding half away from zero (SQL `ROUND`) equals rounding to nearest outside ties, truncation of integers, SQLite's `%`
on non-negative integers.
-/
namespace DAVerif.C05
open DAVerif DAVerif.Doc

theorem floor_le' (x : Rat) : ((x.floor : Int) : Rat) ≤ x := Int.floor_le x

theorem lt_floor_add_one' (x : Rat) : x < ((x.floor : Int) : Rat) + 1 := Int.lt_floor_add_one x

theorem floor_unique (x : Rat) (z : Int) (h1 : (z : Rat) ≤ x) (h2 : x < (z : Rat) + 1) : x.floor = z :=
  Int.floor_eq_iff.mpr ⟨h1, h2⟩

theorem floor_intCast' (n : Int) : (n : Rat).floor = n :=
  floor_unique _ n (le_refl _) (by linarith)

theorem floor_of_den_one (x : Rat) (h : x.den = 1) : ((x.floor : Int) : Rat) = x := by
  have hx : ((x.num : Int) : Rat) = x := (Rat.den_eq_one_iff x).mp h
  rw [← hx, floor_intCast']

theorem nearest_bounds {y : Rat} {R : Int} (h : nearest? y = some R) : y - 1/2 < R ∧ (R : Rat) < y + 1/2 := by
  unfold nearest? at h
  simp only [] at h
  have h1 := floor_le' y
  have h2 := lt_floor_add_one' y
  split at h
  · rename_i hlt
    cases h; exact ⟨by linarith only [hlt], by linarith only [h1]⟩
  · split at h
    · rename_i hgt
      cases h; push_cast; exact ⟨by linarith only [h2], by linarith only [hgt]⟩
    · cases h

theorem int_eq_of_close {a b : Int} (h1 : (a : Rat) - b < 1) (h2 : (b : Rat) - a < 1) : a = b := by
  have h1' : a - b < 1 := by exact_mod_cast h1
  have h2' : b - a < 1 := by exact_mod_cast h2
  omega

/-- SQL `ROUND` (half away from zero) of `x·p` is the nearest integer whenever that is determined (no tie): rounding
`|x|·p` half up gives an integer `r` with `|x|·p - 1/2 < r ≤ |x|·p + 1/2`, so `± r` and `R` are two integers in the
same half-open interval of length one -/
theorem halfAway_eq_nearest {x p : Rat} {R : Int} (h : nearest? (x * p) = some R) : halfAway x p = (R : Rat) := by
  obtain ⟨hR1, hR2⟩ := nearest_bounds h
  unfold halfAway
  simp only []
  generalize hz : (if x < 0 then -x else x) * p = z
  have h1 := floor_le' z
  have h2 := lt_floor_add_one' z
  have hr : z - 1/2 < ((if z - (z.floor : Int) < 1/2 then z.floor else z.floor + 1 : Int) : Rat) ∧
      ((if z - (z.floor : Int) < 1/2 then z.floor else z.floor + 1 : Int) : Rat) ≤ z + 1/2 := by
    split
    · rename_i hlt
      exact ⟨by linarith only [hlt], by linarith only [h1]⟩
    · rename_i hge
      push_cast
      exact ⟨by linarith only [h2], by linarith only [hge]⟩
  generalize (if z - (z.floor : Int) < 1/2 then z.floor else z.floor + 1 : Int) = r at hr ⊢
  by_cases hx : x < 0
  · rw [if_pos hx] at hz ⊢
    have hzy : z = -(x * p) := by rw [← hz]; ring
    have : -r = R := int_eq_of_close (by push_cast; linarith only [hr.1, hR1, hzy]) (by push_cast; linarith only [hr.2, hR2, hzy])
    rw [← this]; push_cast; ring
  · rw [if_neg hx] at hz ⊢
    have : r = R := int_eq_of_close (by linarith only [hr.2, hR1, hz]) (by linarith only [hr.1, hR2, hz])
    rw [this]; ring

theorem truncZ_of_den_one (x : Rat) (h : x.den = 1) : ((ThetaX.truncZ x : Int) : Rat) = x := by
  unfold ThetaX.truncZ
  by_cases hx : x < 0
  · rw [if_pos hx]
    have hd : (-x).den = 1 := by rw [Rat.neg_den]; exact h
    push_cast
    rw [floor_of_den_one (-x) hd]; ring
  · rw [if_neg hx]; exact floor_of_den_one x h

theorem sqliteMod_nonneg_int (x y : Rat) (hx : 0 ≤ x) (hy : 0 < y) (hdx : x.den = 1) (hdy : y.den = 1) :
    ThetaSqlX.sqliteMod x y = some (x - y * (((x / y).floor : Int) : Rat)) := by
  unfold ThetaSqlX.sqliteMod
  have tx : ((ThetaX.truncZ x : Int) : Rat) = x := truncZ_of_den_one x hdx
  have ty : ((ThetaX.truncZ y : Int) : Rat) = y := truncZ_of_den_one y hdy
  have hb : ThetaX.truncZ y ≠ 0 := by
    intro h0; rw [h0] at ty; simp at ty; linarith
  simp only [beq_iff_eq, hb, if_false]
  rw [tx, ty]
  have hq : ¬ (x / y < 0) := by
    have : 0 ≤ x / y := div_nonneg hx (le_of_lt hy)
    linarith
  congr 1
  have ht : ThetaX.truncZ (x / y) = (x / y).floor := by
    unfold ThetaX.truncZ; rw [if_neg hq]
  rw [ht]
  push_cast
  rw [tx, ty]

end DAVerif.C05
