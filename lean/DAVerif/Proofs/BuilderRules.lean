import DAVerif.Proofs.BuilderWF
import DAVerif.Proofs.C06Accept
/-!
C26 – every builder call computes the documented verdict (`build_verdict`):
`(build p s).map (fun _ => ()) = Rules26.verdict p.cols p.tables s`
(accepted iff every documented rule holds; otherwise the error class of the first violated rule), on every valid
pipeline.  Two halves.  On a valid pipeline the outcome of `build`, with its simplifications, is that of the raw
checks on the declared columns (`build_errOf_rawChk`, `Proofs/C06Accept.lean`).  And the raw check chain of every
step is the verdict of its rule list (`rawChk_verdict`), a statement about column lists and steps only.
-/
namespace DAVerif
open Rules26

theorem subset_eq_decide (a b : List String) : subset a b = decide (∀ x ∈ a, x ∈ b) := by
  rw [Bool.eq_iff_iff, subset_iff]; simp
theorem disjoint_eq_decide (a b : List String) : disjoint a b = decide (∀ x ∈ a, x ∉ b) := by
  rw [Bool.eq_iff_iff, disjoint_iff]; simp
theorem nodupB_eq_decide (a : List String) : nodupB a = decide a.Nodup := by
  rw [Bool.eq_iff_iff, nodupB_iff]; simp

abbrev outcome (r : Except Err Ops) : Except Err Unit := r.map (fun _ => ())

theorem outcome_of_errOf {x : Except Err Ops} {y : Except Err Unit} (h : errOf x = errOf y) : outcome x = y := by
  cases x <;> cases y <;> first | rfl | (cases h; rfl) | cases h

theorem build_selectRows_none (p : Ops) : outcome (build p (.selectRows none)) = verdict p.cols p.tables (.selectRows none) := rfl

theorem ite_error_congr {α : Type} {c : Prop} {_ : Decidable c} {e : Err} {a b : Except Err α} (h : c → a = b) :
    (if c then a else .error e) = (if c then b else .error e) := by
  split
  · exact h ‹c›
  · rfl

theorem verdictOf_cons (r : Rule) (rs : List Rule) : verdictOf (r :: rs) = ok? r.holds r.err >>= fun _ => verdictOf rs := by
  cases h : r.holds <;> simp only [verdictOf, h, ok?_bind] <;> rfl

theorem verdictOf_nil : verdictOf [] = .ok () := rfl

theorem bind_ok_unit (x : Except Err Unit) : (x >>= fun _ => .ok ()) = x := by cases x <;> rfl

theorem unit_bind_eq {x y : Except Err Unit} (h : (x >>= fun _ => .ok ()) = y) : x = y := bind_ok_unit x ▸ h

theorem verdictOf_append (rs ss : List Rule) : verdictOf (rs ++ ss) = verdictOf rs >>= fun _ => verdictOf ss := by
  induction rs with
  | nil => rfl
  | cons r rs ih =>
    simp only [List.cons_append, verdictOf]
    split
    · exact ih
    · rfl

theorem verdictOf_eq_ok {rs : List Rule} : verdictOf rs = .ok () ↔ ∀ r ∈ rs, r.holds = true := by
  induction rs with
  | nil => simp only [verdictOf, List.not_mem_nil, false_imp_iff, implies_true]
  | cons r rs ih =>
    simp only [verdictOf, List.forall_mem_cons]
    cases r.holds
    · simp only [Bool.false_eq_true, if_false, reduceCtorEq, false_and]
    · simpa only [if_true, true_and] using ih

theorem bind_congr_ok {α : Type} {m : Except Err Unit} {f g : Unit → Except Err α}
    (h : m = .ok () → f () = g ()) : (m >>= f) = (m >>= g) := by
  cases m with
  | error e => rfl
  | ok u => exact h rfl

theorem parseChk_verdict (cols : List String) (ops : Assign) : parseChk cols ops = verdictOf (assignRules cols ops) := by
  have h2 : (ops.all fun kv => subset (Term.colsRaw kv.2) cols) = decide (∀ c ∈ usedBy ops, c ∈ cols) := by
    rw [Bool.eq_iff_iff, decide_eq_true_eq]; simp only [List.all_eq_true, subset_iff, usedBy, List.mem_flatMap]
    constructor
    · rintro h c ⟨kv, hkv, hc⟩; exact h kv hkv c hc
    · intro h kv hkv c hc; exact h c ⟨kv, hkv, hc⟩
  have h3 : disjoint (ops.map (·.1)) (ops.flatMap fun kv => (Term.colsRaw kv.2).filter (fun c => c != kv.1))
      = decide (∀ kv ∈ ops, ∀ c ∈ Term.colsRaw kv.2, c ≠ kv.1 → c ∉ keys ops) := by
    rw [Bool.eq_iff_iff, disjoint_iff, decide_eq_true_eq]
    simp only [keys, List.mem_flatMap, List.mem_filter, bne_iff_ne, ne_eq, not_exists, not_and]
    constructor
    · intro h kv hkv c hc hne hmem; exact h c hmem kv hkv hc hne
    · intro h c hmem kv hkv hc hne; exact h kv hkv c hc hne hmem
  simp only [parseChk, assignRules, verdictOf_cons, verdictOf_nil, bind_ok_unit, nodupB_eq_decide, h2, h3, keys]

theorem assignRules_ok {cols : List String} {ops : Assign} (h : verdictOf (assignRules cols ops) = .ok ()) :
    AssignOK cols ops :=
  parseChk_ok_iff.mp ((parseChk_verdict cols ops).trans h)

theorem dropChk_verdict (sc cs : List String) :
    dropChk sc cs = verdictOf [⟨"dropped columns are known", decide (∀ c ∈ cs, c ∈ sc), .keyError⟩,
      ⟨"can not drop all columns", decide (∃ c ∈ sc, c ∉ cs), .valueError⟩] := by
  have h2 : (!(List.filter (fun c => !cs.contains c) sc).isEmpty) = decide (∃ c ∈ sc, c ∉ cs) := by
    rw [Bool.eq_iff_iff]; simp [List.filter_eq_nil_iff]
  simp only [dropChk, verdictOf_cons, verdictOf_nil, bind_ok_unit, subset_eq_decide, h2]

theorem orderChk_verdict (sc cs rv : List String) :
    orderChk sc cs rv = verdictOf [⟨"order columns are known", decide (∀ c ∈ cs, c ∈ sc), .valueError⟩,
      ⟨"reverse columns are order columns", decide (∀ c ∈ rv, c ∈ cs), .valueError⟩] := by
  simp only [orderChk, verdictOf_cons, verdictOf_nil, bind_ok_unit, subset_eq_decide]

theorem convertChk_verdict (sc : List String) (rm : RecMap) :
    convertChk sc rm = verdictOf [⟨"the record map's needed columns are present", decide (∀ c ∈ rm.needed, c ∈ sc), .valueError⟩,
      ⟨"the record map produces at least one column, none twice",
        decide (rm.produced ≠ [] ∧ rm.produced.Nodup), .assertionError⟩] := by
  have h2 : decide (rm.produced ≠ [] ∧ rm.produced.Nodup) = (!rm.produced.isEmpty && nodupB rm.produced) := by
    rw [Bool.eq_iff_iff]; simp [nodupB_iff]
  simp only [convertChk, verdictOf_cons, verdictOf_nil, bind_ok_unit, subset_eq_decide, h2]
  cases rm.produced.isEmpty <;> cases nodupB rm.produced <;> rfl

theorem selectChk_verdict (sc cs : List String) :
    selectChk sc cs = verdictOf [⟨"must select at least one column", !cs.isEmpty, .valueError⟩,
      ⟨"selected columns are known", decide (∀ c ∈ cs, c ∈ sc), .keyError⟩,
      ⟨"no column selected twice", decide cs.Nodup, .assertionError⟩] := by
  simp only [selectChk, verdictOf_cons, verdictOf_nil, bind_ok_unit, subset_eq_decide, nodupB_eq_decide]

theorem rename_cols_eq (src : Ops) (m : List (String × String)) :
    (Ops.rename src m).cols = renamed src.cols m := by
  simp only [Ops.cols, renamed]
  apply List.map_congr_left
  intro c _
  simp only [lookupLast, ← List.map_reverse, List.find?_map]
  cases h : List.find? ((fun kv => kv.1 == c) ∘ fun kv : String × String => (kv.2, kv.1)) m.reverse with
  | none =>
    have : List.find? (fun kv : String × String => kv.2 == c) m.reverse = none := h
    simp [this]
  | some kv =>
    have : List.find? (fun kv : String × String => kv.2 == c) m.reverse = some kv := h
    simp [this]

theorem renameChk_verdict (sc : List String) (m : List (String × String)) :
    renameChk sc m = verdictOf [⟨"renamed sources are known columns", decide (∀ kv ∈ m, kv.2 ∈ sc), .valueError⟩,
      ⟨"no new name collides with a column that stays", decide (∀ kv ∈ m, kv.1 ∈ sc → kv.1 ∈ m.map (·.2)), .valueError⟩,
      ⟨"the renamed column list has no duplicates", decide (renamed sc m).Nodup, .assertionError⟩] := by
  have h1 : decide (∀ x ∈ m.map (fun kv : String × String => kv.2), x ∈ sc) = decide (∀ kv ∈ m, kv.2 ∈ sc) := by
    rw [Bool.eq_iff_iff]; simp only [List.forall_mem_map, decide_eq_true_eq]
  have h2 : (List.filter (fun c => (m.map (·.1)).contains c)
        (List.filter (fun c => !(inter (m.map (·.1)) (m.map (·.2))).contains c) sc)).isEmpty
      = decide (∀ kv ∈ m, kv.1 ∈ sc → kv.1 ∈ m.map (·.2)) := by
    rw [Bool.eq_iff_iff, collision_iff, decide_eq_true_eq]
    exact ⟨fun h kv hkv hs => h _ hs (List.mem_map_of_mem hkv),
      fun h c hc hn => by obtain ⟨kv, hkv, rfl⟩ := List.mem_map.mp hn; exact h kv hkv hc⟩
  have h3 : renameCols sc m = renamed sc m := rename_cols_eq (.table "" sc) m
  simp only [renameChk, verdictOf_cons, verdictOf_nil, bind_ok_unit, subset_eq_decide, h1, h2, h3, nodupB_eq_decide]
theorem mapCols_cols_eq (src : Ops) (m : List (String × Option String)) :
    (Ops.mapCols src (m.filterMap (fun kv => kv.2.map (fun v => (kv.1, v))))
      ((m.filter (fun kv => kv.2.isNone)).map (·.1))).cols = mapped src.cols m := by
  simp only [Ops.cols, mapped]
  apply List.map_congr_left
  intro c _
  simp only [lookupLast]
  cases List.find? (fun kv : String × String => kv.1 == c)
    (List.filterMap (fun kv : String × Option String => Option.map (fun v => (kv.1, v)) kv.2) m).reverse <;> rfl

theorem remap_targets (m : List (String × Option String)) :
    (m.filterMap (fun kv => kv.2.map (fun v => (kv.1, v)))).map (fun kv : String × String => kv.2) = mapTargets m := by
  unfold mapTargets
  induction m with
  | nil => rfl
  | cons kv m ih =>
    obtain ⟨k, v⟩ := kv
    cases v <;> simp [ih]

theorem mapColsChk_verdict (sc : List String) (m : List (String × Option String)) :
    mapColsChk sc m = verdictOf [⟨"mapped sources are known columns", decide (∀ kv ∈ m, kv.1 ∈ sc), .valueError⟩,
      ⟨"no new name collides with a column that stays",
        decide (∀ v ∈ mapTargets m, v ∈ sc → v ∈ mapSources m), .valueError⟩,
      ⟨"can not drop all columns", !(mapped sc m).isEmpty, .assertionError⟩,
      ⟨"the mapped column list has no duplicates", decide (mapped sc m).Nodup, .assertionError⟩] := by
  have h1 : decide (∀ x ∈ m.map (fun kv : String × Option String => kv.1), x ∈ sc) = decide (∀ kv ∈ m, kv.1 ∈ sc) := by
    rw [Bool.eq_iff_iff]; simp only [List.forall_mem_map, decide_eq_true_eq]
  have h2 : (List.filter (fun c => (mapTargets m).contains c)
        (List.filter (fun c => !(inter (mapTargets m) (m.map (·.1))).contains c) sc)).isEmpty
      = decide (∀ v ∈ mapTargets m, v ∈ sc → v ∈ mapSources m) := by
    rw [Bool.eq_iff_iff, collision_iff, decide_eq_true_eq]
    exact ⟨fun h v hv hs => h v hs hv, fun h c hc hn => h c hn hc⟩
  have h3 : mapColsCols sc (mapRemap m) (mapDels m) = mapped sc m := mapCols_cols_eq (.table "" sc) m
  simp only [mapColsChk, mapRemap, remap_targets, verdictOf_cons, verdictOf_nil, bind_ok_unit, subset_eq_decide, h1, h2, nodupB_eq_decide]
  rw [show m.filterMap (fun kv => kv.2.map (fun v => (kv.1, v))) = mapRemap m from rfl, h3]

theorem tablesConsistent_eq_decide (ta tb : List (String × List String)) :
    tablesConsistent ta tb = decide (TablesAgree ta tb) := by
  rw [Bool.eq_iff_iff, decide_eq_true_eq]
  exact tablesConsistent_iff

theorem parse_spec (jt : String) :
    (JoinType.parse jt = none ∧ knownJoinTypes.contains jt.toUpper = false) ∨
    (∃ t, JoinType.parse jt = some t ∧ knownJoinTypes.contains jt.toUpper = true ∧
      (t == JoinType.cross) = (jt.toUpper == "CROSS")) := by
  unfold JoinType.parse
  generalize jt.toUpper = u
  split
  all_goals first
    | (right; exact ⟨_, rfl, by decide, by decide⟩)
    | skip
  rename_i h1 h2 h3 h4 h5 h6
  left
  refine ⟨rfl, ?_⟩
  simp only [knownJoinTypes, List.contains_cons, List.contains_nil, Bool.or_false, Bool.or_eq_false_iff,
    beq_eq_false_iff_ne, ne_eq]
  exact ⟨h1, h2, h3, h4, h5, h6⟩

theorem concatChk_verdict (sc : List String) (ta : List (String × List String)) (b : Ops) (idc : Option String) :
    concatChk sc b.cols ta b.tables idc =
      verdictOf [⟨"both sides describe shared tables the same way", decide (TablesAgree ta b.tables), .valueError⟩,
        ⟨"a and b have the same set of column names", decide ((∀ c ∈ sc, c ∈ b.cols) ∧ ∀ c ∈ b.cols, c ∈ sc), .valueError⟩,
        ⟨"id_column is not an input column", (match idc with | none => true | some c => !sc.contains c), .valueError⟩] := by
  have h2 : (subset sc b.cols && subset b.cols sc) = decide ((∀ c ∈ sc, c ∈ b.cols) ∧ ∀ c ∈ b.cols, c ∈ sc) := by
    rw [Bool.eq_iff_iff]; simp [subset_iff]
  simp only [concatChk, verdictOf_cons, verdictOf_nil, bind_ok_unit, tablesConsistent_eq_decide, h2]
  cases idc <;> rfl

theorem joinChk_verdict (sc : List String) (ta : List (String × List String)) (b : Ops) (onA onB : List String)
    (jt : String) (check : Bool) :
    (joinChk sc b.cols ta b.tables onA onB jt check >>= fun _ => .ok ()) =
      verdictOf [⟨"both sides describe shared tables the same way", decide (TablesAgree ta b.tables), .valueError⟩,
        ⟨"as many left keys as right keys", onA.length == onB.length, .assertionError⟩,
        ⟨"left table has the join keys", decide (∀ c ∈ onA, c ∈ sc), .keyError⟩,
        ⟨"right table has the join keys", decide (∀ c ∈ onB, c ∈ b.cols), .keyError⟩,
        ⟨"check requested: every common column is a key on both sides",
          !check || decide (∀ c ∈ sc, c ∈ b.cols → c ∈ onA ∧ c ∈ onB), .keyError⟩,
        ⟨"known join type", knownJoinTypes.contains jt.toUpper, .keyError⟩,
        ⟨"CROSS joins must have an empty on list", !(jt.toUpper == "CROSS") || onA.isEmpty, .valueError⟩] := by
  have hc : (List.filter (fun c => !(inter onA onB).contains c) (inter sc b.cols)).isEmpty
      = decide (∀ c ∈ sc, c ∈ b.cols → c ∈ onA ∧ c ∈ onB) := by
    rw [Bool.eq_iff_iff]
    simp only [List.isEmpty_iff, List.filter_eq_nil_iff, mem_inter, Bool.not_eq_eq_eq_not, Bool.not_true,
      List.contains_eq_mem, decide_eq_false_iff_not, Decidable.not_not, and_imp, decide_eq_true_eq]
  simp only [joinChk, bind_assoc]
  simp only [ok?_bind, verdictOf, subset_eq_decide, tablesConsistent_eq_decide, hc]
  refine ite_error_congr fun _ => ite_error_congr fun _ => ite_error_congr fun _ => ite_error_congr fun _ =>
    ite_error_congr fun _ => ?_
  rcases parse_spec jt with ⟨h1, h2⟩ | ⟨t, h1, h2, h3⟩
  · rw [h1, h2]; rfl
  · rw [h1, h2, ← h3]
    simp only [Bool.not_and, Bool.not_not, if_true]
    split <;> rfl

theorem windowOpOk_eq (cols : List String) (ordered : Bool) (t : Term) :
    windowOpOk cols ordered t = windowExprOk cols ordered t := by
  unfold windowOpOk windowExprOk windowExprOk.nameOk
  cases t with
  | app op args i m =>
    cases args with
    | nil => cases ordered <;> simp
    | cons a rest =>
      have hv : isValue = isConst := by funext t; cases t <;> rfl
      cases a <;> cases ordered <;> simp [hv] <;> ac_rfl
  | _ => rfl

theorem projectOpOk_eq (t : Term) : projectOpOk t = projectExprOk t := by
  unfold projectOpOk projectExprOk projectExprOk.nameOk
  cases t with
  | app op args i m =>
    cases args with
    | nil => simp
    | cons a rest =>
      cases rest with
      | nil => cases a <;> simp
      | cons b rest => cases a <;> simp
  | _ => rfl

theorem ite_and' {α : Type} (P Q : Prop) [Decidable P] [Decidable Q] (a b : α) :
    (if P ∧ Q then a else b) = if P then (if Q then a else b) else b := by
  by_cases hp : P <;> by_cases hq : Q <;> simp [hp, hq]

/-- once the argument checks of `extend_parsed_` hold, the only check of `ExtendNode.__init__` that can still fail
is the one on window expressions -/
theorem extendChk_of_front {sc : List String} {ops : Assign} {pa : PartArg} {od rv : List String}
    (h1 : ∀ c ∈ usedBy ops, c ∈ sc) (h2 : pa.cols'.Nodup) (h3 : od.Nodup) (h4 : rv.Nodup)
    (h5 : ∀ c ∈ pa.cols', c ∈ sc) (h6 : ∀ c ∈ od, c ∈ sc) (h7 : ∀ c ∈ rv, c ∈ od)
    (h8 : ∀ k ∈ keys ops, k ∉ pa.cols' ∧ k ∉ od) :
    extendChk sc ops pa od rv =
      ok? (!stepWindowed ops pa od || ops.all (fun kv => windowOpOk sc (!od.isEmpty) kv.2)) .valueError := by
  have e1 : subset (Term.colsUsedOps ops) sc = true :=
    subset_iff.mpr fun c hc => h1 c (List.mem_flatMap.mpr (mem_colsUsedOps.mp hc))
  have e8 : disjoint (ops.map (·.1)) (pa.cols' ++ od ++ rv) = true := by
    rw [disjoint_iff]; intro k hk hm
    simp only [List.append_assoc, List.mem_append] at hm
    rcases hm with hm | hm | hm
    · exact (h8 k hk).1 hm
    · exact (h8 k hk).2 hm
    · exact (h8 k hk).2 (h7 k hm)
  simp only [extendChk, e1, nodupB_iff.mpr h2, nodupB_iff.mpr h3, nodupB_iff.mpr h4, subset_iff.mpr h5,
    subset_iff.mpr h6, subset_iff.mpr h7, e8, ok?_true, ok_bind]

theorem extend_verdict (sc : List String) (ops : Assign) (pa : PartArg) (od rv : List String)
    (h2 : ∀ c ∈ usedBy ops, c ∈ sc) :
    (extendPre sc ops pa od rv >>= fun _ => extendChk sc ops pa od rv) =
      verdictOf [ ⟨"partition_by: no duplicates, known columns", decide ((partCols pa).Nodup ∧ ∀ c ∈ partCols pa, c ∈ sc), .assertionError⟩,
        ⟨"order_by: no duplicates, known columns", decide (od.Nodup ∧ ∀ c ∈ od, c ∈ sc), .assertionError⟩,
        ⟨"reverse: no duplicates, known columns", decide (rv.Nodup ∧ ∀ c ∈ rv, c ∈ sc), .assertionError⟩,
        ⟨"must not change partition_by columns", decide (∀ k ∈ keys ops, k ∉ partCols pa), .valueError⟩,
        ⟨"order_by and partition_by columns must be disjoint", decide (∀ c ∈ partCols pa, c ∉ od), .valueError⟩,
        ⟨"must not change order_by columns", decide (∀ k ∈ keys ops, k ∉ od), .valueError⟩,
        ⟨"all columns in reverse must be in order_by", decide (∀ c ∈ rv, c ∈ od), .valueError⟩,
        ⟨"windowed situation: only simple window expressions of a fitting function",
          !windowedSituation ops pa od || ops.all (fun kv => windowExprOk sc (!od.isEmpty) kv.2),
          .valueError⟩ ] := by
  refine unit_bind_eq ?_
  simp only [extendPre, workColGroup, bind_assoc]
  simp only [ok?_bind, nodupB_eq_decide, subset_eq_decide, disjoint_eq_decide, decide_eq_true_eq, verdictOf, ite_and']
  refine ite_error_congr fun g2 => ite_error_congr fun g5 => ite_error_congr fun g3 => ite_error_congr fun g6 =>
    ite_error_congr fun g4 => ite_error_congr fun _ => ite_error_congr fun g8a => ite_error_congr fun g9 =>
    ite_error_congr fun g8b => ite_error_congr fun g7 => ?_
  rw [partCols_eq] at g2 g5 g8a
  rw [extendChk_of_front h2 g2 g3 g4 g5 g6 g7 (fun k hk => ⟨g8a k hk, g8b k hk⟩), ok?_bind]
  simp only [windowOpOk_eq]
  rfl

theorem project_verdict (sc : List String) (ops : Assign) (g : List String)
    (h1 : (keys ops).Nodup) (h2 : ∀ c ∈ usedBy ops, c ∈ sc) :
    (projectChecks sc ops g >>= fun _ => projectChk sc ops g) =
      verdictOf [ ⟨"group_by: no duplicates, known columns", decide (g.Nodup ∧ ∀ c ∈ g, c ∈ sc), .assertionError⟩,
        ⟨"project must have ops or group_by", !(ops.isEmpty && g.isEmpty), .valueError⟩,
        ⟨"project can not alter grouping columns", decide (∀ k ∈ keys ops, k ∉ g), .valueError⟩,
        ⟨"only simple aggregation expressions", ops.all (fun kv => projectExprOk kv.2), .valueError⟩ ] := by
  refine unit_bind_eq ?_
  simp only [projectChecks, projectChk, workColGroup, bind_assoc]
  simp only [ok?_bind, verdictOf, subset_eq_decide, disjoint_eq_decide, nodupB_eq_decide, projectOpOk_eq,
    decide_eq_true_eq, ite_and']
  refine ite_error_congr fun h4 => ite_error_congr fun h5 => ite_error_congr fun h6 => ite_error_congr fun h7 => ?_
  -- the constructor's own checks on the source columns and on the new column list cannot fail any more
  have h8 : ∀ x ∈ g ++ Term.colsUsedOps ops, x ∈ sc := fun x hx =>
    (List.mem_append.mp hx).elim (h5 x) fun hx => h2 x (List.mem_flatMap.mpr (mem_colsUsedOps.mp hx))
  have h9 : (!(appendNew g (List.map (fun x : String × Term => x.1) ops)).isEmpty) = true := by
    simp only [Bool.not_eq_eq_eq_not, Bool.not_true, List.isEmpty_eq_false_iff]
    cases ops with
    | nil =>
      cases g with
      | nil => simp at h6
      | cons g gs => exact appendNew_ne_nil_left (List.cons_ne_nil _ _)
    | cons kv ops =>
      intro he
      have : kv.1 ∈ appendNew g (List.map (fun x : String × Term => x.1) (kv :: ops)) :=
        mem_appendNew.mpr (Or.inr (List.mem_cons_self ..))
      rw [he] at this; cases this
  simp only [if_pos h8, if_pos h4, if_pos h9]

theorem rawChk_verdict (sc : List String) (ta : List (String × List String)) (s : Step) :
    rawChk sc ta s = verdict sc ta s := by
  cases s with
  | extend ops pa od rv =>
    simp only [rawChk, verdict, stepRules, parseChk_verdict]
    cases hne : ops.isEmpty
    · simp only [Bool.false_eq_true, if_false, verdictOf_append]
      exact bind_congr_ok fun ha => by rw [← extendPre_eq]; exact extend_verdict sc ops pa od rv (assignRules_ok ha).2.1
    · rw [List.isEmpty_iff.mp hne]; rfl
  | project ops g =>
    simp only [rawChk, verdict, stepRules, parseChk_verdict, verdictOf_append]
    exact bind_congr_ok fun ha => project_verdict sc ops g (assignRules_ok ha).1 (assignRules_ok ha).2.1
  | selectRows e =>
    cases e with
    | none => rfl
    | some e =>
      simp only [rawChk, verdict, stepRules, parseChk_single_eq, verdictOf_cons, verdictOf_nil, bind_ok_unit,
        subset_eq_decide]
  | selectCols cs =>
    simp only [rawChk, verdict, stepRules, selectChk_verdict, verdictOf_cons, verdictOf_nil]
    cases cs <;> rfl
  | dropCols cs => simp only [rawChk, verdict, stepRules]; split <;> first | rfl | exact dropChk_verdict sc cs
  | order cs rv lim => simp only [rawChk, verdict, stepRules]; split <;> first | rfl | exact orderChk_verdict sc cs rv
  | rename m => simp only [rawChk, verdict, stepRules]; split <;> first | rfl | exact renameChk_verdict sc m
  | mapCols m => simp only [rawChk, verdict, stepRules]; split <;> first | rfl | exact mapColsChk_verdict sc m
  | join b oa ob jt chk => exact joinChk_verdict sc ta b oa ob jt chk
  | concat b idc an bn =>
    cases b with
    | none => rfl
    | some b => exact concatChk_verdict sc ta b idc
  | convert rm =>
    cases rm with
    | none => rfl
    | some rm => exact convertChk_verdict sc rm

theorem build_verdict (p : Ops) (hv : p.valid = true) (s : Step) :
    outcome (build p s) = verdict p.cols p.tables s :=
  (outcome_of_errOf (build_errOf_rawChk hv s)).trans (rawChk_verdict p.cols p.tables s)

end DAVerif
