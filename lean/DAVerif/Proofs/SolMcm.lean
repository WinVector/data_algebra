import DAVerif.Proofs.SolSem
import DAVerif.Proofs.SolBuild
import DAVerif.Proofs.SolLocfCore
import DAVerif.Spec.Solutions
import DAVerif.Sem.Theta
/-!
`def_multi_column_map` maps every listed column through the mapping table (proof for the Pandas configuration of the
executor model, with the record transforms of `Solutions/MultiColumnMap.lean`).

un-pivot (one row per record and listed column) → left join with the mapping table on (column name, value) →
optional coalesce → pivot back (blocks aligned by position after sorting on the record keys) → optional rename.
-/
namespace DAVerif.Sol
open DAVerif DAVerif.Solutions DAVerif.Spec21

theorem sortRows_map (cs : List String) (f : Row → Row) (l : List Row)
    (hf : ∀ r ∈ l, ∀ c ∈ cs, (f r).get c = r.get c) :
    sortRows cs [] (l.map f) = (sortRows cs [] l).map f := by
  unfold sortRows
  symm
  apply List.map_mergeSort
  intro a ha b hb
  exact (rowLe_congr (hf a ha) (hf b hb)).symm

theorem nodupKeys_iff (l : List (List Val)) : keyedBy.nodupKeys l = true ↔ l.Nodup := by
  induction l with
  | nil => simp [keyedBy.nodupKeys]
  | cons k l ih =>
    simp only [keyedBy.nodupKeys, Bool.and_eq_true, Bool.not_eq_true', List.nodup_cons, ih]
    constructor
    · rintro ⟨h1, h2⟩
      exact ⟨by simpa using h1, h2⟩
    · rintro ⟨h1, h2⟩
      exact ⟨by simpa using h1, h2⟩

theorem filter_key_length_le_one {ks : List String} {rows : List Row} (h : (rows.map (fun r => keyOf r ks)).Nodup)
    (k : List Val) : (rows.filter (fun r => k == keyOf r ks)).length ≤ 1 := by
  induction rows with
  | nil => simp
  | cons x l ih =>
    simp only [List.map_cons, List.nodup_cons] at h
    rw [List.filter_cons]
    by_cases e : k = keyOf x ks
    · have : l.filter (fun r => k == keyOf r ks) = [] := by
        rw [List.filter_eq_nil_iff]
        intro r hr hk
        have : keyOf r ks = keyOf x ks := by rw [← e]; exact (beq_iff_eq.mp hk).symm
        exact h.1 (List.mem_map.mpr ⟨r, hr, this⟩)
      have hb : (k == keyOf x ks) = true := by simpa using e
      simp only [hb, if_true, this, List.length_cons, List.length_nil]
      omega
    · have : (k == keyOf x ks) = false := by simpa using e
      simp only [this, Bool.false_eq_true, if_false]
      exact ih h.2

section
variable {keys cmap : List String} {nk mk : String}

/-- the output row of the pivot for a record `r`: its keys, then one cell per listed column -/
def prow (keys cmap : List String) (w : String → Row → Val) (r : Row) : Row :=
  keys.map (fun k => (k, r.get k)) ++ cmap.map (fun c => (c, w c r))

/-- **The pivot step** on a table whose rows are, up to order, one row `R c r` per listed column `c` and record `r`
(records keyed by `keys`; `R c r` carries the record's keys, the name `c` and the value `w c r`): one row per record,
its keys and the values side by side. -/
theorem pivotTable_eq (hnd : (keys ++ [nk, mk] ++ cmap).Nodup) (hne : cmap ≠ []) (Drows : List Row)
    (hD : (Drows.map (fun r => keyOf r keys)).Nodup) (R : String → Row → Row) (w : String → Row → Val)
    (g1 : ∀ c r, ∀ k ∈ keys, (R c r).get k = r.get k) (g2 : ∀ c r, (R c r).get nk = Val.str c)
    (g3 : ∀ c r, (R c r).get mk = w c r) (T : Table) (hsub : subset (keys ++ [nk, mk]) T.cols = true)
    (hkeys : keys ≠ [])
    (hT : T.rows.Perm (cmap.flatMap (fun c => Drows.map (R c)))) :
    pivotTable keys nk mk cmap T
      = .ok ⟨keys ++ cmap, sortRows keys [] ((sortRows keys [] Drows).map (prow keys cmap w))⟩ := by
  have hcn : cmap.Nodup := (List.nodup_append.mp hnd).2.1
  have hmemT : ∀ x ∈ T.rows, ∃ c ∈ cmap, ∃ r ∈ Drows, x = R c r := by
    intro x hx
    obtain ⟨c, hc, hx'⟩ := List.mem_flatMap.mp (hT.mem_iff.mp hx)
    obtain ⟨r, hr, e⟩ := List.mem_map.mp hx'
    exact ⟨c, hc, r, hr, e.symm⟩
  unfold pivotTable
  simp only [hsub, ok?_true, bind, Except.bind, pure, Except.pure]
  by_cases hempty : Drows = []
  · subst hempty
    have : T.rows = [] := by
      have hl : cmap.flatMap (fun c => ([] : List Row).map (R c)) = [] := by
        induction cmap with
        | nil => rfl
        | cons c cs ih => simp
      rw [hl] at hT
      exact List.Perm.eq_nil hT
    simp [this, sortRows, List.mergeSort]
  · have hTne : T.rows.isEmpty = false := by
      cases hc : cmap with
      | nil => exact absurd hc hne
      | cons c cs =>
        cases hd : Drows with
        | nil => exact absurd hd hempty
        | cons r rs =>
          have hlen := hT.length_eq
          rw [hc, hd] at hlen
          simp at hlen
          cases ht : T.rows with
          | nil => rw [ht] at hlen; simp at hlen
          | cons _ _ => rfl
    simp only [hTne, Bool.false_eq_true, if_false]
    -- the table is keyed by keys ++ [nk]
    have hkeyed : keyedBy (keys ++ [nk]) T.rows = true := by
      unfold keyedBy
      have hne' : (keys ++ [nk] != []) = true := by simp
      rw [hne', Bool.true_and, Bool.or_eq_true]
      right
      rw [nodupKeys_iff]
      refine (hT.map _).nodup_iff.mpr ?_
      rw [List.map_flatMap]
      apply CData.nodup_flatMap_of hcn
      · intro c _
        rw [List.map_map]
        have : (Drows.map ((fun r => keyOf r (keys ++ [nk])) ∘ R c))
            = (Drows.map (fun r => keyOf r keys)).map (fun k => k ++ [Val.str c]) := by
          rw [List.map_map]
          apply List.map_congr_left
          intro r _
          simp only [Function.comp, keyOf_append]
          rw [keyOf_congr (g1 c r)]
          simp [keyOf, Row.vals, g2]
        rw [this]
        unfold List.Nodup at hD ⊢
        rw [List.pairwise_map]
        exact hD.imp (fun h e => h (List.append_cancel_right e))
      · intro c _ c' _ hne x hx hx'
        rw [List.map_map] at hx hx'
        obtain ⟨r, _, rfl⟩ := List.mem_map.mp hx
        obtain ⟨r', _, e⟩ := List.mem_map.mp hx'
        simp only [Function.comp] at e
        rw [keyOf_append, keyOf_append] at e
        have := (List.append_inj' e (by simp [keyOf, Row.vals])).2
        simp only [keyOf, Row.vals, List.map_cons, List.map_nil, g2] at this
        simp only [List.cons.injEq, Val.str.injEq, and_true] at this
        exact hne this.symm
    simp only [hkeyed, ok?_true]
    have hblock : ∀ c ∈ cmap, sortRows keys [] (T.rows.filter (fun r => r.get nk == Val.str c))
        = (sortRows keys [] Drows).map (R c) := by
      intro c hc
      have hfp : (T.rows.filter (fun r => r.get nk == Val.str c)).Perm (Drows.map (R c)) := by
        refine (hT.filter _).trans ?_
        rw [flatMap_filter_single cmap (fun c => Drows.map (R c)) _ c hcn hc]
        · intro y hy
          obtain ⟨r, _, rfl⟩ := List.mem_map.mp hy
          simp [g2]
        · intro c' _ hne y hy
          obtain ⟨r, _, rfl⟩ := List.mem_map.mp hy
          rw [g2]
          simpa using hne
      have htot : TotalOn keys [] (T.rows.filter (fun r => r.get nk == Val.str c)) := by
        intro a ha b hb h1 h2
        obtain ⟨ra, hra, rfl⟩ := List.mem_map.mp (hfp.mem_iff.mp ha)
        obtain ⟨rb, hrb, rfl⟩ := List.mem_map.mp (hfp.mem_iff.mp hb)
        have hk := (Sol21Sql.Cmp.cmpLex_rowLe.tie keys [] _ _).mp ⟨h1, h2⟩
        rw [keyOf_congr (g1 c ra), keyOf_congr (g1 c rb)] at hk
        rw [inj_of_nodup_map hD _ hra _ hrb hk]
      rw [sortRows_perm_eq htot hfp, sortRows_map keys (R c) Drows (fun r _ => g1 c r)]
    have hnames : ∀ n ∈ ((T.rows.map (fun r => r.get nk)).filter (fun v => !v.isNull)).eraseDups,
        ∃ c ∈ cmap, n = Val.str c := by
      intro n hn
      have hn' := List.mem_eraseDups.mp hn
      obtain ⟨hn1, _⟩ := List.mem_filter.mp hn'
      obtain ⟨x, hx, rfl⟩ := List.mem_map.mp hn1
      obtain ⟨c, hc, r, _, rfl⟩ := hmemT x hx
      exact ⟨c, hc, g2 c r⟩
    cases hnm : ((T.rows.map (fun r => r.get nk)).filter (fun v => !v.isNull)).eraseDups with
    | nil =>
      exfalso
      cases ht : T.rows with
      | nil => rw [ht] at hTne; cases hTne
      | cons x xs =>
        obtain ⟨c, _, r, _, e⟩ := hmemT x (by rw [ht]; exact List.mem_cons_self)
        have : x.get nk ∈ ((T.rows.map (fun r => r.get nk)).filter (fun v => !v.isNull)).eraseDups := by
          apply List.mem_eraseDups.mpr
          apply List.mem_filter.mpr
          refine ⟨List.mem_map.mpr ⟨x, by rw [ht]; exact List.mem_cons_self, rfl⟩, ?_⟩
          rw [e, g2]; rfl
        rw [hnm] at this
        cases this
    | cons n0 rest =>
      rw [hnm] at hnames
      obtain ⟨c0, hc0, rfl⟩ := hnames n0 List.mem_cons_self
      simp only []
      have hall1 : ((Val.str c0 :: rest).all (fun n => cmap.any (fun c => Val.str c == n))) = true := by
        rw [List.all_eq_true]
        intro n hn
        obtain ⟨c, hc, rfl⟩ := hnames n hn
        rw [List.any_eq_true]
        exact ⟨c, hc, by simp⟩
      have hall2 : (rest.all (fun n => (sortRows keys [] (T.rows.filter (fun r => r.get nk == n))).length
          == (sortRows keys [] (T.rows.filter (fun r => r.get nk == Val.str c0))).length)) = true := by
        rw [List.all_eq_true]
        intro n hn
        obtain ⟨c, hc, rfl⟩ := hnames n (List.mem_cons_of_mem _ hn)
        rw [hblock c hc, hblock c0 hc0]
        simp
      simp only [hall1, hall2, ok?_true]
      congr 2
      rw [hblock c0 hc0]
      congr 1
      apply List.ext_getElem
      · simp
      · intro i h1 h2
        have hi : i < (sortRows keys [] Drows).length := by simpa using h2
        simp only [List.getElem_map, List.getElem_zipIdx, Nat.zero_add, prow]
        congr 1
        · apply List.map_congr_left
          intro k hk
          rw [g1 c0 _ k hk]
        · apply List.map_congr_left
          intro c hc
          rw [hblock c hc, List.getElem?_map, List.getElem?_eq_getElem hi]
          simp only [Option.map_some, Option.getD_some, g3]

end

/-- the block row for record `r` and listed column `c` -/
def urow (keys : List String) (nk vk : String) (c : String) (r : Row) : Row :=
  keys.map (fun k => (k, r.get k)) ++ [(nk, Val.str c), (vk, r.get c)]

theorem flatMap_map_nil {α β γ : Type} (l : List α) (f : α → β → γ) : l.flatMap (fun c => ([] : List β).map (f c)) = [] := by
  induction l with
  | nil => rfl
  | cons c cs ih => simp

theorem unpivotTable_eq (keys cmap : List String) (nk vk : String) (D : Table)
    (hsub : subset (keys ++ cmap) D.cols = true) (hk : keys ≠ [])
    (hD : (D.rows.map (fun r => keyOf r keys)).Nodup) :
    unpivotTable keys nk vk cmap D
      = .ok ⟨keys ++ [nk, vk], sortRows (keys ++ [nk]) [] (cmap.flatMap (fun c => D.rows.map (urow keys nk vk c)))⟩ := by
  unfold unpivotTable
  simp only [hsub, ok?_true, bind, Except.bind, pure, Except.pure]
  by_cases he : D.rows = []
  · simp only [he, List.isEmpty_nil, if_true, flatMap_map_nil]
    have : sortRows (keys ++ [nk]) [] [] = [] := by simp [sortRows]
    rw [this]
  · have : D.rows.isEmpty = false := by
      cases h : D.rows with
      | nil => exact absurd h he
      | cons _ _ => rfl
    have hkb : keyedBy keys D.rows = true := by
      unfold keyedBy
      have : (keys != []) = true := by simpa using hk
      rw [this, Bool.true_and, Bool.or_eq_true]
      exact Or.inr ((nodupKeys_iff _).mpr hD)
    simp only [this, Bool.false_eq_true, if_false, hkb, ok?_true]
    rfl

/-- the facts about the names that the helper's assertions give, unpacked -/
structure McmNames (keys cmap : List String) (nk vk mk : String) : Prop where
  keys_nd : keys.Nodup
  cmap_nd : cmap.Nodup
  nk_keys : nk ∉ keys
  vk_keys : vk ∉ keys
  mk_keys : mk ∉ keys
  nk_vk : nk ≠ vk
  nk_mk : nk ≠ mk
  vk_mk : vk ≠ mk
  cmap_keys : ∀ c ∈ cmap, c ∉ keys
  nk_cmap : nk ∉ cmap
  vk_cmap : vk ∉ cmap
  mk_cmap : mk ∉ cmap

theorem McmOK.names {dcols mcols keys cmap : List String} {nk vk mk : String} {cv : Option Lit}
    {back : Option (List String)} (h : McmOK dcols mcols keys cmap nk vk mk cv back) :
    McmNames keys cmap nk vk mk := by
  have h1 := h.nodup_mid
  have h2 := h.nodup_pre
  have h3 := h.nodup_to
  have h4 := h.nodup_back
  rw [List.nodup_append] at h1 h2
  obtain ⟨hk, hm, hkm⟩ := h1
  obtain ⟨_, hc, hkc⟩ := h2
  simp only [List.nodup_cons, List.mem_cons, List.not_mem_nil, or_false, not_or, List.nodup_nil, and_true,
    not_false_eq_true] at hm
  have h3' := (List.nodup_append.mp h3).2.2
  have h4' := (List.nodup_append.mp h4).2.2
  refine ⟨hk, hc, ?_, ?_, ?_, hm.1.1, hm.1.2, hm.2, ?_, ?_, ?_, ?_⟩
  · intro e; exact hkm nk e nk (by simp) rfl
  · intro e; exact hkm vk e vk (by simp) rfl
  · intro e; exact hkm mk e mk (by simp) rfl
  · intro c hcc e; exact hkc c e c hcc rfl
  · intro e; exact h3' nk (by simp) nk e rfl
  · intro e; exact h3' vk (by simp) vk e rfl
  · intro e; exact h4' mk (by simp) mk e rfl

set_option linter.unusedSectionVars false
section
variable {keys cmap : List String} {nk vk mk : String} (hn : McmNames keys cmap nk vk mk)
include hn

theorem urow_get_key (c : String) (r : Row) {k : String} (hk : k ∈ keys) : (urow keys nk vk c r).get k = r.get k := by
  unfold urow
  rw [Row.get_append_left (by rw [Row.keys_map_mk]; exact hk)]
  exact Row.get_map_mk hk

theorem urow_get_nk (c : String) (r : Row) : (urow keys nk vk c r).get nk = Val.str c := by
  unfold urow
  rw [Row.get_append_right (by rw [Row.keys_map_mk]; exact hn.nk_keys)]
  simp [Row.get]

theorem urow_get_vk (c : String) (r : Row) : (urow keys nk vk c r).get vk = r.get c := by
  unfold urow
  rw [Row.get_append_right (by rw [Row.keys_map_mk]; exact hn.vk_keys)]
  have : (vk == nk) = false := by simpa using fun e => hn.nk_vk e.symm
  simp [Row.get, List.lookup_cons, this]

/-- the joined row for record `r` and column `c`, given the matching mapping row (if any) -/
def jrow (keys : List String) (nk vk mk : String) (c : String) (r : Row) (ob : Option Row) : Row :=
  joinRow (keys ++ [nk, vk]) [nk, vk, mk] (keys ++ [nk, vk, mk]) (some (urow keys nk vk c r)) ob

theorem jrow_get_key (c : String) (r : Row) (ob : Option Row) {k : String} (hk : k ∈ keys) :
    (jrow keys nk vk mk c r ob).get k = r.get k := by
  rw [jrow, joinRow_get_left _ _ (List.mem_append_left _ hk) (List.mem_append_left _ hk), urow_get_key hn c r hk]
  intro _ _ hcb _
  simp only [List.mem_cons, List.not_mem_nil, or_false] at hcb
  rcases hcb with e | e | e
  · exact absurd (e ▸ hk) hn.nk_keys
  · exact absurd (e ▸ hk) hn.vk_keys
  · exact absurd (e ▸ hk) hn.mk_keys

theorem jrow_get_nk (c : String) (r : Row) (ob : Option Row) :
    (jrow keys nk vk mk c r ob).get nk = Val.str c := by
  rw [jrow, joinRow_get_left _ _ (by simp) (by simp), urow_get_nk hn]
  intro _ _ _ hnull
  rw [urow_get_nk hn] at hnull
  cases hnull

theorem jrow_get_mk (c : String) (r : Row) (ob : Option Row) :
    (jrow keys nk vk mk c r ob).get mk = (match ob with | some b => b.get mk | none => Val.null) := by
  have h1 : mk ∉ keys ++ [nk, vk] := by
    simp only [List.mem_append, List.mem_cons, List.not_mem_nil, or_false, not_or]
    exact ⟨hn.mk_keys, fun e => hn.nk_mk e.symm, fun e => hn.vk_mk e.symm⟩
  rw [jrow, joinRow_get_right _ _ (by simp) h1 (by simp)]
  cases ob <;> rfl

end

/-- the mapping row the join finds for record `r` and column `c` -/
def mapHit (keys : List String) (nk vk mk : String) (Mrows : List Row) (c : String) (r : Row) : Option Row :=
  ((Mrows.map (fun mr => mr.select [nk, vk, mk])).filter
    (fun b => keyOf (urow keys nk vk c r) [nk, vk] == keyOf b [nk, vk])).head?

theorem mapHit_get {keys cmap : List String} {nk vk mk : String} (hn : McmNames keys cmap nk vk mk)
    (Mrows : List Row) (c : String) (r : Row) :
    (match mapHit keys nk vk mk Mrows c r with | some b => b.get mk | none => Val.null)
      = mapLookup nk vk mk Mrows c (r.get c) := by
  unfold mapHit mapLookup
  rw [List.filter_map, List.head?_map, List.head?_filter]
  have hcongr : Mrows.find? ((fun b => keyOf (urow keys nk vk c r) [nk, vk] == keyOf b [nk, vk]) ∘
        fun mr => mr.select [nk, vk, mk])
      = Mrows.find? (fun mr => mr.get nk == Val.str c && mr.get vk == r.get c) := by
    apply Locf.find?_congr_mem
    intro mr _
    simp only [Function.comp, keyOf, Row.vals, List.map_cons, List.map_nil, urow_get_nk hn, urow_get_vk hn]
    rw [Row.select_get_of_mem (by simp), Row.select_get_of_mem (by simp)]
    rw [Bool.eq_iff_iff]
    simp only [beq_iff_eq, List.cons.injEq, and_true, Bool.and_eq_true]
    constructor
    · rintro ⟨h1, h2⟩; exact ⟨h1.symm, h2.symm⟩
    · rintro ⟨h1, h2⟩; exact ⟨h1.symm, h2.symm⟩
  rw [hcongr]
  cases Mrows.find? (fun mr => mr.get nk == Val.str c && mr.get vk == r.get c) with
  | none => rfl
  | some mr =>
    simp only [Option.map_some]
    exact Row.select_get_of_mem (by simp)

theorem pivot_ne_unpivot {keys cmap : List String} {nk vk mk : String} (hn : McmNames keys cmap nk vk mk) :
    pivotRecMap keys nk mk cmap ≠ unpivotRecMap keys nk vk cmap := by
  intro e
  have := congrArg RecMap.produced e
  simp only [pivotRecMap, unpivotRecMap] at this
  have h2 := List.append_cancel_left this
  have : nk ∈ cmap := by rw [h2]; simp
  exact hn.nk_cmap this

section
variable {keys cmap : List String} {nk vk mk : String} (hn : McmNames keys cmap nk vk mk) (hkeys : keys ≠ [])
include hn hkeys

/-- the declared columns of the join node: the union (a row key is a column of the left side only) -/
theorem mcm_joinCols : joinCols (keys ++ [nk, vk]) [nk, vk, mk] = keys ++ [nk, vk, mk] := by
  obtain ⟨k, hk⟩ := List.exists_mem_of_ne_nil _ hkeys
  rw [joinCols_of_own (List.mem_append_left _ hk) (x := k),
    appendNew_eq_filter (by simp [hn.nk_vk, hn.nk_mk, hn.vk_mk])]
  · simp [hn.mk_keys, Ne.symm hn.nk_mk, Ne.symm hn.vk_mk]
  · simp only [List.mem_cons, List.not_mem_nil, or_false, not_or]
    exact ⟨fun e => hn.nk_keys (e ▸ hk), fun e => hn.vk_keys (e ▸ hk), fun e => hn.mk_keys (e ▸ hk)⟩

theorem ev_mcm_join {env : Env} {d m : Ops} {dcs mcs : List String} {Drows Mrows : List Row}
    (hd : Ev rowLe (Theta.concrete (mcmConvert keys nk vk mk cmap)) SemCfg.pandas env d dcs Drows)
    (hm : Ev rowLe (Theta.concrete (mcmConvert keys nk vk mk cmap)) SemCfg.pandas env m mcs Mrows)
    (hD : (Drows.map (fun r => keyOf r keys)).Nodup) (hM : (Mrows.map (fun r => keyOf r [nk, vk])).Nodup) :
    ∃ rowsJ, Ev rowLe (Theta.concrete (mcmConvert keys nk vk mk cmap)) SemCfg.pandas env
        (.join (.convert (.selectCols d (keys ++ cmap)) (unpivotRecMap keys nk vk cmap))
          (.selectCols m [nk, vk, mk]) [nk, vk] [nk, vk] .left) (keys ++ [nk, vk, mk]) rowsJ ∧
      rowsJ.Perm (cmap.flatMap fun c => Drows.map fun r =>
        jrow keys nk vk mk c r (mapHit keys nk vk mk Mrows c r)) := by
  have hD' : ((Drows.map (·.select (keys ++ cmap))).map (fun r => keyOf r keys)).Nodup := by
    have e : ∀ r : Row, keyOf (r.select (keys ++ cmap)) keys = keyOf r keys := fun r =>
      keyOf_congr fun k hk => Row.select_get_of_mem (List.mem_append_left _ hk)
    simpa only [List.map_map, Function.comp_def, e] using hD
  have hU := (hd.selectCols (keys ++ cmap)).convert (unpivotRecMap keys nk vk cmap) (by
    show mcmConvert keys nk vk mk cmap (unpivotRecMap keys nk vk cmap) _ = _
    simp only [mcmConvert, if_true]
    exact unpivotTable_eq keys cmap nk vk ⟨keys ++ cmap, _⟩ (subset_iff.mpr fun c hc => hc) hkeys hD')
  refine ⟨_, hU.join (hm.selectCols [nk, vk, mk]) [nk, vk] [nk, vk] .left (mcm_joinCols hn hkeys), ?_⟩
  rw [semJoin_left_rows _ (by simp)]
  -- one output row per un-pivoted row
  have hle : ∀ a ∈ sortRows (keys ++ [nk]) [] (cmap.flatMap (fun c =>
        (Drows.map (·.select (keys ++ cmap))).map (urow keys nk vk c))),
      ((Mrows.map (fun r => r.select [nk, vk, mk])).filter
        (fun rb => keyOf a [nk, vk] == keyOf rb [nk, vk])).length ≤ 1 := by
    intro a _
    rw [List.filter_map, List.length_map]
    refine Nat.le_trans (Nat.le_of_eq (congrArg List.length (List.filter_congr fun mr _ => ?_)))
      (filter_key_length_le_one hM (keyOf a [nk, vk]))
    simp only [Function.comp]
    rw [keyOf_congr (r := mr.select [nk, vk, mk]) (r' := mr) fun c hc => Row.select_get_of_mem (by
      simp only [List.mem_cons, List.not_mem_nil, or_false] at hc ⊢
      exact hc.imp_right .inl)]
  refine (leftJoin_perm _ (Mrows.map (fun r => r.select [nk, vk, mk]))
    (fun a rb => keyOf a [nk, vk] == keyOf rb [nk, vk])
    (fun a ob => joinRow (keys ++ [nk, vk]) [nk, vk, mk] (keys ++ [nk, vk, mk]) (some a) ob) hle).trans ?_
  refine ((sortRows_perm _ _ _).map _).trans (List.Perm.of_eq ?_)
  rw [List.map_flatMap]
  apply flatMap_congr_of_mem
  intro c hc
  rw [List.map_map, List.map_map]
  apply List.map_congr_left
  intro r _
  -- the un-pivoted row of the selected record equals that of the record
  have hu : urow keys nk vk c (r.select (keys ++ cmap)) = urow keys nk vk c r := by
    rw [urow, List.map_congr_left (g := fun k => (k, r.get k)) fun k hk => by
      rw [Row.select_get_of_mem (List.mem_append_left _ hk)], Row.select_get_of_mem (List.mem_append_right _ hc), urow]
  simp only [Function.comp, hu]
  rfl

end

/-- the optional coalesce step on one row -/
def crow (keys : List String) (nk vk mk : String) (cv : Option Lit) (x : Row) : Row :=
  match cv with
  | none => x
  | some v => (x.set mk (if (x.get mk).isNull then v.toVal else x.get mk)).select (keys ++ [nk, vk, mk])

theorem eval_coalesce (cv : RecMap → Table → Except Err Table) (x : Row) (mk : String) (v : Lit) :
    evalCell (Theta.concrete cv) x (mcall "coalesce" (.col mk) [.value v])
      = if (x.get mk).isNull then v.toVal else x.get mk := by
  simp only [evalCell, mcall, evalTerm, evalArgs, Theta.concrete]
  unfold Theta.scalar
  rfl

theorem coalesceTo_map (cv : Option Lit) (x : Val) :
    coalesceTo (cv.map Lit.toVal) x = (match cv with | none => x | some v => if x.isNull then v.toVal else x) := by
  cases cv <;> rfl

theorem crow_get {keys : List String} {nk vk mk : String} (cv : Option Lit) (x : Row) {c : String}
    (hc : c ∈ keys ++ [nk, vk, mk]) :
    (crow keys nk vk mk cv x).get c = if c = mk then coalesceTo (cv.map Lit.toVal) (x.get mk) else x.get c := by
  cases cv with
  | none =>
    simp only [crow, coalesceTo, Option.map_none]
    by_cases h : c = mk
    · simp [h]
    · simp [h]
  | some v =>
    simp only [crow, coalesceTo, Option.map_some]
    rw [Row.select_get_of_mem hc, get_set]

theorem lookupLast_eq_lookup {β : Type} (m : List (String × β)) (hnd : (m.map (·.1)).Nodup) (k : String) :
    lookupLast m k = m.lookup k := by
  induction m with
  | nil => rfl
  | cons a m ih =>
    obtain ⟨a, x⟩ := a
    simp only [List.map_cons, List.nodup_cons] at hnd
    have ih' := ih hnd.2
    simp only [lookupLast, List.reverse_cons, List.find?_append, List.lookup_cons] at ih' ⊢
    by_cases e : k = a
    · subst e
      have hnone : m.reverse.find? (fun kv => kv.1 == k) = none := by
        rw [List.find?_eq_none]
        intro kv hkv
        have hkv' := List.mem_reverse.mp hkv
        have : kv.1 ≠ k := fun e => hnd.1 (e ▸ List.mem_map_of_mem (f := (·.1)) hkv')
        simpa using this
      simp [hnone]
    · have hb : (k == a) = false := by simpa using e
      have hb' : (a == k) = false := by simpa using fun e' => e e'.symm
      simp only [hb, List.find?_cons, hb', List.find?_nil, Option.or_none]
      exact ih'

/-- reading a duplicate-free list of names through its pairing with a list of new names visits the pairs in order -/
theorem map_lookup_zip {β : Type} (g : String → String → β) (cs bs : List String) (hl : bs.length = cs.length)
    (hnd : cs.Nodup) :
    cs.map (fun c => g (((cs.zip bs).lookup c).getD c) c) = (cs.zip bs).map (fun cb => g cb.2 cb.1) := by
  induction cs generalizing bs with
  | nil => rfl
  | cons c cs ih =>
    cases bs with
    | nil => simp at hl
    | cons b bs =>
      obtain ⟨hc, hnd'⟩ := List.nodup_cons.mp hnd
      simp only [List.zip_cons_cons, List.map_cons, List.lookup_cons, beq_self_eq_true, Option.getD_some,
        List.cons.injEq, true_and]
      rw [← ih bs (by simpa using hl) hnd']
      apply List.map_congr_left
      intro c' hc'
      have : (c' == c) = false := by
        have hne : c' ≠ c := fun e => hc (by rw [← e]; exact hc')
        simpa using hne
      simp only [this]

theorem zip_swap_map {α β : Type} (l : List α) (m : List β) :
    (l.zip m).map (fun kv => (kv.2, kv.1)) = m.zip l := by
  induction l generalizing m with
  | nil => simp
  | cons a l ih =>
    cases m with
    | nil => simp
    | cons b m => simp [ih]

theorem zip_self_map {α β : Type} (l : List α) (f : α × α → β) : (l.zip l).map f = l.map (fun a => f (a, a)) := by
  induction l with
  | nil => rfl
  | cons a l ih => simp [ih]

theorem ev_mcmCoalesce {cvt : RecMap → Table → Except Err Table} {cfg : SemCfg} {env : Env} {p : Ops}
    {keys : List String} {nk vk mk : String} {rows : List Row} (cv : Option Lit)
    (h : Ev rowLe (Theta.concrete cvt) cfg env p (keys ++ [nk, vk, mk]) rows) :
    Ev rowLe (Theta.concrete cvt) cfg env (mcmCoalesce p mk cv) (keys ++ [nk, vk, mk])
      (rows.map (crow keys nk vk mk cv)) := by
  cases cv with
  | none => exact h.rows_eq (List.map_id' _).symm
  | some v =>
    exact (h.extend1 mk _ (appendNew_single_mem (by simp))).rows_eq
      (List.map_congr_left fun x _ => by rw [eval_coalesce]; rfl)

set_option linter.unusedSectionVars false
section
variable {dcols mcols keys cmap : List String} {nk vk mk : String} {cv : Option Lit} {back : Option (List String)}
  (hok : McmOK dcols mcols keys cmap nk vk mk cv back)
include hok

theorem ev_mcmTree {env : Env} {d m : Ops} {Drows Mrows : List Row}
    (hd : Ev rowLe (Theta.concrete (mcmConvert keys nk vk mk cmap)) SemCfg.pandas env d dcols Drows)
    (hm : Ev rowLe (Theta.concrete (mcmConvert keys nk vk mk cmap)) SemCfg.pandas env m mcols Mrows)
    (hD : (Drows.map (fun r => keyOf r keys)).Nodup) (hM : (Mrows.map (fun r => keyOf r [nk, vk])).Nodup) :
    ∃ rows, Ev rowLe (Theta.concrete (mcmConvert keys nk vk mk cmap)) SemCfg.pandas env
        (mcmTree d m keys cmap nk vk mk cv back) (keys ++ (cmap.zip (back.getD cmap)).map (·.2)) rows ∧
      rows.Perm (Drows.map
        (multiMapRow nk vk mk Mrows keys (cmap.zip (back.getD cmap)) (cv.map Lit.toVal))) := by
  have hn := hok.names
  obtain ⟨rowsJ, hJ, hpermJ⟩ := ev_mcm_join hn hok.keys_ne hd hm hD hM
  have hmkin : mk ∈ keys ++ [nk, vk, mk] := by simp
  have hC := ev_mcmCoalesce cv hJ
  -- rows of the coalesced table, by listed column and record
  have hpermC : (rowsJ.map (crow keys nk vk mk cv)).Perm (cmap.flatMap fun c => Drows.map
      fun r => crow keys nk vk mk cv (jrow keys nk vk mk c r (mapHit keys nk vk mk Mrows c r))) := by
    refine (hpermJ.map _).trans (List.Perm.of_eq ?_)
    rw [List.map_flatMap]
    exact flatMap_congr_of_mem fun c _ => List.map_map ..
  have g1 : ∀ (c : String) (r : Row), ∀ k ∈ keys,
      (crow keys nk vk mk cv (jrow keys nk vk mk c r (mapHit keys nk vk mk Mrows c r))).get k = r.get k := by
    intro c r k hk
    rw [crow_get cv _ (List.mem_append_left _ hk), if_neg fun e : k = mk => hn.mk_keys (e ▸ hk)]
    exact jrow_get_key hn c r _ hk
  have g2 : ∀ (c : String) (r : Row),
      (crow keys nk vk mk cv (jrow keys nk vk mk c r (mapHit keys nk vk mk Mrows c r))).get nk = Val.str c := by
    intro c r
    rw [crow_get cv _ (by simp), if_neg hn.nk_mk]
    exact jrow_get_nk hn c r _
  have g3 : ∀ (c : String) (r : Row),
      (crow keys nk vk mk cv (jrow keys nk vk mk c r (mapHit keys nk vk mk Mrows c r))).get mk
        = coalesceTo (cv.map Lit.toVal) (mapLookup nk vk mk Mrows c (r.get c)) := by
    intro c r
    rw [crow_get cv _ hmkin, if_pos rfl, jrow_get_mk hn c r _, mapHit_get hn]
  have hcne : cmap ≠ [] := fun e => by have := hok.two_cols; rw [e] at this; exact Nat.not_lt_zero 1 this
  have hP := hC.convert (pivotRecMap keys nk mk cmap) (by
    show mcmConvert keys nk vk mk cmap (pivotRecMap keys nk mk cmap) _ = _
    simp only [mcmConvert, pivot_ne_unpivot hn, if_false, if_true]
    refine pivotTable_eq hok.nodup_back hcne Drows hD _ _ g1 g2 g3 ⟨keys ++ [nk, vk, mk], _⟩
      (subset_iff.mpr fun c hc => ?_) hok.keys_ne hpermC
    simp only [List.mem_append, List.mem_cons, List.not_mem_nil, or_false] at hc ⊢
    exact hc.imp_right fun h => h.imp_right .inr)
  -- the rows before renaming are, up to order, one promised row per record
  have hrowsP := (sortRows_perm keys [] _).trans ((sortRows_perm keys [] Drows).map
    (prow keys cmap fun c r => coalesceTo (cv.map Lit.toVal) (mapLookup nk vk mk Mrows c (r.get c))))
  cases hb : back with
  | none =>
    refine ⟨_, hP.cast (by simp [pivotRecMap, zip_self_map]) rfl, hrowsP.trans (List.Perm.of_eq ?_)⟩
    apply List.map_congr_left
    intro r _
    simp only [prow, multiMapRow, Option.getD_none]
    rw [zip_self_map]
  | some b =>
    have hlen := hok.back_len b hb
    have hf : ∀ c, (lookupLast ((b.zip cmap).map (fun kv => (kv.2, kv.1))) c).getD c = ((cmap.zip b).lookup c).getD c := by
      intro c
      rw [zip_swap_map b cmap, lookupLast_eq_lookup _ (by rw [List.map_fst_zip (by omega)]; exact hn.cmap_nd)]
    have hfk : ∀ k ∈ keys, ((cmap.zip b).lookup k).getD k = k := by
      intro k hk
      rw [List.lookup_eq_none_iff.mpr fun kv hkv => by
        simpa using fun e : k = kv.1 => hn.cmap_keys kv.1 (List.of_mem_zip hkv).1 (e ▸ hk)]
      rfl
    refine ⟨_, (hP.rename (b.zip cmap)).cast ?_ rfl, (hrowsP.map _).trans (List.Perm.of_eq ?_)⟩
    · simp only [pivotRecMap, hf, List.map_append, Option.getD_some]
      rw [List.map_congr_left (fun k hk => hfk k hk), List.map_id', map_lookup_zip (fun b _ => b) cmap b hlen hn.cmap_nd]
    · simp only [Option.getD_some, List.map_map]
      apply List.map_congr_left
      intro r _
      simp only [Function.comp, prow, multiMapRow, Row.rename, List.map_append, List.map_map, hf]
      congr 1
      · exact List.map_congr_left fun k hk => by simp only [Function.comp, hfk k hk]
      · exact map_lookup_zip (fun b c => (b, coalesceTo (cv.map Lit.toVal) (mapLookup nk vk mk Mrows c (r.get c))))
          cmap b hlen hn.cmap_nd

theorem sem_mcmTree (env : Env) (dn mn : String) (D0 M0 : Table)
    (hdenv : env.lookup dn = some D0) (hdsub : subset dcols D0.cols = true)
    (hmenv : env.lookup mn = some M0) (hmsub : subset mcols M0.cols = true)
    (hD : ((D0.selectCols dcols).rows.map (fun r => keyOf r keys)).Nodup)
    (hM : ((M0.selectCols mcols).rows.map (fun r => keyOf r [nk, vk])).Nodup) :
    ∃ t, sem (Theta.concrete (mcmConvert keys nk vk mk cmap)) SemCfg.pandas env
        (mcmTree (.table dn dcols) (.table mn mcols) keys cmap nk vk mk cv back) = .ok t ∧
      t ≈ multiMapSpec nk vk mk (M0.selectCols mcols).rows keys (cmap.zip (back.getD cmap)) (cv.map Lit.toVal)
        (D0.selectCols dcols) := by
  obtain ⟨rows, h, hp⟩ := ev_mcmTree hok (Ev.table hdenv hdsub) (Ev.table hmenv hmsub) hD hM
  exact ⟨⟨_, rows⟩, Sql.semG_rowLe .. ▸ h.sem, rfl, hp⟩

end

end DAVerif.Sol
