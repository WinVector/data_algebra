import DAVerif.Proofs.C07Struct
/-!
C07: `replace_leaves`, which rebuilds every node through its builder, is substitution semantically
(`replaceLeaves_sem`).  By induction over the pipeline; at each node (`replace_node_sem`) C06's `shape_sem_apply`
for the builder call that rebuilds it, then `applyStep_congrC`, the scope conditions being carried across `≈ᶜ` by
`Proofs/ScopeC.lean`.
-/
namespace DAVerif

variable {Θ : Interp} {cfg : SemCfg} {env : Env}

def LeafOK (Θ : Interp) (cfg : SemCfg) (env : Env) (m : List (String × Ops)) (env' : Env) (k : String)
    (cs : List String) : Prop :=
  match lookupLast m k with
  | some r => r.valid = true ∧ r.cols.Perm cs ∧ ∃ t, sem Θ cfg env r = .ok t ∧ env'.lookup k = some t
  | none => env'.lookup k = env.lookup k

theorem node_side_of_equivC (hΘ : ConvertOK Θ) {p : Ops} {x : Except Err Table}
    (IH : ResEquivC x (sem Θ cfg env p.srcA))
    (hscope : ∀ t', sem Θ cfg env p.srcA = .ok t' → NodeScope Θ p t'.rows) (hcols : NodeColsOK p p.srcA.cols)
    {t : Table} (ht : x = .ok t) : NodeScope Θ p t.rows ∧ NodeColsOK p t.cols := by
  obtain ⟨t', ht', htt⟩ := IH.of_ok ht
  exact ⟨(hscope t' ht').of_equivC htt.symm, (sem_cols hΘ ht' ▸ hcols).perm htt.cols_perm.symm⟩

theorem replace_node_sem (hΘ : ConvertOK Θ) (hC : ConvertInvariant Θ) {env' : Env} {a' q p N base : Ops}
    (ha'v : a'.valid = true) (IH : ResEquivC (sem Θ cfg env a') (sem Θ cfg env' p.srcA))
    (hshape : BuildShape a' q base N) (hqv : q.valid = true) (hpT : ∀ n cs, p ≠ .table n cs)
    (hB : SrcBEquivC Θ cfg env env' N.srcB p.srcB) (hsame : SameOp N p)
    (hscope : ∀ t', sem Θ cfg env' p.srcA = .ok t' → NodeScope Θ p t'.rows) (hcols : NodeColsOK p p.srcA.cols) :
    ResEquivC (sem Θ cfg env q) (sem Θ cfg env' p) := by
  obtain ⟨happ, hsc, hco, _⟩ := hsame
  have hside : ∀ t, sem Θ cfg env a' = .ok t → NodeScope Θ N t.rows ∧ NodeColsOK N t.cols := fun t ht => by
    rw [hsc, hco]; exact node_side_of_equivC hΘ IH hscope hcols ht
  refine (shape_sem_apply hΘ hC ha'v hshape hqv (fun t ht => (hside t ht).1) fun t ht => (hside t ht).2).trans ?_
  rw [sem_eq_applyStep hΘ p hpT]
  exact ResEquivC.bind IH fun t t' ht _ htt => applyStep_congrC hC (happ Θ cfg) hB htt (hside t ht).1 (hside t ht).2

/-- **`replace_leaves` is substitution**, for valid pipelines (`C07_replace_leaves_sem`, `Props/C07.lean`). -/
theorem replaceLeaves_sem (hΘ : ConvertOK Θ) (hC : ConvertInvariant Θ) {m : List (String × Ops)} {env' : Env}
    (p : Ops) : p.valid = true → (∀ kc ∈ p.tables, LeafOK Θ cfg env m env' kc.1 kc.2) →
    AggsOrderFree Θ p → WindowsTotal Θ cfg env' p → ∀ q, Ops.replaceLeaves m p = .ok q →
    q.valid = true ∧ ResEquivC (sem Θ cfg env q) (sem Θ cfg env' p) := by
  induction p using Ops.srcInduction with
  | table k cs =>
    intro hv hl _ _ q hq
    have hleaf := hl (k, cs) (List.mem_singleton.mpr rfl)
    simp only [LeafOK] at hleaf
    simp only [Ops.replaceLeaves] at hq
    have hcs : cs.Nodup := nodupB_iff.mp hv
    cases hm : lookupLast m k with
    | none =>
      rw [hm] at hq hleaf
      cases hq
      refine ⟨hv, ?_⟩
      have : sem Θ cfg env (.table k cs) = sem Θ cfg env' (.table k cs) := by simp only [sem, hleaf]
      exact ResEquivC.of_eq this (fun t ht => sem_wf_nodup hΘ hv ht)
    | some r =>
      rw [hm] at hq hleaf
      cases hq
      obtain ⟨hrv, hperm, t, ht, hlook⟩ := hleaf
      refine ⟨hrv, ?_⟩
      have hwn := sem_wf_nodup hΘ hrv ht
      have hc : t.cols = q.cols := sem_cols hΘ ht
      have hsub : subset cs t.cols = true :=
        subset_iff.mpr (fun c hcc => by rw [hc]; exact hperm.mem_iff.mpr hcc)
      simp only [sem, ht, hlook, hsub, if_true]
      exact (Table.EquivC.selectCols_left hwn.1 hcs (hc ▸ hperm.symm)).symm
  | node p hT iha ihb =>
    intro hv hl hA hW q hq
    obtain ⟨a', ha', h⟩ := replace_node hv hT hq
    obtain ⟨ha'v, IHa⟩ := iha (Ops.valid_srcA hv) (fun kc hkc => hl kc (tables_srcA hT kc hkc))
      (scope_srcA hA hW).1 (scope_srcA hA hW).2 a' ha'
    rcases h with ⟨hB, h⟩ | ⟨b, b', hB, hb', h⟩
    · obtain ⟨hqv, base, N, hshape, hNB, hsame⟩ := h ha'v
      exact ⟨hqv, replace_node_sem hΘ hC ha'v IHa hshape hqv hT (by rw [hNB, hB]; trivial) hsame
        (nodeScope_of_scope hA hW) (nodeColsOK_of_valid hv)⟩
    · obtain ⟨hb'v, IHb⟩ := ihb b hB (valid_srcB hv hB) (fun kc hkc => hl kc (tables_srcB hT hB kc hkc))
        (scope_srcB hB hA hW).1 (scope_srcB hB hA hW).2 b' hb'
      obtain ⟨hqv, base, N, hshape, hNB, hsame⟩ := h ha'v hb'v
      exact ⟨hqv, replace_node_sem hΘ hC ha'v IHa hshape hqv hT (by rw [hNB, hB]; exact IHb) hsame
        (nodeScope_of_scope hA hW) (nodeColsOK_of_valid hv)⟩

end DAVerif
