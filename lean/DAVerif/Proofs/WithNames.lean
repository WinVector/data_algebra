import DAVerif.Sql.WithFormG
import DAVerif.Proofs.ToNearStep
/-!
Query names of the NearSQL translation (property C04, theorem `C04_names_unique`): `temp_id_source` is threaded
monotonically through `toNear`; every step name is `<prefix>_<i>` with `i` taken from the counter exactly once, so the
names of a translated query are pairwise different.  Also: the translation never emits a CTE reference.
-/
namespace DAVerif.Sql
open DAVerif

/-- the decimal number formed by the trailing digits of a string -/
def idxOf (s : String) : Nat := Nat.ofDigitChars 10 ((s.toList.reverse.takeWhile Char.isDigit).reverse) 0

theorem takeWhile_append_stop {α} (p : α → Bool) (a : List α) (x : α) (b : List α) (ha : ∀ y ∈ a, p y = true)
    (hx : p x = false) : (a ++ x :: b).takeWhile p = a := by
  induction a with
  | nil => simp [hx]
  | cons y a ih =>
    simp only [List.cons_append, List.takeWhile_cons, ha y (by simp), if_true]
    rw [ih (fun z hz => ha z (by simp [hz]))]

/-- the generated names: `f"{prefix}_{i}"`.  The left-hand side is spelled the way `s!"<prefix>_{i}"` of `toNear`
elaborates (`toString "<prefix>_" ++ toString i`), up to evaluating `"<prefix>" ++ "_"`; it is also the way
`StepSpec.near` spells the name of a step. -/
theorem idxOf_gen (pfx : String) (i : Nat) : idxOf (toString (pfx ++ "_") ++ toString i) = i := by
  show idxOf (pfx ++ "_" ++ toString i) = i
  unfold idxOf
  simp only [String.toList_append, List.reverse_append, Nat.toString_eq_repr, Nat.toList_repr]
  have : ("_" : String).toList.reverse = ['_'] := by decide
  rw [this]
  simp only [List.singleton_append]
  rw [takeWhile_append_stop]
  · simp
  · intro y hy
    simp only [List.mem_reverse] at hy
    exact Nat.isDigit_of_mem_toDigits (by omega) (by omega) hy
  · decide

def NamesInL (lo hi : Nat) (ns : List String) : Prop :=
  (ns.map idxOf).Nodup ∧ ∀ n ∈ ns, lo ≤ idxOf n ∧ idxOf n < hi

theorem NamesInL.nil (lo hi : Nat) : NamesInL lo hi [] := ⟨by simp, by simp⟩

theorem NamesInL.mono {lo hi lo' hi' : Nat} {ns : List String} (h : NamesInL lo hi ns) (h1 : lo' ≤ lo) (h2 : hi ≤ hi') :
    NamesInL lo' hi' ns :=
  ⟨h.1, fun n hn => ⟨by have := (h.2 n hn).1; omega, by have := (h.2 n hn).2; omega⟩⟩

theorem NamesInL.append {a b c : Nat} {l1 l2 : List String} (h1 : NamesInL a b l1) (h2 : NamesInL b c l2)
    (hab : a ≤ b) (hbc : b ≤ c) : NamesInL a c (l1 ++ l2) := by
  refine ⟨?_, ?_⟩
  · rw [List.map_append, List.nodup_append]
    refine ⟨h1.1, h2.1, ?_⟩
    intro x hx y hy he
    simp only [List.mem_map] at hx hy
    obtain ⟨n1, hn1, rfl⟩ := hx
    obtain ⟨n2, hn2, rfl⟩ := hy
    have := (h1.2 n1 hn1).2
    have := (h2.2 n2 hn2).1
    omega
  · intro n hn
    simp only [List.mem_append] at hn
    cases hn with
    | inl h => have := h1.2 n h; omega
    | inr h => have := h2.2 n h; omega

theorem NamesInL.cons_hi {lo hi : Nat} {l : List String} {n : String} (h : NamesInL lo hi l) (hn : idxOf n = hi)
    (hle : lo ≤ hi) : NamesInL lo (hi + 1) (n :: l) := by
  refine ⟨?_, ?_⟩
  · rw [List.map_cons, List.nodup_cons]
    refine ⟨?_, h.1⟩
    intro hmem
    simp only [List.mem_map] at hmem
    obtain ⟨m, hm, he⟩ := hmem
    have := (h.2 m hm).2
    omega
  · intro m hm
    simp only [List.mem_cons] at hm
    cases hm with
    | inl h' => subst h'; omega
    | inr h' => have := h.2 m h'; omega

theorem NamesInL.nodup {lo hi : Nat} {l : List String} (h : NamesInL lo hi l) : l.Nodup := by
  have := h.1
  rw [List.nodup_iff_pairwise_ne, List.pairwise_map] at this
  rw [List.nodup_iff_pairwise_ne]
  exact this.imp (fun hne he => hne (by rw [he]))

/-- `setTermKeys` touches the term dictionary of the step only -/
theorem setTermKeys_keep {near r : Near} {keys : List String} {b : Bool} (h : setTermKeys near keys b = some r) :
    r.names = near.names ∧ r.noCte = near.noCte ∧ r.key = near.key ∧ r.isTable = near.isTable ∧ r.desc = near.desc := by
  cases near <;> simp only [setTermKeys] at h <;> (repeat' split at h) <;>
    first | (cases h; exact ⟨rfl, rfl, rfl, rfl, rfl⟩) | cases h

/-- the counter only grows, the names of the result carry the indices taken, each once; no CTE node -/
theorem toNear_names (cfg : SqlCfg) : ∀ (fuel : Nat) (p : Ops) (u : Option (List String)) (s : Nat) (q : Near) (s' : Nat),
    toNear cfg fuel p u s = .ok (q, s') → s ≤ s' ∧ NamesInL s s' q.names ∧ q.noCte = true := by
  intro fuel
  induction fuel with
  | zero =>
    exact fun p u s q s' h => absurd h toNear_zero_ne_ok
  | succ fuel ih =>
    intro p u s q s' h
    have one : ∀ {lo hi : Nat} {l : List String} {pfx : String}, NamesInL lo hi l → lo ≤ hi →
        NamesInL lo (hi + 1) ((toString (pfx ++ "_") ++ toString hi) :: l) :=
      fun hl hle => hl.cons_hi (idxOf_gen _ _) hle
    cases toNear_succ_inv h with
    | table => exact ⟨Nat.le_refl _, .nil _ _, rfl⟩
    | tableRef => exact ⟨Nat.le_succ _, one (pfx := "table_reference") (.nil s s) (Nat.le_refl _), rfl⟩
    | step _ _ hsub =>
      obtain ⟨h1, h2, h3⟩ := ih _ _ _ _ _ hsub
      exact ⟨Nat.le_succ_of_le h1, one h2 h1, h3⟩
    | rekey _ _ hsub hq =>
      obtain ⟨h1, h2, h3⟩ := ih _ _ _ _ _ hsub
      obtain ⟨e1, e2, -⟩ := setTermKeys_keep hq
      exact ⟨h1, e1 ▸ h2, e2.trans h3⟩
    | extPrune _ hsub | joinFull _ _ _ _ hsub => exact ih _ _ _ _ _ hsub
    | extNew _ _ _ _ hsub =>
      obtain ⟨h1, h2, h3⟩ := ih _ _ _ _ _ hsub
      exact ⟨Nat.le_succ_of_le h1, one (pfx := "extend") h2 h1, h3⟩
    | extMerge _ _ _ _ _ hsub => have := ih _ _ _ _ _ hsub; exact this
    | join _ _ _ _ _ _ _ hl hr =>
      obtain ⟨l1, l2, l3⟩ := ih _ _ _ _ _ hl
      obtain ⟨r1, r2, r3⟩ := ih _ _ _ _ _ hr
      refine ⟨by omega, ?_, by rw [Near.noCte, l3, r3]; rfl⟩
      exact (one (pfx := "natural_join") (.nil s s) (Nat.le_refl _)).append (l2.append r2 l1 r1) (Nat.le_succ _)
        (Nat.le_trans l1 r1)
    | concat _ _ _ _ _ _ hl hr =>
      obtain ⟨l1, l2, l3⟩ := ih _ _ _ _ _ hl
      obtain ⟨r1, r2, r3⟩ := ih _ _ _ _ _ hr
      exact ⟨by omega, one (pfx := "concat_rows") (l2.append r2 l1 r1) (Nat.le_trans l1 r1),
        by rw [Near.noCte, l3, r3]; rfl⟩

end DAVerif.Sql
