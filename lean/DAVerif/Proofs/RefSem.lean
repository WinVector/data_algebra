import DAVerif.Spec.Ref
import DAVerif.Spec.Perm
import DAVerif.Proofs.Order
import DAVerif.Proofs.Window
/-!
The executor model's `project` and windowed `extend` against the reference definitions of `Spec/Ref.lean` (for
Props/C09.lean and Props/C27.lean): the model's comparison, partition test and argument function are the textbook ones; the
executor's sorted indexed partition (`Proofs/Window.lean`) is the reference window `Ref.windowOf` with the rows attached,
and the value computed at a position is `Ref.windowRef`.
-/
namespace DAVerif.RefSem
open Sol21Sql.Cmp

theorem cellBefore_eq (desc : Bool) (x y : Val) :
    Ref.cellBefore desc x y = (!x.isNull && (y.isNull || if desc then Val.lt y x else Val.lt x y)) := by
  cases x <;> cases y <;> rfl

theorem cellLe_eq_cellBefore {rev : Bool} {x y : Val} (hne : x ≠ y) :
    cellLe rev x y = Ref.cellBefore rev x y :=
  (cellLe_of_ne hne).trans (cellBefore_eq rev x y).symm

theorem rowLe_eq_windowLe (order reverse : List String) (a b : Row) :
    rowLe order reverse a b = Ref.windowLe order reverse a b := by
  induction order with
  | nil => rfl
  | cons c cs ih =>
    simp only [rowLe, Ref.windowLe, cellEq, beq_iff_eq]
    split
    · exact ih
    · rename_i hne
      exact cellLe_eq_cellBefore hne

theorem keyOf_beq_eq_samePartition (partition : List String) (a b : Row) :
    (keyOf a partition == keyOf b partition) = Ref.samePartition partition a b := by
  rw [Bool.eq_iff_iff, beq_iff_eq]
  simp only [keyOf, Row.vals, List.map_inj_left, Ref.samePartition, List.all_eq_true, beq_iff_eq]

theorem keyTuple_eq_keyOf (group : List String) (r : Row) : Ref.keyTuple group r = keyOf r group := rfl

theorem callArg_eq_argFn (t : Term) (r : Row) : Ref.callArg t r = argFn t r := by
  cases t with
  | app op args i m =>
    cases args with
    | nil => rfl
    | cons a as => cases a <;> rfl
  | _ => rfl

theorem winSorted_eq_windowOf (partition order reverse : List String) (rows : List Row) (i : Nat) :
    winSortedG rowLe partition order reverse rows i
    = (Ref.windowOf partition order reverse rows i).map (fun j => (rows.getD j [], j)) := by
  rw [winSorted_eq_map]
  simp only [Ref.windowOf, keyOf_beq_eq_samePartition, rowLe_eq_windowLe]

/-- No hypothesis: ties in the window order are resolved by input position on both sides. -/
theorem windowRef_eq_winVal (Θ : Interp) (t : Term) (partition order reverse : List String) (rows : List Row)
    (i : Nat) :
    Ref.windowRef Θ (opName t) (constArgs t) (Ref.callArg t) partition order reverse rows i =
      winValG rowLe Θ t partition order reverse rows i := by
  simp only [Ref.windowRef, winValG, winPosG, winSorted_eq_windowOf, List.map_map, argValues_eq_map,
    List.findIdx_map]
  exact congrArg (Θ.win _ _ · _) (List.map_congr_left fun j _ => callArg_eq_argFn t _)

/-- a null cell agrees with a null cell: the rows whose key is null are a partition -/
theorem mem_windowOf {partition order reverse : List String} {rows : List Row} {i j : Nat} :
    j ∈ Ref.windowOf partition order reverse rows i ↔
      j < rows.length ∧ ∀ c ∈ partition, (rows.getD j []).get c = (rows.getD i []).get c := by
  simp only [Ref.windowOf, List.mem_mergeSort, List.mem_filter, List.mem_range, Ref.samePartition,
    List.all_eq_true, beq_iff_eq]

theorem self_mem_windowOf {partition order reverse : List String} {rows : List Row} {i : Nat}
    (h : i < rows.length) : i ∈ Ref.windowOf partition order reverse rows i :=
  mem_windowOf.mpr ⟨h, fun _ _ => rfl⟩

theorem nodup_windowOf (partition order reverse : List String) (rows : List Row) (i : Nat) :
    (Ref.windowOf partition order reverse rows i).Nodup :=
  (List.mergeSort_perm _ _).nodup_iff.mpr (List.nodup_range.sublist List.filter_sublist)

theorem windowLe_trans {order reverse : List String} {a b c : Row} (h1 : Ref.windowLe order reverse a b = true)
    (h2 : Ref.windowLe order reverse b c = true) : Ref.windowLe order reverse a c = true := by
  rw [← rowLe_eq_windowLe] at *
  exact rowLe_trans h1 h2

theorem windowLe_total (order reverse : List String) (a b : Row) :
    (Ref.windowLe order reverse a b || Ref.windowLe order reverse b a) = true := by
  rw [← rowLe_eq_windowLe, ← rowLe_eq_windowLe]
  exact rowLe_total order reverse a b

theorem sorted_windowOf (partition order reverse : List String) (rows : List Row) (i : Nat) :
    (Ref.windowOf partition order reverse rows i).Pairwise
      (fun j k => Ref.windowLe order reverse (rows.getD j []) (rows.getD k []) = true) :=
  List.pairwise_mergeSort (le := fun j k => Ref.windowLe order reverse (rows.getD j []) (rows.getD k []))
    (fun _ _ _ => windowLe_trans) (fun _ _ => windowLe_total _ _ _ _) _

theorem windowOf_unordered (partition reverse : List String) (rows : List Row) (i : Nat) :
    Ref.windowOf partition [] reverse rows i =
      (List.range rows.length).filter
        (fun j => Ref.samePartition partition (rows.getD j []) (rows.getD i [])) :=
  List.mergeSort_of_pairwise (List.pairwise_of_forall (fun _ _ => rfl))

theorem sem_project_eq {Θ : Interp} {cfg : SemCfg} {env : Env} {q : Ops} {ops : Assign} {g : List String}
    {t tq : Table} (h : sem Θ cfg env (.project q ops g) = .ok t) (hq : sem Θ cfg env q = .ok tq) :
    t = semProject Θ ops g tq (Ops.project q ops g).cols := by
  obtain ⟨tq', hq', h⟩ := bind_eq_ok.mp h
  cases hq.symm.trans hq'
  exact (Except.ok.inj h).symm

theorem sem_extend_window_eq {Θ : Interp} {cfg : SemCfg} {env : Env} {q : Ops} {ops : Assign}
    {part od rv : List String} {t tq : Table} (h : sem Θ cfg env (.extend q ops part od rv true) = .ok t)
    (hq : sem Θ cfg env q = .ok tq) :
    t = semExtendWindow Θ ops part od rv tq (Ops.extend q ops part od rv true).cols := by
  obtain ⟨tq', hq', h⟩ := bind_eq_ok.mp h
  cases hq.symm.trans hq'
  exact (Except.ok.inj h).symm

theorem length_semExtendWindow (Θ : Interp) (ops : Assign) (part od rv : List String) (t : Table)
    (oc : List String) : (semExtendWindow Θ ops part od rv t oc).rows.length = t.rows.length := by
  simp only [semExtendWindow, List.length_map, List.length_zipIdx]

theorem semExtendWindow_get_ref (Θ : Interp) {ops : Assign} (part od rv : List String) (t : Table)
    {oc : List String} (hn : (ops.map (·.1)).Nodup) {i : Nat} (hi : i < t.rows.length)
    {kv : String × Term} (hkv : kv ∈ ops) (hoc : kv.1 ∈ oc) :
    ((semExtendWindow Θ ops part od rv t oc).rows.getD i []).get kv.1 =
      Ref.windowRef Θ (opName kv.2) (constArgs kv.2) (Ref.callArg kv.2) part od rv t.rows i := by
  rw [windowRef_eq_winVal, ← Sql.semExtendWindowG_rowLe, getD_semExtendWindowG rowLe Θ ops part od rv t oc hi,
    Row.select_get_of_mem hoc]
  apply Row.get_setAll_of_mem
  · simpa [List.map_map, Function.comp_def] using hn
  · exact List.mem_map.mpr ⟨kv, hkv, rfl⟩

theorem windowOf_rows_eq (part od rv : List String) (rows : List Row) (i : Nat) :
    (Ref.windowOf part od rv rows i).map (fun j => rows.getD j []) =
      sortRows od rv (partRows part rows (rows.getD i [])) := by
  refine Eq.trans ?_ (winSorted_map_fst (le := rowLe) part od rv rows i)
  rw [winSorted_eq_windowOf, List.map_map]
  rfl

end DAVerif.RefSem
