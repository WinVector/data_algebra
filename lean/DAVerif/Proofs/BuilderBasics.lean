import DAVerif.Proofs.RowBasic
/-!
Helper lemmas for the builder proofs: the Boolean list predicates of `Ops/Builder.lean` as propositions, `appendNew`,
what a successful `tryMergeOps` returns, the `Except` plumbing of the `do` blocks, `buildChain`.
-/
namespace DAVerif

theorem subset_iff {a b : List String} : subset a b = true ↔ ∀ x ∈ a, x ∈ b := by
  simp [subset]

theorem disjoint_iff {a b : List String} : disjoint a b = true ↔ ∀ x ∈ a, x ∉ b := by
  simp [disjoint]

theorem mem_inter {a b : List String} {x : String} : x ∈ inter a b ↔ x ∈ a ∧ x ∈ b := by
  simp [inter]

theorem subset_congr_left {a a' b : List String} (h : ∀ c, c ∈ a ↔ c ∈ a') : subset a b = subset a' b := by
  rw [Bool.eq_iff_iff, subset_iff, subset_iff]
  exact ⟨fun hh x hx => hh x ((h x).mpr hx), fun hh x hx => hh x ((h x).mp hx)⟩

theorem subset_congr_right {a b b' : List String} (h : ∀ c, c ∈ b ↔ c ∈ b') : subset a b = subset a b' := by
  rw [Bool.eq_iff_iff, subset_iff, subset_iff]
  exact ⟨fun hh x hx => (h x).mp (hh x hx), fun hh x hx => (h x).mpr (hh x hx)⟩

theorem contains_congr {b b' : List String} (h : ∀ c, c ∈ b ↔ c ∈ b') (c : String) : b.contains c = b'.contains c := by
  rw [Bool.eq_iff_iff]; simpa using h c

theorem inter_congr_right {a b b' : List String} (h : ∀ c, c ∈ b ↔ c ∈ b') : inter a b = inter a b' := by
  simp only [inter]
  exact List.filter_congr (fun x _ => contains_congr h x)

theorem eraseDups_length_le {α} [BEq α] [LawfulBEq α] (a : List α) : a.eraseDups.length ≤ a.length := by
  induction h : a.length using Nat.strongRecOn generalizing a with
  | _ n ih =>
    cases a with
    | nil => simp
    | cons x xs =>
      rw [List.eraseDups_cons]
      simp only [List.length_cons] at h ⊢
      have h1 := List.length_filter_le (fun b => !b == x) xs
      have h2 := ih (xs.filter (fun b => !b == x)).length (by omega) _ rfl
      omega

theorem nodupB_iff {a : List String} : nodupB a = true ↔ a.Nodup := by
  unfold nodupB
  induction a with
  | nil => simp
  | cons x xs ih =>
    rw [List.eraseDups_cons, List.nodup_cons]
    simp only [List.length_cons, beq_iff_eq, Nat.add_right_cancel_iff]
    have h1 := List.length_filter_le (fun b => !b == x) xs
    have h2 := eraseDups_length_le (xs.filter (fun b => !b == x))
    constructor
    · intro h
      have hf : (xs.filter (fun b => !b == x)).length = xs.length := by omega
      have hfe : xs.filter (fun b => !b == x) = xs := List.filter_eq_self.mpr (by
        have := List.length_filter_eq_length_iff.mp hf
        exact this)
      rw [hfe] at h
      refine ⟨?_, ih.mp (by simpa using h)⟩
      intro hx
      have := (List.filter_eq_self.mp hfe) x hx
      simp at this
    · rintro ⟨hx, hn⟩
      have hfe : xs.filter (fun b => !b == x) = xs := List.filter_eq_self.mpr (by
        intro b hb
        simp only [Bool.not_eq_eq_eq_not, Bool.not_true, beq_eq_false_iff_ne, ne_eq]
        rintro rfl; exact hx hb)
      rw [hfe]
      simpa using ih.mpr hn

theorem appendNew_nil (xs : List String) : appendNew xs [] = xs := rfl

theorem appendNew_cons (xs : List String) (y : String) (ys : List String) :
    appendNew xs (y :: ys) = appendNew (if xs.contains y then xs else xs ++ [y]) ys := rfl

theorem mem_appendNew {xs ys : List String} {x : String} : x ∈ appendNew xs ys ↔ x ∈ xs ∨ x ∈ ys := by
  unfold appendNew
  induction ys generalizing xs with
  | nil => simp
  | cons y ys ih =>
    simp only [List.foldl_cons, List.mem_cons]
    split
    · rename_i h
      rw [ih]
      have : y ∈ xs := by simpa using h
      constructor
      · rintro (h | h) <;> simp [h]
      · rintro (h | rfl | h) <;> simp [*]
    · rw [ih]; simp only [List.mem_append, List.mem_singleton]
      constructor
      · rintro ((h | h) | h) <;> simp [h]
      · rintro (h | h | h) <;> simp [h]

theorem mem_appendNew_left {c : String} (ys xs : List String) (h : c ∈ xs) : c ∈ appendNew xs ys :=
  mem_appendNew.mpr (Or.inl h)

theorem appendNew_nodup {xs ys : List String} (h : xs.Nodup) : (appendNew xs ys).Nodup := by
  unfold appendNew
  induction ys generalizing xs with
  | nil => simpa
  | cons y ys ih =>
    simp only [List.foldl_cons]
    split
    · exact ih h
    · rename_i hc
      apply ih
      have : y ∉ xs := by simpa using hc
      rw [List.nodup_append]
      simp only [List.nodup_cons, List.not_mem_nil, not_false_eq_true, List.nodup_nil, and_self,
        List.mem_singleton, ne_eq, true_and]
      exact ⟨h, fun a ha b hb => by subst hb; rintro rfl; exact this ha⟩

theorem appendNew_ne_nil_left {xs ys : List String} (h : xs ≠ []) : appendNew xs ys ≠ [] := by
  intro he
  cases xs with
  | nil => exact h rfl
  | cons x xs =>
    have : x ∈ appendNew (x :: xs) ys := mem_appendNew.mpr (Or.inl (by simp))
    rw [he] at this; simp at this

theorem appendNew_append (xs ys zs : List String) :
    appendNew xs (ys ++ zs) = appendNew (appendNew xs ys) zs := by
  simp [appendNew, List.foldl_append]

theorem appendNew_eq_filter {xs ys : List String} (h : ys.Nodup) :
    appendNew xs ys = xs ++ ys.filter (fun y => !xs.contains y) := by
  unfold appendNew
  induction ys generalizing xs with
  | nil => simp
  | cons y ys ih =>
    have hy : y ∉ ys := (List.nodup_cons.mp h).1
    have hn : ys.Nodup := (List.nodup_cons.mp h).2
    simp only [List.foldl_cons, List.filter_cons]
    by_cases hc : xs.contains y = true
    · simp only [hc, ↓reduceIte, Bool.not_true, Bool.false_eq_true]
      exact ih hn
    · simp only [hc, Bool.false_eq_true, ↓reduceIte, Bool.not_false]
      rw [ih hn, List.append_assoc]
      congr 1
      simp only [List.singleton_append, List.cons.injEq, true_and]
      apply List.filter_congr
      intro z hz
      have : z ≠ y := by rintro rfl; exact hy hz
      simp [this]

theorem length_appendNew_ge : ∀ (ys xs : List String), xs.length ≤ (appendNew xs ys).length
  | [], _ => Nat.le_refl _
  | y :: ys, xs => by
    rw [appendNew_cons]
    split
    · exact length_appendNew_ge ys xs
    · have := length_appendNew_ge ys (xs ++ [y])
      simp only [List.length_append, List.length_cons, List.length_nil] at this
      omega

namespace Sol

theorem appendNew_single {xs : List String} {c : String} (h : c ∉ xs) : appendNew xs [c] = xs ++ [c] := by
  simp [appendNew, h]

theorem appendNew_single_mem {xs : List String} {c : String} (h : c ∈ xs) : appendNew xs [c] = xs := by
  simp [appendNew, h]

end Sol

theorem subset_of_length_appendNew : ∀ {ys xs : List String}, (appendNew xs ys).length = xs.length →
    ∀ y ∈ ys, y ∈ xs
  | [], _, _, y, hy => by cases hy
  | y :: ys, xs, h, z, hz => by
    rw [appendNew_cons] at h
    split at h
    · rename_i hc
      rcases List.mem_cons.mp hz with rfl | hz'
      · simpa using hc
      · exact subset_of_length_appendNew h z hz'
    · have := length_appendNew_ge ys (xs ++ [y])
      simp only [List.length_append, List.length_cons, List.length_nil] at this
      omega

theorem mem_colsUsedOps {ops : Assign} {c : String} :
    c ∈ Term.colsUsedOps ops ↔ ∃ kv ∈ ops, c ∈ Term.colsRaw kv.2 := by
  simp [Term.colsUsedOps]

theorem ite_not_none_eq_some {α : Type} {d : Bool} {x : Option α} {n : α} :
    (if (!d) = true then none else x) = some n ↔ d = true ∧ x = some n := by
  cases d <;> simp

/-- Of the library's disjointness checks only these two bear on what is returned; the others only make the merge
fail more often. -/
theorem tryMergeOps_eq_some {ops1 ops2 n : Assign} (h : tryMergeOps ops1 ops2 = some n) :
    n = ops1.filter (fun kv => !(ops2.map (·.1)).contains kv.1) ++ ops2 ∧
    disjoint (Term.colsUsedOps ops2) (ops1.map (·.1)) = true ∧
    disjoint (Term.colsUsedOps (ops1.filter (fun kv => !(ops2.map (·.1)).contains kv.1))) (ops2.map (·.1)) = true := by
  have hf : ops1.filter (fun kv => !(inter (ops1.map (·.1)) (ops2.map (·.1))).contains kv.1)
      = ops1.filter (fun kv => !(ops2.map (·.1)).contains kv.1) := by
    apply List.filter_congr
    intro kv hkv
    have : kv.1 ∈ ops1.map (·.1) := List.mem_map_of_mem hkv
    simp only [List.contains_eq_mem, mem_inter, this, true_and]
  unfold tryMergeOps at h
  by_cases hc : (inter (ops1.map (·.1)) (ops2.map (·.1))).isEmpty = true
  · simp only [hc, Bool.not_true, Bool.false_eq_true, if_false, ite_not_none_eq_some, Option.some.injEq] at h
    have hall : ops1.filter (fun kv => !(inter (ops1.map (·.1)) (ops2.map (·.1))).contains kv.1) = ops1 := by
      rw [List.isEmpty_iff.mp hc]
      exact List.filter_eq_self.mpr fun _ _ => rfl
    rw [← hf, hall, ← h.2.2]
    exact ⟨rfl, h.2.1, h.1⟩
  · simp only [hc, Bool.not_false, if_true, ite_not_none_eq_some, Option.some.injEq] at h
    rw [← hf]
    exact ⟨h.2.2.2.2.2.2.symm, h.2.2.2.2.1, h.2.2.2.2.2.1⟩

/-- what `merge_ops_sound` (`Proofs/Merge.lean`) and the acceptance of a merged `extend` use of a successful merge -/
theorem tryMergeOps_spec {o1 o2 o : Assign} (h : tryMergeOps o1 o2 = some o) :
    (∀ c, lookupLast o c = (lookupLast o2 c).or (lookupLast o1 c)) ∧
    disjoint (Term.colsUsedOps o2) (o1.map (·.1)) = true ∧
    (∀ kv ∈ o, kv ∈ o1 ∨ kv ∈ o2) ∧ (∀ kv ∈ o2, kv ∈ o) ∧
    (∀ c, c ∈ o.map (·.1) ↔ c ∈ o1.map (·.1) ∨ c ∈ o2.map (·.1)) := by
  obtain ⟨rfl, hd, _⟩ := tryMergeOps_eq_some h
  have hp : ∀ c, c ∉ o2.map (·.1) → (!(o2.map (·.1)).contains c) = true := fun c hc => by
    simpa only [Bool.not_eq_true', List.contains_eq_mem, decide_eq_false_iff_not] using hc
  refine ⟨fun c => ?_, hd, fun kv hkv => ?_, fun kv hkv => List.mem_append_right _ hkv, fun c => ?_⟩
  · rw [lookupLast_append]
    cases h2 : lookupLast o2 c with
    | some v => rfl
    | none =>
      rw [Option.none_or]
      exact lookupLast_filter o1 (fun k => !(o2.map Prod.fst).contains k) c (hp c (lookupLast_eq_none_iff.mp h2))
  · exact (List.mem_append.mp hkv).imp_left fun hk => (List.mem_filter.mp hk).1
  · rw [List.map_append, List.mem_append]
    refine ⟨Or.imp_left fun hc => ?_, fun hc => ?_⟩
    · obtain ⟨kv, hkv, rfl⟩ := List.mem_map.mp hc
      exact List.mem_map_of_mem (List.mem_filter.mp hkv).1
    · by_cases hc2 : c ∈ o2.map (·.1)
      · exact Or.inr hc2
      · obtain ⟨kv, hkv, rfl⟩ := List.mem_map.mp (hc.resolve_right hc2)
        exact Or.inl (List.mem_map_of_mem (List.mem_filter.mpr ⟨hkv, hp _ hc2⟩))

theorem parse_toStr (t : JoinType) : JoinType.parse t.toStr = some t := by
  cases t <;> decide +kernel

theorem parse_left : JoinType.parse "left" = some .left := by decide +kernel

@[simp] theorem ok?_true (e : Err) : ok? true e = .ok () := rfl
@[simp] theorem ok?_false (e : Err) : ok? false e = .error e := rfl

theorem ok?_bind {α : Type} (c : Bool) (e : Err) (f : Unit → Except Err α) :
    (ok? c e >>= f) = if c then f () else .error e := by
  cases c <;> rfl

theorem ok?_bind_ok {α : Type} {c : Bool} {e : Err} {f : Unit → Except Err α} {q : α} :
    (ok? c e >>= f) = .ok q ↔ c = true ∧ f () = .ok q := by
  cases c <;> simp [ok?, bind, Except.bind]

theorem ok?_eq_ok {c : Bool} {e : Err} {u : Unit} : ok? c e = .ok u ↔ c = true := by
  cases c <;> simp [ok?]

theorem pure_ok {α : Type} {a q : α} : (pure a : Except Err α) = .ok q ↔ a = q := by
  simp [pure, Except.pure]

theorem bind_ok_node {α : Type} {x : Except Err Unit} {n q : α} : (x >>= fun _ => .ok n) = .ok q ↔ x = .ok () ∧ n = q := by
  cases x with
  | error e => exact ⟨fun h => (nomatch h), fun h => (nomatch h.1)⟩
  | ok u => exact ⟨fun h => ⟨rfl, Except.ok.inj h⟩, fun h => h.2 ▸ rfl⟩

/-- the `for kv in ops do ok? (P kv) e` loops -/
theorem forIn_ok? {α : Type} (l : List α) (P : α → Bool) (e : Err) :
    (forIn l PUnit.unit (fun a _ => (do ok? (P a) e; pure (ForInStep.yield PUnit.unit) : Except Err _)))
      = ok? (l.all P) e := by
  induction l with
  | nil => rfl
  | cons a l ih =>
    simp only [List.forIn_cons, List.all_cons]
    cases h : P a
    · rfl
    · simp only [ok?_true, Bool.true_and]
      exact ih

theorem buildChain_snoc (start : Ops) (steps : List Step) (s : Step) :
    buildChain start (steps ++ [s]) = buildChain start steps >>= fun p => build p s := by
  simp only [buildChain, List.foldlM_append, List.foldlM_cons, List.foldlM_nil, bind_pure]

theorem buildChain_preserves {I : Ops → Prop} {A : Step → Prop}
    (hstep : ∀ {p : Ops} {s : Step} {q : Ops}, I p → A s → build p s = .ok q → I q) :
    ∀ {steps : List Step} {start p' : Ops}, I start → (∀ s ∈ steps, A s) → buildChain start steps = .ok p' → I p'
  | [], _, _, hi, _, h => by cases h; exact hi
  | s :: rest, _, _, hi, ha, h => by
    simp only [buildChain, List.foldlM_cons] at h
    obtain ⟨p1, h1, h2⟩ := bind_eq_ok.mp h
    exact buildChain_preserves hstep (hstep hi (ha s List.mem_cons_self) h1)
      (fun s' hs' => ha s' (List.mem_cons_of_mem _ hs')) h2

end DAVerif
