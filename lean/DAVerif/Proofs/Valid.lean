import DAVerif.Proofs.Built
import DAVerif.Proofs.SemBasic
/-!
`Ops.valid`: the structural invariant of the pipelines the builders construct – at every node the conditions
its constructor (and the builder in front of it) checked, i.e. the node's own check on its sources' columns
(`valid_extend`, `Ops.nodeOk_…`).  The builders preserve it (`valid_build`), so `Reachable p → p.valid`; everything
C06 / C07 need about reachable pipelines is derived from `valid`.
-/
namespace DAVerif

namespace Ops

/-- the conditions checked when the node was constructed -/
def nodeOk : Ops → Bool
  | .table _ cs => nodupB cs
  | .extend src ops part od rv w =>
      !ops.isEmpty && subset (Term.colsUsedOps ops) src.cols && nodupB part && nodupB od && nodupB rv
      && subset part src.cols && subset od src.cols && subset rv od
      && disjoint (ops.map (·.1)) (part ++ od ++ rv) && (part.isEmpty || disjoint part od)
      && (!w || ops.all (fun kv => windowOpOk src.cols (!od.isEmpty) kv.2))
      && (!(impliesWindowed ops || !part.isEmpty || !od.isEmpty) || w)
  | .project src ops g =>
      (projectChk src.cols ops g).isOk && !(ops.isEmpty && g.isEmpty) && disjoint (ops.map (·.1)) g
  | .selectRows _ _ => true
  | .selectCols src cs => (selectChk src.cols cs).isOk
  | .dropCols src ds => !ds.isEmpty && (dropChk src.cols ds).isOk
  | .order src cs rv lim => !(cs.isEmpty && lim.isNone) && (orderChk src.cols cs rv).isOk
  | .rename src m => !m.isEmpty && (renameChk src.cols m).isOk
  | .mapCols src m ds => !(m.isEmpty && ds.isEmpty) && (mapNodeChk src.cols m ds).isOk
  | .join a b oa ob jt =>
      tablesConsistent a.tables b.tables && oa.length == ob.length && subset oa a.cols && subset ob b.cols
      && !(jt == .cross && !oa.isEmpty)
  | .concat a b idc _ _ => (concatChk a.cols b.cols a.tables b.tables idc).isOk
  | .convert src rm => (convertChk src.cols rm).isOk

/-- `nodeOk` at every node -/
def valid : Ops → Bool
  | n@(.table _ _) => n.nodeOk
  | n@(.extend s _ _ _ _ _) | n@(.project s _ _) | n@(.selectRows s _) | n@(.selectCols s _)
  | n@(.dropCols s _) | n@(.order s _ _ _) | n@(.rename s _) | n@(.mapCols s _ _) | n@(.convert s _) =>
    n.nodeOk && s.valid
  | n@(.join a b _ _ _) | n@(.concat a b _ _ _) => n.nodeOk && a.valid && b.valid

theorem valid_parts : ∀ {p : Ops}, p.valid = true → p.nodeOk = true ∧ p.srcA.valid = true
  | .table .., h => ⟨h, h⟩
  | .extend .., h | .project .., h | .selectRows .., h | .selectCols .., h | .dropCols .., h
  | .order .., h | .rename .., h | .mapCols .., h | .convert .., h => Bool.and_eq_true_iff.mp h
  | .join .., h | .concat .., h => Bool.and_eq_true_iff.mp (Bool.and_eq_true_iff.mp h).1

theorem valid_nodeOk {p : Ops} (h : p.valid = true) : p.nodeOk = true := (valid_parts h).1

theorem valid_srcA {p : Ops} (h : p.valid = true) : p.srcA.valid = true := (valid_parts h).2

theorem valid_selectBase {p : Ops} (h : p.valid = true) : p.selectBase.valid = true :=
  selectBase_preserves (P := fun p => p.valid = true) (fun s _ _ h => valid_srcA (p := .order s _ _ none) h)
    (fun s _ h => valid_srcA (p := .selectCols s _) h) (fun s _ h => valid_srcA (p := .dropCols s _) h) h

end Ops

theorem valid_srcB {p b : Ops} (hv : p.valid = true) (h : p.srcB = some b) : b.valid = true := by
  cases p with
  | join | concat => cases h; simp only [Ops.valid, Bool.and_eq_true] at hv; exact hv.2
  | _ => cases h

theorem valid_strip {p : Ops} (h : p.valid = true) : (strip p).valid = true :=
  strip_preserves (P := fun p => p.valid = true) (fun src _ _ h => Ops.valid_srcA (p := .order src _ _ none) h) h

theorem isOk_iff {α : Type} {x : Except Err α} : x.isOk = true ↔ ∃ a, x = .ok a := by
  cases x <;> simp [Except.isOk, Except.toBool]

theorem isOk_unit {x : Except Err Unit} : x.isOk = true ↔ x = .ok () := by
  cases x <;> simp [Except.isOk, Except.toBool]

theorem nodup_map_getD_of_nodupB {l : List String} (h : nodupB l = true) : l.Nodup := nodupB_iff.mp h

theorem impliesWindowed_of_subset {o o' : Assign} (h : ∀ kv ∈ o, kv ∈ o') (hw : impliesWindowed o = true) :
    impliesWindowed o' = true := by
  simp only [impliesWindowed, List.any_eq_true] at hw ⊢
  obtain ⟨kv, hkv, hh⟩ := hw
  exact ⟨kv, h kv hkv, hh⟩

theorem impliesWindowed_of_union {o o1 o2 : Assign} (h : ∀ kv ∈ o, kv ∈ o1 ∨ kv ∈ o2)
    (hw : impliesWindowed o = true) : impliesWindowed o1 = true ∨ impliesWindowed o2 = true := by
  simp only [impliesWindowed, List.any_eq_true] at hw ⊢
  obtain ⟨kv, hkv, hh⟩ := hw
  rcases h kv hkv with h1 | h2
  · exact Or.inl ⟨kv, h1, hh⟩
  · exact Or.inr ⟨kv, h2, hh⟩

theorem stepWindowed_eq (ops : Assign) (pa : PartArg) (od : List String) :
    stepWindowed ops pa od = (impliesWindowed ops || stepWindowed [] pa od) := by
  simp only [stepWindowed, impliesWindowed, List.any_nil, Bool.false_or, Bool.or_assoc]

theorem stepWindowed_merge {o1 ops o : Assign} {pa : PartArg} {od : List String} {w1 : Bool}
    (hunion : ∀ kv ∈ o, kv ∈ o1 ∨ kv ∈ ops) (ho2 : ∀ kv ∈ ops, kv ∈ o)
    (hflag : impliesWindowed o1 = true → w1 = true) (hw : stepWindowed ops pa od = w1) :
    stepWindowed o pa od = w1 := by
  rw [stepWindowed_eq] at hw ⊢
  cases hw1 : w1 with
  | true =>
    rw [hw1] at hw
    cases hi : impliesWindowed ops with
    | true => rw [impliesWindowed_of_subset ho2 hi]; rfl
    | false => rw [hi] at hw; simp only [Bool.false_or] at hw; rw [hw]; simp
  | false =>
    rw [hw1] at hw
    simp only [Bool.or_eq_false_iff] at hw
    rw [hw.2, Bool.or_false]
    cases hi : impliesWindowed o with
    | false => rfl
    | true =>
      rcases impliesWindowed_of_union hunion hi with h1 | h2
      · have := hflag h1
        rw [hw1] at this; cases this
      · rw [hw.1] at h2; cases h2

/-- what `Ops.nodeOk` records of an `extend` node over a source with columns `sc` -/
structure ExtNodeOk (sc : List String) (ops : Assign) (part od rv : List String) (w : Bool) : Prop where
  ops_ne : ops.isEmpty = false
  used : subset (Term.colsUsedOps ops) sc = true
  part_nodup : nodupB part = true
  od_nodup : nodupB od = true
  rv_nodup : nodupB rv = true
  part_sub : subset part sc = true
  od_sub : subset od sc = true
  rv_sub : subset rv od = true
  keys_disj : disjoint (ops.map (·.1)) (part ++ od ++ rv) = true
  part_od : (part.isEmpty || disjoint part od) = true
  win : w = true → ops.all (fun kv => windowOpOk sc (!od.isEmpty) kv.2) = true
  flag : (impliesWindowed ops || !part.isEmpty || !od.isEmpty) = true → w = true

theorem valid_extend {src : Ops} {ops : Assign} {part od rv : List String} {w : Bool}
    (h : (Ops.extend src ops part od rv w).valid = true) : ExtNodeOk src.cols ops part od rv w := by
  have hn := Ops.valid_nodeOk h
  simp only [Ops.nodeOk, Bool.and_eq_true] at hn
  obtain ⟨⟨⟨⟨⟨⟨⟨⟨⟨⟨⟨h0, h1⟩, h2⟩, h3⟩, h4⟩, h5⟩, h6⟩, h7⟩, h8⟩, h9⟩, h10⟩, h11⟩ := hn
  exact ⟨(Bool.not_eq_true' _).mp h0, h1, h2, h3, h4, h5, h6, h7, h8, h9, fun hw => by simpa [hw] using h10,
    fun hi => by simpa [hi] using h11⟩

namespace Ops

theorem nodeOk_project {s : Ops} {ops : Assign} {g : List String} :
    (Ops.project s ops g).nodeOk = true ↔
      projectChk s.cols ops g = .ok () ∧ (ops ≠ [] ∨ g ≠ []) ∧ ∀ k ∈ ops.map (·.1), k ∉ g := by
  simp only [nodeOk, Bool.and_eq_true, isOk_unit, disjoint_iff, and_assoc, Bool.not_eq_true', Bool.and_eq_false_iff,
    List.isEmpty_eq_false_iff]

theorem nodeOk_selectCols {s : Ops} {cs : List String} :
    (Ops.selectCols s cs).nodeOk = true ↔ selectChk s.cols cs = .ok () := isOk_unit

theorem nodeOk_dropCols {s : Ops} {ds : List String} :
    (Ops.dropCols s ds).nodeOk = true ↔ ds.isEmpty = false ∧ dropChk s.cols ds = .ok () := by
  simp only [nodeOk, Bool.and_eq_true, isOk_unit, Bool.not_eq_true']

theorem nodeOk_order {s : Ops} {cs rv : List String} {lim : Option Nat} :
    (Ops.order s cs rv lim).nodeOk = true ↔ (cs.isEmpty && lim.isNone) = false ∧ orderChk s.cols cs rv = .ok () := by
  simp only [nodeOk, Bool.and_eq_true, isOk_unit, Bool.not_eq_true']

theorem nodeOk_rename {s : Ops} {m : List (String × String)} :
    (Ops.rename s m).nodeOk = true ↔ m.isEmpty = false ∧ renameChk s.cols m = .ok () := by
  simp only [nodeOk, Bool.and_eq_true, isOk_unit, Bool.not_eq_true']

theorem nodeOk_mapCols {s : Ops} {m : List (String × String)} {ds : List String} :
    (Ops.mapCols s m ds).nodeOk = true ↔ (m.isEmpty && ds.isEmpty) = false ∧ mapNodeChk s.cols m ds = .ok () := by
  simp only [nodeOk, Bool.and_eq_true, isOk_unit, Bool.not_eq_true']

theorem nodeOk_join {a b : Ops} {oa ob : List String} {jt : JoinType} :
    (Ops.join a b oa ob jt).nodeOk = true ↔
      tablesConsistent a.tables b.tables = true ∧ (oa.length == ob.length) = true ∧ subset oa a.cols = true ∧
      subset ob b.cols = true ∧ (!(jt == .cross && !oa.isEmpty)) = true := by
  simp only [nodeOk, Bool.and_eq_true, and_assoc]

theorem nodeOk_concat {a b : Ops} {idc : Option String} {an bn : String} :
    (Ops.concat a b idc an bn).nodeOk = true ↔ concatChk a.cols b.cols a.tables b.tables idc = .ok () := isOk_unit

theorem nodeOk_convert {s : Ops} {rm : RecMap} :
    (Ops.convert s rm).nodeOk = true ↔ convertChk s.cols rm = .ok () := isOk_unit

theorem valid_node {p : Ops} (hn : p.nodeOk = true) (ha : p.srcA.valid = true)
    (hb : ∀ b, p.srcB = some b → b.valid = true) : p.valid = true := by
  cases p with
  | table => exact hn
  | join | concat => exact Bool.and_eq_true_iff.mpr ⟨Bool.and_eq_true_iff.mpr ⟨hn, ha⟩, hb _ rfl⟩
  | _ => exact Bool.and_eq_true_iff.mpr ⟨hn, ha⟩

end Ops

theorem valid_extend_node {src : Ops} {ops : Assign} {pa : PartArg} {od rv : List String}
    (hv : src.valid = true) (hne : ops ≠ []) (hfront : ∀ c ∈ pa.cols', c ∉ od)
    (hc : extendChk src.cols ops pa od rv = .ok ()) :
    (Ops.extend src ops pa.cols' od rv (stepWindowed ops pa od)).valid = true := by
  simp only [extendChk, ok?_bind_ok, ok?_eq_ok] at hc
  obtain ⟨h1, h2, h3, h4, h5, h6, h7, h8, h9⟩ := hc
  have hflag : (!(impliesWindowed ops || !pa.cols'.isEmpty || !od.isEmpty) || stepWindowed ops pa od) = true := by
    cases pa <;> simp only [stepWindowed, PartArg.cols', List.isEmpty_nil, Bool.not_true, Bool.or_false,
      Bool.or_true, Bool.not_or_self]
    cases impliesWindowed ops <;> cases od.isEmpty <;> rfl
  simp only [Ops.valid, Ops.nodeOk, List.isEmpty_eq_false_iff.mpr hne, h1, h2, h3, h4, h5, h6, h7, h8, h9,
    disjoint_iff.mpr hfront, hv, hflag, Bool.not_false, Bool.or_true, Bool.and_self]

theorem Placed.valid {a : Ops} {s : Step} {q : Ops} (ha : a.valid = true)
    (hb : ∀ b ∈ Step.argOps s, b.valid = true) (h : Placed a s q) : q.valid = true := by
  cases h with
  | extend hne hpre _ hc => exact valid_extend_node ha hne (extendPre_ok_iff.mp hpre).2.2.2.2.1 hc
  | merge hne hpre ht hm hc =>
    rw [ht] at ha
    obtain ⟨rfl, _⟩ := tryMergeOps_eq_some hm
    exact valid_extend_node (Ops.valid_srcA ha) (fun he => hne (List.append_eq_nil_iff.mp he).2)
      (extendPre_ok_iff.mp hpre).2.2.2.2.1 hc
  | project hf hc => exact Ops.valid_node (Ops.nodeOk_project.mpr ⟨hc, (projectChecks_ok_iff.mp hf).2.2⟩) ha nofun
  | selectRows => exact Ops.valid_node rfl ha nofun
  | selectCols _ hc => exact Ops.valid_node (Ops.nodeOk_selectCols.mpr hc) (Ops.valid_selectBase ha) nofun
  | dropCols hne hc =>
    exact Ops.valid_node (Ops.nodeOk_dropCols.mpr ⟨List.isEmpty_eq_false_iff.mpr hne, hc⟩) ha nofun
  | order hne hc => exact Ops.valid_node (Ops.nodeOk_order.mpr ⟨hne, hc⟩) ha nofun
  | rename hne hc => exact Ops.valid_node (Ops.nodeOk_rename.mpr ⟨List.isEmpty_eq_false_iff.mpr hne, hc⟩) ha nofun
  | mapCols hne hc =>
    refine Ops.valid_node (Ops.nodeOk_mapCols.mpr ⟨?_, mapColsChk_eq _ _ ▸ hc⟩) ha nofun
    rw [mapRemap_mapDels_isEmpty]
    exact List.isEmpty_eq_false_iff.mpr hne
  | @join b oa ob jt chk t hc =>
    obtain ⟨h1, h2, h3, h4, _, _, h7⟩ := joinChk_ok_iff.mp hc
    refine Ops.valid_node (Ops.nodeOk_join.mpr ⟨h1, beq_iff_eq.mpr h2, subset_iff.mpr h3, subset_iff.mpr h4, ?_⟩) ha
      fun _ e => hb _ (Option.some.inj e ▸ List.mem_singleton.mpr rfl)
    cases ht : (t == JoinType.cross)
    · rfl
    · simp [h7 (by simpa using ht)]
  | concat hc =>
    exact Ops.valid_node (Ops.nodeOk_concat.mpr hc) ha fun _ e => hb _ (Option.some.inj e ▸ List.mem_singleton.mpr rfl)
  | convert hc => exact Ops.valid_node (Ops.nodeOk_convert.mpr hc) ha nofun

theorem valid_build {self : Ops} {s : Step} {p' : Ops} (hv : self.valid = true)
    (hb : ∀ b ∈ Step.argOps s, b.valid = true) (h : build self s = .ok p') : p'.valid = true := by
  rcases build_eq_ok.mp h with ⟨_, rfl⟩ | ⟨_, hpl⟩
  · exact hv
  · exact hpl.valid (valid_strip hv) hb

end DAVerif
