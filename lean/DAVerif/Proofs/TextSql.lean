import DAVerif.Proofs.Text
/-!
Helper lemmas for C14, second part: the record-map (cdata) SQL builders and `table_values_to_sql_str_list` return
exactly the text of an explicit *shape* (a sequence of fixed keywords, punctuation, blanks and quoted user text,
`Piece` of `Proofs/Text.lean`), and every shape is well formed (`Good`), hence lexes to its tokens.
-/
namespace DAVerif.Text

theorem mapM_ok {α β : Type} (f : α → Except Err β) (g : α → β) (l : List α) (h : ∀ x ∈ l, f x = .ok (g x)) :
    l.mapM f = .ok (l.map g) := by
  induction l with
  | nil => rfl
  | cons x xs ih =>
    rw [List.mapM_cons, h x (by simp), ih (fun y hy => h y (by simp [hy]))]
    rfl

/-- pieces of `sep.join(parts)` -/
def joinPieces (sep : List Piece) : List (List Piece) → List Piece
  | [] => []
  | [x] => x
  | x :: y :: xs => x ++ sep ++ joinPieces sep (y :: xs)

theorem renderPs_joinPieces (d : Dialect) (sp : List Piece) (pss : List (List Piece)) :
    joinSep (renderPs d sp) (pss.map (renderPs d)) = renderPs d (joinPieces sp pss) := by
  induction pss with
  | nil => rfl
  | cons p ps ih =>
    cases ps with
    | nil => rfl
    | cons q qs => rw [List.map_cons, List.map_cons, joinSep, ← List.map_cons, ih, joinPieces, renderPs_append,
        renderPs_append]

theorem joinPieces_good {d : Dialect} {sp : List Piece} (hsep : Good d sp) (hh : OpenHead sp) (hl : OpenLast sp)
    (hne : sp ≠ []) (pss : List (List Piece)) (h : ∀ ps ∈ pss, Good d ps) : Good d (joinPieces sp pss) := by
  induction pss with
  | nil => exact Good.nil d
  | cons p ps ih =>
    have hp := h p (by simp)
    have ih' := ih (fun q hq => h q (by simp [hq]))
    cases ps with
    | nil => exact hp
    | cons q qs =>
      refine (hp.append_openHead hsep hh).append_openLast ih' fun z hz => hl z ?_
      rwa [List.getLast?_append, List.getLast?_eq_some_getLast hne, Option.some_or,
        ← List.getLast?_eq_some_getLast hne] at hz

def kwP (s : String) : Piece := .kw s.toList

theorem stringType_valid (d : Dialect) : (Piece.kw d.stringType).Valid d := by
  cases d <;> exact ⟨by decide +kernel, by decide +kernel⟩

def unionStartP : Dialect → List Piece
  | .sqlite => [] | _ => [.p '(']
def unionEndP : Dialect → List Piece
  | .sqlite => [] | _ => [.p ')']

/-- `" a." + qi(c) + " AS " + qi(c)` (alias `a` or `b`) -/
def aliasStmtShape (al : Char) (c : List Char) : List Piece :=
  [.sp, .kw [al], .p '.', .id c, .sp, kwP "AS", .sp, .id c]

/-- `" " + qi(c) + " AS " + qi(t)` -/
def renameStmtShape (c t : List Char) : List Piece := [.sp, .id c, .sp, kwP "AS", .sp, .id t]

def whenArmShape (d : Dialect) (rc sc : List Char) : List Piece :=
  [.sp, .sp, kwP "WHEN", .sp, kwP "CAST", .p '(', .kw ['b'], .p '.', .id rc, .sp, kwP "AS", .sp, .kw d.stringType,
   .p ')', .sp, .p '=', .sp, .str sc, .sp, kwP "THEN", .sp, .kw ['a'], .p '.', .id sc, .sp]

def caseStmtShape (d : Dialect) (r : RecSpec) (rc : List Char) : List Piece :=
  [.sp, kwP "CASE", .sp] ++ r.rows.flatMap (fun row => whenArmShape d rc (cell r.cols row rc)) ++
  [.sp, kwP "ELSE", .sp, kwP "NULL", .sp, kwP "END", .sp, kwP "AS", .sp, .id rc]

def keyClauseShape (d : Dialect) (cc v : List Char) : List Piece :=
  [.sp, .p '(', .sp, kwP "CAST", .p '(', .id cc, .sp, kwP "AS", .sp, .kw d.stringType, .p ')', .sp, .p '=', .sp,
   .str v, .sp, .p ')', .sp]

def maxCaseStmtShape (d : Dialect) (r : RecSpec) (row : List (List Char)) (vc : List Char) : List Piece :=
  [.sp, kwP "MAX", .p '(', kwP "CASE", .sp, kwP "WHEN", .sp] ++
  joinPieces [.sp, kwP "AND", .sp] (r.controlKeys.map (fun cc => keyClauseShape d cc (cell r.cols row cc))) ++
  [.sp, kwP "THEN", .sp, .id vc, .sp, kwP "ELSE", .sp, kwP "NULL", .sp, kwP "END", .p ')', .sp, kwP "AS", .sp,
   .id (cell r.cols row vc)]

def tableRowShape (d : Dialect) (cols : List (List Char)) (row : List (List Char)) : List Piece :=
  unionStartP d ++ [kwP "SELECT", .sp] ++
  joinPieces [.p ',', .sp] (cols.map (fun c => [.str (cell cols row c), .sp, kwP "AS", .sp, .id c])) ++ unionEndP d

def tableRowLineShape (d : Dialect) (cols : List (List Char)) (first : Bool) (row : List (List Char)) : List Piece :=
  [.sp, .sp, .sp, .sp] ++ (if first then [] else [kwP "UNION", .sp, kwP "ALL", .sp]) ++ tableRowShape d cols row

def tableRowLinesShape (d : Dialect) (cols : List (List Char)) : Bool → List (List (List Char)) → List (List Piece)
  | _, [] => []
  | first, row :: rows => tableRowLineShape d cols first row :: tableRowLinesShape d cols false rows

def tableValuesShape (d : Dialect) (cols : List (List Char)) (rows : List (List (List Char))) : List (List Piece) :=
  [[kwP "SELECT"], [.sp, .p '*'], [kwP "FROM", .sp, .p '(']] ++ tableRowLinesShape d cols true rows ++
  [[.p ')', .sp, .id "table_values".toList]]

/-- lines of `_list_join_expecting_list(joiner, stmts)` -/
def listJoinPieces (jp : List Piece) : List (List Piece) → List (List Piece)
  | [] => []
  | [x] => [.sp :: x]
  | x :: y :: xs => (.sp :: x ++ jp) :: listJoinPieces jp (y :: xs)

def fromLineShape : List Piece := [kwP "FROM", .sp, .p '(', .sp, kwP "SELECT", .sp, .p '*', .sp, kwP "FROM", .sp]

/-- every name the record-map SQL quotes as an identifier is in the scope of the identifier claims -/
structure NamesOk (d : Dialect) (r : RecSpec) : Prop where
  recordKeys : ∀ c ∈ r.recordKeys, IdentOk d c
  controlKeys : ∀ c ∈ r.controlKeys, IdentOk d c
  cols : ∀ c ∈ r.cols, IdentOk d c
  cells : ∀ row ∈ r.rows, ∀ vc ∈ r.valueCols, IdentOk d (cell r.cols row vc)

theorem valueCols_sub (r : RecSpec) : ∀ c ∈ r.valueCols, c ∈ r.cols := by
  intro c hc; simp [RecSpec.valueCols] at hc; exact hc.1

theorem keywords_valid (d : Dialect) :
    (kwP "SELECT").Valid d ∧ (kwP "FROM").Valid d ∧ (kwP "AS").Valid d ∧ (kwP "CASE").Valid d ∧
    (kwP "WHEN").Valid d ∧ (kwP "CAST").Valid d ∧ (kwP "THEN").Valid d ∧ (kwP "ELSE").Valid d ∧
    (kwP "NULL").Valid d ∧ (kwP "END").Valid d ∧ (kwP "MAX").Valid d ∧ (kwP "AND").Valid d ∧
    (kwP "UNION").Valid d ∧ (kwP "ALL").Valid d ∧ (kwP "CROSS").Valid d ∧ (kwP "JOIN").Valid d ∧
    (kwP "ORDER").Valid d ∧ (kwP "BY").Valid d ∧ (kwP "GROUP").Valid d := by
  simp only [Piece.Valid, kwP]
  decide +kernel

theorem piece_valid (d : Dialect) :
    (Piece.sp.Valid d = True) ∧ (∀ s, (Piece.str s).Valid d = True) ∧ (∀ c, (Piece.p c).Valid d = (isPunct c = true)) ∧
    (∀ s, (Piece.id s).Valid d = IdentOk d s) ∧ (Piece.kw ['a']).Valid d ∧ (Piece.kw ['b']).Valid d ∧
    (Piece.kw d.stringType).Valid d :=
  ⟨rfl, fun _ => rfl, fun _ => rfl, fun _ => rfl, ⟨by decide, by decide⟩, ⟨by decide, by decide⟩, stringType_valid d⟩

theorem Good.of_list {d : Dialect} {ps : List Piece} (hv : ∀ p ∈ ps, p.Valid d) (hc : chainOk ps = true) : Good d ps := ⟨hv, hc⟩

/-- `Good d [a, b, …]` for a list that is written out: the spacing is checked by evaluation; validity is rewritten piece
by piece with the tables `piece_valid` and `keywords_valid` and the hypotheses `IdentOk` of the context (where a caller
states one with `have` right before the call, or names `hid` / `hcell` without using them, it is for this). -/
macro "good_pieces" : tactic =>
  `(tactic|
    exact Good.of_list (by
      simp (config := { decide := true }) only [List.forall_mem_cons, List.not_mem_nil, false_imp_iff, implies_true,
        piece_valid, keywords_valid, and_self, *]) rfl)

theorem aliasStmt_good {d : Dialect} {al : Char} (hal : al = 'a' ∨ al = 'b') {c : List Char} (h : IdentOk d c) :
    Good d (aliasStmtShape al c) := by
  unfold aliasStmtShape
  rcases hal with rfl | rfl <;> good_pieces

theorem renameStmt_good {d : Dialect} {c t : List Char} (h : IdentOk d c) (ht : IdentOk d t) :
    Good d (renameStmtShape c t) := by
  unfold renameStmtShape
  good_pieces

theorem whenArm_good {d : Dialect} {rc sc : List Char} (h1 : IdentOk d rc) (h2 : IdentOk d sc) :
    Good d (whenArmShape d rc sc) := by
  unfold whenArmShape
  good_pieces

theorem keyClause_good {d : Dialect} {cc : List Char} (v : List Char) (h1 : IdentOk d cc) :
    Good d (keyClauseShape d cc v) := by
  unfold keyClauseShape
  good_pieces

theorem whenArm_ok {d : Dialect} {rc sc : List Char} (h1 : IdentOk d rc) (h2 : IdentOk d sc) :
    whenArm d rc sc = .ok (renderPs d (whenArmShape d rc sc)) := by
  simp [whenArm, quoteIdent_ok h1.1, quoteIdent_ok h2.1, renderPs, whenArmShape, Piece.text, kwP, bind, Except.bind,
    pure, Except.pure]

theorem keyClause_ok {d : Dialect} {cc : List Char} (v : List Char) (h1 : IdentOk d cc) :
    keyClause d cc v = .ok (renderPs d (keyClauseShape d cc v)) := by
  simp [keyClause, quoteIdent_ok h1.1, renderPs, keyClauseShape, Piece.text, kwP, bind, Except.bind, pure, Except.pure]

theorem openHead_append {a b : List Piece} (ha : OpenHead a) (hb : OpenHead b) : OpenHead (a ++ b) := by
  cases a with
  | nil => simpa using hb
  | cons x xs => intro y hy; exact ha y (by simpa using hy)

theorem openHead_flatMap {α : Type} (f : α → List Piece) (l : List α) (h : ∀ x ∈ l, OpenHead (f x)) :
    OpenHead (l.flatMap f) := by
  induction l with
  | nil => intro y hy; simp at hy
  | cons x xs ih =>
    rw [List.flatMap_cons]
    exact openHead_append (h x (by simp)) (ih (fun y hy => h y (by simp [hy])))

theorem good_flatMap_open {α : Type} {d : Dialect} (f : α → List Piece) (l : List α)
    (h : ∀ x ∈ l, Good d (f x) ∧ OpenHead (f x)) : Good d (l.flatMap f) := by
  induction l with
  | nil => exact Good.nil d
  | cons x xs ih =>
    rw [List.flatMap_cons]
    exact (h x (by simp)).1.append_openHead (ih (fun y hy => h y (by simp [hy])))
      (openHead_flatMap f xs (fun y hy => (h y (by simp [hy])).2))

theorem renderPs_flatMap {α : Type} (d : Dialect) (f : α → List Piece) (l : List α) :
    renderPs d (l.flatMap f) = (l.map (fun x => renderPs d (f x))).flatten := by
  induction l with
  | nil => rfl
  | cons x xs ih => simp [renderPs_append, ih]

theorem flatten_map_flatMap {α β γ : Type} (g : β → List γ) (f : α → List β) (l : List α) :
    (l.map (fun x => (f x).flatMap g)).flatten = (l.flatMap f).flatMap g := by
  induction l with
  | nil => rfl
  | cons x xs ih => simp [ih]

theorem caseStmt_good {d : Dialect} {r : RecSpec} (h : NamesOk d r) {rc : List Char} (hrc : rc ∈ r.valueCols) :
    Good d (caseStmtShape d r rc) := by
  have hid : IdentOk d rc := h.cols rc (valueCols_sub r rc hrc)
  have harms := good_flatMap_open (d := d) (fun row => whenArmShape d rc (cell r.cols row rc)) r.rows
    (fun row hrow => ⟨whenArm_good hid (h.cells row hrow rc hrc), openHead_cons _ rfl⟩)
  have h1 : Good d [.sp, kwP "CASE", .sp] := by good_pieces
  have h3 : Good d [.sp, kwP "ELSE", .sp, kwP "NULL", .sp, kwP "END", .sp, kwP "AS", .sp, .id rc] := by good_pieces
  exact (h1.append_openLast harms (openLast_concat [.sp, kwP "CASE"] rfl)).append_openHead h3 (openHead_cons _ rfl)

theorem caseStmt_ok {d : Dialect} {r : RecSpec} (h : NamesOk d r) {rc : List Char} (hrc : rc ∈ r.valueCols) :
    caseStmt d r rc = .ok (renderPs d (caseStmtShape d r rc)) := by
  have hid : IdentOk d rc := h.cols rc (valueCols_sub r rc hrc)
  have harms : r.rows.mapM (fun row => whenArm d rc (cell r.cols row rc))
      = .ok (r.rows.map (fun row => renderPs d (whenArmShape d rc (cell r.cols row rc)))) :=
    mapM_ok _ _ _ (fun row hrow => whenArm_ok hid (h.cells row hrow rc hrc))
  simp [caseStmt, harms, quoteIdent_ok hid.1, caseStmtShape, bind, Except.bind,
    pure, Except.pure]
  simp [renderPs, Piece.text, kwP, flatten_map_flatMap]

theorem good_of_mem {d : Dialect} {ps : List Piece} (hv : ∀ p ∈ ps, p.Valid d) (hc : chainOk ps = true) : Good d ps := ⟨hv, hc⟩

theorem andSep_good (d : Dialect) : Good d [.sp, kwP "AND", .sp] := by good_pieces

theorem commaSep_good (d : Dialect) : Good d [.p ',', .sp] := by good_pieces

theorem nlSep_good (d : Dialect) : Good d [.nl] := good_singleton trivial

theorem maxCaseStmt_good {d : Dialect} {r : RecSpec} (h : NamesOk d r) {row : List (List Char)} (hrow : row ∈ r.rows)
    {vc : List Char} (hvc : vc ∈ r.valueCols) : Good d (maxCaseStmtShape d r row vc) := by
  have hid : IdentOk d vc := h.cols vc (valueCols_sub r vc hvc)
  have hcell : IdentOk d (cell r.cols row vc) := h.cells row hrow vc hvc
  have hj := joinPieces_good (andSep_good d) (openHead_cons _ rfl) (openLast_concat [.sp, kwP "AND"] rfl) (by simp)
    (r.controlKeys.map (fun cc => keyClauseShape d cc (cell r.cols row cc)))
    (by intro ps hps; simp at hps; obtain ⟨cc, hcc, rfl⟩ := hps; exact keyClause_good _ (h.controlKeys cc hcc))
  have h1 : Good d [.sp, kwP "MAX", .p '(', kwP "CASE", .sp, kwP "WHEN", .sp] := by good_pieces
  have h3 : Good d [.sp, kwP "THEN", .sp, .id vc, .sp, kwP "ELSE", .sp, kwP "NULL", .sp, kwP "END", .p ')', .sp,
      kwP "AS", .sp, .id (cell r.cols row vc)] := by good_pieces
  exact (h1.append_openLast hj (openLast_concat [.sp, kwP "MAX", .p '(', kwP "CASE", .sp, kwP "WHEN"] rfl)).append_openHead
    h3 (openHead_cons _ rfl)

theorem maxCaseStmt_ok {d : Dialect} {r : RecSpec} (h : NamesOk d r) {row : List (List Char)} (hrow : row ∈ r.rows)
    {vc : List Char} (hvc : vc ∈ r.valueCols) :
    maxCaseStmt d r row vc = .ok (renderPs d (maxCaseStmtShape d r row vc)) := by
  have hid : IdentOk d vc := h.cols vc (valueCols_sub r vc hvc)
  have hcell : IdentOk d (cell r.cols row vc) := h.cells row hrow vc hvc
  have hcl : r.controlKeys.mapM (fun cc => keyClause d cc (cell r.cols row cc))
      = .ok (r.controlKeys.map (fun cc => renderPs d (keyClauseShape d cc (cell r.cols row cc)))) :=
    mapM_ok _ _ _ (fun cc hcc => keyClause_ok _ (h.controlKeys cc hcc))
  have hj := renderPs_joinPieces d [.sp, kwP "AND", .sp]
    (r.controlKeys.map (fun cc => keyClauseShape d cc (cell r.cols row cc)))
  rw [List.map_map, show renderPs d [.sp, kwP "AND", .sp] = [' ', 'A', 'N', 'D', ' '] by simp [renderPs, Piece.text, kwP]]
    at hj
  simp [maxCaseStmt, hcl, quoteIdent_ok hid.1, quoteIdent_ok hcell.1, maxCaseStmtShape, bind,
    Except.bind, pure, Except.pure]
  rw [show (fun cc => renderPs d (keyClauseShape d cc (cell r.cols row cc))) =
    (renderPs d ∘ fun cc => keyClauseShape d cc (cell r.cols row cc)) from rfl, hj]
  simp [renderPs, Piece.text, kwP]

def maxCaseStmtsShape (d : Dialect) (r : RecSpec) :
    List (List Char) → List (List (List Char) × List Char) → List (List Piece)
  | _, [] => []
  | seen, (row, vc) :: ps =>
    if seen.contains (cell r.cols row vc) then maxCaseStmtsShape d r seen ps
    else maxCaseStmtShape d r row vc :: maxCaseStmtsShape d r (cell r.cols row vc :: seen) ps

theorem maxCaseStmts_ok {d : Dialect} {r : RecSpec} (h : NamesOk d r) (seen : List (List Char))
    (pairs : List (List (List Char) × List Char)) (hp : ∀ p ∈ pairs, p.1 ∈ r.rows ∧ p.2 ∈ r.valueCols) :
    maxCaseStmts d r seen pairs = .ok ((maxCaseStmtsShape d r seen pairs).map (renderPs d)) ∧
    ∀ ps ∈ maxCaseStmtsShape d r seen pairs, Good d ps := by
  induction pairs generalizing seen with
  | nil => exact ⟨rfl, by simp [maxCaseStmtsShape]⟩
  | cons p ps ih =>
    obtain ⟨row, vc⟩ := p
    have hrv := hp (row, vc) (by simp)
    have ih' := fun seen => ih seen (fun q hq => hp q (by simp [hq]))
    by_cases hs : seen.contains (cell r.cols row vc) = true
    · simp only [maxCaseStmts, maxCaseStmtsShape, hs, if_true]
      exact ih' seen
    · simp only [maxCaseStmts, maxCaseStmtsShape, hs, if_false, Bool.false_eq_true]
      refine ⟨?_, ?_⟩
      · simp [maxCaseStmt_ok h hrv.1 hrv.2, (ih' _).1, bind, Except.bind, pure, Except.pure]
      · intro q hq
        rcases List.mem_cons.mp hq with hq | hq
        · subst hq; exact maxCaseStmt_good h hrv.1 hrv.2
        · exact (ih' _).2 q hq

theorem cellPairs_mem (r : RecSpec) : ∀ p ∈ cellPairs r, p.1 ∈ r.rows ∧ p.2 ∈ r.valueCols := by
  intro p hp
  simp only [cellPairs, List.mem_flatMap, List.mem_map] at hp
  obtain ⟨row, hrow, vc, hvc, rfl⟩ := hp
  exact ⟨hrow, hvc⟩

theorem listJoin_shape (d : Dialect) (jp : List Piece) (pss : List (List Piece)) :
    listJoin (renderPs d jp) (pss.map (renderPs d)) = (listJoinPieces jp pss).map (renderPs d) := by
  induction pss with
  | nil => rfl
  | cons x xs ih =>
    cases xs with
    | nil => simp [listJoin, listJoinPieces, renderPs, Piece.text]
    | cons y ys =>
      simp only [List.map_cons] at ih ⊢
      simp only [listJoin, listJoinPieces, List.map_cons, ih]
      simp [renderPs, Piece.text]

theorem listJoin_good {d : Dialect} {jp : List Piece} (hj : Good d jp) (hjo : OpenHead jp) (pss : List (List Piece))
    (h : ∀ ps ∈ pss, Good d ps) : ∀ l ∈ listJoinPieces jp pss, Good d l := by
  have hsp : Good d [.sp] := good_singleton trivial
  induction pss with
  | nil => simp [listJoinPieces]
  | cons x xs ih =>
    have hx := h x (by simp)
    have ih' := ih (fun q hq => h q (by simp [hq]))
    have h1 : Good d (.sp :: x) := hsp.append_openLast hx (by intro y hy; simp at hy; subst hy; rfl)
    cases xs with
    | nil => intro l hl; simp [listJoinPieces] at hl; subst hl; exact h1
    | cons y ys =>
      intro l hl
      simp only [listJoinPieces, List.mem_cons] at hl
      rcases hl with hl | hl
      · subst hl; exact h1.append_openHead hj hjo
      · exact ih' l (by simpa [listJoinPieces] using hl)

theorem tableRow_ok {d : Dialect} {cols : List (List Char)} (hc : ∀ c ∈ cols, IdentOk d c) (allcols : List (List Char))
    (row : List (List Char)) :
    (cols.mapM (fun c => do
        let q ← quoteIdent d c
        pure (valueToSql d (.str (cell allcols row c)) ++ " AS ".toList ++ q)))
      = .ok (cols.map (fun c => renderPs d [.str (cell allcols row c), .sp, kwP "AS", .sp, .id c])) :=
  mapM_ok _ _ _ (fun c hcc => by
    simp [quoteIdent_ok (hc c hcc).1, valueToSql, renderPs, Piece.text, kwP, bind, Except.bind, pure, Except.pure])

theorem unionP_good (d : Dialect) : Good d (unionStartP d) ∧ Good d (unionEndP d) ∧ OpenLast (unionStartP d) ∧
    OpenHead (unionEndP d) ∧ renderPs d (unionStartP d) = d.unionStart ∧ renderPs d (unionEndP d) = d.unionEnd := by
  cases d <;> refine ⟨⟨?_, rfl⟩, ⟨?_, rfl⟩, ?_, ?_, rfl, rfl⟩ <;>
    (intro p hp; simp [unionStartP, unionEndP] at hp; try (subst hp; rfl))

theorem tableRow_good {d : Dialect} {cols : List (List Char)} (hc : ∀ c ∈ cols, IdentOk d c)
    (row : List (List Char)) :
    tableValuesRow d cols row = .ok (renderPs d (tableRowShape d cols row)) ∧ Good d (tableRowShape d cols row) := by
  obtain ⟨u1, u2, u3, u4, u5, u6⟩ := unionP_good d
  have hparts : ∀ ps ∈ cols.map (fun c => [Piece.str (cell cols row c), .sp, kwP "AS", .sp, .id c]), Good d ps := by
    intro ps hps; simp at hps; obtain ⟨c, hcc, rfl⟩ := hps
    have := hc c hcc
    good_pieces
  have hj := joinPieces_good (commaSep_good d) (openHead_cons _ rfl) (openLast_concat [.p ','] rfl) (by simp) _ hparts
  have h1 : Good d [kwP "SELECT", .sp] := by good_pieces
  refine ⟨?_, ?_⟩
  · have ht := renderPs_joinPieces d [.p ',', .sp]
      (cols.map (fun c => [Piece.str (cell cols row c), .sp, kwP "AS", .sp, .id c]))
    rw [List.map_map, show renderPs d [.p ',', .sp] = [',', ' '] from rfl] at ht
    simp only [tableValuesRow, tableRow_ok hc cols row]
    simp [tableRowShape, renderPs_append, u5, bind, Except.bind, pure, Except.pure]
    rw [show (fun c => renderPs d [Piece.str (cell cols row c), Piece.sp, kwP "AS", Piece.sp, Piece.id c]) =
      (renderPs d ∘ fun c => [Piece.str (cell cols row c), Piece.sp, kwP "AS", Piece.sp, Piece.id c]) from rfl, ht]
    simp [renderPs, Piece.text, kwP, ← u6]
  · exact ((u1.append_openLast h1 u3).append_openLast hj (openLast_concat (unionStartP d ++ [kwP "SELECT"]) rfl
      |> fun h => by simpa using h)).append_openHead u2 u4

theorem tableRows_ok {d : Dialect} {cols : List (List Char)} (hc : ∀ c ∈ cols, IdentOk d c) (first : Bool)
    (rows : List (List (List Char))) :
    tableValuesRows d cols first rows = .ok ((tableRowLinesShape d cols first rows).map (renderPs d)) ∧
    ∀ l ∈ tableRowLinesShape d cols first rows, Good d l := by
  induction rows generalizing first with
  | nil => exact ⟨rfl, by simp [tableRowLinesShape]⟩
  | cons row rows ih =>
    obtain ⟨e1, g1⟩ := tableRow_good hc row
    obtain ⟨e2, g2⟩ := ih false
    have hpre : Good d ([.sp, .sp, .sp, .sp] ++ (if first then [] else [kwP "UNION", .sp, kwP "ALL", .sp])) := by
      cases first <;> simp only [Bool.false_eq_true, if_false, if_true, List.append_nil, List.cons_append,
        List.nil_append] <;> good_pieces
    have hol : OpenLast ([Piece.sp, .sp, .sp, .sp] ++ (if first then [] else [kwP "UNION", .sp, kwP "ALL", .sp])) := by
      cases first <;> (intro y hy; simp at hy; subst hy; rfl)
    refine ⟨?_, ?_⟩
    · simp only [tableValuesRows, e1, e2, tableRowLinesShape, tableRowLineShape]
      cases first <;> simp [bind, Except.bind, pure, Except.pure] <;> simp [renderPs, Piece.text, kwP]
    · intro l hl
      simp only [tableRowLinesShape, List.mem_cons] at hl
      rcases hl with hl | hl
      · subst hl; exact hpre.append_openLast g1 hol
      · exact g2 l hl

theorem tableValues_identOk (d : Dialect) : IdentOk d "table_values".toList := by
  have h : '"' ∉ "table_values".toList ∧ '`' ∉ "table_values".toList ∧ "table_values".toList ≠ [] := by
    decide +kernel
  cases d <;> exact ⟨by first | exact h.1 | exact h.2.1, fun _ => h.2.2⟩

theorem tableValues_ok {d : Dialect} {cols : List (List Char)} (hc : ∀ c ∈ cols, IdentOk d c)
    (rows : List (List (List Char))) :
    tableValuesToSql d cols rows = .ok ((tableValuesShape d cols rows).map (renderPs d)) ∧
    ∀ l ∈ tableValuesShape d cols rows, Good d l := by
  obtain ⟨e, g⟩ := tableRows_ok hc true rows
  refine ⟨?_, ?_⟩
  · have hq := quoteIdent_ok (tableValues_identOk d).1
    rw [show "table_values".toList = ['t', 'a', 'b', 'l', 'e', '_', 'v', 'a', 'l', 'u', 'e', 's'] from by decide +kernel] at hq
    simp [tableValuesToSql, e, hq, tableValuesShape, bind, Except.bind, pure, Except.pure]
    simp [renderPs, Piece.text, kwP]
  · intro l hl
    simp only [tableValuesShape, List.mem_append, List.mem_cons, List.not_mem_nil, or_false] at hl
    rcases hl with ((hl | hl | hl) | hl) | hl
    · subst hl; good_pieces
    · subst hl; good_pieces
    · subst hl; good_pieces
    · exact g l hl
    · subst hl; have := tableValues_identOk d; good_pieces

def r2bStmtShapes (d : Dialect) (r : RecSpec) : List (List Piece) :=
  r.recordKeys.map (aliasStmtShape 'a') ++ r.controlKeys.map (aliasStmtShape 'b') ++ r.valueCols.map (caseStmtShape d r)

def r2bOrderShapes (r : RecSpec) : List (List Piece) :=
  r.recordKeys.map (fun c => [.kw ['a'], .p '.', .id c]) ++ r.controlKeys.map (fun c => [.kw ['b'], .p '.', .id c])

/-- lines of `sql_prefix` of `row_recs_to_blocks_query_str_list_pair` -/
def r2bPrefixShape (d : Dialect) (r : RecSpec) : List (List Piece) :=
  listJoinPieces [.p ','] (r2bStmtShapes d r) ++ [fromLineShape]

/-- lines of `sql_suffix` of `row_recs_to_blocks_query_str_list_pair` -/
def r2bSuffixShape (d : Dialect) (r : RecSpec) : List (List Piece) :=
  [[.sp, .p ')', .sp, .kw ['a']], [kwP "CROSS", .sp, kwP "JOIN", .sp, .p '(']] ++
  listJoinPieces [] (tableValuesShape d r.cols r.rows) ++
  [[.sp, .p ')', .sp, .kw ['b']], [.sp, kwP "ORDER", .sp, kwP "BY"]] ++
  listJoinPieces [.p ',', .sp] (r2bOrderShapes r)

theorem fromLine_good (d : Dialect) : Good d fromLineShape := by unfold fromLineShape; good_pieces

theorem comma_good (d : Dialect) : Good d [.p ','] := good_singleton rfl

theorem aliasStmt_ok {d : Dialect} (al : Char) {c : List Char} (h : IdentOk d c) :
    (do let q ← quoteIdent d c; pure (' ' :: al :: '.' :: q ++ " AS ".toList ++ q) : Except Err (List Char))
      = .ok (renderPs d (aliasStmtShape al c)) := by
  simp [quoteIdent_ok h.1, aliasStmtShape, renderPs, Piece.text, kwP, bind, Except.bind, pure, Except.pure]

theorem rowRecsToBlocks_ok {d : Dialect} {r : RecSpec} (h : NamesOk d r) :
    rowRecsToBlocks d r = .ok ((r2bPrefixShape d r).map (renderPs d), (r2bSuffixShape d r).map (renderPs d)) ∧
    (∀ l ∈ r2bPrefixShape d r, Good d l) ∧ (∀ l ∈ r2bSuffixShape d r, Good d l) := by
  have e1 : (r.recordKeys.mapM (fun c => do pure ("a.".toList ++ (← quoteIdent d c))))
      = .ok (r.recordKeys.map (fun c => renderPs d [.kw ['a'], .p '.', .id c])) :=
    mapM_ok _ _ _ (fun c hc => by
      simp [quoteIdent_ok (h.recordKeys c hc).1, renderPs, Piece.text, bind, Except.bind, pure, Except.pure])
  have e2 : (r.controlKeys.mapM (fun c => do pure ("b.".toList ++ (← quoteIdent d c))))
      = .ok (r.controlKeys.map (fun c => renderPs d [.kw ['b'], .p '.', .id c])) :=
    mapM_ok _ _ _ (fun c hc => by
      simp [quoteIdent_ok (h.controlKeys c hc).1, renderPs, Piece.text, bind, Except.bind, pure, Except.pure])
  have e3 : (r.recordKeys.mapM (fun c => do
        let q ← quoteIdent d c
        pure (" a.".toList ++ q ++ " AS ".toList ++ q)))
      = .ok (r.recordKeys.map (fun c => renderPs d (aliasStmtShape 'a' c))) :=
    mapM_ok _ _ _ (fun c hc => by simpa using aliasStmt_ok 'a' (h.recordKeys c hc))
  have e4 : (r.controlKeys.mapM (fun c => do
        let q ← quoteIdent d c
        pure (" b.".toList ++ q ++ " AS ".toList ++ q)))
      = .ok (r.controlKeys.map (fun c => renderPs d (aliasStmtShape 'b' c))) :=
    mapM_ok _ _ _ (fun c hc => by simpa using aliasStmt_ok 'b' (h.controlKeys c hc))
  have e5 : r.valueCols.mapM (caseStmt d r) = .ok (r.valueCols.map (fun c => renderPs d (caseStmtShape d r c))) :=
    mapM_ok _ _ _ (fun c hc => caseStmt_ok h hc)
  obtain ⟨e6, g6⟩ := tableValues_ok h.cols r.rows
  have gst : ∀ ps ∈ r2bStmtShapes d r, Good d ps := by
    intro ps hps
    simp only [r2bStmtShapes, List.mem_append, List.mem_map] at hps
    rcases hps with (⟨c, hc, rfl⟩ | ⟨c, hc, rfl⟩) | ⟨c, hc, rfl⟩
    · exact aliasStmt_good (.inl rfl) (h.recordKeys c hc)
    · exact aliasStmt_good (.inr rfl) (h.controlKeys c hc)
    · exact caseStmt_good h hc
  have gord : ∀ ps ∈ r2bOrderShapes r, Good d ps := by
    intro ps hps
    simp only [r2bOrderShapes, List.mem_append, List.mem_map] at hps
    rcases hps with ⟨c, hc, rfl⟩ | ⟨c, hc, rfl⟩
    · have := h.recordKeys c hc; good_pieces
    · have := h.controlKeys c hc; good_pieces
  refine ⟨?_, ?_, ?_⟩
  · have l1 := listJoin_shape d [.p ','] (r2bStmtShapes d r)
    have l2 := listJoin_shape d [] (tableValuesShape d r.cols r.rows)
    have l3 := listJoin_shape d [.p ',', .sp] (r2bOrderShapes r)
    simp only [show renderPs d [Piece.p ','] = [','] from rfl, show renderPs d [] = [] from rfl,
      show renderPs d [Piece.p ',', Piece.sp] = [',', ' '] from rfl] at l1 l2 l3
    simp only [rowRecsToBlocks, e1, e2, e3, e4, e5, e6]
    simp only [bind, Except.bind, pure, Except.pure, r2bPrefixShape, r2bSuffixShape, List.map_append]
    rw [← l1, ← l2, ← l3]
    simp [r2bStmtShapes, r2bOrderShapes, List.map_append, Function.comp_def, renderPs, Piece.text, kwP, fromLineShape]
  · intro l hl
    simp only [r2bPrefixShape, List.mem_append, List.mem_singleton] at hl
    rcases hl with hl | hl
    · exact listJoin_good (comma_good d) (openHead_cons _ rfl) _ gst l hl
    · subst hl; exact fromLine_good d
  · intro l hl
    simp only [r2bSuffixShape, List.mem_append, List.mem_cons, List.not_mem_nil, or_false] at hl
    rcases hl with (((hl | hl) | hl) | hl | hl) | hl
    · subst hl; good_pieces
    · subst hl; good_pieces
    · exact listJoin_good (Good.nil d) (by intro y hy; simp at hy) _ g6 l hl
    · subst hl; good_pieces
    · subst hl; good_pieces
    · exact listJoin_good (commaSep_good d) (openHead_cons _ rfl) _ gord l hl

/-- lines of `sql_prefix` of `blocks_to_row_recs_query_str_list_pair` -/
def b2rPrefixShape (d : Dialect) (r : RecSpec) : List (List Piece) :=
  match r.rows with
  | [] => []
  | [row] => listJoinPieces [.p ','] (r.recordKeys.map (fun c => renameStmtShape c c) ++
      r.valueCols.map (fun cc => renameStmtShape cc (cell r.cols row cc))) ++ [fromLineShape]
  | _ => listJoinPieces [.p ','] (r.recordKeys.map (fun c => renameStmtShape c c) ++
      maxCaseStmtsShape d r [] (cellPairs r)) ++ [fromLineShape]

/-- lines of `sql_suffix` of `blocks_to_row_recs_query_str_list_pair` -/
def b2rSuffixShape (r : RecSpec) : List (List Piece) :=
  match r.rows with
  | [] => []
  | [_] => [[.sp, .p ')', .sp, .kw ['a']]]
  | _ => [[.sp, .p ')', .sp, .kw ['a']], [kwP "GROUP", .sp, kwP "BY"]] ++
      listJoinPieces [.p ','] (r.recordKeys.map (fun c => [.id c])) ++ [[kwP "ORDER", .sp, kwP "BY", .sp]] ++
      listJoinPieces [.p ','] (r.recordKeys.map (fun c => [.id c]))

theorem renameStmt_ok {d : Dialect} {c t : List Char} (h : IdentOk d c) (ht : IdentOk d t) :
    (do let q ← quoteIdent d c; let q0 ← quoteIdent d t; pure (" ".toList ++ q ++ " AS ".toList ++ q0) :
      Except Err (List Char)) = .ok (renderPs d (renameStmtShape c t)) := by
  simp [quoteIdent_ok h.1, quoteIdent_ok ht.1, renameStmtShape, renderPs, Piece.text, kwP, bind, Except.bind, pure,
    Except.pure]

theorem blocksToRowRecs_ok {d : Dialect} {r : RecSpec} (h : NamesOk d r) (hrows : r.rows ≠ []) :
    blocksToRowRecs d r = .ok ((b2rPrefixShape d r).map (renderPs d), (b2rSuffixShape r).map (renderPs d)) ∧
    (∀ l ∈ b2rPrefixShape d r, Good d l) ∧ (∀ l ∈ b2rSuffixShape r, Good d l) := by
  have e1 : (r.recordKeys.mapM (fun c => do
        let q ← quoteIdent d c
        pure (" ".toList ++ q ++ " AS ".toList ++ q)))
      = .ok (r.recordKeys.map (fun c => renderPs d (renameStmtShape c c))) :=
    mapM_ok _ _ _ (fun c hc => by
      simp [quoteIdent_ok (h.recordKeys c hc).1, renameStmtShape, renderPs, Piece.text, kwP, bind, Except.bind, pure,
        Except.pure])
  have g1 : ∀ ps ∈ r.recordKeys.map (fun c => renameStmtShape c c), Good d ps := by
    intro ps hps; simp at hps; obtain ⟨c, hc, rfl⟩ := hps
    exact renameStmt_good (h.recordKeys c hc) (h.recordKeys c hc)
  have ga : Good d [.sp, .p ')', .sp, .kw ['a']] := by good_pieces
  have l0 := fun pss => listJoin_shape d [.p ','] pss
  simp only [show renderPs d [Piece.p ','] = [','] from rfl] at l0
  cases hr : r.rows with
  | nil => exact absurd hr hrows
  | cons row rest =>
    cases rest with
    | nil =>
      have hrow : row ∈ r.rows := by rw [hr]; simp
      have e2 : (r.valueCols.mapM (fun cc => do
            let q ← quoteIdent d cc
            let q0 ← quoteIdent d (cell r.cols row cc)
            pure (" ".toList ++ q ++ " AS ".toList ++ q0)))
          = .ok (r.valueCols.map (fun cc => renderPs d (renameStmtShape cc (cell r.cols row cc)))) :=
        mapM_ok _ _ _ (fun cc hcc => renameStmt_ok (h.cols cc (valueCols_sub r cc hcc)) (h.cells row hrow cc hcc))
      refine ⟨?_, ?_, ?_⟩
      · simp only [blocksToRowRecs, e1, hr, e2, b2rPrefixShape, b2rSuffixShape]
        simp only [bind, Except.bind, pure, Except.pure, List.map_append]
        rw [← l0]
        simp [List.map_append, Function.comp_def, renderPs, Piece.text, kwP, fromLineShape]
      · intro l hl
        simp only [b2rPrefixShape, hr, List.mem_append, List.mem_singleton] at hl
        rcases hl with hl | hl
        · refine listJoin_good (comma_good d) (openHead_cons _ rfl) _ ?_ l hl
          intro ps hps
          rcases List.mem_append.mp hps with hps | hps
          · exact g1 ps hps
          · simp at hps; obtain ⟨cc, hcc, rfl⟩ := hps
            exact renameStmt_good (h.cols cc (valueCols_sub r cc hcc)) (h.cells row hrow cc hcc)
        · subst hl; exact fromLine_good d
      · intro l hl
        simp only [b2rSuffixShape, hr, List.mem_singleton] at hl
        subst hl; exact ga
    | cons row2 rest2 =>
      have e0 : r.recordKeys.mapM (quoteIdent d) = .ok (r.recordKeys.map (fun c => renderPs d [.id c])) :=
        mapM_ok _ _ _ (fun c hc => by simp [quoteIdent_ok (h.recordKeys c hc).1, renderPs, Piece.text])
      obtain ⟨e2, g2⟩ := maxCaseStmts_ok h [] (cellPairs r) (cellPairs_mem r)
      have gid : ∀ ps ∈ r.recordKeys.map (fun c => [Piece.id c]), Good d ps := by
        intro ps hps; simp at hps; obtain ⟨c, hc, rfl⟩ := hps
        exact good_singleton (h.recordKeys c hc)
      refine ⟨?_, ?_, ?_⟩
      · simp only [blocksToRowRecs, e1, hr, e0, e2, b2rPrefixShape, b2rSuffixShape]
        simp only [bind, Except.bind, pure, Except.pure, List.map_append]
        rw [← l0, ← l0]
        simp [List.map_append, Function.comp_def, renderPs, Piece.text, kwP, fromLineShape]
      · intro l hl
        simp only [b2rPrefixShape, hr, List.mem_append, List.mem_singleton] at hl
        rcases hl with hl | hl
        · refine listJoin_good (comma_good d) (openHead_cons _ rfl) _ ?_ l hl
          intro ps hps
          rcases List.mem_append.mp hps with hps | hps
          · exact g1 ps hps
          · exact g2 ps hps
        · subst hl; exact fromLine_good d
      · intro l hl
        simp only [b2rSuffixShape, hr, List.mem_append, List.mem_cons, List.not_mem_nil, or_false] at hl
        rcases hl with (((hl | hl) | hl) | hl) | hl
        · subst hl; exact ga
        · subst hl; good_pieces
        · exact listJoin_good (comma_good d) (openHead_cons _ rfl) _ gid l hl
        · subst hl; good_pieces
        · exact listJoin_good (comma_good d) (openHead_cons _ rfl) _ gid l hl

end DAVerif.Text
