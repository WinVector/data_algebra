import DAVerif.Proofs.RenameNearBasic
import DAVerif.Proofs.RenameBuild
import DAVerif.Proofs.ToNearStep
/-!
`toNear` (Sql/ToNearSql.lean) commutes with every node-wise map it cannot see (`NodeMap.Blind`): the comparisons of
column names come out the same and the builders it re-enters commute with the map (Proofs/RenameBuild.lean).  The
generated query names are the same on both sides (they come from the counter, which is threaded identically);
`ops_key`s are ignored (`NRel`).  The clauses of `toNear` are taken in the named pieces of Proofs/ToNearStep.lean.
-/
namespace DAVerif
namespace Ren

open Function (Injective)
open DAVerif.Sql
open DAVerif.Ops (usedFromSources unionL)

variable {φ : NodeMap}

theorem getD_map (u : Option (List String)) (cs : List String) :
    (u.map (·.map φ.col)).getD (cs.map φ.col) = (u.getD cs).map φ.col := by cases u <;> rfl

theorem extUsg_map (hc : Injective φ.col) (u part od rv : List String) :
    extUsg (u.map φ.col) (part.map φ.col) (od.map φ.col) (rv.map φ.col) = (extUsg u part od rv).map φ.col := by
  simp only [extUsg, unionL_map hc]

theorem extSubops_map (hc : Injective φ.col) (ops : Assign) (usg : List String) :
    extSubops (φ.assign ops) (usg.map φ.col) = φ.assign (extSubops ops usg) :=
  NodeMap.assign_filter_key hc ops usg

theorem extIsWin_map (part od : List String) (w : Bool) :
    extIsWin (part.map φ.col) (od.map φ.col) w = extIsWin part od w := by
  simp only [extIsWin, List.isEmpty_map]

theorem extWin_map (part od rv : List String) (w : Bool) :
    extWin (part.map φ.col) (od.map φ.col) (rv.map φ.col) w = (extWin part od rv w).map (Win.rename φ.col) := by
  unfold extWin
  rw [extIsWin_map]
  cases extIsWin part od w <;> rfl

theorem extWindowVars_map (hc : Injective φ.col) (part od : List String) (w : Bool) :
    extWindowVars (part.map φ.col) (od.map φ.col) w = (extWindowVars part od w).map φ.col := by
  unfold extWindowVars
  rw [extIsWin_map, unionL_map hc]
  cases extIsWin part od w <;> rfl

theorem extOrig_map (hc : Injective φ.col) (ops : Assign) (usg : List String) :
    extOrig (φ.assign ops) (usg.map φ.col) = (extOrig ops usg).map φ.col := by
  simp only [extOrig, extSubops_map hc, NodeMap.assign_keys, filter_not_contains hc]

theorem extTerms_map (hc : Injective φ.col) (ops : Assign) (usg : List String) (win : Option Win) :
    extTerms (φ.assign ops) (usg.map φ.col) (win.map (Win.rename φ.col)) = φ.terms (extTerms ops usg win) := by
  simp only [extTerms, extOrig_map hc, extSubops_map hc]
  simp only [NodeMap.terms, NodeMap.assign, List.map_append, List.map_map]
  rfl

theorem extDeps_map (hc : Injective φ.col) (ops : Assign) (usg wv : List String) :
    extDeps (φ.assign ops) (usg.map φ.col) (wv.map φ.col) = Deps.rename φ.col (extDeps ops usg wv) := by
  simp only [extDeps, extOrig_map hc, extSubops_map hc]
  simp only [Deps.rename, NodeMap.assign, List.map_append, List.map_map]
  congr 1
  apply List.map_congr_left
  intro kv _
  simp only [Function.comp, colsUsed_expr hc, unionL_map hc]

theorem mergeDict_map {f : String → String} {β γ : Type} (hf : Injective f) (g : β → γ) (nt : List String)
    (ours sub : List (String × β)) (use : List String) :
    mergeDict (nt.map f) (ours.map (fun kv => (f kv.1, g kv.2))) (sub.map (fun kv => (f kv.1, g kv.2))) (use.map f)
      = (mergeDict nt ours sub use).map (fun kv => (f kv.1, g kv.2)) := by
  unfold mergeDict
  rw [← filter_key_map g _ (use.map f).contains use.contains (contains_map hf use)]
  congr 1
  induction nt generalizing sub with
  | nil => rfl
  | cons k nt ih =>
    rw [List.map_cons, List.foldl_cons, List.foldl_cons, ← ih, lookupLast_map hf g ours k]
    cases lookupLast ours k with
    | none => rfl
    | some t => simp only [Option.map_some, dictSet_map hf g sub k t]

theorem contention_map (hc : Injective φ.col) (deps : Deps) (terms : Terms) (sdeps : Deps) (sterms : Terms) :
    contention (Deps.rename φ.col deps) (φ.terms terms) (Deps.rename φ.col sdeps) (φ.terms sterms)
      = (contention deps terms sdeps sterms).map φ.col := by
  simp only [contention, needsOf, nonTrivialTerms_terms hc, deps_needs_rename hc, inter_map hc, List.map_append]

theorem extFallback_rel {sub' sub : Near} (hs : NRel φ sub' sub) (n' n : Ops) (i : Nat) (terms : Terms) (deps : Deps)
    (S : List String) :
    NRel φ (extFallback n' i (φ.terms terms) (Deps.rename φ.col deps) sub' (S.map φ.col))
      (extFallback n i terms deps sub S) := by
  unfold extFallback
  rw [mkTerms_terms]
  exact NRel.unary hs _ _ _ (some S) .none _ (some deps) _ _

theorem extMerged_rel (hc : Injective φ.col) {ssub' ssub : Near} (hss : NRel φ ssub' ssub) (n' n : Ops) (sname : String)
    (sterms : Terms) (sagg : Bool) (scols : Option (List String)) (sdeps : Deps) (terms : Terms) (deps : Deps) :
    NRel φ
      (extMerged n' sname (φ.terms sterms) sagg ssub' (scols.map (·.map φ.col)) (Deps.rename φ.col sdeps) (φ.terms terms)
        (Deps.rename φ.col deps))
      (extMerged n sname sterms sagg ssub scols sdeps terms deps) := by
  unfold extMerged
  rw [nonTrivialTerms_terms hc, NodeMap.terms_keys]
  have ht := mergeDict_map hc φ.term (nonTrivialTerms deps terms) terms sterms (terms.map (·.1))
  have hd := mergeDict_map hc (List.map φ.col) (nonTrivialTerms deps terms) deps sdeps (terms.map (·.1))
  rw [show φ.terms terms = terms.map (fun kv => (φ.col kv.1, φ.term kv.2)) from rfl,
    show φ.terms sterms = sterms.map (fun kv => (φ.col kv.1, φ.term kv.2)) from rfl,
    show Deps.rename φ.col deps = deps.map (fun kv => (φ.col kv.1, kv.2.map φ.col)) from rfl,
    show Deps.rename φ.col sdeps = sdeps.map (fun kv => (φ.col kv.1, kv.2.map φ.col)) from rfl, ht, hd]
  exact NRel.unary hss _ (some _) _ scols .none _ (some _) _ _

/-- the sub-queries an `extend` can be merged into: steps with a term dictionary and dependencies, no suffix, marked
mergeable.  Read off the parameters one by one, so that it is plainly blind to node-wise maps and to `ops_key`. -/
def mergeTarget : Near → Bool
  | .unary _ ts _ _ _ sf mg dp _ => ts.isSome && (match sf with | .none => true | _ => false) && mg && dp.isSome
  | _ => false

theorem mergeTarget_eraseKeys (n : Near) : mergeTarget n.eraseKeys = mergeTarget n := by
  cases n <;> rfl

theorem mergeTarget_near (n : Near) : mergeTarget (φ.near n) = mergeTarget n := by
  cases n with
  | unary name ts agg sub sc sf mg dp k =>
    cases sf <;> simp only [NodeMap.near, NodeMap.suffix, mergeTarget, Option.isSome_map]
  | _ => rfl

theorem NRel.mergeTarget {n' n : Near} (h : NRel φ n' n) : mergeTarget n' = mergeTarget n := by
  rw [← mergeTarget_eraseKeys n', h, mergeTarget_eraseKeys, mergeTarget_near]

theorem mergeTarget_inv {sub : Near} (h : mergeTarget sub = true) :
    ∃ sname sterms sagg ssub scols sdeps k, sub = .unary sname (some sterms) sagg ssub scols .none true (some sdeps) k := by
  cases sub with
  | unary name ts agg ss sc sf mg dp k =>
    simp only [mergeTarget, Bool.and_eq_true] at h
    obtain ⟨⟨⟨h1, h2⟩, rfl⟩, h4⟩ := h
    obtain ⟨sterms, rfl⟩ := Option.isSome_iff_exists.mp h1
    obtain ⟨sdeps, rfl⟩ := Option.isSome_iff_exists.mp h4
    cases sf with
    | none => exact ⟨_, _, _, _, _, _, _, rfl⟩
    | _ => cases h2
  | _ => cases h

theorem extEmit_not_target {cfg : SqlCfg} {sub : Near} (h : (cfg.merges && mergeTarget sub) = false) (n : Ops)
    (terms : Terms) (deps : Deps) (S : List String) :
    extEmit cfg n terms deps sub S = (do let i ← fresh; return extFallback n i terms deps sub S) := by
  rcases extEmit_cases cfg n terms deps sub S with e | ⟨hm, _, _, _, _, _, _, _, rfl, -, -⟩
  · exact e
  · rw [hm] at h
    cases h

theorem extEmit_rel (hc : Injective φ.col) (cfg : SqlCfg) {sub' sub : Near} (hs : NRel φ sub' sub) (n' n : Ops)
    (terms : Terms) (deps : Deps) (S : List String) :
    MRel (NRel φ) (extEmit cfg n' (φ.terms terms) (Deps.rename φ.col deps) sub' (S.map φ.col))
      (extEmit cfg n terms deps sub S) := by
  have hfb : MRel (NRel φ)
      (do let i ← fresh; return extFallback n' i (φ.terms terms) (Deps.rename φ.col deps) sub' (S.map φ.col))
      (do let i ← fresh; return extFallback n i terms deps sub S) :=
    MRel.bind MRel.fresh (fun i' i hi => hi ▸ MRel.pure (extFallback_rel hs n' n i' terms deps S))
  cases ht : (cfg.merges && mergeTarget sub) with
  | false =>
    rw [extEmit_not_target ht, extEmit_not_target (hs.mergeTarget ▸ ht)]
    exact hfb
  | true =>
    obtain ⟨hm, htg⟩ := Bool.and_eq_true_iff.mp ht
    obtain ⟨sname, sterms, sagg, ssub, scols, sdeps, k, rfl⟩ := mergeTarget_inv htg
    obtain ⟨ss', k', hss, rfl⟩ := hs.unary_inv
    simp only [extEmit, hm, Option.map_some, NodeMap.suffix] at hfb ⊢
    exact MRel.ite ((congrArg List.isEmpty (contention_map hc deps terms sdeps sterms)).trans List.isEmpty_map)
      (MRel.pure (extMerged_rel hc hss n' n sname sterms sagg scols sdeps terms deps)) hfb

/-- the tail of `select_columns` / `drop_columns`: restrict the term dictionary of the sub-query -/
theorem setTermKeys_rel (hc : Injective φ.col) {sub' sub : Near} (hs : NRel φ sub' sub) (keys : List String) (sel : Bool) :
    MRel (NRel φ)
      (match setTermKeys sub' (keys.map φ.col) sel with
        | some s => pure s
        | none => liftE (Except.error Err.keyError))
      (match setTermKeys sub keys sel with
        | some s => pure s
        | none => liftE (Except.error Err.keyError)) := by
  have h := setTermKeys_NRel hc hs keys sel
  cases h' : setTermKeys sub' (keys.map φ.col) sel <;> cases h0 : setTermKeys sub keys sel <;>
    simp only [h', h0] at h ⊢
  · exact MRel.error _
  · exact MRel.pure h

theorem assign_take (n : Nat) (ops : Assign) : (φ.assign ops).take n = φ.assign (ops.take n) := by
  simp only [NodeMap.assign, List.map_take]

theorem projTerms_map (hc : Injective φ.col) (so : Assign) (group : List String) :
    List.map (fun kv => (kv.1, STerm.expr kv.2 none)) (φ.assign so) ++
        List.map (fun g => (g, STerm.pass))
          (List.filter (fun g => !(List.map (fun x => x.1) (φ.assign so)).contains g) (List.map φ.col group))
      = φ.terms (List.map (fun kv => (kv.1, STerm.expr kv.2 none)) so ++
          List.map (fun g => (g, STerm.pass)) (List.filter (fun g => !(List.map (fun x => x.1) so).contains g) group)) := by
  rw [NodeMap.assign_keys, filter_not_contains hc]
  simp only [NodeMap.terms, NodeMap.assign, List.map_append, List.map_map]
  rfl

theorem ite_map_list (c : Prop) [Decidable c] (a b : List String) :
    (if c then a.map φ.col else b.map φ.col) = (if c then a else b).map φ.col := by
  split <;> rfl

theorem joinTerms_map (lf : Bool) (A B C : List String) :
    List.map (fun c => (c, STerm.coalesce lf c)) (A.map φ.col) ++
        List.map (fun c => (c, STerm.qual true c)) (B.map φ.col) ++
      List.map (fun c => (c, STerm.qual false c)) (C.map φ.col)
    = φ.terms (List.map (fun c => (c, STerm.coalesce lf c)) A ++
        List.map (fun c => (c, STerm.qual true c)) B ++ List.map (fun c => (c, STerm.qual false c)) C) := by
  simp only [NodeMap.terms, List.map_append, List.map_map]
  rfl

theorem fullSim_map (hφ : φ.Blind) (a b : Ops) (onA : List String) :
    fullSim (φ.ops a) (φ.ops b) (onA.map φ.col) = (fullSim a b onA).map φ.ops := by
  unfold fullSim
  have hb := fun (p : Ops) (s : Step) => build_map hφ.col_inj hφ.tab_inj p s
  have h1 := hb a (.project [] onA)
  have h2 := hb b (.project [] onA)
  simp only [NodeMap.bstep, NodeMap.assign, List.map_nil] at h1 h2
  rw [h1]
  refine map_bind _ _ _ _ _ (fun ka => ?_)
  rw [h2]
  refine map_bind _ _ _ _ _ (fun kb => ?_)
  have h3 := hb ka (.concat (some kb) none "a" "b")
  simp only [NodeMap.bstep, Option.map_some, Option.map_none] at h3
  rw [h3]
  refine map_bind _ _ _ _ _ (fun ks => ?_)
  have h4 := hb ks (.project [] onA)
  simp only [NodeMap.bstep, NodeMap.assign, List.map_nil] at h4
  rw [h4]
  refine map_bind _ _ _ _ _ (fun ks2 => ?_)
  have h5 := hb ks2 (.join a onA onA "left" false)
  simp only [NodeMap.bstep] at h5
  rw [h5]
  refine map_bind _ _ _ _ _ (fun j1 => ?_)
  have h6 := hb j1 (.join b onA onA "left" false)
  simp only [NodeMap.bstep] at h6
  exact h6

theorem liftE_build_rel {e' e : Except Err Ops} (h : e' = e.map φ.ops) :
    MRel (fun (p' p : Ops) => p' = φ.ops p) (liftE e') (liftE e) := by
  subst h
  apply MRel.liftE
  cases e <;> simp [Except.map]

theorem drop_headD_map (l : List (List String)) :
    ((l.map (·.map φ.col)).drop 1).headD [] = ((l.drop 1).headD []).map φ.col := by
  cases l with
  | nil => rfl
  | cons a l => cases l <;> rfl

theorem stepSpec_map (hc : Injective φ.col) {p : Ops} {usg : List String} {σ : StepSpec}
    (h : stepSpec p usg = some σ) :
    ∃ k, stepSpec (φ.ops p) (usg.map φ.col)
      = some ⟨σ.pfx, σ.req.map φ.col, σ.terms.map φ.terms, σ.agg, φ.suffix σ.sfx, k⟩ := by
  have hufs := fun usg => usedFromSources_map hc p usg
  have hcols := cols_map hc p
  cases p with
  | project src ops g =>
    cases h
    simp only [NodeMap.ops] at hufs ⊢
    have hsf : (if g.isEmpty = true then Suffix.none else Suffix.groupBy (g.map φ.col))
        = φ.suffix (if g.isEmpty = true then Suffix.none else Suffix.groupBy g) := by
      split <;> rfl
    simp only [stepSpec, NodeMap.assign_filter_key hc, NodeMap.assign_isEmpty, List.isEmpty_map, assign_take]
    cases ((ops.filter (fun kv => usg.contains kv.1)).isEmpty && g.isEmpty && !ops.isEmpty)
    · constructor
      simp only [Bool.false_eq_true, if_false, hufs, headD_map, projTerms_map hc, mkTerms_terms, hsf]
      rfl
    · have hu : usg.map φ.col ++ List.map (fun x => x.1) (φ.assign (ops.take 1))
          = (usg ++ List.map (fun x => x.1) (ops.take 1)).map φ.col := by
        rw [NodeMap.assign_keys, List.map_append]
      constructor
      simp only [if_true, hu, hufs, headD_map, projTerms_map hc, mkTerms_terms, hsf]
      rfl
  | selectRows src e =>
    cases h
    constructor
    simp only [NodeMap.ops] at hufs ⊢
    simp only [stepSpec, hufs, headD_map, pass_terms, mkTerms_terms]
    rfl
  | order src cs rv lim =>
    cases h
    constructor
    simp only [NodeMap.ops] at hufs hcols ⊢
    have hsf : (if (cs.isEmpty && lim.isNone) = true then Suffix.none else Suffix.orderBy (cs.map φ.col) (rv.map φ.col) lim)
        = φ.suffix (if (cs.isEmpty && lim.isNone) = true then Suffix.none else Suffix.orderBy cs rv lim) := by
      split <;> rfl
    simp only [stepSpec, hcols, hufs, headD_map, filter_contains hc, pass_terms, mkTerms_terms, List.isEmpty_map, hsf]
    rfl
  | mapCols src m ds =>
    cases h
    constructor
    simp only [NodeMap.ops] at hufs ⊢
    simp only [stepSpec, hufs, headD_map, pairs_fst, pairs_snd, ← List.map_append, filter_not_contains hc,
      fold_ident_map_nil hc, fold_pass hc, mkTerms_terms]
    rfl
  | rename src m =>
    cases h
    constructor
    simp only [NodeMap.ops] at hufs ⊢
    simp only [stepSpec, hufs, headD_map, pairs_fst, pairs_snd, ← List.map_append, filter_not_contains hc,
      fold_ident_ren_nil hc, fold_pass hc, mkTerms_terms]
    rfl
  | _ => cases h

theorem rekeySpec_map (hc : Injective φ.col) (p : Ops) (usg : List String) :
    rekeySpec (φ.ops p) (usg.map φ.col) = (rekeySpec p usg).map (fun r => (r.1.map φ.col, r.2)) := by
  have hufs := fun usg => usedFromSources_map hc p usg
  cases p with
  | selectCols src cs =>
    simp only [NodeMap.ops] at hufs ⊢
    simp only [rekeySpec, hufs, headD_map, filter_contains hc, Option.map_some]
  | dropCols src ds =>
    simp only [NodeMap.ops] at hufs ⊢
    simp only [rekeySpec, hufs, headD_map, Option.map_some]
  | _ => rfl

section
variable {cfg : SqlCfg} {fuel : Nat} {p src : Ops} {u : Option (List String)}
  (ih : ∀ (p : Ops) (u : Option (List String)),
    MRel (NRel φ) (toNear cfg fuel (φ.ops p) (u.map (·.map φ.col))) (toNear cfg fuel p u))
include ih

theorem toNear_step_map (hc : Injective φ.col) {σ : StepSpec} (hp : p.sources = [src])
    (hσ : stepSpec p (u.getD p.cols) = some σ) :
    MRel (NRel φ) (toNear cfg (fuel + 1) (φ.ops p) (u.map (·.map φ.col))) (toNear cfg (fuel + 1) p u) := by
  obtain ⟨k, hσ'⟩ := stepSpec_map hc hσ
  rw [← getD_map, ← cols_map hc p] at hσ'
  rw [toNear_step fuel hp hσ, toNear_step fuel ((sources_map φ p).trans (congrArg _ hp)) hσ']
  exact MRel.step (ih src (some σ.req)) (fun _ _ _ hs => NRel.unary hs _ _ _ (some σ.req) _ _ none _ _)

theorem toNear_rekey_map (hc : Injective φ.col) {S : List String} {sel : Bool} (hp : p.sources = [src])
    (hk : rekeySpec p (u.getD p.cols) = some (S, sel)) :
    MRel (NRel φ) (toNear cfg (fuel + 1) (φ.ops p) (u.map (·.map φ.col))) (toNear cfg (fuel + 1) p u) := by
  have hk' := rekeySpec_map hc p (u.getD p.cols)
  rw [hk, ← getD_map, ← cols_map hc p] at hk'
  rw [toNear_rekey fuel hp hk, toNear_rekey fuel ((sources_map φ p).trans (congrArg _ hp)) hk']
  exact MRel.bind (ih src (some S)) (fun _ _ hs => setTermKeys_rel hc hs S sel)

end

theorem toNear_map (cfg : SqlCfg) (hφ : φ.Blind) : ∀ (fuel : Nat) (p : Ops) (u : Option (List String)),
    MRel (NRel φ) (toNear cfg fuel (φ.ops p) (u.map (·.map φ.col))) (toNear cfg fuel p u) := by
  intro fuel
  induction fuel with
  | zero =>
    intro p u
    rw [toNear.eq_1, toNear.eq_1]
    exact MRel.error _
  | succ fuel ih =>
    intro p u
    have hc := hφ.col_inj
    have hcols := cols_map hc p
    have hufs := fun usg => usedFromSources_map hc p usg
    cases p with
    | table name cs =>
      simp only [NodeMap.ops]
      rw [toNear.eq_2, toNear.eq_2, getD_map]
      generalize u.getD cs = usg
      refine MRel.guard_bind (subset_map hc _ _) _ ?_
      simp only [filter_contains hc, List.isEmpty_map, subset_map hc, pass_terms, mkTerms_terms]
      refine MRel.ite rfl ?_ ?_
      · refine MRel.bind MRel.fresh (fun i' i hi => ?_)
        subst hi
        exact MRel.pure (NRel.unary (NRel.table _ _) _ _ _ (some usg) .none _ none _ _)
      · exact MRel.pure (NRel.table _ _)
    | extend src ops part od rv w =>
      simp only [NodeMap.ops] at hcols hufs ⊢
      rw [toNear_getD _ (Ops.extend src ops part od rv w), toNear_getD _ (Ops.extend (φ.ops src) _ _ _ _ _), hcols,
        getD_map]
      generalize u.getD (Ops.extend src ops part od rv w).cols = usg0
      rw [toNear_extend_eq, toNear_extend_eq]
      simp only [hcols, extUsg_map hc, extSubops_map hc, NodeMap.assign_isEmpty, List.isEmpty_map, subset_map hc, hufs,
        headD_map, extWin_map, extWindowVars_map hc, extTerms_map hc, extDeps_map hc]
      refine MRel.ite rfl (ih src (some _)) ?_
      refine MRel.guard_bind rfl _ ?_
      refine MRel.guard_bind rfl _ ?_
      refine MRel.bind (ih src (some _)) (fun sub' sub hs => ?_)
      exact extEmit_rel hc cfg hs _ _ _ _ _
    | project | selectRows | order | mapCols | rename => exact toNear_step_map ih hc rfl rfl
    | selectCols | dropCols => exact toNear_rekey_map ih hc rfl rfl
    | join a b oa ob jt =>
      simp only [NodeMap.ops] at hcols hufs ⊢
      rw [toNear.eq_11, toNear.eq_11, hcols, getD_map]
      generalize u.getD (Ops.join a b oa ob jt).cols = usg0
      refine MRel.ite rfl ?_ ?_
      · -- SQLite FULL join: the simulating pipeline is built by the builders, then translated
        refine MRel.guard_bind (by rw [List.isEmpty_map]) _ ?_
        refine MRel.guard_bind (list_beq_map hc oa ob) _ ?_
        refine MRel.bind (liftE_build_rel (φ := φ) ?_) (fun sim' sim hsim => ?_)
        · exact fullSim_map hφ a b oa
        · subst hsim
          exact ih sim (some usg0)
      · simp only [List.isEmpty_map, take_map, ite_map_list]
        generalize (if usg0.isEmpty = true then List.take 1 (Ops.join a b oa ob jt).cols else usg0) = usg
        refine MRel.bind MRel.fresh (fun i' i hi => ?_)
        subst hi
        refine MRel.guard_bind rfl _ ?_
        refine MRel.guard_bind (subset_map hc _ _) _ ?_
        simp only [unionL_map hc]
        generalize unionL (unionL usg oa) ob = uu
        cases hsw : (cfg.emulateRightFull && jt == JoinType.right)
        · simp only [Bool.false_eq_true, if_false, cols_map hc, filter_contains hc, filter_not_contains hc]
          refine MRel.bind (ih a (some _)) (fun nl' nl hl => ?_)
          refine MRel.bind (ih b (some _)) (fun nr' nr hr => ?_)
          rw [joinTerms_map]
          exact MRel.pure (NRel.join hl hr _ _ _ _ _ _ _ _ _ _ _)
        · simp only [if_true, cols_map hc, filter_contains hc, filter_not_contains hc]
          refine MRel.bind (ih b (some _)) (fun nl' nl hl => ?_)
          refine MRel.bind (ih a (some _)) (fun nr' nr hr => ?_)
          rw [joinTerms_map]
          exact MRel.pure (NRel.join hl hr _ _ _ _ _ _ _ _ _ _ _)
    | concat a b idc an bn =>
      simp only [NodeMap.ops] at hcols hufs ⊢
      rw [toNear.eq_12, toNear.eq_12, hcols, getD_map]
      generalize u.getD (Ops.concat a b idc an bn).cols = usg0
      simp only [List.isEmpty_map, take_map, ite_map_list]
      generalize (if usg0.isEmpty = true then List.take 1 (Ops.concat a b idc an bn).cols else usg0) = usg
      simp only [hufs, headD_map, drop_headD_map, subset_map hc]
      refine MRel.guard_bind rfl _ ?_
      refine MRel.guard_bind rfl _ ?_
      cases idc with
      | none =>
        simp only [Option.map_none]
        refine MRel.bind (ih a (some _)) (fun nl' nl hl => ?_)
        refine MRel.bind (ih b (some _)) (fun nr' nr hr => ?_)
        refine MRel.bind MRel.fresh (fun i' i hi => ?_)
        subst hi
        exact MRel.pure (NRel.union hl hr _ _ _ _ _)
      | some c =>
        have hb := fun (p : Ops) (nm : String) =>
          build_map hc hφ.tab_inj p (.extend [(c, .value (.str nm))] .none [] [])
        simp only [NodeMap.bstep, NodeMap.assign, List.map_cons, List.map_nil, NodeMap.expr, mapTerm, PartArg.rename] at hb
        have hu : unionL ((((Ops.concat a b (some c) an bn).usedFromSources usg).headD []).map φ.col) [φ.col c]
            = (unionL (((Ops.concat a b (some c) an bn).usedFromSources usg).headD []) [c]).map φ.col :=
          unionL_map hc _ [c]
        simp only [Option.map_some, hu]
        refine MRel.bind (liftE_build_rel (φ := φ) (hb a an)) (fun a' a0 ha => ?_)
        subst ha
        refine MRel.bind (ih a0 (some _)) (fun nl' nl hl => ?_)
        refine MRel.bind (liftE_build_rel (φ := φ) (hb b bn)) (fun b' b0 hb' => ?_)
        subst hb'
        refine MRel.bind (ih b0 (some _)) (fun nr' nr hr => ?_)
        refine MRel.bind MRel.fresh (fun i' i hi => ?_)
        subst hi
        exact MRel.pure (NRel.union hl hr _ _ _ _ _)
    | convert src rm =>
      simp only [NodeMap.ops]
      rw [toNear.eq_13, toNear.eq_13]
      exact MRel.error _

theorem toNearSql_map (cfg : SqlCfg) (hφ : φ.Blind) (p : Ops) :
    (toNearSql cfg (φ.ops p)).map Near.eraseKeys = (toNearSql cfg p).map (fun n => (φ.near n).eraseKeys) := by
  rw [toNearSql_run, toNearSql_run, φ.size_ops]
  exact (toNear_map cfg hφ (6 * p.size + 6) p none).map_fst 0 (fun _ _ h => h)

variable {ρc : ColRen} {ρt : TabRen}

theorem list_beq_map' (hc : Injective ρc) (a b : List String) : (a.map ρc == b.map ρc) = (a == b) :=
  list_beq_map hc a b

theorem toNearSql_ren (cfg : SqlCfg) (hc : Injective ρc) (ht : Injective ρt) (p : Ops) :
    (toNearSql cfg (p.ren ρc ρt)).map Near.eraseKeys
      = (toNearSql cfg p).map (fun n => (n.rename ρc ρt).eraseKeys) := by
  rw [← renMap_ops, ← renMap_near]
  exact toNearSql_map cfg (φ := renMap ρc ρt) ⟨hc, ht⟩ p

end Ren
end DAVerif
