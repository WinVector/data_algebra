/-!
Reading a fact about a concrete run off a Boolean that the kernel evaluates.

The witnesses and examples of `Props/*` speak of concrete pipelines, tables and token lists: "the translation succeeds
with some query `q`, and `P q`".  The value `q` is large and of no interest, so the statement says `∃ q, run = .ok q ∧ P q`
and the proof evaluates the run together with the (decidable) property: `exists_ok_of_eval (by decide +kernel)`.  The
lemmas are about an arbitrary `x : Except ε α`; nothing here knows what is run.
-/
namespace DAVerif

deriving instance DecidableEq for Except

theorem exists_ok_of_isOk {ε α : Type} {x : Except ε α} (h : x.isOk = true) : ∃ a, x = .ok a := by
  cases x with
  | error e => cases h
  | ok a => exact ⟨a, rfl⟩

theorem exists_ok_of_map {ε α β : Type} {x : Except ε α} {f : α → β} {v : β} (h : x.toOption.map f = some v) :
    ∃ a, x = .ok a ∧ f a = v := by
  cases x with
  | error e => cases h
  | ok a => exact ⟨a, rfl, Option.some.inj h⟩

theorem exists_ok_of_eval {ε α : Type} {x : Except ε α} {P : α → Prop} [DecidablePred P]
    (h : x.toOption.map (fun a => decide (P a)) = some true) : ∃ a, x = .ok a ∧ P a :=
  (exists_ok_of_map h).imp fun _ ha => ⟨ha.1, of_decide_eq_true ha.2⟩

theorem exists_ok_ok_of_eval {ε ε' α β : Type} {x : Except ε α} {f : α → Except ε' β} {P : β → Prop}
    [DecidablePred P] (h : (x.toOption.bind fun a => (f a).toOption.map fun b => decide (P b)) = some true) :
    ∃ a b, x = .ok a ∧ f a = .ok b ∧ P b := by
  cases x with
  | error e => cases h
  | ok a =>
    obtain ⟨b, hb, hP⟩ := exists_ok_of_eval (x := f a) (P := P) h
    exact ⟨a, b, rfl, hb, hP⟩

end DAVerif
