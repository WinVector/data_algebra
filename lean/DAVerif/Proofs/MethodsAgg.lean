import DAVerif.Proofs.Methods
import DAVerif.Proofs.ThetaWin
/-!
C05, the aggregates `sum count size mean all any` and the windows `_row_number shift` and the cumulative folds: the
pandas model (`ThetaX.agg/win` = `Theta.agg/win`) and the SQLite model (`ThetaSqlX.agg/win`) against `Doc.docAgg/docWin`.
As for the row-wise methods, a lemma takes the clause of `docAgg` / `docWin` for its operator as hypothesis and concludes
for both backends, the SQL side under the condition (a non-missing item, a row) without which SQL answers NULL.
-/
namespace DAVerif.C05
open DAVerif DAVerif.Doc

theorem nonNull_eq (vs : List Val) : Theta.nonNull vs = Doc.nonNull vs := by
  unfold Theta.nonNull Doc.nonNull
  congr 1
  funext v
  cases v <;> rfl

theorem nums_nonNull (vs : List Val) : Theta.nums vs = Theta.nums (Doc.nonNull vs) := by
  induction vs with
  | nil => rfl
  | cons v r ih => cases v <;> simp [Theta.nums, Doc.nonNull, Theta.num?] at ih ⊢ <;> exact ih

theorem nums_map_num (xs : List Rat) : Theta.nums (xs.map Val.num) = xs :=
  (RefSem.nums_map (fun _ => rfl) xs).trans (List.map_id xs)

theorem nums_of_numItems {vs : List Val} {xs : List Rat} (h : numItems? vs = some xs) : Theta.nums vs = xs := by
  rw [nums_nonNull, nums?_eq_some h, nums_map_num]

theorem foldl_add_acc (a : Rat) (xs : List Rat) : xs.foldl (· + ·) a = a + sumQ xs := by
  induction xs generalizing a with
  | nil => simp [sumQ, Rat.add_zero]
  | cons x r ih => simp only [List.foldl, sumQ]; rw [ih, Rat.add_assoc]

theorem sumR_eq_sumQ (xs : List Rat) : Theta.sumR xs = sumQ xs := by
  unfold Theta.sumR; rw [foldl_add_acc, Rat.zero_add]

/-- SQL `SUM`: the documented sum when the group has a non-null value (none: NULL instead of 0 – the documented
destination difference) -/
theorem agg_sum {vs : List Val} {v : Val} (h : (numItems? vs).map (fun xs => .num (sumQ xs)) = some v) :
    ThetaX.agg "sum" vs = v ∧ (Doc.nonNull vs ≠ [] → ThetaSqlX.agg "sum" vs = v) := by
  obtain ⟨xs, hn, rfl⟩ := Option.map_eq_some_iff.mp h
  have e : Val.num (Theta.sumR (Theta.nums vs)) = .num (sumQ xs) := by rw [nums_of_numItems hn, sumR_eq_sumQ]
  refine ⟨e, fun hnn => ?_⟩
  show (if (Theta.nums vs).isEmpty then Val.null else Val.num (Theta.sumR (Theta.nums vs))) = _
  rw [e, nums_of_numItems hn]
  cases xs with
  | nil => exact absurd (nums?_eq_some hn) hnn
  | cons a r => rfl

theorem agg_count {vs : List Val} {v : Val} (h : some (Val.num (Doc.nonNull vs).length) = some v) :
    ThetaX.agg "count" vs = v ∧ (vs ≠ [] → ThetaSqlX.agg "count" vs = v) := by
  cases h
  have e : Val.num (Theta.nonNull vs).length = .num (Doc.nonNull vs).length := by rw [nonNull_eq]
  refine ⟨e, fun hne => ?_⟩
  cases vs with
  | nil => exact absurd rfl hne
  | cons a r => exact e

theorem agg_size {vs : List Val} {v : Val} (h : some (Val.num vs.length) = some v) :
    (ThetaX.agg "size" vs = v ∧ ThetaX.agg "_size" vs = v) ∧
    (vs ≠ [] → ThetaSqlX.agg "size" vs = v ∧ ThetaSqlX.agg "_size" vs = v) := by
  cases h
  refine ⟨⟨rfl, rfl⟩, fun hne => ?_⟩
  cases vs with
  | nil => exact absurd rfl hne
  | cons a r => exact ⟨rfl, rfl⟩

theorem agg_mean {vs : List Val} {v : Val}
    (h : (numItems? vs).bind (fun xs => if xs.isEmpty then none else some (.num (sumQ xs / xs.length))) = some v) :
    ThetaX.agg "mean" vs = v ∧ ThetaSqlX.agg "mean" vs = v := by
  obtain ⟨xs, hn, hx⟩ := Option.bind_eq_some_iff.mp h
  have e : (if (Theta.nums vs).isEmpty then Val.null
      else Val.num (Theta.sumR (Theta.nums vs) / (Theta.nums vs).length)) = v := by
    rw [nums_of_numItems hn, sumR_eq_sumQ]
    cases xs with
    | nil => cases hx
    | cons a r => exact Option.some.inj hx
  exact ⟨e, e⟩

theorem all_truthy_of_boolItems {vs : List Val} {bs : List Bool} (h : boolItems? vs = some bs) :
    (Theta.nonNull vs).all (fun v => Theta.truthy v == some true) = bs.all id ∧
    (Theta.nonNull vs).any (fun v => Theta.truthy v == some true) = bs.any id := by
  have hb : ∀ b, (Theta.truthy (.bool b) == some true) = b := by decide
  rw [nonNull_eq, bools?_eq_some h, List.all_map, List.any_map]
  exact ⟨congrArg bs.all (funext hb), congrArg bs.any (funext hb)⟩

/-- SQL `all` (after fix C05-sql-all-ignores-null): documented value when the group has a non-null item -/
theorem agg_all {vs : List Val} {v : Val} (h : (boolItems? vs).map (fun bs => .bool (bs.all id)) = some v) :
    ThetaX.agg "all" vs = v ∧ (Doc.nonNull vs ≠ [] → ThetaSqlX.agg "all" vs = v) := by
  obtain ⟨bs, hn, rfl⟩ := Option.map_eq_some_iff.mp h
  have e : Val.bool ((Theta.nonNull vs).all (fun v => Theta.truthy v == some true)) = .bool (bs.all id) := by
    rw [(all_truthy_of_boolItems hn).1]
  refine ⟨e, fun hnn => ?_⟩
  show (if (Theta.nonNull vs).isEmpty then Val.null
        else Val.bool ((Theta.nonNull vs).all (fun v => Theta.truthy v == some true))) = _
  rw [e, nonNull_eq]
  cases hv : Doc.nonNull vs with
  | nil => exact absurd hv hnn
  | cons a r => rfl

theorem agg_any {vs : List Val} {v : Val} (h : (boolItems? vs).map (fun bs => .bool (bs.any id)) = some v) :
    ThetaX.agg "any" vs = v ∧ (vs ≠ [] → ThetaSqlX.agg "any" vs = v) := by
  obtain ⟨bs, hn, rfl⟩ := Option.map_eq_some_iff.mp h
  have e : Val.bool ((Theta.nonNull vs).any (fun v => Theta.truthy v == some true)) = .bool (bs.any id) := by
    rw [(all_truthy_of_boolItems hn).2]
  refine ⟨e, fun hne => ?_⟩
  cases vs with
  | nil => exact absurd rfl hne
  | cons a r => exact e

theorem win_row_number {cargs vs : List Val} {pos : Nat} {v : Val}
    (h : (if pos < vs.length then some (Val.num ((pos : Rat) + 1)) else none) = some v) :
    ThetaX.win "_row_number" cargs vs pos = v ∧ ThetaSqlX.win "_row_number" cargs vs pos = v := by
  split at h
  · cases h; exact ⟨rfl, rfl⟩
  · cases h

theorem win_shift {cargs vs : List Val} {pos : Nat} {v : Val}
    (h : (if pos < vs.length then
      match cargs with
      | [] => some (if pos = 0 then .null else vs.getD (pos - 1) .null)
      | [.num k] =>
        if k.den = 1 ∧ k.num ≠ 0 then
          some (if ((pos : Int) - k.num) < 0 then .null else vs.getD ((pos : Int) - k.num).toNat .null)
        else none
      | _ => none
    else none) = some v) :
    ThetaX.win "shift" cargs vs pos = v ∧ ThetaSqlX.win "shift" cargs vs pos = v := by
  split at h
  · split at h
    · cases h
      have e : (if (pos == 0) = true then Val.null else vs.getD (pos - 1) .null) =
          (if pos = 0 then .null else vs.getD (pos - 1) .null) := by
        by_cases h0 : pos = 0 <;> simp [h0]
      exact ⟨e, e⟩
    · rename_i k
      split at h
      · rename_i hk
        cases h
        have e : (if (k.den == 1) = true then
            (if ((pos : Int) - k.num) < 0 then Val.null else vs.getD ((pos : Int) - k.num).toNat .null) else .null) =
            (if ((pos : Int) - k.num) < 0 then Val.null else vs.getD ((pos : Int) - k.num).toNat .null) := by
          simp [hk.1]
        exact ⟨e, e⟩
      · cases h
    · cases h
  · cases h

theorem getD_take (vs : List Val) (pos : Nat) (hp : pos < vs.length) :
    (vs.take (pos + 1)).getLast? = some (vs.getD pos .null) := by
  rw [List.getLast?_eq_getElem?]
  have hl : (vs.take (pos + 1)).length = pos + 1 := by simp [List.length_take]; omega
  rw [hl]
  simp [hp]

/-- the documented cumulative fold needs a prefix of numbers: then pandas' `cumulate` (missing at a missing row: the
current row is the last of the prefix, a number) and SQL's running fold both compute it -/
theorem cumulative_backends {f : Rat → Rat → Rat} {vs : List Val} {pos : Nat} {v : Val}
    (h : cumulative f vs pos = some v) : Theta.cumulate f vs pos = v ∧ ThetaSql.runFold f vs pos = v := by
  unfold cumulative at h
  split at h
  · rename_i hp
    split at h
    · rename_i x r hn
      cases h
      obtain ⟨q, hq⟩ : ∃ q, vs.getD pos .null = Val.num q := by
        have hm := List.mem_of_getLast? (getD_take vs pos hp)
        rw [nums?_eq_some hn] at hm
        obtain ⟨q, _, hq⟩ := List.mem_map.mp hm
        exact ⟨q, hq.symm⟩
      have e : Theta.cumulate f vs pos = .num (r.foldl f x) :=
        RefSem.cumulate_cons (by rw [hq]; nofun) (by rw [← RefSem.nums_eq_numbers, nums?_eq_some hn, nums_map_num])
      exact ⟨e, (RefSem.runFold_eq_cumulate f vs pos (by rw [hq]; rfl)).trans e⟩
    · cases h
  · cases h

end DAVerif.C05
