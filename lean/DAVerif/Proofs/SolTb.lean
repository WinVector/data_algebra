import DAVerif.Proofs.SolRows
import DAVerif.Proofs.SolLocfCore
import DAVerif.Proofs.ThetaWin
import DAVerif.Spec.Solutions
/-!
Windows ordered by `order_by ++ [tb]` where the column `tb` carries a different number in every row (the row number
both `rank_to_average` and `last_observed_carried_forward` compute first): the window order is then a strict total order
on the row positions (`beforeIG`), a row's place in its window is the number of rows of its partition before it, and the
window up to that place consists of the rows of the partition not after it.  Stated for any rows `R` that carry the
cells of the input rows in the columns read (`Over`, kept by an `extend` that assigns another column) and the numbers in
`tb` (`TbRows`).
-/
namespace DAVerif.Sol
open DAVerif

theorem pairwise_strict {α : Type} (le : α → α → Bool) {l : List α} (hpw : l.Pairwise (fun u v => le u v = true))
    (hanti : ∀ u ∈ l, ∀ v ∈ l, le u v = true → le v u = true → u = v) (hnd : l.Nodup) :
    l.Pairwise (fun u v => (le u v && !le v u) = true) :=
  (hpw.and hnd).imp_of_mem fun {u v} hu hv h => by
    cases h2 : le v u with
    | false => rw [h.1]; rfl
    | true => exact absurd (hanti u hu v hv h.1 h2) h.2

theorem take_eq_filter_of_strict {α : Type} (lt : α → α → Bool) (hirr : ∀ a, lt a a = false)
    (hasym : ∀ a b, lt a b = true → lt b a = false) :
    ∀ (l : List α) (k : Nat) (hk : k < l.length), l.Pairwise (fun u v => lt u v = true) →
      l.take k = l.filter (fun y => lt y l[k]) ∧ l.take (k + 1) = l.filter (fun y => !lt l[k] y)
  | [], _, hk, _ => absurd hk (Nat.not_lt_zero _)
  | a :: l, 0, _, hpw => by
    have ha := (List.pairwise_cons.mp hpw).1
    have h1 : l.filter (fun y => lt y a) = [] :=
      List.filter_eq_nil_iff.mpr fun y hy => by rw [hasym a y (ha y hy)]; exact Bool.false_ne_true
    have h2 : l.filter (fun y => !lt a y) = [] :=
      List.filter_eq_nil_iff.mpr fun y hy => by rw [ha y hy]; exact Bool.false_ne_true
    simp only [List.take_zero, List.getElem_cons_zero, List.filter_cons, hirr, Bool.false_eq_true, if_false, h1,
      Bool.not_false, if_true, h2, Nat.zero_add, List.take_succ_cons, and_self]
  | a :: l, k + 1, hk, hpw => by
    obtain ⟨ha, hl⟩ := List.pairwise_cons.mp hpw
    have hk' : k < l.length := Nat.lt_of_succ_lt_succ hk
    have hm : lt a l[k] = true := ha _ (List.getElem_mem hk')
    obtain ⟨i1, i2⟩ := take_eq_filter_of_strict lt hirr hasym l k hk' hl
    simp only [List.take_succ_cons, List.getElem_cons_succ, List.filter_cons, hm, if_true, hasym _ _ hm,
      Bool.not_false, i1, i2, and_self]

/-- `R` has as many rows as `rows0`, and row by row the cells of `rows0` in the columns `cs` -/
structure Over (cs : List String) (rows0 R : List Row) : Prop where
  length : R.length = rows0.length
  get : ∀ {j : Nat}, j < rows0.length → ∀ {c : String}, c ∈ cs → (R.getD j []).get c = (rows0.getD j []).get c

theorem Over.refl (cs : List String) (rows0 : List Row) : Over cs rows0 rows0 := ⟨rfl, fun _ _ _ => rfl⟩

theorem Over.addCol {cs : List String} {rows0 R : List Row} (h : Over cs rows0 R) {oc : List String} {c : String}
    (f : Nat → Val) (hc : c ∉ cs) (hoc : ∀ c' ∈ cs, c' ∈ oc) : Over cs rows0 (addCol oc c f R) where
  length := (length_addCol ..).trans h.length
  get := fun {j} hj {c'} hc' => by
    rw [get_addCol _ _ _ _ _ (h.length ▸ hj) (hoc c' hc'), if_neg (fun e : c' = c => hc (e ▸ hc')), h.get hj hc']

theorem Over.keyOf {cs : List String} {rows0 R : List Row} (h : Over cs rows0 R) {j : Nat} (hj : j < rows0.length)
    {ks : List String} (hks : ∀ c ∈ ks, c ∈ cs) : keyOf (R.getD j []) ks = keyOf (rows0.getD j []) ks :=
  keyOf_congr fun c hc => h.get hj (hks c hc)

theorem getD_mem {rows : List Row} {j : Nat} (hj : j < rows.length) : rows.getD j [] ∈ rows := by
  rw [getD_eq _ hj]
  exact List.getElem_mem hj

theorem Over.nullFree {cs : List String} {rows0 R : List Row} (h : Over cs rows0 R) {ks : List String}
    (hks : ∀ c ∈ ks, c ∈ cs) (h0 : Sql.NullFreeOn ks rows0) : Sql.NullFreeOn ks R := by
  intro r hr c hc
  obtain ⟨j, hj, rfl⟩ := List.mem_iff_getElem.mp hr
  have hj0 : j < rows0.length := h.length ▸ hj
  rw [← getD_eq [] hj, h.get hj0 (hks c hc)]
  exact h0 _ (getD_mem hj0) c hc

theorem get_addCol_self {oc : List String} {c : String} (f : Nat → Val) {rows : List Row} {i : Nat}
    (h : i < rows.length) (hc : c ∈ oc) : ((addCol oc c f rows).getD i []).get c = f i := by
  rw [get_addCol _ _ _ _ _ h hc, if_pos rfl]

theorem int_zero_cast : ((0 : Int) : Rat) = 0 := by norm_cast
theorem int_one_cast : ((1 : Int) : Rat) = 1 := by norm_cast

/-- the cell `v.is_null().where(0, 1)` -/
def flagVal (b : Bool) : Val := if b then Val.num ((1 : Int) : Rat) else Val.num ((0 : Int) : Rat)

theorem nums_flags {α : Type} (l : List α) (p : α → Bool) :
    Theta.nums (l.map (fun y => flagVal (p y))) = l.map (fun y => if p y then (1 : Rat) else 0) :=
  RefSem.nums_map (f := fun y => flagVal (p y)) (g := fun y => if p y then (1 : Rat) else 0)
    (fun y => by
      cases p y
      · exact congrArg some int_zero_cast
      · exact congrArg some int_one_cast) l

theorem foldl_flags {α : Type} (l : List α) (p : α → Bool) (a : Rat) :
    (l.map (fun y => if p y then (1 : Rat) else 0)).foldl (· + ·) a = a + ((l.countP p : Nat) : Rat) := by
  induction l generalizing a with
  | nil => simp [Rat.add_zero]
  | cons x l ih =>
    rw [List.map_cons, List.foldl_cons, ih, List.countP_cons, Rat.add_assoc]
    cases p x
    · simp only [Bool.false_eq_true, if_false, Nat.add_zero, Rat.zero_add]
    · simp only [if_true, Rat.natCast_add, Rat.add_comm 1]
      rfl

theorem cumulate_flags {α : Type} (l : List α) (p : α → Bool) (pos : Nat) (h : pos < l.length) :
    Theta.cumulate (· + ·) (l.map (fun y => flagVal (p y))) pos
      = Val.num (((l.take (pos + 1)).countP p : Nat) : Rat) := by
  have hpos : (l.map (fun y => flagVal (p y))).getD pos Val.null ≠ .null := by
    rw [getD_eq _ (by simpa using h), List.getElem_map]; unfold flagVal; split <;> nofun
  cases ht : l.take (pos + 1) with
  | nil =>
    have := congrArg List.length ht
    rw [List.length_take] at this
    simp only [List.length_nil] at this
    omega
  | cons x xs =>
    rw [RefSem.cumulate_cons hpos (by rw [← RefSem.nums_eq_numbers, ← List.map_take, nums_flags, ht]; rfl)]
    have := foldl_flags (x :: xs) p 0
    simp only [List.map_cons, List.foldl_cons, Rat.zero_add] at this
    rw [this]

/-- same partition / tie on `order_by`, on the input rows -/
def sameP (part : List String) (rows0 : List Row) (k j : Nat) : Bool :=
  keyOf (rows0.getD k []) part == keyOf (rows0.getD j []) part
def tieO (ob : List String) (rows0 : List Row) (k j : Nat) : Bool :=
  keyOf (rows0.getD k []) ob == keyOf (rows0.getD j []) ob

theorem decide_le_not_le (a b : Nat) : (decide (a ≤ b) && !decide (b ≤ a)) = decide (a < b) := by
  rw [Bool.eq_iff_iff]
  simp only [Bool.and_eq_true, decide_eq_true_eq, Bool.not_eq_true', decide_eq_false_iff_not]
  omega

end DAVerif.Sol

namespace DAVerif.Sol21Sql.Cmp
open DAVerif DAVerif.Sql DAVerif.Sol

section
variable {le : RowCmp} (hle : CmpLex le)
include hle

theorem _root_.DAVerif.Sol.Over.winPos_eq {cs : List String} {rows0 R : List Row} (h : Over cs rows0 R)
    {p o rv : List String} (hp : ∀ c ∈ p, c ∈ cs) (ho : ∀ c ∈ o, c ∈ cs) (i : Nat) :
    winPosG le p o rv R i = winPosG le p o rv rows0 i := by
  have hg : ∀ j, ∀ c ∈ cs, (R.getD j []).get c = (rows0.getD j []).get c := fun j c hc => by
    by_cases hj : j < rows0.length
    · exact h.get hj hc
    · rw [List.getD_eq_getElem?_getD, List.getD_eq_getElem?_getD, List.getElem?_eq_none (Nat.le_of_not_lt hj),
        List.getElem?_eq_none (h.length ▸ Nat.le_of_not_lt hj)]
  exact winPos_congr (hle.congr o rv) h.length (fun j => keyOf_congr fun c hc => hg j c (hp c hc))
    (fun j c hc => hg j c (ho c hc)) i

theorem strict_trans {cs rv : List String} {a b c : Row} (h1 : (le cs rv a b && !le cs rv b a) = true)
    (h2 : (le cs rv b c && !le cs rv c b) = true) : (le cs rv a c && !le cs rv c a) = true := by
  simp only [Bool.and_eq_true, Bool.not_eq_true'] at h1 h2 ⊢
  refine ⟨hle.trans _ _ _ _ _ h1.1 h2.1, ?_⟩
  cases h : le cs rv c a with
  | false => rfl
  | true => rw [hle.trans _ _ _ _ _ h h1.1] at h2; cases h2.2

variable {p o rv : List String} {rows : List Row} {i : Nat}
  (htot : ∀ a ∈ winPart p rows i, ∀ b ∈ winPart p rows i,
    le o rv a.1 b.1 = true → le o rv b.1 a.1 = true → a = b)
include htot

theorem winSorted_strict :
    (winSortedG le p o rv rows i).Pairwise (fun a b => (le o rv a.1 b.1 && !le o rv b.1 a.1) = true) :=
  have hperm := winSorted_perm (le := le) p o rv rows i
  pairwise_strict (fun (a b : Row × Nat) => le o rv a.1 b.1) (winSorted_pairwise hle p o rv rows i)
    (fun u hu v hv => htot u (hperm.mem_iff.mp hu) v (hperm.mem_iff.mp hv))
    (hperm.nodup_iff.mpr ((zipIdx_nodup rows).filter _))

theorem winTake (hi : i < rows.length) :
    (winSortedG le p o rv rows i).take (winPosG le p o rv rows i)
      = (winSortedG le p o rv rows i).filter
          (fun y => le o rv y.1 (rows.getD i []) && !le o rv (rows.getD i []) y.1) ∧
    (winSortedG le p o rv rows i).take (winPosG le p o rv rows i + 1)
      = (winSortedG le p o rv rows i).filter
          (fun y => !(le o rv (rows.getD i []) y.1 && !le o rv y.1 (rows.getD i []))) := by
  have h := take_eq_filter_of_strict (fun (a b : Row × Nat) => le o rv a.1 b.1 && !le o rv b.1 a.1)
    (fun a => by cases le o rv a.1 a.1 <;> rfl)
    (fun a b h => by
      rw [Bool.and_eq_true, Bool.not_eq_true'] at h
      rw [h.1, h.2]; rfl) _ _ (winPos_lt hi) (winSorted_strict hle htot)
  rw [winSorted_getElem_winPos hi] at h
  exact h

theorem winPos_eq_countP (hi : i < rows.length) :
    winPosG le p o rv rows i =
      (winPart p rows i).countP (fun y => le o rv y.1 (rows.getD i []) && !le o rv (rows.getD i []) y.1) := by
  rw [← (winSorted_perm (le := le) p o rv rows i).countP_eq, List.countP_eq_length_filter, ← (winTake hle htot hi).1,
    List.length_take, Nat.min_eq_left (Nat.le_of_lt (winPos_lt hi))]

theorem winTake_countP (hi : i < rows.length) (Q : Row × Nat → Bool) :
    ((winSortedG le p o rv rows i).take (winPosG le p o rv rows i + 1)).countP Q =
      (winPart p rows i).countP
        (fun y => Q y && !(le o rv (rows.getD i []) y.1 && !le o rv y.1 (rows.getD i []))) := by
  rw [(winTake hle htot hi).2, List.countP_filter, (winSorted_perm (le := le) p o rv rows i).countP_eq]

end

/-- strictly before on `order_by`, on the input rows -/
def ltOG (le : RowCmp) (ob : List String) (rows0 : List Row) (k j : Nat) : Bool :=
  le ob [] (rows0.getD k []) (rows0.getD j []) && !le ob [] (rows0.getD j []) (rows0.getD k [])

/-- position `k` comes strictly before position `i`, in the specification's words (`Spec21.locfBefore`): earlier in
`order_by`, or tied there and with the smaller tie-breaking number -/
def beforeIG (le : RowCmp) (ob : List String) (rows0 : List Row) (T : Nat → Nat) (k i : Nat) : Bool :=
  Spec21.locfBefore (le ob []) T rows0 k i

/-- `R` carries, row by row, the cells of `rows0` in the columns `cs` and the number `T j` in column `tb`; different
rows carry different numbers -/
structure TbRows (cs : List String) (tb : String) (T : Nat → Nat) (rows0 R : List Row) : Prop
    extends Over cs rows0 R where
  num : ∀ {j : Nat}, j < rows0.length → (R.getD j []).get tb = Val.num ((T j : Nat) : Rat)
  inj : ∀ {j k : Nat}, j < rows0.length → k < rows0.length → T j = T k → j = k

section
variable {le : RowCmp} (hle : CmpLex le)
include hle

theorem tieO_iff_le {ob : List String} {rows0 : List Row} {k i : Nat} :
    tieO ob rows0 k i = true ↔
      (le ob [] (rows0.getD k []) (rows0.getD i []) = true ∧ le ob [] (rows0.getD i []) (rows0.getD k []) = true) := by
  simp only [tieO, beq_iff_eq]
  exact (hle.tie ob [] _ _).symm

/-- ties read as equal cells -/
theorem beforeIG_eq {ob : List String} {rows0 : List Row} {T : Nat → Nat} {k i : Nat} :
    beforeIG le ob rows0 T k i = (ltOG le ob rows0 k i || (tieO ob rows0 k i && decide (T k < T i))) := by
  simp only [beforeIG, Spec21.locfBefore, Spec21.strictlyBefore, Spec21.tiesWith, ltOG]
  congr 2
  rw [Bool.eq_iff_iff, Bool.and_eq_true]
  exact (tieO_iff_le hle).symm

theorem ltO_tieO_excl {ob : List String} {rows0 : List Row} (k j : Nat) :
    ¬ (ltOG le ob rows0 k j = true ∧ tieO ob rows0 k j = true) := by
  rintro ⟨h1, h2⟩
  simp only [ltOG, Bool.and_eq_true, Bool.not_eq_true'] at h1
  rw [((tieO_iff_le hle).mp h2).2] at h1
  exact absurd h1.2 (by simp)

variable {cs ob : List String} {tb : String} {T : Nat → Nat} {rows0 R : List Row} (h : TbRows cs tb T rows0 R)
include h

theorem TbRows.eq_of_tie {j k : Nat} (hj : j < rows0.length) (hk : k < rows0.length)
    (h1 : le (ob ++ [tb]) [] (R.getD j []) (R.getD k []) = true)
    (h2 : le (ob ++ [tb]) [] (R.getD k []) (R.getD j []) = true) : j = k := by
  have htie := keyOf_eq_iff.mp ((hle.tie (ob ++ [tb]) [] _ _).mp ⟨h1, h2⟩) tb (by simp)
  rw [h.num hj, h.num hk] at htie
  exact h.inj hj hk (by exact_mod_cast Val.num.inj htie)

theorem TbRows.total (part : List String) (i : Nat) :
    ∀ a ∈ winPart part R i, ∀ b ∈ winPart part R i,
      le (ob ++ [tb]) [] a.1 b.1 = true → le (ob ++ [tb]) [] b.1 a.1 = true → a = b := by
  intro a ha b hb h1 h2
  have ha' := (mem_winPart.mp ha).1
  have hb' := (mem_winPart.mp hb).1
  obtain ⟨ea, hja⟩ := getD_of_mem_zipIdx ha'
  obtain ⟨eb, hjb⟩ := getD_of_mem_zipIdx hb'
  rw [h.length] at hja hjb
  rw [← ea, ← eb] at h1 h2
  exact zipIdx_snd_inj ha' hb' (h.eq_of_tie hle hja hjb h1 h2)

variable (hob : ∀ c ∈ ob, c ∈ cs)
include hob

theorem TbRows.strict_eq {k j : Nat} (hk : k < rows0.length) (hj : j < rows0.length) :
    (le (ob ++ [tb]) [] (R.getD k []) (R.getD j []) && !le (ob ++ [tb]) [] (R.getD j []) (R.getD k []))
      = beforeIG le ob rows0 T k j := by
  have gk : ∀ c ∈ ob, (R.getD k []).get c = (rows0.getD k []).get c := fun c hc => h.get hk (hob c hc)
  have gj : ∀ c ∈ ob, (R.getD j []).get c = (rows0.getD j []).get c := fun c hc => h.get hj (hob c hc)
  rw [hle.append, hle.append, keyOf_congr gk, keyOf_congr gj, hle.congr _ _ _ _ _ _ gk gj,
    hle.congr _ _ _ _ _ _ gj gk, hle.singleNum tb _ _ _ _ (h.num hk) (h.num hj),
    hle.singleNum tb _ _ _ _ (h.num hj) (h.num hk), beforeIG_eq hle]
  by_cases ht : keyOf (rows0.getD k []) ob = keyOf (rows0.getD j []) ob
  · have htt : tieO ob rows0 k j = true := by simpa [tieO] using ht
    have hl : ltOG le ob rows0 k j = false := by
      cases hl : ltOG le ob rows0 k j with
      | false => rfl
      | true => exact absurd ⟨hl, htt⟩ (ltO_tieO_excl hle k j)
    rw [if_pos ht, if_pos ht.symm, hl, htt, Bool.true_and, Bool.false_or]
    exact decide_le_not_le _ _
  · have : tieO ob rows0 k j = false := by simpa [tieO] using ht
    rw [if_neg ht, if_neg (fun e => ht e.symm), this, Bool.false_and, Bool.or_false, ltOG]

/-- `beforeIG le` is the strict part of `le (order_by ++ [tb])` on the rows of `R`, where no two rows tie -/
theorem TbRows.ord (part : List String) : Locf.Ord rows0.length (beforeIG le ob rows0 T) (sameP part rows0) where
  irrefl := fun i => by
    simp only [beforeIG_eq hle, ltOG, Nat.lt_irrefl, decide_false, Bool.and_false, Bool.or_false]
    cases le ob [] (rows0.getD i []) (rows0.getD i []) <;> rfl
  trans := fun i j k hi hj hk h1 h2 => by
    rw [← h.strict_eq hle hob hi hj] at h1
    rw [← h.strict_eq hle hob hj hk] at h2
    rw [← h.strict_eq hle hob hi hk]
    exact strict_trans hle h1 h2
  total := fun i j hi hj hne => by
    rw [← h.strict_eq hle hob hi hj, ← h.strict_eq hle hob hj hi]
    have ht := hle.total (ob ++ [tb]) [] (R.getD i []) (R.getD j [])
    cases h1 : le (ob ++ [tb]) [] (R.getD i []) (R.getD j []) <;>
      cases h2 : le (ob ++ [tb]) [] (R.getD j []) (R.getD i [])
    · rw [h1, h2] at ht; cases ht
    · exact Or.inr rfl
    · exact Or.inl rfl
    · exact absurd (h.eq_of_tie hle hi hj h1 h2) hne
  prefl := fun i => by simp [sameP]
  psymm := fun i j h => by simp only [sameP, beq_iff_eq] at h ⊢; exact h.symm
  ptrans := fun i j k h1 h2 => by simp only [sameP, beq_iff_eq] at h1 h2 ⊢; exact h1.trans h2

variable {part : List String} (hpart : ∀ c ∈ part, c ∈ cs) {j : Nat} (hj : j < rows0.length)
include hpart hj

theorem TbRows.winPos :
    winPosG le part (ob ++ [tb]) [] R j
      = (List.range rows0.length).countP (fun k => sameP part rows0 k j && beforeIG le ob rows0 T k j) := by
  rw [winPos_eq_countP hle (h.total hle part j) (h.length ▸ hj), countP_winPart, h.length]
  refine countP_congr_mem fun k hk => ?_
  have hk := List.mem_range.mp hk
  rw [h.keyOf hk hpart, h.keyOf hj hpart, h.strict_eq hle hob hk hj]
  rfl

theorem TbRows.winTake (Q : Nat → Bool) :
    ((winSortedG le part (ob ++ [tb]) [] R j).take (winPosG le part (ob ++ [tb]) [] R j + 1)).countP (fun y => Q y.2)
      = (List.range rows0.length).countP
          (fun k => sameP part rows0 k j && Q k && !beforeIG le ob rows0 T j k) := by
  rw [winTake_countP hle (h.total hle part j) (h.length ▸ hj), countP_winPart, h.length]
  refine countP_congr_mem fun k hk => ?_
  have hk := List.mem_range.mp hk
  rw [h.keyOf hk hpart, h.keyOf hj hpart, h.strict_eq hle hob hj hk, Bool.and_assoc]
  rfl

end

end DAVerif.Sol21Sql.Cmp
