import DAVerif.Spec.Polars
/-!
C03: the concrete Polars interpretation `ThetaPl` agrees with the concrete Pandas interpretation `Theta` outside
the deviations listed in `Spec/Polars.lean` (`Pl.scalarViol`, `Pl.aggViol`).
-/
namespace DAVerif

theorem pl_ite_nil_eq {α : Type} {c : Bool} {x : α} (h : (if c = true then [x] else []) = []) : c = false := by
  cases c with
  | false => rfl
  | true => simp at h

theorem thetaPl_scalar_agree (cfg : Pl.Cfg) (op : String) (args : List ArgV)
    (h : Pl.scalarViol cfg op args = []) : ThetaPl.scalar cfg op args = Theta.scalar op args := by
  simp only [Pl.scalarViol, List.append_eq_nil_iff] at h
  have h1 := pl_ite_nil_eq h.1
  have h2 := pl_ite_nil_eq h.2
  simp only [ThetaPl.scalar, h1, h2, Bool.false_eq_true, if_false]

theorem aggViol_nil {cfg : Pl.Cfg} {op : String} {vs : List Val} (h : Pl.aggViol cfg op vs = []) :
    Pl.nuniqueDev cfg op vs = false ∧ Pl.anyValueDev op vs = false ∧ Pl.firstDev op vs = false ∧
      Pl.lastDev op vs = false := by
  simp only [Pl.aggViol, List.append_eq_nil_iff] at h
  exact ⟨pl_ite_nil_eq h.1.1, pl_ite_nil_eq h.1.2, Bool.or_eq_false_iff.mp (pl_ite_nil_eq h.2)⟩

theorem thetaPl_agg_agree (cfg : Pl.Cfg) (op : String) (vs : List Val)
    (h : Pl.aggViol cfg op vs = []) : ThetaPl.agg cfg op vs = Theta.agg op vs := by
  obtain ⟨h1, h2, h3, h4⟩ := aggViol_nil h
  simp only [ThetaPl.agg, h1, h2, h3, h4, Bool.false_eq_true, if_false]

theorem thetaPl_win_agree (cfg : Pl.Cfg) (op : String) (cargs vs : List Val) (pos : Nat)
    (h : Pl.aggViol cfg op vs = []) : ThetaPl.win cfg op cargs vs pos = Theta.win op cargs vs pos := by
  obtain ⟨h1, h2, h3, h4⟩ := aggViol_nil h
  simp only [ThetaPl.win, h1, h2, h3, h4, Bool.or_self, Bool.false_eq_true, if_false]

end DAVerif
