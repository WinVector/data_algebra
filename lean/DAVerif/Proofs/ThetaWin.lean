import DAVerif.Spec.Ref
import DAVerif.Sql.ThetaSql
/-!
Folds used by the concrete interpretation `Theta.win` (running sums, products, maxima, minima) against the
readable definitions of `Spec/Ref.lean` (`Ref.total`, `Ref.product`, `Ref.IsMax`, `Ref.IsMin`), and the lemmas through
which C05, C21 and C27 use `Theta.nums`, `Theta.cumulate` and SQL's running fold `ThetaSql.runFold` (which is
`Theta.cumulate` except at a missing row).
-/
namespace DAVerif.RefSem

theorem nums_eq_numbers (vs : List Val) : Theta.nums vs = Ref.numbers vs := by
  simp only [Theta.nums, Ref.numbers]
  congr 1

theorem nums_map {α : Type} {f : α → Val} {g : α → Rat} (h : ∀ a, Theta.num? (f a) = some (g a)) (l : List α) :
    Theta.nums (l.map f) = l.map g := by
  induction l with
  | nil => rfl
  | cons a l ih => simp only [Theta.nums, List.map_cons, List.filterMap_cons, h a] at ih ⊢; rw [ih]

theorem foldl_eq_foldr_cons {op : Rat → Rat → Rat} {e : Rat} (ha : ∀ a b c, op (op a b) c = op a (op b c))
    (he : ∀ a, op a e = a) : ∀ (xs : List Rat) (x : Rat), xs.foldl op x = (x :: xs).foldr op e := by
  intro xs
  induction xs with
  | nil => exact fun x => (he x).symm
  | cons y ys ih => intro x; rw [List.foldl_cons, ih, List.foldr_cons, List.foldr_cons, List.foldr_cons, ha]

theorem foldl_add_eq_total (xs : List Rat) (x : Rat) : xs.foldl (· + ·) x = Ref.total (x :: xs) :=
  foldl_eq_foldr_cons Rat.add_assoc Rat.add_zero xs x

theorem foldl_mul_eq_product (xs : List Rat) (x : Rat) : xs.foldl (· * ·) x = Ref.product (x :: xs) :=
  foldl_eq_foldr_cons Rat.mul_assoc Rat.mul_one xs x

theorem foldl_select {α : Type} {R : α → α → Prop} (hr : ∀ x, R x x) (ht : ∀ {x y z}, R x y → R y z → R x z)
    {f : α → α → α} (hf : ∀ a b, (f a b = a ∨ f a b = b) ∧ R a (f a b) ∧ R b (f a b)) :
    ∀ (xs : List α) (x : α), xs.foldl f x ∈ x :: xs ∧ ∀ z ∈ x :: xs, R z (xs.foldl f x) := by
  intro xs
  induction xs with
  | nil => exact fun x => ⟨List.mem_cons_self .., fun z hz => List.mem_singleton.mp hz ▸ hr x⟩
  | cons y ys ih =>
    intro x
    obtain ⟨hm, hle⟩ := ih (f x y)
    obtain ⟨hsel, hx, hy⟩ := hf x y
    have hstep := hle (f x y) (List.mem_cons_self ..)
    refine ⟨?_, fun z hz => ?_⟩
    · rcases List.mem_cons.mp hm with e | e
      · rw [List.foldl_cons, e]
        rcases hsel with e' | e' <;> rw [e']
        · exact List.mem_cons_self ..
        · exact List.mem_cons_of_mem _ (List.mem_cons_self ..)
      · exact List.mem_cons_of_mem _ (List.mem_cons_of_mem _ e)
    · rcases List.mem_cons.mp hz with e | e
      · subst e; exact ht hx hstep
      · rcases List.mem_cons.mp e with e | e
        · subst e; exact ht hy hstep
        · exact hle z (List.mem_cons_of_mem _ e)

theorem foldl_max_isMax (xs : List Rat) (x : Rat) :
    Ref.IsMax (xs.foldl (fun a b => if a < b then b else a) x) (x :: xs) :=
  foldl_select (R := fun z m => z ≤ m) (fun _ => Rat.le_refl) Rat.le_trans (fun a b => by
    by_cases h : a < b
    · rw [if_pos h]; exact ⟨Or.inr rfl, Rat.le_of_lt h, Rat.le_refl⟩
    · rw [if_neg h]; exact ⟨Or.inl rfl, Rat.le_refl, Rat.not_lt.mp h⟩) xs x

theorem foldl_min_isMin (xs : List Rat) (x : Rat) :
    Ref.IsMin (xs.foldl (fun a b => if b < a then b else a) x) (x :: xs) :=
  foldl_select (R := fun z m => m ≤ z) (fun _ => Rat.le_refl) (fun h1 h2 => Rat.le_trans h2 h1) (fun a b => by
    by_cases h : b < a
    · rw [if_pos h]; exact ⟨Or.inr rfl, Rat.le_of_lt h, Rat.le_refl⟩
    · rw [if_neg h]; exact ⟨Or.inl rfl, Rat.le_refl, Rat.not_lt.mp h⟩) xs x

theorem cumulate_null {f : Rat → Rat → Rat} {vs : List Val} {pos : Nat} (h : vs.getD pos .null = .null) :
    Theta.cumulate f vs pos = .null := by
  simp only [Theta.cumulate, h]

theorem cumulate_cons {f : Rat → Rat → Rat} {vs : List Val} {pos : Nat} (h : vs.getD pos .null ≠ .null)
    {x : Rat} {xs : List Rat} (hx : Ref.numbers (vs.take (pos + 1)) = x :: xs) :
    Theta.cumulate f vs pos = .num (xs.foldl f x) := by
  unfold Theta.cumulate
  rw [nums_eq_numbers, hx]
  cases hv : vs.getD pos .null with
  | null => exact absurd hv h
  | _ => rfl

theorem runFold_eq_cumulate (f : Rat → Rat → Rat) (vs : List Val) (pos : Nat)
    (h : (vs.getD pos .null).isNull = false) : ThetaSql.runFold f vs pos = Theta.cumulate f vs pos := by
  unfold ThetaSql.runFold Theta.cumulate
  cases hv : vs.getD pos .null with
  | null => rw [hv] at h; cases h
  | _ => rfl

end DAVerif.RefSem
