import DAVerif.Proofs.BuilderReach
import DAVerif.Ops.PrintCalls
/-!
C12 – the builder normal form `NF`: every node is what the builder call printed for it returns on the node's own
source.  Every builder call preserves it (by cases on `Placed`, `Proofs/Built.lean`), and inside the guard `noRemerge`
evaluating the printed calls of a normal-form pipeline gives the pipeline back.

The builders look at a `partition_by` argument through its column list `pa.cols'` and the windowed situation
`stepWindowed ops pa od` only; the argument the printer writes (`printPart`) has both in common with the one given.
-/
namespace DAVerif.C12
open DAVerif Rules26

theorem cols'_printPart_of (part : List String) (w : Bool) (h : w = false → part = []) :
    (printPart part w).cols' = part := by
  cases w with
  | false => rw [h rfl]; rfl
  | true => cases part <;> rfl

theorem windowed_printPart (ops : Assign) (pa : PartArg) (od : List String) :
    stepWindowed ops (printPart pa.cols' (stepWindowed ops pa od)) od = stepWindowed ops pa od := by
  cases hW : stepWindowed ops pa od with
  | true =>
    rw [printPart, if_pos rfl]
    cases hp : pa.cols'.isEmpty with
    | true => simp only [stepWindowed, ↓reduceIte, Bool.or_true, Bool.true_or]
    | false => simp only [stepWindowed, Bool.false_eq_true, ↓reduceIte, hp, Bool.not_false, Bool.or_true, Bool.true_or]
  | false =>
    simp only [printPart, Bool.false_eq_true, ↓reduceIte]
    simp only [stepWindowed, Bool.or_eq_false_iff] at hW ⊢
    exact ⟨⟨hW.1.1, trivial⟩, hW.2⟩

theorem cols'_printPart (ops : Assign) (pa : PartArg) (od : List String) :
    (printPart pa.cols' (stepWindowed ops pa od)).cols' = pa.cols' := by
  apply cols'_printPart_of
  intro hW
  simp only [stepWindowed, Bool.or_eq_false_iff] at hW
  cases pa with
  | none => rfl
  | one => rfl
  | cols cs => simpa [PartArg.cols'] using hW.1.2

theorem extendPre_congr (cols : List String) (ops : Assign) (pa pa' : PartArg) (od rv : List String)
    (h : pa'.cols' = pa.cols') : extendPre cols ops pa' od rv = extendPre cols ops pa od rv := by
  simp only [extendPre, partCols_eq, h]

theorem extendChk_congr (sc : List String) (ops : Assign) (pa pa' : PartArg) (od rv : List String)
    (h : pa'.cols' = pa.cols') (hw : stepWindowed ops pa' od = stepWindowed ops pa od) :
    extendChk sc ops pa' od rv = extendChk sc ops pa od rv := by
  simp only [extendChk, h, hw]

theorem mkExtend_congr (src : Ops) (ops : Assign) (pa pa' : PartArg) (od rv : List String)
    (h : pa'.cols' = pa.cols') (hw : stepWindowed ops pa' od = stepWindowed ops pa od) :
    mkExtend src ops pa' od rv = mkExtend src ops pa od rv := by
  rw [mkExtend_eqC, mkExtend_eqC, extendChk_congr _ _ pa pa' _ _ h hw, h, hw]

theorem mergeInto_congr (a : Ops) (ops : Assign) (pa pa' : PartArg) (od rv : List String)
    (h : pa'.cols' = pa.cols') (hw : stepWindowed ops pa' od = stepWindowed ops pa od) :
    mergeInto a ops pa' od rv = mergeInto a ops pa od rv := by
  cases a with
  | extend src o1 p1 od1 rv1 w1 =>
    have : mergeCond p1 od1 rv1 w1 ops pa' od rv = mergeCond p1 od1 rv1 w1 ops pa od rv := by
      rw [Bool.eq_iff_iff, mergeCond_iff, mergeCond_iff, h, hw]
    simp only [mergeInto, this]
  | _ => rfl

theorem remerges_eq (s : Ops) (ops : Assign) (pa : PartArg) (od rv : List String) :
    remerges s ops pa od rv = (mergeInto s ops pa od rv).isSome := by
  cases s with
  | extend src ops1 part1 order1 rev1 w1 =>
    have h : remerges (.extend src ops1 part1 order1 rev1 w1) ops pa od rv =
        (mergeCond part1 order1 rev1 w1 ops pa od rv && (tryMergeOps ops1 ops).isSome) := by
      cases pa <;> rfl
    rw [h, mergeInto]
    cases mergeCond part1 order1 rev1 w1 ops pa od rv
    · rfl
    · simp only [Bool.true_and, if_true, Option.isSome_map]
  | _ => rfl

theorem remerges_printPart (s : Ops) (ops : Assign) (pa : PartArg) (od rv : List String) :
    remerges s ops (printPart pa.cols' (stepWindowed ops pa od)) od rv = remerges s ops pa od rv := by
  rw [remerges_eq, remerges_eq, mergeInto_congr _ _ pa _ _ _ (cols'_printPart ops pa od) (windowed_printPart ops pa od)]

theorem tryMergeOps_sublist {ops1 ops2 newOps : Assign} (h : tryMergeOps ops1 ops2 = some newOps) :
    ∃ kept : Assign, kept.Sublist ops1 ∧ newOps = kept ++ ops2 ∧
      (∀ k ∈ keys kept, k ∉ keys ops2) ∧ (∀ c ∈ usedBy kept, c ∉ keys ops2) ∧
      (∀ c ∈ usedBy ops2, c ∉ keys ops1) := by
  obtain ⟨rfl, hd2, hd⟩ := tryMergeOps_eq_some h
  refine ⟨_, List.filter_sublist, rfl, ?_, ?_, ?_⟩
  · intro k hk1
    obtain ⟨kv, hkv, rfl⟩ := List.mem_map.mp hk1
    simpa using (List.mem_filter.mp hkv).2
  · intro c hc
    exact disjoint_iff.mp hd c (mem_colsUsedOps.mpr (List.mem_flatMap.mp hc))
  · intro c hc
    exact disjoint_iff.mp hd2 c (mem_colsUsedOps.mpr (List.mem_flatMap.mp hc))

theorem assignOK_merge {sc : List String} {ops1 ops2 newOps : Assign}
    (h1 : AssignOK sc ops1) (h2 : AssignOK (appendNew sc (keys ops1)) ops2)
    (hm : tryMergeOps ops1 ops2 = some newOps) : AssignOK sc newOps := by
  obtain ⟨kept, hsl, rfl, hk, hu1, hu2⟩ := tryMergeOps_sublist hm
  obtain ⟨n1, c1, d1⟩ := h1
  obtain ⟨n2, c2, d2⟩ := h2
  have hsub : ∀ k ∈ keys kept, k ∈ keys ops1 := fun _ hk => (hsl.map _).subset hk
  refine ⟨?_, ?_, ?_⟩
  · simp only [keys, List.map_append]
    rw [List.nodup_append]
    exact ⟨n1.sublist (hsl.map _), n2, fun a ha b hb hab => hk a ha (hab ▸ hb)⟩
  · intro c hc
    simp only [usedBy, List.flatMap_append, List.mem_append] at hc
    rcases hc with hc | hc
    · obtain ⟨kv, hkv, hc⟩ := List.mem_flatMap.mp hc
      exact c1 c (List.mem_flatMap.mpr ⟨kv, hsl.subset hkv, hc⟩)
    · exact (mem_appendNew.mp (c2 c hc)).resolve_right (hu2 c hc)
  · intro kv hkv c hc hne
    simp only [keys, List.map_append, List.mem_append, not_or]
    rcases List.mem_append.mp hkv with hkv | hkv
    · exact ⟨fun hm' => d1 kv (hsl.subset hkv) c hc hne (hsub c hm'), hu1 c (List.mem_flatMap.mpr ⟨kv, hkv, hc⟩)⟩
    · exact ⟨fun hm' => hu2 c (List.mem_flatMap.mpr ⟨kv, hkv, hc⟩) (hsub c hm'), d2 kv hkv c hc hne⟩

theorem extendPre_merge {sc sc' : List String} {ops1 ops kept : Assign} {pa : PartArg} {od rv : List String}
    (h1 : extendPre sc ops1 pa od rv = .ok ()) (h2 : extendPre sc' ops pa od rv = .ok ())
    (hk : ∀ k ∈ keys kept, k ∈ keys ops1) : extendPre sc (kept ++ ops) pa od rv = .ok () := by
  rw [extendPre_ok_iff] at h1 h2 ⊢
  obtain ⟨p1, o1, r1, a1, b1, c1, e1⟩ := h1
  obtain ⟨_, _, _, a2, _, c2, _⟩ := h2
  have hkeys : ∀ k ∈ keys (kept ++ ops), k ∈ keys ops1 ∨ k ∈ keys ops := fun k hk' => by
    simp only [keys, List.map_append, List.mem_append] at hk'
    exact hk'.imp_left (hk k)
  exact ⟨p1, o1, r1, fun k hk' => (hkeys k hk').elim (a1 k) (a2 k), b1,
    fun k hk' => (hkeys k hk').elim (c1 k) (c2 k), e1⟩

/-- what an `ExtendNode` over `s` satisfies: non-empty assignments the parser accepts over `s`'s columns, the
argument checks of `extend_parsed_` and the constructor checks of `ExtendNode.__init__` pass for the *printed*
arguments, and the constructor returns exactly this node -/
def ExtLocal (s : Ops) (ops : Assign) (part order rev : List String) (w : Bool) : Prop :=
  ops ≠ [] ∧ parseAssignments s.cols ops = .ok ops ∧
  extendPre s.cols ops (printPart part w) order rev = .ok () ∧
  mkExtend s ops (printPart part w) order rev = .ok (.extend s ops part order rev w)

/-- **Builder normal form.**  At every node: the source is not an `order_rows` without limit (`strip s = s`: the
builders skip those), and the builder call printed for the node, applied to the node's own source, returns the
node.  For an extend node the last part is stated for the path that does not merge (`ExtLocal`); whether a merge
would happen is the guard `noRemerge`. -/
def NF : Ops → Prop
  | .table _ cs => cs ≠ [] ∧ cs.Nodup
  | .extend s ops part order rev w => NF s ∧ strip s = s ∧ ExtLocal s ops part order rev w
  | .project s ops g => NF s ∧ strip s = s ∧ build s (.project ops g) = .ok (.project s ops g)
  | .selectRows s e => NF s ∧ strip s = s ∧ build s (.selectRows (some e)) = .ok (.selectRows s e)
  | .selectCols s cs => NF s ∧ strip s = s ∧ build s (.selectCols cs) = .ok (.selectCols s cs)
  | .dropCols s cs => NF s ∧ strip s = s ∧ build s (.dropCols cs) = .ok (.dropCols s cs)
  | .order s cs rev lim => NF s ∧ strip s = s ∧ build s (.order cs rev lim) = .ok (.order s cs rev lim)
  | .rename s m => NF s ∧ strip s = s ∧ build s (.rename m) = .ok (.rename s m)
  | .mapCols s m dels => NF s ∧ strip s = s ∧ build s (.mapCols (printMap m dels)) = .ok (.mapCols s m dels)
  | .join a b onA onB jt => NF a ∧ strip a = a ∧ NF b ∧ onA.length = onB.length ∧
      build a (.join b onA onB jt.toStr false) = .ok (.join a b onA onB jt)
  | .concat a b idc an bn => NF a ∧ strip a = a ∧ NF b ∧
      build a (.concat (some b) idc an bn) = .ok (.concat a b idc an bn)
  | .convert s rm => NF s ∧ strip s = s ∧ build s (.convert (some rm)) = .ok (.convert s rm)

theorem NF.stripped {p : Ops} (h : NF p) : NF (strip p) :=
  strip_preserves (fun _ _ _ h => h.1) h

theorem NF.wf_table {n : String} {cs : List String} (h : NF (.table n cs)) : mkTable n cs = .ok (.table n cs) := by
  obtain ⟨h1, h2⟩ := h
  simp only [mkTable, List.isEmpty_eq_false_iff.mpr h1, Bool.not_false, nodupB_iff.mpr h2, ok?_true]
  rfl

theorem ExtLocal.assignOK {s : Ops} {ops : Assign} {part od rv : List String} {w : Bool}
    (h : ExtLocal s ops part od rv w) : AssignOK s.cols ops :=
  parseAssignments_ok_iff.mp h.2.1

/-- the `ExtendNode` of an accepted step over a source: the printer writes a partition argument that the parser, the
argument checks and the constructor treat like the given one -/
theorem extLocal_of_chk {s : Ops} {ops : Assign} {pa : PartArg} {od rv : List String} (hnn : ops ≠ [])
    (hk : AssignOK s.cols ops) (hpre : extendPre s.cols ops pa od rv = .ok ())
    (hc : extendChk s.cols ops pa od rv = .ok ()) : ExtLocal s ops pa.cols' od rv (stepWindowed ops pa od) := by
  refine ⟨hnn, parseAssignments_of_ok hk, ?_, ?_⟩
  · rw [extendPre_congr _ _ pa _ _ _ (cols'_printPart ops pa od)]; exact hpre
  · rw [mkExtend_congr _ _ pa _ _ _ (cols'_printPart ops pa od) (windowed_printPart ops pa od)]
    exact mkExtend_of_chk hc

theorem selectColsB_strip (p : Ops) (cs : List String) : selectColsB (strip p) cs = selectColsB p cs := by
  rw [selectColsB_eq, selectColsB_eq, Ops.selectGuards_strip, Ops.selectBase_strip]

theorem build_strip_mapCols (p : Ops) (m : List (String × Option String)) (h : m.isEmpty = false) :
    build (strip p) (.mapCols m) = build p (.mapCols m) :=
  build_strip (s := .mapCols m) h p

theorem build_strip_join (p b : Ops) (onA onB : List String) (jt : String) (c : Bool) :
    build (strip p) (.join b onA onB jt c) = build p (.join b onA onB jt c) :=
  build_strip (s := .join b onA onB jt c) rfl p

theorem build_strip_extend (p : Ops) (ops : Assign) (pa : PartArg) (order rev : List String) (hne : ops ≠ []) :
    build (strip p) (.extend ops pa order rev) = build p (.extend ops pa order rev) :=
  build_strip (s := .extend ops pa order rev) (List.isEmpty_eq_false_iff.mpr hne) p

theorem printMap_ne_nil {m : List (String × Option String)} (h : m ≠ []) : printMap (mapRemap m) (mapDels m) ≠ [] := by
  intro he
  simp only [printMap, List.append_eq_nil_iff, List.map_eq_nil_iff] at he
  have := mapRemap_mapDels_isEmpty m
  rw [he.1, he.2] at this
  exact h (List.isEmpty_iff.mp this.symm)

theorem mapColsChk_printMap (sc : List String) (m : List (String × Option String)) :
    mapColsChk sc (printMap (mapRemap m) (mapDels m)) = mapColsChk sc m :=
  (mapColsChk_canon sc _ _).trans (mapColsChk_eq sc m).symm

theorem build_nf {p : Ops} (hp : NF p) {s : Step} (hb : ∀ b ∈ stepArgs s, NF b) {q : Ops}
    (h : build p s = .ok q) : NF q := by
  rcases build_eq_ok.mp h with ⟨_, rfl⟩ | ⟨hk, hpl⟩
  · exact hp
  have ha := hp.stripped
  have hs := strip_idem p
  have hbd := hpl.build hk hs
  cases hpl with
  | extend hne hpre _ hc => exact ⟨ha, hs, extLocal_of_chk hne hk hpre hc⟩
  | merge hne hpre ht hm hc =>
    -- the merged node replaces the lower `extend` node, over that node's source
    rw [ht] at ha hk hpre
    obtain ⟨hsrc, hsst, hl⟩ := ha
    obtain ⟨kept, hsl, rfl, _⟩ := tryMergeOps_sublist hm
    have hpre1 := hl.2.2.1
    rw [extendPre_congr _ _ _ _ _ _ (cols'_printPart _ _ _)] at hpre1
    exact ⟨hsrc, hsst, extLocal_of_chk (fun he => hne (List.append_eq_nil_iff.mp he).2) (assignOK_merge hl.assignOK hk hm)
      (extendPre_merge hpre1 hpre fun _ hk' => (hsl.map _).subset hk') hc⟩
  | selectCols hg hc =>
    obtain ⟨_, _, hst⟩ := Ops.selectBase_fixed (strip p)
    exact ⟨Ops.selectBase_preserves (P := NF) (fun _ _ _ h => h.1) (fun _ _ h => h.1) (fun _ _ h => h.1) ha, hst,
      (Placed.selectBase (.selectCols hg hc)).build trivial hst⟩
  | mapCols hne hc =>
    have := (Placed.mapCols (printMap_ne_nil hne) ((mapColsChk_printMap _ _).trans hc)).build trivial hs
    simp only [printMap, mapRemap_canon, mapDels_canon] at this
    exact ⟨ha, hs, this⟩
  | join hc =>
    -- the printed call has the standardized join-type name and no key check
    obtain ⟨h1, h2, h3, h4, _, _, h7⟩ := joinChk_ok_iff.mp hc
    exact ⟨ha, hs, hb _ List.mem_cons_self, h2,
      (Placed.join (chk := false) (joinChk_ok_iff.mpr ⟨h1, h2, h3, h4, nofun, parse_toStr _, h7⟩)).build trivial hs⟩
  | concat => exact ⟨ha, hs, hb _ List.mem_cons_self, hbd⟩
  | _ => exact ⟨ha, hs, hbd⟩

theorem onLists_printOn {onA onB : List String} (h : onA.length = onB.length) :
    onLists (printOn onA onB) = (onA, onB) := by
  unfold onLists printOn
  have h1 : List.map (fun x : String × String => x.1) (onA.zip onB) = onA := by
    rw [← List.unzip_fst, List.unzip_zip_left (Nat.le_of_eq h)]
  have h2 : List.map (fun x : String × String => x.2) (onA.zip onB) = onB := by
    rw [← List.unzip_snd, List.unzip_zip_right (Nat.le_of_eq h.symm)]
  rw [h1, h2]

theorem build_extend_of_local {s : Ops} (hss : strip s = s) {ops : Assign} {part order rev : List String} {w : Bool}
    (hl : ExtLocal s ops part order rev w)
    (hg : remerges s ops (printPart part w) order rev = false) :
    build s (.extend ops (printPart part w) order rev) = .ok (.extend s ops part order rev w) := by
  have hmk := hl.2.2.2
  rw [mkExtend_eqC, bind_ok_node] at hmk
  rw [remerges_eq, Option.isSome_eq_false_iff, Option.isNone_iff_eq_none] at hg
  exact hmk.2 ▸ (Placed.extend hl.1 hl.2.2.1 hg hmk.1).build hl.assignOK hss

theorem rebuild_of_nf (p : Ops) (h : NF p) (g : noRemerge p = true) : rebuild (toCalls p) = .ok p := by
  induction p with
  | table n cs => exact h.wf_table
  | extend s ops part order rev w ih =>
    simp only [noRemerge, Bool.and_eq_true, Bool.not_eq_eq_eq_not, Bool.not_true] at g
    simp only [toCalls, rebuild, ih h.1 g.1, ok_bind, Call.toStep]
    exact build_extend_of_local h.2.1 h.2.2 g.2
  | project s _ _ ih | selectRows s _ ih | selectCols s _ ih | dropCols s _ ih | order s _ _ _ ih | rename s _ ih
  | mapCols s _ _ ih | convert s _ ih =>
    simp only [toCalls, rebuild, ih h.1 g, ok_bind, Call.toStep]
    exact h.2.2
  | join a b onA onB jt iha ihb =>
    simp only [noRemerge, Bool.and_eq_true] at g
    obtain ⟨ha, _, hb, hlen, hbuild⟩ := h
    simp only [toCalls, rebuild, iha ha g.1, ihb hb g.2, ok_bind, onLists_printOn hlen]
    exact hbuild
  | concat a b idc an bn iha ihb =>
    simp only [noRemerge, Bool.and_eq_true] at g
    obtain ⟨ha, _, hb, hbuild⟩ := h
    simp only [toCalls, rebuild, iha ha g.1, ihb hb g.2, ok_bind]
    exact hbuild

theorem rebuildChain_call (r : Printed) (c : Call) :
    rebuildChain (.call r c) = (rebuildChain r >>= fun p => build p c.toStep) := by
  simp only [rebuildChain, Printed.steps, Printed.start, bind_assoc, pure_bind, buildChain_snoc]

theorem rebuild_iff_chain (pr : Printed) (q : Ops) : rebuild pr = .ok q ↔ rebuildChain pr = .ok q := by
  induction pr generalizing q with
  | table n cs =>
    simp only [rebuild, rebuildChain, Printed.steps, Printed.start, ok_bind, buildChain, List.foldlM_nil, bind_pure]
  | call r c ih =>
    rw [rebuildChain_call]
    simp only [rebuild]
    rw [bind_eq_ok, bind_eq_ok]
    constructor
    · rintro ⟨a, h1, h2⟩; exact ⟨a, (ih a).mp h1, h2⟩
    · rintro ⟨a, h1, h2⟩; exact ⟨a, (ih a).mpr h1, h2⟩
  | join r b _ _ ihr _ | concat r b _ _ _ ihr _ =>
    simp only [rebuild, rebuildChain, Printed.steps, Printed.start, bind_assoc, pure_bind, buildChain_snoc]
    constructor
    · intro h
      obtain ⟨a, h1, h⟩ := bind_eq_ok.mp h
      obtain ⟨b', h2, h⟩ := bind_eq_ok.mp h
      have h1' := (ihr a).mp h1
      simp only [rebuildChain] at h1'
      obtain ⟨ss, hs, h1'⟩ := bind_eq_ok.mp h1'
      rw [hs, ok_bind, h2, ok_bind]
      obtain ⟨t, ht, h1'⟩ := bind_eq_ok.mp h1'
      rw [ht, ok_bind, h1', ok_bind]
      exact h
    · intro h
      obtain ⟨ss, hs, h⟩ := bind_eq_ok.mp h
      obtain ⟨b', h2, h⟩ := bind_eq_ok.mp h
      obtain ⟨t, ht, h⟩ := bind_eq_ok.mp h
      obtain ⟨a, ha, h⟩ := bind_eq_ok.mp h
      have h1 : rebuild r = .ok a := (ihr a).mpr (by simp only [rebuildChain, hs, ok_bind, ht, ha])
      rw [h1, ok_bind, h2, ok_bind]
      exact h

theorem noRemerge_strip {p : Ops} (h : noRemerge p = true) : noRemerge (strip p) = true :=
  strip_preserves (P := (noRemerge · = true)) (fun _ _ _ h => h) h

end DAVerif.C12
