import DAVerif.Generated.SqlFormatters
import DAVerif.Sem.ThetaC05
/-!
C05, SQL formatters: the definitions the statements of `Props/C05.lean` use (rows binding the symbolic columns, kinds of
cells, the two dialects) and lemmas about the generated table and its ASTs.
-/
namespace DAVerif
open DAVerif.Sql3

def numOrNull : Val → Bool
  | .null => true
  | .num _ => true
  | _ => false

/-- a row: the symbolic columns of the extracted formatter bound to cells -/
def env (l : List (String × Val)) : String → Val := fun n => (l.lookup n).getD .null

def boolOrNull : Val → Bool
  | .null => true
  | .bool _ => true
  | _ => false

/-- the two dialects whose formatters are extracted -/
def Dialect (d : String) : Prop := d = "sqlite" ∨ d = "postgres"

def ob : Option Bool → Val
  | none => .null
  | some b => .bool b

theorem boolOrNull_cases {c : Val} (h : boolOrNull c = true) : c = .null ∨ c = .bool true ∨ c = .bool false := by
  cases c with
  | null => exact Or.inl rfl
  | bool b => cases b <;> simp
  | num q => simp [boolOrNull] at h
  | str s => simp [boolOrNull] at h

theorem numOrNull_cases {x : Val} (h : numOrNull x = true) : x = .null ∨ ∃ q, x = .num q := by
  cases x with
  | null => exact Or.inl rfl
  | num q => exact Or.inr ⟨q, rfl⟩
  | bool b => simp [numOrNull] at h
  | str s => simp [numOrNull] at h

theorem lookup_map_key {κ ι β : Type} [BEq κ] [BEq ι] (f : ι → κ) (hf : ∀ a b, (f a == f b) = (a == b)) (k : ι)
    (S : List (ι × β)) : List.lookup (f k) (S.map fun p => (f p.1, p.2)) = List.lookup k S := by
  induction S with
  | nil => rfl
  | cons p r ih => obtain ⟨a, b⟩ := p; simp only [List.map_cons, List.lookup_cons, hf, ih]

theorem lookup_map_ne {κ ι β : Type} [BEq κ] (f g : ι → κ) (hfg : ∀ a b, (f a == g b) = false) (k : ι)
    (S : List (ι × β)) : List.lookup (f k) (S.map fun p => (g p.1, p.2)) = none := by
  induction S with
  | nil => rfl
  | cons p r ih => simp only [List.map_cons, List.lookup_cons, hfg, ih]

/-- the operators of the regenerated table, each with the AST of its SQLite formatter.  27 = the number of operators
extracted per dialect: the table lists the SQLite entries first, then the PostgreSQL ones; `formatterTable_eq` below
fails when that count or layout changes. -/
def C05.formatterOps : List (String × SqlExpr) := (Gen.formatterTable.take 27).map fun p => (p.1.2, p.2)

/-- the table lists the same operators with the same ASTs under both dialects (checked by `rfl` against the table as
regenerated: a formatter that comes to differ between the dialects makes this fail) -/
theorem C05.formatterTable_eq : Gen.formatterTable =
    (C05.formatterOps.map fun p => (("sqlite", p.1), p.2)) ++ (C05.formatterOps.map fun p => (("postgres", p.1), p.2)) := by
  rfl

theorem C05.formatter_postgres (op : String) : Gen.formatter "postgres" op = Gen.formatter "sqlite" op := by
  unfold Gen.formatter
  rw [C05.formatterTable_eq, List.lookup_append, List.lookup_append,
    lookup_map_ne (fun o => ("postgres", o)) (fun o => ("sqlite", o)) (fun _ _ => rfl) op,
    lookup_map_ne (fun o => ("sqlite", o)) (fun o => ("postgres", o)) (fun _ _ => rfl) op,
    lookup_map_key (fun o => ("postgres", o)) (fun _ _ => rfl) op,
    lookup_map_key (fun o => ("sqlite", o)) (fun _ _ => rfl) op]
  simp

/-- a theorem about the formatter of a dialect is proved about the one AST; the `rfl` at a use looks the operator up
in the regenerated table -/
theorem C05.formatter_eq {d op : String} {e : SqlExpr} (hd : Dialect d) (hs : Gen.formatter "sqlite" op = e) :
    Gen.formatter d op = e := by
  rcases hd with rfl | rfl
  · exact hs
  · exact (C05.formatter_postgres op).trans hs

theorem fmt_max_closed (x y : Rat) :
    evalSql3 Gen.fmt_sqlite_maximum (env [("x", .num x), ("y", .num y)]) =
    (match (some (!decide (x < y)) : Option Bool) with
     | some true => Val.num x
     | _ => match truth (not3 (.bool (!decide (x < y)))) with | some true => .num y | _ => .null) := by rfl

theorem fmt_min_closed (x y : Rat) :
    evalSql3 Gen.fmt_sqlite_minimum (env [("x", .num x), ("y", .num y)]) =
    (match (some (!decide (y < x)) : Option Bool) with
     | some true => Val.num x
     | _ => match truth (not3 (.bool (!decide (y < x)))) with | some true => .num y | _ => .null) := by rfl

theorem fmt_fmax_closed (x y : Rat) :
    evalSql3 Gen.fmt_sqlite_fmax (env [("x", .num x), ("y", .num y)]) =
    (match truth (or3 (.bool false) (.bool (!decide (x < y)))) with
     | some true => Val.num x
     | _ => match truth (or3 (.bool false) (.bool (!decide (y < x)))) with | some true => .num y | _ => .null) := by rfl

theorem fmt_fmin_closed (x y : Rat) :
    evalSql3 Gen.fmt_sqlite_fmin (env [("x", .num x), ("y", .num y)]) =
    (match truth (or3 (.bool false) (.bool (!decide (y < x)))) with
     | some true => Val.num x
     | _ => match truth (or3 (.bool false) (.bool (!decide (x < y)))) with | some true => .num y | _ => .null) := by rfl

theorem coalesce2 (x y : Val) : Sql3.coalesce [x, y] = (if x.isNull then y else x) := by
  cases x <;> cases y <;> rfl

theorem eqv_valEq (a b : Val) : eqv a b = Theta.valEq a b := by cases a <;> cases b <;> rfl

theorem in3_noNull (a : Val) (items : List Val) (h : items.all (fun v => !v.isNull) = true) :
    in3 a items = if a.isNull then .null else .bool (items.any (fun v => Theta.valEq a v)) := by
  have h1 : items.any (fun v => !v.isNull && Theta.valEq a v) = items.any (fun v => Theta.valEq a v) := by
    induction items with
    | nil => rfl
    | cons x r ih =>
      simp only [List.all_cons, Bool.and_eq_true] at h
      simp only [List.any_cons, h.1, Bool.true_and, ih h.2]
  have h2 : items.any (fun v => v.isNull) = false :=
    List.any_eq_false.mpr fun x hx => by simpa using List.all_eq_true.mp h x hx
  unfold in3
  simp only [eqv_valEq]
  rw [h1, h2]
  cases a.isNull <;> cases items.any (fun v => Theta.valEq a v) <;> rfl

theorem cmp3_eq (cop : CmpOp) (f : Val → Val → Bool) (h : ∀ a b, cmpVal cop a b = f a b) (x y : Val) :
    Sql3.cmp3 cop x y = ThetaSql.cmp3 f x y := by
  unfold Sql3.cmp3 ThetaSql.cmp3; rw [h]

theorem ob_of_boolOrNull {c : Val} (h : boolOrNull c = true) : ∃ o, c = ob o := by
  rcases boolOrNull_cases h with rfl | rfl | rfl
  · exact ⟨none, rfl⟩
  · exact ⟨some true, rfl⟩
  · exact ⟨some false, rfl⟩

theorem and3_pair (a b : Option Bool) : Sql3.and3 (ob a) (ob b) = ThetaSql.and3 [ob a, ob b] := by
  rcases a with _ | _ | _ <;> rcases b with _ | _ | _ <;> rfl

theorem or3_pair (a b : Option Bool) : Sql3.or3 (ob a) (ob b) = ThetaSql.or3 [ob a, ob b] := by
  rcases a with _ | _ | _ <;> rcases b with _ | _ | _ <;> rfl

theorem and3_triple (a b c : Option Bool) :
    Sql3.and3 (Sql3.and3 (ob a) (ob b)) (ob c) = ThetaSql.and3 [ob a, ob b, ob c] := by
  rcases a with _ | _ | _ <;> rcases b with _ | _ | _ <;> rcases c with _ | _ | _ <;> rfl

theorem or3_triple (a b c : Option Bool) :
    Sql3.or3 (Sql3.or3 (ob a) (ob b)) (ob c) = ThetaSql.or3 [ob a, ob b, ob c] := by
  rcases a with _ | _ | _ <;> rcases b with _ | _ | _ <;> rcases c with _ | _ | _ <;> rfl

end DAVerif
