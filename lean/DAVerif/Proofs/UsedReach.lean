import DAVerif.Proofs.Built
import DAVerif.Proofs.UsedTop
/-!
C10: every pipeline the builders produce satisfies the structural hypotheses of the C10 theorems (`UsedWF`, distinct
result columns), and `columns_used` never raises on it.  `NodeOK` / `AllOK` is what the node constructors check, as far
as C10 needs it.  A builder call that succeeds returns its receiver or one of the nodes `Placed` lists, with the checks
that passed (`build_eq_ok`, `Proofs/Built.lean`); `build_ok` reads `NodeOK` of the new node off them.
-/
namespace DAVerif
open Ops

/-- the checks of the node constructors that C10 uses (top node only) -/
def NodeOK : Ops → Prop
  | .table _ cs => cs.Nodup
  | .extend s ops part od rv _ =>
    (∀ c ∈ Term.colsUsedOps ops, c ∈ s.cols) ∧ (∀ c ∈ part, c ∈ s.cols) ∧ (∀ c ∈ od, c ∈ s.cols) ∧
      disjoint (ops.map (·.1)) (part ++ od ++ rv) = true
  | .project s ops g => (∀ c ∈ g ++ Term.colsUsedOps ops, c ∈ s.cols) ∧ g.Nodup
  | .selectRows s e => ∀ c ∈ e.colsRaw, c ∈ s.cols
  | .selectCols s cs => (∀ c ∈ cs, c ∈ s.cols) ∧ cs.Nodup
  | .dropCols _ _ => True
  | .order s cs _ _ => ∀ c ∈ cs, c ∈ s.cols
  | n@(.rename s m) => (∀ k ∈ s.cols, renBack m (renFwd m k) = k) ∧ n.cols.Nodup
  | n@(.mapCols s m ds) => (∀ k ∈ s.cols, k ∉ ds → renFwd m (renBack m k) = k) ∧ (∀ c ∈ ds, c ∈ s.cols) ∧ n.cols.Nodup
  | .join a b oa ob _ => (∀ c ∈ oa, c ∈ a.cols) ∧ (∀ c ∈ ob, c ∈ b.cols)
  | .concat a _ idc _ _ => ∀ c, idc = some c → c ∉ a.cols
  | .convert s rm => (∀ c ∈ rm.needed, c ∈ s.cols) ∧ rm.produced.Nodup

/-- every node of the pipeline passes its constructor's checks -/
def AllOK : Ops → Prop
  | n@(.table _ _) => NodeOK n
  | n@(.extend s _ _ _ _ _) | n@(.project s _ _) | n@(.selectRows s _) | n@(.selectCols s _) | n@(.dropCols s _)
  | n@(.order s _ _ _) | n@(.rename s _) | n@(.mapCols s _ _) | n@(.convert s _) => NodeOK n ∧ AllOK s
  | n@(.join a b _ _ _) | n@(.concat a b _ _ _) => NodeOK n ∧ AllOK a ∧ AllOK b

theorem AllOK.usedWF : ∀ (p : Ops), AllOK p → UsedWF p := by
  intro p
  induction p with
  | table k cs => intro _; trivial
  | extend s ops part od rv w ih =>
    intro h
    refine ⟨ih h.2, fun _ => ?_⟩
    apply disjoint_iff.mpr
    intro c hc hm
    exact disjoint_iff.mp h.1.2.2.2 c hc (List.mem_append_left _ hm)
  | project s ops g ih => intro h; exact ih h.2
  | selectRows s e ih => intro h; exact ih h.2
  | selectCols s cs ih => intro h; exact ih h.2
  | dropCols s ds ih => intro h; exact ih h.2
  | order s cs rv lim ih => intro h; exact ih h.2
  | rename s m ih => intro h; exact ⟨ih h.2, h.1.1⟩
  | mapCols s m ds ih => intro h; exact ⟨ih h.2, h.1.1⟩
  | convert s rm ih => intro h; exact ih h.2
  | join a b oa ob jt iha ihb => intro h; exact ⟨iha h.2.1, ihb h.2.2⟩
  | concat a b idc an bn iha ihb => intro h; exact ⟨iha h.2.1, ihb h.2.2⟩

theorem AllOK.cols_nodup : ∀ (p : Ops), AllOK p → p.cols.Nodup := by
  intro p
  induction p with
  | table k cs => intro h; exact h
  | extend s ops part od rv w ih => intro h; exact appendNew_nodup (ih h.2)
  | project s ops g ih => intro h; exact appendNew_nodup h.1.2
  | selectRows s e ih => intro h; exact ih h.2
  | selectCols s cs ih => intro h; exact h.1.2
  | dropCols s ds ih => intro h; exact (ih h.2).filter _
  | order s cs rv lim ih => intro h; exact ih h.2
  | rename s m ih => intro h; exact h.1.2
  | mapCols s m ds ih => intro h; exact h.1.2.2
  | convert s rm ih => intro h; exact h.1.2
  | join a b oa ob jt iha ihb =>
    intro h
    simp only [Ops.cols]
    split
    · exact iha h.2.1
    · split
      · exact ihb h.2.2
      · exact appendNew_nodup (iha h.2.1)
  | concat a b idc an bn iha ihb =>
    intro h
    simp only [Ops.cols]
    cases idc with
    | none => exact iha h.2.1
    | some c =>
      rw [List.nodup_append]
      refine ⟨iha h.2.1, (by simp), ?_⟩
      intro x hx y hy
      simp only [List.mem_singleton] at hy
      subst hy
      intro e; subst e
      exact h.1 x rfl hx

theorem ok?_true_u {e : Err} {β : Type} (k : Unit → Except Err β) : (ok? true e >>= k) = k () := rfl

theorem allOK_un {n s : Ops} (hn : n.sources = [s]) : AllOK n ↔ NodeOK n ∧ AllOK s := by
  cases n <;> cases hn <;> exact Iff.rfl

theorem allOK_bin {n a b : Ops} (hn : n.sources = [a, b]) : AllOK n ↔ NodeOK n ∧ AllOK a ∧ AllOK b := by
  cases n <;> cases hn <;> exact Iff.rfl

/-- what a checked node asks of its sources lies inside their columns -/
theorem NodeOK.requests {n : Ops} (h : NodeOK n) {u : List String} (hu : ∀ c ∈ u, c ∈ n.cols) :
    match n.sources with
    | [s] => ∀ c ∈ (usedFromSources n u).headD [], c ∈ s.cols
    | [a, b] => (∀ c ∈ (usedFromSources n u).headD [], c ∈ a.cols) ∧
        ∀ c ∈ ((usedFromSources n u).drop 1).headD [], c ∈ b.cols
    | _ => True := by
  cases n with
  | table k cs => trivial
  | extend s ops part od rv w =>
    obtain ⟨v, hv, hvs, _⟩ := used_extend s ops part od rv w u
    simp only [Ops.sources, hv, List.headD_cons]
    exact hvs
  | project s ops g =>
    intro c hc
    rcases mem_unionL.mp hc with h1 | h1
    · exact h.1 c (List.mem_append_left _ h1)
    · obtain ⟨kv, hkv, hc'⟩ := mem_colsUsedOps.mp h1
      exact h.1 c (List.mem_append_right _ (mem_colsUsedOps.mpr ⟨kv, (List.mem_filter.mp hkv).1, hc'⟩))
  | selectRows s e =>
    intro c hc
    rcases mem_unionL.mp hc with h1 | h1
    · exact (List.mem_filter.mp h1).1
    · exact h c (List.mem_eraseDups.mp h1)
  | selectCols s cs => exact fun c hc => h.1 c (List.mem_filter.mp hc).1
  | dropCols s ds => exact fun c hc => (List.mem_filter.mp (hu c (List.mem_filter.mp hc).1)).1
  | order s cs rv lim =>
    intro c hc
    rcases mem_unionL.mp hc with h1 | h1
    · exact (List.mem_filter.mp h1).1
    · exact h c h1
  | rename s m =>
    intro c hc
    obtain ⟨c0, hc0, rfl⟩ := List.mem_map.mp (List.mem_eraseDups.mp hc)
    obtain ⟨k0, hk0, rfl⟩ := List.mem_map.mp (hu c0 hc0)
    show renBack m (renFwd m k0) ∈ s.cols
    rw [h.1 k0 hk0]
    exact hk0
  | mapCols s m ds =>
    intro c hc
    rcases mem_unionL.mp hc with h1 | h1
    · obtain ⟨c0, hc0, rfl⟩ := List.mem_map.mp (List.mem_eraseDups.mp h1)
      obtain ⟨k0, hk0, rfl⟩ := List.mem_map.mp (hu c0 hc0)
      rw [mem_filter_not_contains] at hk0
      show renFwd m (renBack m k0) ∈ s.cols
      rw [h.1 k0 hk0.1 hk0.2]
      exact hk0.1
    · exact h.2.1 c h1
  | convert s rm => exact h.1
  | join a b oa ob jt => exact ⟨fun c hc => (List.mem_filter.mp hc).1, fun c hc => (List.mem_filter.mp hc).1⟩
  | concat a b idc an bn => exact ⟨fun c hc => (List.mem_filter.mp hc).1, fun c hc => (List.mem_filter.mp hc).1⟩

/-- **`columns_used` is total on well-built pipelines**: a request inside the node's columns never raises -/
theorem AllOK.columnsUsedAux_ok (p : Ops) : AllOK p → ∀ (u : List String) (acc : Used),
    (∀ c ∈ u, c ∈ p.cols) → ∃ acc', columnsUsedAux p u acc = .ok acc' := by
  induction p using Ops.sources_induction with
  | table k cs => exact fun _ u acc hu => ⟨_, columnsUsedAux_table.mpr ⟨hu, rfl⟩⟩
  | un n s hn ih =>
    intro h u acc hu
    obtain ⟨h0, hs⟩ := (allOK_un hn).mp h
    have hr := h0.requests hu
    rw [hn] at hr
    obtain ⟨acc', h'⟩ := ih hs _ acc hr
    exact ⟨acc', (columnsUsedAux_un hn).mpr ⟨hu, h'⟩⟩
  | bin n a b hn iha ihb =>
    intro h u acc hu
    obtain ⟨h0, ha, hb⟩ := (allOK_bin hn).mp h
    have hr := h0.requests hu
    rw [hn] at hr
    obtain ⟨acc1, h1⟩ := iha ha _ acc hr.1
    obtain ⟨acc', h2⟩ := ihb hb _ acc1 hr.2
    exact ⟨acc', (columnsUsedAux_bin hn).mpr ⟨hu, acc1, h1, h2⟩⟩

theorem AllOK.columnsUsed_ok {p : Ops} (h : AllOK p) : ∃ U, columnsUsed p = .ok U :=
  h.columnsUsedAux_ok p p.cols _ (fun _ hc => hc)

theorem mem_of_lookupLast_swap {m : List (String × String)} {k n : String}
    (h : lookupLast (m.map (fun kv => (kv.2, kv.1))) k = some n) : (n, k) ∈ m := by
  have := lookupLast_mem h
  obtain ⟨kv, hkv, e⟩ := List.mem_map.mp this
  simp only [Prod.mk.injEq] at e
  obtain ⟨rfl, rfl⟩ := e
  exact hkv

theorem lookupLast_swap_none {m : List (String × String)} {k : String}
    (h : lookupLast (m.map (fun kv => (kv.2, kv.1))) k = none) : k ∉ m.map (·.2) := by
  intro hk
  obtain ⟨kv, hkv, rfl⟩ := List.mem_map.mp hk
  exact lookupLast_eq_none_iff.mp h (List.mem_map.mpr ⟨_, List.mem_map.mpr ⟨kv, hkv, rfl⟩, rfl⟩)

/-- `RenameColumnsNode`: after the collision check (a source column that is a new name is itself renamed), following
a source column forward and back returns it -/
theorem rename_inverse (sc : List String) (m : List (String × String)) (hk : (m.map (·.1)).Nodup)
    (hcoll : ∀ c ∈ sc, c ∈ m.map (·.1) → c ∈ m.map (·.2)) : ∀ k ∈ sc, renBack m (renFwd m k) = k := by
  intro k hks
  simp only [renBack, renFwd]
  cases hl : lookupLast (m.map (fun kv => (kv.2, kv.1))) k with
  | some n =>
    simp only [Option.getD_some]
    rw [lookupLast_of_nodup hk (mem_of_lookupLast_swap hl)]
    rfl
  | none =>
    simp only [Option.getD_none]
    cases hl2 : lookupLast m k with
    | none => rfl
    | some o => exact absurd (hcoll k hks (List.mem_map.mpr ⟨_, lookupLast_mem hl2, rfl⟩)) (lookupLast_swap_none hl)

/-- `MapColumnsNode`: with distinct result columns and the collision check, following a kept source column forward
and back returns it (`m`: old ↦ new for the remapped columns, `ds` the deleted ones, disjoint from `m`'s keys) -/
theorem mapcols_inverse (sc : List String) (m : List (String × String)) (ds : List String)
    (hk : (m.map (·.1)).Nodup) (horig : ∀ c ∈ m.map (·.1), c ∈ sc) (hdis : ∀ c ∈ m.map (·.1), c ∉ ds)
    (hnd : ((sc.filter (fun c => !ds.contains c)).map (renBack m)).Nodup) :
    ∀ k ∈ sc, k ∉ ds → renFwd m (renBack m k) = k := by
  intro k hks hkd
  have hkin : k ∈ sc.filter (fun c => !ds.contains c) := mem_filter_not_contains.mpr ⟨hks, hkd⟩
  simp only [renFwd]
  cases hl : lookupLast (m.map (fun kv => (kv.2, kv.1))) (renBack m k) with
  | some k' =>
    simp only [Option.getD_some]
    -- (k', renBack m k) ∈ m, so renBack m k' = renBack m k, and both are kept source columns
    have hm := mem_of_lookupLast_swap hl
    have hk'key : k' ∈ m.map (·.1) := List.mem_map.mpr ⟨_, hm, rfl⟩
    have e : renBack m k' = renBack m k := by
      simp only [renBack]
      rw [lookupLast_of_nodup hk hm]; rfl
    have hk'in : k' ∈ sc.filter (fun c => !ds.contains c) :=
      mem_filter_not_contains.mpr ⟨horig k' hk'key, hdis k' hk'key⟩
    exact inj_of_nodup_map hnd k' hk'in k hkin e
  | none =>
    simp only [Option.getD_none]
    simp only [renBack]
    cases hl2 : lookupLast m k with
    | none => rfl
    | some n =>
      -- k ↦ n, and n is nobody's image?  then n = renBack m k is not a new name: contradiction
      have hn : renBack m k = n := by rw [renBack, hl2]; rfl
      rw [hn] at hl
      exact absurd (List.mem_map.mpr ⟨_, lookupLast_mem hl2, rfl⟩) (lookupLast_swap_none hl)


/-- argument conditions of a builder call: `b` sides are themselves well built; rename / map_columns arguments are
Python dicts (no repeated key) -/
def StepOK (R : Ops → Prop) : Step → Prop
  | .join b _ _ _ _ => R b
  | .concat (some b) _ _ _ => R b
  | .rename m => (m.map (·.1)).Nodup
  | .mapCols m => (m.map (·.1)).Nodup
  | _ => True

theorem filterMap_keys (m : List (String × Option String)) :
    (m.filterMap (fun kv => kv.2.map (fun v => (kv.1, v)))).map (·.1) =
      (m.filter (fun kv => kv.2.isSome)).map (·.1) := by
  induction m with
  | nil => rfl
  | cons kv m ih =>
    obtain ⟨k, v⟩ := kv
    cases v <;> simp [ih]

theorem AllOK.stripped {p : Ops} (h : AllOK p) : AllOK (strip p) :=
  strip_preserves (P := AllOK) (fun _ _ _ h => h.2) h

theorem AllOK.of_order {src : Ops} {cs rv : List String} {lim : Option Nat} (h : AllOK (.order src cs rv lim)) :
    AllOK src := h.2

theorem build_ok {self q : Ops} {s : Step} (hs : AllOK self) (hst : StepOK AllOK s) (h : build self s = .ok q) :
    AllOK q := by
  rcases build_eq_ok.mp h with ⟨_, rfl⟩ | ⟨hk, hpl⟩
  · exact hs
  clear h
  have ha := hs.stripped
  have ext : ∀ {src ops pa od rv} (w : Bool), AllOK src → extendChk src.cols ops pa od rv = .ok () →
      AllOK (.extend src ops pa.cols' od rv w) := by
    intro src ops pa od rv w hsrc h
    obtain ⟨h1, -, -, -, h5, h6, -, h8, -⟩ := extendChk_ok_iff.mp h
    exact ⟨⟨h1, h5, h6, disjoint_iff.mpr h8⟩, hsrc⟩
  cases hpl with
  | extend _ _ _ h => exact ext _ ha h
  | merge _ _ e _ h => exact ext _ (e ▸ ha : AllOK (.extend ..)).2 h
  | project _ h => exact ⟨⟨(projectChk_ok_iff.mp h).1, (projectChk_ok_iff.mp h).2.1⟩, ha⟩
  | selectRows => exact ⟨hk, ha⟩
  | selectCols _ h =>
    exact ⟨⟨(selectChk_ok_iff.mp h).2.1, (selectChk_ok_iff.mp h).2.2⟩,
      selectBase_preserves (P := AllOK) (fun _ _ _ h => h.2) (fun _ _ h => h.2) (fun _ _ h => h.2) ha⟩
  | dropCols => exact ⟨trivial, ha⟩
  | order _ h => exact ⟨(orderChk_ok_iff.mp h).1, ha⟩
  | rename _ h =>
    obtain ⟨-, h2, h3⟩ := renameChk_ok_iff.mp h
    exact ⟨⟨rename_inverse _ _ hst h2, h3⟩, ha⟩
  | @mapCols m _ h =>
    obtain ⟨h1, -, -, h4⟩ := mapColsChk_ok_iff.mp h
    have h1 : ∀ c ∈ m.map (·.1), c ∈ (strip self).cols := List.forall_mem_map.mpr h1
    have hsub : ∀ (P : String × Option String → Bool) c, c ∈ (m.filter P).map (·.1) → c ∈ m.map (·.1) :=
      fun P c hc => (List.filter_sublist.map _).subset hc
    refine ⟨⟨?_, fun c hc => h1 c (hsub _ c hc), h4⟩, ha⟩
    apply mapcols_inverse _ _ _ ?_ ?_ ?_ h4
    · rw [mapRemap, filterMap_keys]
      exact (List.filter_sublist.map _).nodup hst
    · intro c hc
      rw [mapRemap, filterMap_keys] at hc
      exact h1 c (hsub _ c hc)
    · intro c hc hd
      rw [mapRemap, filterMap_keys] at hc
      obtain ⟨kv, hkv, e1⟩ := List.mem_map.mp hc
      obtain ⟨kv', hkv', e2⟩ := List.mem_map.mp hd
      obtain ⟨hm, hsome⟩ := List.mem_filter.mp hkv
      obtain ⟨hm', hnone⟩ := List.mem_filter.mp hkv'
      -- the same key with a value and without one: impossible for distinct keys
      cases inj_of_nodup_map hst kv hm kv' hm' (e1.trans e2.symm)
      cases hv : kv.2 <;> simp [hv] at hsome hnone
  | join h => exact ⟨⟨(joinChk_ok_iff.mp h).2.2.1, (joinChk_ok_iff.mp h).2.2.2.1⟩, ha, hst⟩
  | concat h => exact ⟨(concatChk_ok_iff.mp h).2.2, ha, hst⟩
  | convert h => exact ⟨⟨(convertChk_ok_iff.mp h).1, (convertChk_ok_iff.mp h).2.2⟩, ha⟩

/-- builder calls without a pipeline argument; rename / map_columns arguments are Python dicts (no repeated key) -/
def SimpleStep : Step → Prop
  | .join _ _ _ _ _ => False
  | .concat (some _) _ _ _ => False
  | .rename m => (m.map (·.1)).Nodup
  | .mapCols m => (m.map (·.1)).Nodup
  | _ => True

/-- the pipelines the library can build: table descriptions with distinct column names, closed under the builder
calls (`b` arguments of joins / concats built the same way) -/
inductive ReachableU : Ops → Prop
  | table (k : String) (cs : List String) : cs.Nodup → ReachableU (.table k cs)
  | step {p q : Ops} {s : Step} : ReachableU p → SimpleStep s → build p s = .ok q → ReachableU q
  | join {p b q : Ops} {oa ob : List String} {jt : String} {chk : Bool} : ReachableU p → ReachableU b →
      build p (.join b oa ob jt chk) = .ok q → ReachableU q
  | concat {p b q : Ops} {idc : Option String} {an bn : String} : ReachableU p → ReachableU b →
      build p (.concat (some b) idc an bn) = .ok q → ReachableU q

theorem stepOK_of_simple {s : Step} (h : SimpleStep s) : StepOK AllOK s := by
  cases s with
  | join b oa ob jt chk => exact absurd h (by simp [SimpleStep])
  | concat b idc an bn =>
    cases b with
    | none => trivial
    | some b => exact absurd h (by simp [SimpleStep])
  | rename m => exact h
  | mapCols m => exact h
  | extend _ _ _ _ => trivial
  | project _ _ => trivial
  | selectRows _ => trivial
  | selectCols _ => trivial
  | dropCols _ => trivial
  | order _ _ _ => trivial
  | convert _ => trivial

theorem ReachableU.allOK {p : Ops} (h : ReachableU p) : AllOK p := by
  induction h with
  | table k cs hn => exact hn
  | step _ hst hb ih => exact build_ok ih (stepOK_of_simple hst) hb
  | join _ _ hb ihp ihb => exact build_ok (s := Step.join _ _ _ _ _) ihp ihb hb
  | concat _ _ hb ihp ihb => exact build_ok (s := Step.concat (some _) _ _ _) ihp ihb hb

end DAVerif
