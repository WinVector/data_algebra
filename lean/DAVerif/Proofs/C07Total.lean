import DAVerif.Proofs.C07Compose
/-!
C07: totality of composition.  When the boundary columns match (as sets) and both pipelines are valid,
`replace_leaves` – hence `a >> b` – succeeds: no operator kind makes composition raise.
-/
namespace DAVerif

theorem workColGroup_ok {a sc : List String} (h1 : nodupB a = true) (h2 : subset a sc = true) :
    workColGroup a sc = .ok () := by
  simp only [workColGroup, h1, h2, ok?_trueC]
  rfl

theorem disjoint_of_append_left {a b c : List String} (h : disjoint a (b ++ c) = true) : disjoint a b = true :=
  disjoint_iff.mpr (fun x hx hb => disjoint_iff.mp h x hx (List.mem_append_left _ hb))

theorem disjoint_of_append_right {a b c : List String} (h : disjoint a (b ++ c) = true) : disjoint a c = true :=
  disjoint_iff.mpr (fun x hx hb => disjoint_iff.mp h x hx (List.mem_append_right _ hb))

theorem extendChecks_of_valid {s : Ops} {ops : Assign} {part od rv : List String} {w : Bool}
    (hv : (Ops.extend s ops part od rv w).valid = true) {sc : List String} (hsc : ∀ c, c ∈ s.cols ↔ c ∈ sc) :
    extendChecks sc ops (if w && part.isEmpty then PartArg.one else PartArg.cols part) od rv = .ok () := by
  have hn := valid_extend hv
  have hpa := hn.part_sub
  have hod := hn.od_sub
  rw [subset_congr_right hsc] at hpa hod
  have hrv : subset rv sc = true := subset_iff.mpr fun c hc => subset_iff.mp hod c (subset_iff.mp hn.rv_sub c hc)
  have hd1 : disjoint (ops.map (·.1)) part = true := disjoint_of_append_left (disjoint_of_append_left hn.keys_disj)
  have hd2 : disjoint (ops.map (·.1)) od = true := disjoint_of_append_right (disjoint_of_append_left hn.keys_disj)
  have wod := workColGroup_ok hn.od_nodup hod
  have wrv := workColGroup_ok hn.rv_nodup hrv
  have wpa := workColGroup_ok hn.part_nodup hpa
  split
  · simp only [extendChecks, wod, wrv, hd2, hn.rv_sub, ok?_trueC, bind, Except.bind]
  · simp only [extendChecks, wod, wrv, wpa, hd1, hd2, hn.rv_sub, ok?_trueC, bind, Except.bind]
    have h10 := hn.part_od
    cases hp : part.isEmpty with
    | true => rfl
    | false =>
      rw [hp] at h10
      simp only [Bool.false_or] at h10
      simp only [Bool.not_false, if_true, h10, ok?_trueC]

theorem extendChk_of_valid {s : Ops} {ops : Assign} {part od rv : List String} {w : Bool}
    (hv : (Ops.extend s ops part od rv w).valid = true) :
    extendChk s.cols ops (if w && part.isEmpty then PartArg.one else PartArg.cols part) od rv = .ok () := by
  obtain ⟨hpc, hpw⟩ := rebuild_flag hv
  have hn := valid_extend hv
  cases w
  · simp only [extendChk, hpc, hpw, hn.used, hn.part_nodup, hn.od_nodup, hn.rv_nodup, hn.part_sub, hn.od_sub, hn.rv_sub,
      hn.keys_disj, ok?_trueC, bind, Except.bind]
    rfl
  · simp only [extendChk, hpc, hpw, hn.used, hn.part_nodup, hn.od_nodup, hn.rv_nodup, hn.part_sub, hn.od_sub, hn.rv_sub,
      hn.keys_disj, hn.win rfl, ok?_trueC, bind, Except.bind]
    rfl

theorem rebuildNode_total {p a' b' : Ops} (hv : p.valid = true) (ha'v : a'.valid = true)
    (hca : a'.cols.Perm p.srcA.cols)
    (hb : ∀ b, p.srcB = some b → b'.cols.Perm b.cols ∧ tablesConsistent a'.tables b'.tables = true) :
    ∃ q, rebuildNode p a' b' = .ok q := by
  have hma : ∀ c, c ∈ p.srcA.cols ↔ c ∈ a'.cols := fun c => hca.mem_iff.symm
  have hn := Ops.valid_nodeOk hv
  -- a node rebuilt by the whole builder call: it is accepted when the raw checks pass on the columns of `a'`
  have viaBuild : rawChk a'.cols a'.tables (p.stepOf b') = .ok () → ∃ q, build a' (p.stepOf b') = .ok q :=
    fun h => errOf_eq_none.mp (by rw [build_errOf_rawChk ha'v, h]; rfl)
  cases p with
  | table n cs => exact ⟨a', rfl⟩
  | extend s ops part od rv w =>
    rw [rebuildNode, extendParsed_strip _ _ _ _ _ (valid_extend hv).ops_ne, extendPre_eq, extendChecks_of_valid hv (sc := a'.cols) hma,
      ok_bind]
    apply errOf_eq_none.mp
    rw [extendTop_errOf (valid_strip ha'v), strip_cols,
      ← extendChk_perm (sc := s.cols) hma, extendChk_of_valid hv]
    rfl
  | project s ops g =>
    obtain ⟨hchk, hne, hdis⟩ := Ops.nodeOk_project.mp hn
    obtain ⟨hsub, hnd, _⟩ := projectChk_ok_iff.mp hchk
    have hfront : projectChecks a'.cols ops g = .ok () :=
      projectChecks_ok_iff.mpr ⟨hnd, fun c hc => (hma c).mp (hsub c (List.mem_append_left _ hc)), hne, hdis⟩
    rw [rebuildNode, projectParsed_strip, hfront, ok_bind, mkProject_eq, strip_cols,
      ← projectChk_perm (sc := s.cols) hma, hchk]
    exact ⟨_, rfl⟩
  | selectRows s e => exact ⟨_, selectRowsB_eq a' e⟩
  | selectCols s cs =>
    have hc := Ops.nodeOk_selectCols.mp hn
    refine viaBuild ?_
    simp only [Ops.stepOf, rawChk, List.isEmpty_eq_false_iff.mpr (selectChk_ok_iff.mp hc).1, Bool.not_false, ok?_trueC,
      ok_bind]
    rw [← selectChk_perm (sc := s.cols) hma, hc]
  | dropCols s ds =>
    obtain ⟨hne, hc⟩ := Ops.nodeOk_dropCols.mp hn
    refine viaBuild ?_
    simp only [Ops.stepOf, rawChk, hne, Bool.false_eq_true, if_false]
    rw [← dropChk_perm (sc := s.cols) hma, hc]
  | order s cs rv lim =>
    obtain ⟨hne, hc⟩ := Ops.nodeOk_order.mp hn
    refine viaBuild ?_
    simp only [Ops.stepOf, rawChk, hne, Bool.false_eq_true, if_false]
    rw [← orderChk_perm (sc := s.cols) hma, hc]
  | rename s mp =>
    obtain ⟨hne, hc⟩ := Ops.nodeOk_rename.mp hn
    refine viaBuild ?_
    simp only [Ops.stepOf, rawChk, hne, Bool.false_eq_true, if_false]
    rw [renameChk_perm (sc' := s.cols) hca, hc]
  | mapCols s mp ds =>
    have hne := stepOf_not_noop hv nofun b'
    refine viaBuild ?_
    simp only [Ops.stepOf, Step.isNoop] at hne
    simp only [Ops.stepOf, rawChk, hne, Bool.false_eq_true, if_false]
    rw [mapColsChk_perm (sc' := s.cols) hca, mapColsChk_canon, (Ops.nodeOk_mapCols.mp hn).2]
  | convert s rm =>
    refine viaBuild ?_
    simp only [Ops.stepOf, rawChk]
    rw [← convertChk_perm (sc := s.cols) hma, Ops.nodeOk_convert.mp hn]
  | join a b oa ob jt =>
    obtain ⟨_, h2, h3, h4, h5⟩ := Ops.nodeOk_join.mp hn
    obtain ⟨hcb, hcons⟩ := hb b rfl
    have hmb : ∀ c, c ∈ b.cols ↔ c ∈ b'.cols := fun c => hcb.mem_iff.symm
    refine viaBuild ?_
    simp only [Ops.stepOf, rawChk, joinChk, hcons, h2, ← subset_congr_right (b := a.cols) hma, ← subset_congr_right hmb, h3, h4,
      parse_toStr, h5, ok?_trueC, Bool.not_false, Bool.true_or, bind, Except.bind, pure, Except.pure]
  | concat a b idc an bn =>
    have hc := Ops.nodeOk_concat.mp hn
    simp only [concatChk, ok?_bind_ok, ok?_eq_ok] at hc
    obtain ⟨_, h2, h3⟩ := hc
    obtain ⟨hcb, hcons⟩ := hb b rfl
    have hmb : ∀ c, c ∈ b.cols ↔ c ∈ b'.cols := fun c => hcb.mem_iff.symm
    refine viaBuild ?_
    cases idc with
    | none =>
      simp only [Ops.stepOf, rawChk, concatChk, hcons, ← subset_congr_right (b := a.cols) hma, ← subset_congr_right hmb,
        ← subset_congr_left (a := a.cols) hma, ← subset_congr_left hmb, h2, ok?_trueC, bind, Except.bind]
    | some c =>
      have h3c : (!a.cols.contains c) = true := h3
      rw [contains_congr (b := a.cols) hma c] at h3c
      simp only [Ops.stepOf, rawChk, concatChk, hcons, ← subset_congr_right (b := a.cols) hma, ← subset_congr_right hmb,
        ← subset_congr_left (a := a.cols) hma, ← subset_congr_left hmb, h2, h3c, ok?_trueC, bind, Except.bind]

theorem replaceLeaves_total (m : List (String × Ops)) (p : Ops) : p.valid = true → LeavesOK m p →
    (∀ x ∈ p.tables.flatMap (leafTables m), ∀ y ∈ p.tables.flatMap (leafTables m), x.1 = y.1 → x.2 = y.2) →
    ∃ q, Ops.replaceLeaves m p = .ok q := by
  induction p using Ops.srcInduction with
  | table n cs =>
    intro _ _ _
    rw [Ops.replaceLeaves]
    cases lookupLast m n with
    | none => exact ⟨_, rfl⟩
    | some r => exact ⟨_, rfl⟩
  | node p hT iha ihb =>
    intro hv hl hc
    -- the table descriptions of the rebuilt sources are among those of the result
    have hsub : ∀ {s : Ops}, (∀ x ∈ s.tables, x ∈ p.tables) → ∀ x ∈ s.tables.flatMap (leafTables m),
        x ∈ p.tables.flatMap (leafTables m) := fun hs x hx => by
      obtain ⟨kc, hkc, h⟩ := List.mem_flatMap.mp hx
      exact List.mem_flatMap.mpr ⟨kc, hs kc hkc, h⟩
    have hsa := hsub (tables_srcA hT)
    obtain ⟨a', ha'⟩ := iha (Ops.valid_srcA hv) (hl.srcA hT) (fun x hx y hy => hc x (hsa x hx) y (hsa y hy))
    obtain ⟨ha'v, hta, hca⟩ := replaceLeaves_struct m p.srcA (Ops.valid_srcA hv) (hl.srcA hT) a' ha'
    cases hB : p.srcB with
    | none =>
      rw [replaceLeaves_unary _ hT hB, ha', ok_bind]
      exact rebuildNode_total hv ha'v hca (fun b h => by rw [hB] at h; cases h)
    | some b =>
      have hsb := hsub (tables_srcB hT hB)
      obtain ⟨b', hb'⟩ := ihb b hB (valid_srcB hv hB) (hl.srcB hT hB)
        (fun x hx y hy => hc x (hsb x hx) y (hsb y hy))
      obtain ⟨_, htb, hcb⟩ := replaceLeaves_struct m b (valid_srcB hv hB) (hl.srcB hT hB) b' hb'
      rw [replaceLeaves_binary _ hB, ha', ok_bind, hb', ok_bind]
      refine rebuildNode_total hv ha'v hca (fun b0 h => ?_)
      cases hB.symm.trans h
      exact ⟨hcb, tablesConsistent_iff.mpr (fun x hx y hy =>
        hc x (hsa x (hta ▸ hx)) y (hsb y (htb ▸ hy)))⟩

theorem replaceSingle_total {k : String} {r : Ops}
    (hr : r.valid = true) (p : Ops) : p.valid = true → (∀ kc ∈ p.tables, kc.1 = k ∧ r.cols.Perm kc.2) →
    ∃ q, Ops.replaceLeaves [(k, r)] p = .ok q :=
  fun hv hl => replaceLeaves_total _ p hv (leavesOK_single hr hl) (fun x hx y hy =>
    valid_tables_consistent hr x ((mem_leafTables_single hl).mp hx) y ((mem_leafTables_single hl).mp hy))

/-- **Totality of `>>`**, for valid pipelines (`C07_compose_total`, `Props/C07.lean`). -/
theorem actOn_total {a b : Ops} {key : String} {oldCols : List String} (ha : a.valid = true)
    (hb : b.valid = true) (hkey : (b.tables.map (·.1)).eraseDups = [key])
    (hold : lookupLast b.tables key = some oldCols) (hset : ∀ c, c ∈ a.cols ↔ c ∈ oldCols) :
    ∃ c, Ops.actOn b a = .ok c := by
  have h1 : subset a.cols oldCols = true := subset_iff.mpr (fun c hc => (hset c).mp hc)
  have h2 : subset oldCols a.cols = true := subset_iff.mpr (fun c hc => (hset c).mpr hc)
  have hbound := actOn_boundary hb ha hkey hold h1 h2
  obtain ⟨c, hc⟩ := replaceSingle_total ha b hb hbound
  refine ⟨c, ?_⟩
  simp only [Ops.actOn, hkey, hold, h1, h2, Bool.and_self, if_true]
  exact hc

end DAVerif
