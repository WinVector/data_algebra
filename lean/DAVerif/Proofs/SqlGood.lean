import DAVerif.Proofs.SqlBasic
import DAVerif.Proofs.UsedSem
/-!
C01/C02/C16: **the structural scope of the SQL translation theorems**.

Scope predicates (all Boolean):
* `InFragJ` (`SemBasic.lean`) – node kinds: everything but `convert_records`;
* `JoinWF` – what `NaturalJoinNode.__init__` / `ConcatRowsNode.__init__` establish: join keys are columns of their side,
  the two sides of a `concat_rows` have the same column set;
* `JoinTypesSql` – no join of type `OUTER` (not SQL: the engine rejects the query);
* `JoinsNative cfg` – every join is rendered natively by the dialect (always on the generic dialect; INNER, LEFT, CROSS
  on SQLite) – the emulated RIGHT / FULL joins of SQLite change the row order (`SqlJoinSqlite.lean`, `SqlFullTrans.lean`);
* `LabelSidesPlain` – the sides of a `concat_rows` **with id column** do not end in an `order_rows` without limit
  (the builder call that adds the label column skips such a node: the rendered side has no `ORDER BY`, only the row
  multiset of that side is kept – the row-list invariant of stage A does not cover it).

The bundle `Good cfg env p` – unary fragment ∪ `natural_join` rendered natively ∪ `concat_rows`, with `WF`, `SqlWF`, `MapsOK` and
the tables present – is hereditary and holds of the pipeline `fullSimOps a b K` that `_emit_full_join_as_complex` builds for
SQLite's FULL join (`good_fullSim`).  The scope with emulated joins anywhere is in `SqlNestedScope.lean`.
-/
namespace DAVerif
namespace Sql
open DAVerif.Ops (usedFromSources unionL)
open Rules26 (usedBy keys)

def joinWFb : Ops → Bool
  | .table _ _ => true
  | .extend s _ _ _ _ _ | .project s _ _ | .selectRows s _ | .selectCols s _ | .dropCols s _
  | .order s _ _ _ | .rename s _ | .mapCols s _ _ | .convert s _ => joinWFb s
  | .join a b onA onB _ => joinWFb a && joinWFb b && subset onA a.cols && subset onB b.cols
  | .concat a b _ _ _ => joinWFb a && joinWFb b && subset a.cols b.cols && subset b.cols a.cols

def JoinWF (p : Ops) : Prop := joinWFb p = true
instance (p : Ops) : Decidable (JoinWF p) := by unfold JoinWF; exact inferInstance

theorem JoinWF.unary (p s : Ops) (hs : p.sources = [s]) : JoinWF p ↔ JoinWF s := by
  cases p <;> first | (cases hs; exact Iff.rfl) | cases hs

theorem JoinWF.stripped {p : Ops} (h : JoinWF p) : JoinWF (DAVerif.strip p) :=
  strip_preserves (fun _ _ _ h => h) h

def joinTypesSqlb : Ops → Bool
  | .table _ _ => true
  | .extend s _ _ _ _ _ | .project s _ _ | .selectRows s _ | .selectCols s _ | .dropCols s _
  | .order s _ _ _ | .rename s _ | .mapCols s _ _ | .convert s _ => joinTypesSqlb s
  | .join a b _ _ jt => joinTypesSqlb a && joinTypesSqlb b && jt != .outer
  | .concat a b _ _ _ => joinTypesSqlb a && joinTypesSqlb b

def JoinTypesSql (p : Ops) : Prop := joinTypesSqlb p = true
instance (p : Ops) : Decidable (JoinTypesSql p) := by unfold JoinTypesSql; exact inferInstance

def joinsNativeb (cfg : SqlCfg) : Ops → Bool
  | .table _ _ => true
  | .extend s _ _ _ _ _ | .project s _ _ | .selectRows s _ | .selectCols s _ | .dropCols s _
  | .order s _ _ _ | .rename s _ | .mapCols s _ _ | .convert s _ => joinsNativeb cfg s
  | .join a b _ _ jt => joinsNativeb cfg a && joinsNativeb cfg b && (!cfg.emulateRightFull || (jt != .right && jt != .full))
  | .concat a b _ _ _ => joinsNativeb cfg a && joinsNativeb cfg b

def JoinsNative (cfg : SqlCfg) (p : Ops) : Prop := joinsNativeb cfg p = true
instance (cfg : SqlCfg) (p : Ops) : Decidable (JoinsNative cfg p) := by unfold JoinsNative; exact inferInstance

theorem joinsNative_of_generic {cfg : SqlCfg} (h : cfg.emulateRightFull = false) (p : Ops) : JoinsNative cfg p := by
  unfold JoinsNative
  induction p with
  | table => rfl
  | join a b oa ob jt iha ihb => simp [joinsNativeb, iha, ihb, h]
  | concat a b i an bn iha ihb => simp [joinsNativeb, iha, ihb]
  | _ => rename_i ih; exact ih

/-- not an `order_rows` without limit (the node every builder call skips) -/
def noTrivTop : Ops → Bool
  | .order _ _ _ none => false
  | _ => true

theorem strip_eq_of_noTrivTop {p : Ops} (h : noTrivTop p = true) : strip p = p := by
  cases p with
  | order s cs rv lim =>
    cases lim with
    | none => cases h
    | some n => rfl
  | _ => rfl

def labelSidesPlainb : Ops → Bool
  | .table _ _ => true
  | .extend s _ _ _ _ _ | .project s _ _ | .selectRows s _ | .selectCols s _ | .dropCols s _
  | .order s _ _ _ | .rename s _ | .mapCols s _ _ | .convert s _ => labelSidesPlainb s
  | .join a b _ _ _ => labelSidesPlainb a && labelSidesPlainb b
  | .concat a b idc _ _ => labelSidesPlainb a && labelSidesPlainb b && (idc.isNone || (noTrivTop a && noTrivTop b))

def LabelSidesPlain (p : Ops) : Prop := labelSidesPlainb p = true
instance (p : Ops) : Decidable (LabelSidesPlain p) := by unfold LabelSidesPlain; exact inferInstance

structure Good (cfg : SqlCfg) (env : Env) (p : Ops) : Prop where
  frag : InFragJ p = true
  wf : WF p
  sqlwf : SqlWF p
  maps : MapsOK p
  jwf : JoinWF p
  types : JoinTypesSql p
  native : JoinsNative cfg p
  label : LabelSidesPlain p
  env : EnvOK false env p

theorem Good.unary {cfg : SqlCfg} {env : Env} {p s : Ops} (h : Good cfg env p)
    (hfrag : InFragJ p = true → InFragJ s = true) (hwf : WF p → WF s) (hsq : SqlWF p → SqlWF s)
    (hmp : MapsOK p → MapsOK s) (hj : JoinWF p → JoinWF s) (ht : JoinTypesSql p → JoinTypesSql s)
    (hn : JoinsNative cfg p → JoinsNative cfg s) (hl : LabelSidesPlain p → LabelSidesPlain s)
    (htab : ∀ nc ∈ s.tables, nc ∈ p.tables) : Good cfg env s :=
  ⟨hfrag h.frag, hwf h.wf, hsq h.sqlwf, hmp h.maps, hj h.jwf, ht h.types, hn h.native, hl h.label,
    fun nc hnc => h.env nc (htab nc hnc)⟩

/-- the scope does not depend on `allow_extend_merges`: whether a join is rendered natively is decided by
`emulateRightFull` alone -/
theorem Good.with_merges {cfg : SqlCfg} {env : Env} {p : Ops} (h : Good cfg env p) (m : Bool) :
    Good { cfg with merges := m } env p := by
  refine ⟨h.frag, h.wf, h.sqlwf, h.maps, h.jwf, h.types, ?_, h.label, h.env⟩
  have h0 := h.native
  unfold JoinsNative at h0 ⊢
  clear h
  induction p with
  | table => rfl
  | join a b oa ob jt iha ihb =>
    simp only [joinsNativeb, Bool.and_eq_true] at h0 ⊢
    exact ⟨⟨iha h0.1.1, ihb h0.1.2⟩, h0.2⟩
  | concat a b i an bn iha ihb =>
    simp only [joinsNativeb, Bool.and_eq_true] at h0 ⊢
    exact ⟨iha h0.1, ihb h0.2⟩
  | _ => rename_i ih; exact ih h0

theorem joinScope_of_inFrag (cfg : SqlCfg) {p : Ops} (hf : InFrag p = true) :
    JoinWF p ∧ JoinTypesSql p ∧ JoinsNative cfg p ∧ LabelSidesPlain p := by
  induction p with
  | table => exact ⟨rfl, rfl, rfl, rfl⟩
  | join | concat | convert => cases hf
  | _ => rename_i ih; exact ih hf

theorem Good.of_frag {cfg : SqlCfg} {env : Env} {p : Ops} (hf : InFrag p = true) (hwf : WF p) (hsq : SqlWF p)
    (hmp : MapsOK p) (he : EnvOK false env p) : Good cfg env p :=
  have h := joinScope_of_inFrag cfg hf
  ⟨inFragJ_of_inFrag hf, hwf, hsq, hmp, h.1, h.2.1, h.2.2.1, h.2.2.2, he⟩

theorem and_left {a b : Bool} (h : (a && b) = true) : a = true := (Bool.and_eq_true_iff.mp h).1

theorem and_right {a b : Bool} (h : (a && b) = true) : b = true := (Bool.and_eq_true_iff.mp h).2

theorem and_intro {a b : Bool} (ha : a = true) (hb : b = true) : (a && b) = true := by rw [ha, hb]; rfl

theorem mem_pair {α : Type} {x a b : α} : x ∈ [a, b] ↔ x = a ∨ x = b := by
  rw [List.mem_cons, List.mem_singleton]

theorem Good.source {cfg : SqlCfg} {env : Env} {p s : Ops} (h : Good cfg env p) (hs : s ∈ p.sources) :
    Good cfg env s := by
  cases p with
  | table name cs => cases hs
  | project src ops g =>
    obtain rfl := List.mem_singleton.mp hs
    exact h.unary id (·.1) (fun h => and_left (and_left (and_left (and_left h)))) id id id id id (fun _ h => h)
  | selectRows _ _ | order _ _ _ _ =>
    obtain rfl := List.mem_singleton.mp hs
    exact h.unary id id and_left id id id id id (fun _ h => h)
  | rename src m =>
    obtain rfl := List.mem_singleton.mp hs
    exact h.unary id (·.1) (fun h => and_left (and_left h)) (fun h => and_left (and_left h)) id id id id (fun _ h => h)
  | mapCols src m dels =>
    obtain rfl := List.mem_singleton.mp hs
    exact h.unary id (·.1) (fun h => and_left (and_left (and_left h))) (fun h => and_left (and_left (and_left h)))
      id id id id (fun _ h => h)
  | join a b oa ob jt =>
    rcases mem_pair.mp hs with rfl | rfl
    · exact ⟨and_left h.frag, h.wf.1, and_left h.sqlwf, and_left h.maps, and_left (and_left (and_left h.jwf)),
        and_left (and_left h.types), and_left (and_left h.native), and_left h.label,
        fun nc hnc => h.env nc (List.mem_append_left _ hnc)⟩
    · exact ⟨and_right h.frag, h.wf.2, and_right h.sqlwf, and_right h.maps, and_right (and_left (and_left h.jwf)),
        and_right (and_left h.types), and_right (and_left h.native), and_right h.label,
        fun nc hnc => h.env nc (List.mem_append_right _ hnc)⟩
  | concat a b idc an bn =>
    rcases mem_pair.mp hs with rfl | rfl
    · exact ⟨and_left h.frag, h.wf.1, and_left h.sqlwf, and_left h.maps, and_left (and_left (and_left h.jwf)),
        and_left h.types, and_left h.native, and_left (and_left h.label),
        fun nc hnc => h.env nc (List.mem_append_left _ hnc)⟩
    · exact ⟨and_right h.frag, h.wf.2.1, and_right h.sqlwf, and_right h.maps, and_right (and_left (and_left h.jwf)),
        and_right h.types, and_right h.native, and_right (and_left h.label),
        fun nc hnc => h.env nc (List.mem_append_right _ hnc)⟩
  | convert src rm => exact absurd h.frag nofun
  | _ =>
    obtain rfl := List.mem_singleton.mp hs
    exact h.unary id (·.1) id id id id id id (fun _ h => h)

theorem Good.extend_of {cfg : SqlCfg} {env : Env} {src : Ops} {ops : Assign} {part order rev : List String} {w : Bool}
    (h : Good cfg env src) (hE : ExtOK src.cols ops part order rev w) : Good cfg env (.extend src ops part order rev w) :=
  ⟨h.frag, ⟨h.wf, hE⟩, h.sqlwf, h.maps, h.jwf, h.types, h.native, h.label, h.env⟩

theorem Good.join {cfg : SqlCfg} {env : Env} {a b : Ops} {onA onB : List String} {jt : JoinType}
    (hga : Good cfg env a) (hgb : Good cfg env b) (hoa : ∀ c ∈ onA, c ∈ a.cols) (hob : ∀ c ∈ onB, c ∈ b.cols)
    (hjt : jt ≠ .outer) (hn : cfg.emulateRightFull = false ∨ (jt ≠ .right ∧ jt ≠ .full)) :
    Good cfg env (.join a b onA onB jt) := by
  refine ⟨and_intro hga.frag hgb.frag, ⟨hga.wf, hgb.wf⟩, and_intro hga.sqlwf hgb.sqlwf, and_intro hga.maps hgb.maps,
    and_intro (and_intro (and_intro hga.jwf hgb.jwf) (subset_iff.mpr hoa)) (subset_iff.mpr hob),
    and_intro (and_intro hga.types hgb.types) (bne_iff_ne.mpr hjt), and_intro (and_intro hga.native hgb.native) ?_,
    and_intro hga.label hgb.label, fun nc hnc => (List.mem_append.mp hnc).elim (hga.env nc) (hgb.env nc)⟩
  rcases hn with h | ⟨h1, h2⟩
  · rw [h]; rfl
  · rw [bne_iff_ne.mpr h1, bne_iff_ne.mpr h2]; exact Bool.or_true _

theorem Good.keyProject {cfg : SqlCfg} {env : Env} {s : Ops} {K : List String} (hg : Good cfg env s) (hK : K ≠ [])
    (hnd : K.Nodup) (hKs : ∀ c ∈ K, c ∈ s.cols) : Good cfg env (.project s [] K) :=
  ⟨hg.frag, ⟨hg.wf, hnd, Or.inl hK⟩,
    and_intro (and_intro (and_intro (and_intro hg.sqlwf (subset_iff.mpr hKs)) rfl) rfl) rfl,
    hg.maps, hg.jwf, hg.types, hg.native, hg.label, hg.env⟩

theorem Good.concat_none {cfg : SqlCfg} {env : Env} {a b : Ops} (an bn : String) (hga : Good cfg env a)
    (hgb : Good cfg env b) (hab : ∀ c ∈ a.cols, c ∈ b.cols) (hba : ∀ c ∈ b.cols, c ∈ a.cols) :
    Good cfg env (.concat a b none an bn) :=
  ⟨and_intro hga.frag hgb.frag, ⟨hga.wf, hgb.wf, nofun⟩, and_intro hga.sqlwf hgb.sqlwf, and_intro hga.maps hgb.maps,
    and_intro (and_intro (and_intro hga.jwf hgb.jwf) (subset_iff.mpr hab)) (subset_iff.mpr hba),
    and_intro hga.types hgb.types, and_intro hga.native hgb.native, and_intro (and_intro hga.label hgb.label) rfl,
    fun nc hnc => (List.mem_append.mp hnc).elim (hga.env nc) (hgb.env nc)⟩

theorem Good.of_join {cfg : SqlCfg} {env : Env} {a b : Ops} {onA onB : List String} {jt : JoinType}
    (h : Good cfg env (.join a b onA onB jt)) :
    (∀ c ∈ onA, c ∈ a.cols) ∧ (∀ c ∈ onB, c ∈ b.cols) ∧ jt ≠ .outer ∧
      (cfg.emulateRightFull = false ∨ (jt ≠ .right ∧ jt ≠ .full)) := by
  refine ⟨subset_iff.mp (and_right (and_left h.jwf)), subset_iff.mp (and_right h.jwf),
    bne_iff_ne.mp (and_right h.types), ?_⟩
  have hn := and_right h.native
  cases hE : cfg.emulateRightFull with
  | false => exact Or.inl rfl
  | true =>
    rw [hE] at hn
    exact Or.inr ⟨bne_iff_ne.mp (and_left hn), bne_iff_ne.mp (and_right hn)⟩

theorem size_lt_of_mem_sources {p s : Ops} (hs : s ∈ p.sources) : s.size < p.size := by
  cases p with
  | table name cs => cases hs
  | join a b oa ob jt =>
    rcases mem_pair.mp hs with rfl | rfl
    · exact Nat.lt_succ_of_le (Nat.le_add_right _ _)
    · exact Nat.lt_succ_of_le (Nat.le_add_left _ _)
  | concat a b idc an bn =>
    rcases mem_pair.mp hs with rfl | rfl
    · exact Nat.lt_succ_of_le (Nat.le_add_right _ _)
    · exact Nat.lt_succ_of_le (Nat.le_add_left _ _)
  | _ =>
    obtain rfl := List.mem_singleton.mp hs
    exact Nat.lt_succ_self _

variable {Θ : Interp} {ec : EngineCfg} {env : Env} {cfg : SqlCfg}

/-- the pipeline `_emit_full_join_as_complex` constructs through the user-level builders (`fullSim`; `fullSim_shape`,
`SqlFullTrans.lean`): the key projections read the sides without their trailing `order_rows` -/
def fullSimOps (a b : Ops) (K : List String) : Ops :=
  .join (.join (.project (.concat (.project (strip a) [] K) (.project (strip b) [] K) none "a" "b") [] K) a K K .left)
    b K K .left

theorem inFragJ_stripped {p : Ops} (h : InFragJ p = true) : InFragJ (strip p) = true :=
  strip_preserves (P := fun p => InFragJ p = true) (fun _ _ _ h => h) h

theorem mapsOK_stripped {p : Ops} (h : MapsOK p) : MapsOK (strip p) := strip_preserves (fun _ _ _ h => h) h

theorem joinTypesSql_stripped {p : Ops} (h : JoinTypesSql p) : JoinTypesSql (strip p) :=
  strip_preserves (fun _ _ _ h => h) h

theorem joinsNative_stripped {p : Ops} (h : JoinsNative cfg p) : JoinsNative cfg (strip p) :=
  strip_preserves (fun _ _ _ h => h) h

theorem labelSidesPlain_stripped {p : Ops} (h : LabelSidesPlain p) : LabelSidesPlain (strip p) :=
  strip_preserves (fun _ _ _ h => h) h

theorem Good.stripped {p : Ops} (h : Good cfg env p) : Good cfg env (strip p) :=
  ⟨inFragJ_stripped h.frag, h.wf.stripped, SqlWF.stripped h.sqlwf, mapsOK_stripped h.maps, JoinWF.stripped h.jwf,
    joinTypesSql_stripped h.types, joinsNative_stripped h.native, labelSidesPlain_stripped h.label,
    fun nc hnc => h.env nc (by rw [← strip_tables]; exact hnc)⟩

theorem good_table (cfg : SqlCfg) {env : Env} {name : String} {cs : List String} {t : Table}
    (hl : env.lookup name = some t) (hsub : ∀ c ∈ cs, c ∈ t.cols) (hne : cs ≠ []) (hnd : cs.Nodup) :
    Good cfg env (.table name cs) :=
  ⟨rfl, ⟨hne, hnd⟩, rfl, rfl, rfl, rfl, rfl, rfl, fun nc hnc => by
    cases List.mem_singleton.mp hnc
    exact ⟨t, hl, hsub, fun h => by cases h⟩⟩

theorem good_fullSim {a b : Ops} {K : List String} (hga : Good cfg env a) (hgb : Good cfg env b) (hK : K ≠ [])
    (hnd : K.Nodup) (hKa : ∀ c ∈ K, c ∈ a.cols) (hKb : ∀ c ∈ K, c ∈ b.cols) : Good cfg env (fullSimOps a b K) :=
  have hks := ((hga.stripped.keyProject hK hnd (fun c hc => strip_cols a ▸ hKa c hc)).concat_none "a" "b"
    (hgb.stripped.keyProject hK hnd (fun c hc => strip_cols b ▸ hKb c hc)) (fun _ h => h) (fun _ h => h)).keyProject
      hK hnd (fun _ h => h)
  have hl : JoinType.left ≠ .outer ∧ JoinType.left ≠ .right ∧ JoinType.left ≠ .full := by decide
  (hks.join (onA := K) (jt := .left) hga (fun _ h => h) hKa hl.1 (Or.inr hl.2)).join (onA := K) (jt := .left) hgb
    (fun c hc => (mem_join_cols _ a K K .left c).mpr (Or.inl hc)) hKb hl.1 (Or.inr hl.2)

theorem mem_fullSimOps_cols {a b : Ops} {K : List String} (hKa : ∀ c ∈ K, c ∈ a.cols) (c : String) :
    c ∈ (fullSimOps a b K).cols ↔ c ∈ a.cols ∨ c ∈ b.cols := by
  unfold fullSimOps
  rw [mem_join_cols, mem_join_cols]
  constructor
  · rintro ((h | h) | h)
    · exact Or.inl (hKa c h)
    · exact Or.inl h
    · exact Or.inr h
  · rintro (h | h)
    · exact Or.inl (Or.inr h)
    · exact Or.inr h

end Sql
end DAVerif
