import DAVerif.Proofs.ApplyNode
import DAVerif.Proofs.Window
/-!
`applyNode` respects `≈ᶜ` (`applyNode_congrC`, the congruence behind C06's chains and C07's composition).  `ta ≈ᶜ ta'` is
`ta ≈ ta'.selectCols ta.cols ≈ʳ ta'`: up to row order the operators respect `≈` under C18's scope condition for the
node (`applyNode_equiv`), up to column order unconditionally (`applyNode_congrR`: the rows of `≈ʳ` inputs agree on every
column, so the congruences of `Proofs/SemCongr.lean` apply).
-/
namespace DAVerif

/-- C18's scope condition for one node, on the rows of its (first) evaluated source -/
def NodeScope (Θ : Interp) (N : Ops) (rows : List Row) : Prop :=
  match N with
  | .extend _ ops part od rv w => w = true → WinOK Θ ops part od rv rows
  | .project _ ops _ => ∀ kv ∈ ops, AggOrderFree Θ (opName kv.2)
  | .order _ cs rv (some n) => LimitOK cs rv n rows
  | _ => True

/-- what makes the output of the node a table with pairwise different columns, given the columns `ca` of its
first source -/
def NodeColsOK (N : Ops) (ca : List String) : Prop :=
  match N with
  | .project _ _ g => g.Nodup
  | .selectCols _ cs => cs.Nodup ∧ ∀ c ∈ cs, c ∈ ca
  | .rename _ m => (ca.map (renameFn m)).Nodup
  | .mapCols _ m ds => ((ca.filter (fun c => !ds.contains c)).map (mapFn m)).Nodup
  | .concat _ _ idc _ _ => (concatCols ca idc).Nodup
  | .convert _ rm => rm.produced.Nodup
  | _ => True

/-- what a congruence of `applyNode` for `R` assumes of the record transform at a `convert_records` node -/
def ConvertAt (R : Except Err Table → Except Err Table → Prop) (Θ : Interp) (N : Ops) (t t' : Table) : Prop :=
  match N with
  | .convert _ rm => R (Θ.convert rm t) (Θ.convert rm t')
  | _ => True

theorem Table.eta (t : Table) : (⟨t.cols, t.rows⟩ : Table) = t := rfl

theorem perm_of_mem_iff {l l' : List String} (hn : l.Nodup) (hn' : l'.Nodup) (h : ∀ c, c ∈ l ↔ c ∈ l') :
    l.Perm l' := (List.perm_ext_iff_of_nodup hn hn').mpr h

theorem rename_select_eq {r : Row} {cs : List String} {F : String → String}
    (hinj : ∀ c ∈ cs, ∀ k ∈ r.keys, F k = F c → k = c) :
    (r.select cs).rename F = (r.rename F).select (cs.map F) := by
  simp only [Row.select, Row.rename, List.map_map]
  apply List.map_congr_left
  intro c hc
  simp only [Function.comp, Prod.mk.injEq, true_and]
  exact (Row.get_rename_of_inj r _ c (hinj c hc)).symm

theorem drop_select_eq (r : Row) (cs ds : List String) :
    (r.select cs).drop ds = r.select (cs.filter (fun c => !ds.contains c)) := by
  simp only [Row.select, Row.drop, List.filter_map]
  rfl

theorem applyNode_congrR_of (Θ : Interp) (cfg : SemCfg) (N : Ops) {ta ta' tb tb' : Table} (ha : ta ≈ʳ ta')
    (hb : tb ≈ʳ tb') (hc : NodeColsOK N ta.cols)
    (hR : ConvertAt ResEquivR Θ N ta ta') :
    ResEquivR (applyNode Θ cfg N ta tb) (applyNode Θ cfg N ta' tb') := by
  have hmem := ha.mem_cols
  have hA := ha.rowsAgree
  have both : ∀ {oc oc' : List String}, oc.Perm oc' → ∀ c ∈ oc, c ∈ oc ∧ c ∈ oc' :=
    fun hp c hc => ⟨hc, hp.mem_iff.mp hc⟩
  cases N with
  | table n cs => exact ha
  | extend s ops part od rv w =>
    have hn : (appendNew ta.cols (ops.map (·.1))).Nodup := appendNew_nodup ha.nodup_left
    have hp : (appendNew ta.cols (ops.map (·.1))).Perm (appendNew ta'.cols (ops.map (·.1))) :=
      appendNew_perm ha.nodup_left ha.nodup_right (fun c => by rw [hmem c])
    have hW := hA (appendNew ta.cols (ops.map (·.1)) ++ (part ++ od ++ ops.flatMap (fun kv => kv.2.colsRaw)))
    have hexpr : ∀ kv ∈ ops, kv.1 ∈ appendNew ta.cols (ops.map (·.1)) → ∀ c ∈ kv.2.colsRaw,
        c ∈ appendNew ta.cols (ops.map (·.1)) ++ (part ++ od ++ ops.flatMap (fun kv => kv.2.colsRaw)) :=
      fun kv hkv _ c hc => List.mem_append_right _ (List.mem_append_right _ (List.mem_flatMap.mpr ⟨kv, hkv, hc⟩))
    cases w with
    | true =>
      exact .of_rowsAgree (semExtendWindow_wf _ _ _ _ _ _ _) (semExtendWindow_wf _ _ _ _ _ _ _) rfl hn hp
        (semExtendWindow_congr Θ ops part od rv hW (both hp)
          (fun c hc => List.mem_append_right _ (List.mem_append_left _ (List.mem_append_left _ hc)))
          (fun c hc => List.mem_append_right _ (List.mem_append_left _ (List.mem_append_right _ hc)))
          (fun c hc _ => List.mem_append_left _ hc) hexpr)
    | false =>
      exact .of_rowsAgree (semExtendPlain_wf _ _ _ _) (semExtendPlain_wf _ _ _ _) rfl hn hp
        (semExtendPlain_congr Θ ops hW (both hp) (fun c hc _ => List.mem_append_left _ hc) hexpr)
  | project s ops g =>
    exact .of_rowsAgree (semProject_wf _ _ _ _ _).1 (semProject_wf _ _ _ _ _).1 (semProject_wf _ _ _ _ _).2
      (appendNew_nodup hc) (List.Perm.of_eq (semProject_wf _ _ _ _ _).2.symm)
      (semProject_congr Θ ops g (hA (g ++ ops.flatMap (fun kv => kv.2.colsRaw))) (fun c hc => ⟨hc, hc⟩)
        (fun c hc => List.mem_append_left _ hc)
        (fun kv hkv _ c hc => List.mem_append_right _ (List.mem_flatMap.mpr ⟨kv, hkv, hc⟩)))
  | selectRows s e =>
    exact .of_rowsAgree (semSelectRows_wf Θ e ha.wf_left) (semSelectRows_wf Θ e ha.wf_right) rfl ha.nodup_left
      ha.cols_perm (semSelectRows_congr Θ e (hA (ta.cols ++ e.colsRaw)) (fun c hc => List.mem_append_right _ hc)
        (fun c hc => List.mem_append_left _ hc))
  | selectCols s cs =>
    exact .of_rowsAgree (Table.wf_selectCols _ _) (Table.wf_selectCols _ _) rfl hc.1 (List.Perm.refl _)
      (select_congr (hA cs) (fun c hc => ⟨hc, hc, hc⟩))
  | dropCols s ds =>
    have hp : (ta.cols.filter (fun c => !ds.contains c)).Perm (ta'.cols.filter (fun c => !ds.contains c)) :=
      ha.cols_perm.filter _
    exact .of_rowsAgree (Table.wf_selectCols _ _) (Table.wf_selectCols _ _) rfl (nodup_filter _ ha.nodup_left) hp
      (select_congr (hA _) (fun c hc => ⟨hc, hp.mem_iff.mp hc, hc⟩))
  | order s cs rv lim =>
    exact .of_rowsAgree (semOrder_wf cs rv lim ha.wf_left) (semOrder_wf cs rv lim ha.wf_right) rfl ha.nodup_left
      ha.cols_perm (semOrder_congr cs rv lim (hA (ta.cols ++ cs)) (fun c hc => List.mem_append_right _ hc)
        (fun c hc => List.mem_append_left _ hc))
  | rename s m =>
    simp only [applyNode]
    have hinj : ∀ c ∈ ta.cols, ∀ k ∈ ta'.cols, renameFn m k = renameFn m c → k = c :=
      fun c hcc k hk e => inj_of_nodup_map hc k ((hmem k).mpr hk) c hcc e
    have hwf : ∀ t : Table, t.WF →
        (⟨t.cols.map (renameFn m), t.rows.map (fun r => r.rename (renameFn m))⟩ : Table).WF := fun t hw r hr => by
      obtain ⟨r0, hr0, rfl⟩ := List.mem_map.mp hr
      rw [Row.keys_rename, hw r0 hr0]
    refine ⟨hwf ta ha.wf_left, hwf ta' ha.wf_right, hc, ha.cols_perm.map _, ?_⟩
    simp only [List.map_map]
    rw [ha.rows_eq, List.map_map]
    apply List.map_congr_left
    intro r hr
    exact rename_select_eq (fun c hc k hk => hinj c hc k (by rw [← ha.wf_right r hr]; exact hk))
  | mapCols s m ds =>
    simp only [applyNode]
    have hinj : ∀ c ∈ ta.cols.filter (fun c => !ds.contains c), ∀ k ∈ ta'.cols.filter (fun c => !ds.contains c),
        mapFn m k = mapFn m c → k = c :=
      fun c hcc k hk e => inj_of_nodup_map (f := mapFn m) hc k
        ((ha.cols_perm.filter _).mem_iff.mpr hk) c hcc e
    have hwf : ∀ t : Table, t.WF → (⟨(t.cols.filter (fun c => !ds.contains c)).map (mapFn m),
        t.rows.map (fun r => (r.drop ds).rename (mapFn m))⟩ : Table).WF := fun t hw r hr => by
      obtain ⟨r0, hr0, rfl⟩ := List.mem_map.mp hr
      rw [Row.keys_rename, Row.keys_drop, hw r0 hr0]
    refine ⟨hwf ta ha.wf_left, hwf ta' ha.wf_right, hc, (ha.cols_perm.filter _).map _, ?_⟩
    simp only [List.map_map]
    rw [ha.rows_eq, List.map_map]
    apply List.map_congr_left
    intro r hr
    simp only [Function.comp]
    rw [drop_select_eq]
    have hsel : r.select (ta.cols.filter (fun c => !ds.contains c))
        = (r.drop ds).select (ta.cols.filter (fun c => !ds.contains c)) := by
      apply Row.select_congr
      intro c hcc
      rw [Row.get_dropC]
      have : ds.contains c = false := by simpa using (List.mem_filter.mp hcc).2
      simp only [this, Bool.false_eq_true, if_false]
    rw [hsel]
    exact rename_select_eq (fun c hc k hk => hinj c hc k (by
      rw [Row.keys_drop, ha.wf_right r hr] at hk; exact hk))
  | join a b oa ob jt =>
    have hmb := hb.mem_cols
    have hjn : (joinCols ta.cols tb.cols).Nodup := nodup_joinCols ha.nodup_left hb.nodup_left
    have hjp : (joinCols ta.cols tb.cols).Perm (joinCols ta'.cols tb'.cols) :=
      perm_of_mem_iff hjn (nodup_joinCols ha.nodup_right hb.nodup_right)
        (fun c => by rw [mem_joinCols, mem_joinCols, hmem c, hmb c])
    have hsub : ∀ {x y : List String}, ∀ c ∈ joinCols x y, c ∈ appendNew x y :=
      fun c hc => mem_appendNew.mpr (mem_joinCols.mp hc)
    have side : ∀ {t t' : Table} {w : List String}, t ≈ʳ t' → ∀ r ∈ t.rows, ∀ r' ∈ t'.rows, Row.agreeOn w r r' →
        ∀ c ∈ w, Ref.sideCell t.cols (some r) c = Ref.sideCell t'.cols (some r') c := fun h r hr r' hr' hrr c hc => by
      rw [h.wf_left.sideCell hr, h.wf_right.sideCell hr']; exact hrr c hc
    have hj := semJoin_congr (u := joinCols ta.cols tb.cols) (oc := appendNew ta.cols tb.cols)
      (oc' := appendNew ta'.cols tb'.cols) cfg jt oa ob (hA (joinCols ta.cols tb.cols ++ oa))
      (hb.rowsAgree (joinCols ta.cols tb.cols ++ ob))
      (fun c hc => List.mem_append_right _ hc) (fun c hc => List.mem_append_right _ hc)
      (fun r hr r' hr' hrr c hc => side ha r hr r' hr' hrr c (List.mem_append_left _ hc))
      (fun r hr r' hr' hrr c hc => side hb r hr r' hr' hrr c (List.mem_append_left _ hc))
      (fun c hc => ⟨hsub c hc, hsub c (hjp.mem_iff.mp hc)⟩)
    have hs := select_congr (oc := joinCols ta.cols tb.cols) (oc' := joinCols ta'.cols tb'.cols) hj
      (fun c hc => ⟨hc, hjp.mem_iff.mp hc, hc⟩)
    exact .of_rowsAgree (cs := joinCols ta.cols tb.cols) (Table.wf_selectCols _ _) (Table.wf_selectCols _ _) rfl hjn
      hjp hs
  | concat a b idc an bn =>
    have hp : (concatCols ta.cols idc).Perm (concatCols ta'.cols idc) := by
      cases idc with
      | none => exact ha.cols_perm
      | some c => exact ha.cols_perm.append_right _
    exact .of_rowsAgree (semConcat_wf _ _ _ _ _ _) (semConcat_wf _ _ _ _ _ _) rfl hc hp
      (semConcat_congr idc an bn (hA (concatCols ta.cols idc)) (hb.rowsAgree (concatCols ta.cols idc))
        (fun c hc => ⟨hc, hp.mem_iff.mp hc, .inr ⟨hc, hc⟩⟩))
  | convert s rm => exact hR

theorem applyNode_congrR (Θ : Interp) (cfg : SemCfg) (hR : ConvertColInvariant Θ) (N : Ops)
    {ta ta' tb tb' : Table} (ha : ta ≈ʳ ta') (hb : tb ≈ʳ tb') (hc : NodeColsOK N ta.cols) :
    ResEquivR (applyNode Θ cfg N ta tb) (applyNode Θ cfg N ta' tb') :=
  applyNode_congrR_of Θ cfg N ha hb hc (by
    cases N with
    | convert s rm => exact hR rm ta ta' hc ha
    | _ => trivial)

theorem applyNode_equiv (Θ : Interp) (cfg : SemCfg) (N : Ops) {ta ta' tb tb' : Table} (ha : ta ≈ ta') (hb : tb ≈ tb')
    (hs : NodeScope Θ N ta.rows)
    (hC : ConvertAt ResEquiv Θ N ta ta') :
    ResEquiv (applyNode Θ cfg N ta tb) (applyNode Θ cfg N ta' tb') := by
  cases N with
  | table n cs => exact ha
  | extend s ops part od rv w =>
    simp only [applyNode, ← ha.1]
    cases w with
    | true => exact semExtendWindow_equiv Θ ops part od rv ha _ (hs rfl)
    | false => exact semExtendPlain_equiv Θ ops ha _
  | project s ops g => exact semProject_equiv Θ ops g ha _ hs
  | selectRows s e => exact semSelectRows_equiv Θ e ha
  | selectCols s cs => exact ha.selectCols cs
  | dropCols s ds => simp only [applyNode, ← ha.1]; exact ha.selectCols _
  | order s cs rv lim =>
    cases lim with
    | none => exact semOrder_equiv cs rv ha
    | some n => exact semOrder_limit_equiv cs rv n ha hs
  | rename s m => simp only [applyNode, ← ha.1]; exact semRename_equiv ha _ _
  | mapCols s m ds => simp only [applyNode, ← ha.1]; exact semMapCols_equiv ha _ ds _
  | join a b oa ob jt =>
    simp only [applyNode, ← ha.1, ← hb.1]
    exact (semJoin_equiv cfg jt oa ob ha hb _).selectCols _
  | concat a b idc an bn => simp only [applyNode, ← ha.1]; exact semConcat_equiv idc an bn ha hb _
  | convert s rm => exact hC

theorem applyNode_congrC (Θ : Interp) (cfg : SemCfg) (hC : ConvertInvariant Θ) (N : Ops)
    {ta ta' tb tb' : Table} (ha : ta ≈ᶜ ta') (hb : tb ≈ᶜ tb') (hs : NodeScope Θ N ta.rows)
    (hc : NodeColsOK N ta.cols) :
    ResEquivC (applyNode Θ cfg N ta tb) (applyNode Θ cfg N ta' tb') := by
  have sa := Table.EquivR.selectCols_left ha.wf_right ha.nodup_left ha.cols_perm
  have sb := Table.EquivR.selectCols_left hb.wf_right hb.nodup_left hb.cols_perm
  cases N with
  | convert s rm => exact hC rm ta ta' hc ha
  | _ =>
    exact .of_equiv_equivR (applyNode_equiv Θ cfg _ ha.equiv_select hb.equiv_select hs trivial)
      (applyNode_congrR_of Θ cfg _ sa sb hc trivial)

end DAVerif
