import DAVerif.Proofs.SemCongr
/-!
C10, pipeline level.  The report computation is taken as a relation, `Run`: a traversal that may enlarge a node's request
before asking its sources (`columnsUsedAux` is the run that never does, the shared-object computation of
`Proofs/UsedDag.lean` another).  The main induction `sem_narrow_agree`: evaluating `p` in `env` and a narrowed `p` in
`env'` gives outcomes that agree on the requested columns, provided the table scans do.  `UsedWF` is its structural
hypothesis (a windowed extend does not assign its partition/order columns; rename / map_columns mappings are invertible
on the source columns); every pipeline the builders produce has it (`Proofs/UsedReach.lean`).
-/
namespace DAVerif
open Ops

/-! `ResAgree u` (`Spec/Used.lean`) is `LiftRel` of "the rows agree on `u`", by unfolding. -/

theorem ResAgree.refl (u : List String) (x : Except Err Table) : ResAgree u x x :=
  LiftRel.of_eq (R := fun t t' => RowsAgree u t.rows t'.rows) rfl fun _ _ => forall₂_refl_of (fun _ _ _ => rfl) _

theorem ResAgree.mono {u u' : List String} {x y : Except Err Table} (h : ResAgree u x y)
    (hs : ∀ c ∈ u', c ∈ u) : ResAgree u' x y :=
  LiftRel.imp (R := fun t t' => RowsAgree u t.rows t'.rows) h fun _ _ _ _ hr => RowsAgree.mono hr hs

theorem ResAgree.bind {v u : List String} {x y : Except Err Table} {F G : Table → Except Err Table}
    (h : ResAgree v x y)
    (hFG : ∀ t t', x = .ok t → y = .ok t' → RowsAgree v t.rows t'.rows → ResAgree u (F t) (G t')) :
    ResAgree u (x >>= F) (y >>= G) :=
  LiftRel.bind (R := fun t t' => RowsAgree v t.rows t'.rows) (S := fun t t' => RowsAgree u t.rows t'.rows) h hFG

theorem ResAgree.ok_iff {u : List String} {t t' : Table} :
    ResAgree u (.ok t) (.ok t') ↔ RowsAgree u t.rows t'.rows := Iff.rfl

/-- `rename_columns` new ↦ old pairs `m`: the forward renaming of a source column.  For `map_columns`, whose `m` lists
old ↦ new pairs, the roles of `renFwd` and `renBack` are exchanged (`renBack m` renames forward), as in `UsedWF`. -/
def renFwd (m : List (String × String)) (c : String) : String :=
  (lookupLast (m.map (fun kv => (kv.2, kv.1))) c).getD c
/-- … and the column a result column comes from -/
def renBack (m : List (String × String)) (c : String) : String := (lookupLast m c).getD c

def UsedWF : Ops → Prop
  | .table _ _ => True
  | .extend s ops part od _ w =>
    UsedWF s ∧ (w = true → disjoint (ops.map (·.1)) (part ++ od) = true)
  | .project s _ _ | .selectRows s _ | .selectCols s _ | .dropCols s _ | .order s _ _ _ | .convert s _ => UsedWF s
  | .rename s m => UsedWF s ∧ ∀ k ∈ s.cols, renBack m (renFwd m k) = k
  | .mapCols s m dels =>
    UsedWF s ∧ ∀ k ∈ s.cols, k ∉ dels → renFwd m (renBack m k) = k
  | .join a b _ _ _ | .concat a b _ _ _ => UsedWF a ∧ UsedWF b

/-- the record transform reads only the columns it declares as needed -/
def ConvertLocal (Θ : Interp) : Prop :=
  ∀ rm t t', RowsAgree rm.needed t.rows t'.rows → Θ.convert rm t = Θ.convert rm t'

def Covers (acc : Used) (k c : String) : Prop := ∃ us, (k, us) ∈ acc ∧ c ∈ us

def UsedLe (acc acc' : Used) : Prop := ∀ k us, (k, us) ∈ acc → ∃ us', (k, us') ∈ acc' ∧ ∀ c ∈ us, c ∈ us'

theorem UsedLe.refl (acc : Used) : UsedLe acc acc := fun _ us h => ⟨us, h, fun _ hc => hc⟩

theorem UsedLe.trans {a b c : Used} (h1 : UsedLe a b) (h2 : UsedLe b c) : UsedLe a c := by
  intro k us h
  obtain ⟨us', h', hs⟩ := h1 k us h
  obtain ⟨us'', h'', hs'⟩ := h2 k us' h'
  exact ⟨us'', h'', fun c hc => hs' c (hs c hc)⟩

theorem UsedLe.covers {acc acc' : Used} (h : UsedLe acc acc') {k c : String} (hc : Covers acc k c) :
    Covers acc' k c := by
  obtain ⟨us, hm, hcu⟩ := hc
  obtain ⟨us', hm', hs⟩ := h k us hm
  exact ⟨us', hm', hs c hcu⟩

theorem usedLe_add (acc : Used) (k : String) (cs : List String) : UsedLe acc (acc.add k cs) := by
  intro k1 us h
  unfold Used.add
  split
  · by_cases e : k1 == k
    · refine ⟨unionL us cs, ?_, fun c hc => mem_unionL.mpr (.inl hc)⟩
      apply List.mem_map.mpr
      exact ⟨(k1, us), h, by simp [e]⟩
    · refine ⟨us, ?_, fun c hc => hc⟩
      apply List.mem_map.mpr
      exact ⟨(k1, us), h, by simp [e]⟩
  · exact ⟨us, List.mem_append_left _ h, fun c hc => hc⟩

theorem covers_add (acc : Used) (k : String) (cs : List String) {c : String} (hc : c ∈ cs) :
    Covers (acc.add k cs) k c := by
  unfold Used.add
  split
  · rename_i hany
    obtain ⟨kv, hkv, hk⟩ := List.any_eq_true.mp hany
    have e : kv.1 = k := by simpa using hk
    refine ⟨unionL kv.2 cs, ?_, mem_unionL.mpr (.inr hc)⟩
    apply List.mem_map.mpr
    exact ⟨kv, hkv, by simp [e]⟩
  · exact ⟨cs, List.mem_append_right _ (List.mem_singleton.mpr rfl), hc⟩

theorem used_extend (s : Ops) (ops : Assign) (part od rv : List String) (w : Bool) (u : List String) :
    ∃ v, usedFromSources (.extend s ops part od rv w) u = [v] ∧ (∀ c ∈ v, c ∈ s.cols) ∧
      (∀ c, c ∈ s.cols → (c ∈ u ∨ c ∈ part ∨ c ∈ od) →
        c ∉ (ops.filter (fun kv => u.contains kv.1)).map (·.1) → c ∈ v) ∧
      (∀ kv ∈ ops, kv.1 ∈ u → ∀ c ∈ kv.2.colsRaw, c ∈ s.cols → c ∈ v) := by
  simp only [usedFromSources]
  split
  · rename_i hemp
    refine ⟨_, rfl, fun c hc => hc, fun c hc _ _ => hc, fun kv hkv hk c _ hc => hc⟩
  · refine ⟨_, rfl, fun c hc => (List.mem_filter.mp hc).1, ?_, ?_⟩
    · intro c hc h3 hn
      rw [mem_filter_contains]
      refine ⟨hc, mem_unionL.mpr (.inl ?_)⟩
      rw [mem_filter_not_contains]
      refine ⟨?_, hn⟩
      rcases h3 with h | h | h
      · exact mem_unionL.mpr (.inl (mem_unionL.mpr (.inl (mem_unionL.mpr (.inl h)))))
      · exact mem_unionL.mpr (.inl (mem_unionL.mpr (.inl (mem_unionL.mpr (.inr h)))))
      · exact mem_unionL.mpr (.inl (mem_unionL.mpr (.inr h)))
    · intro kv hkv hk c hc hcs
      rw [mem_filter_contains]
      refine ⟨hcs, mem_unionL.mpr (.inr (mem_colsUsedOps.mpr ⟨kv, ?_, hc⟩))⟩
      exact List.mem_filter.mpr ⟨hkv, by simpa using hk⟩

theorem mem_keys_filter {ops : Assign} {u : List String} {c : String}
    (h : c ∈ (ops.filter (fun kv => u.contains kv.1)).map (·.1)) : c ∈ ops.map (·.1) ∧ c ∈ u := by
  obtain ⟨kv, hkv, rfl⟩ := List.mem_map.mp h
  obtain ⟨h1, h2⟩ := List.mem_filter.mp hkv
  exact ⟨List.mem_map.mpr ⟨kv, h1, rfl⟩, by simpa using h2⟩

theorem mem_join_cols (a b : Ops) (oa ob : List String) (jt : JoinType) (c : String) :
    c ∈ (Ops.join a b oa ob jt).cols ↔ c ∈ a.cols ∨ c ∈ b.cols := mem_joinCols

theorem mem_concat_cols {a b : Ops} {idc : Option String} {an bn : String} {c : String} :
    c ∈ (Ops.concat a b idc an bn).cols ↔ c ∈ a.cols ∨ idc = some c := by
  cases idc with
  | none => exact ⟨.inl, fun h => h.resolve_right nofun⟩
  | some i =>
    simp only [Ops.cols, List.mem_append, List.mem_singleton, Option.some.injEq]
    exact or_congr_right eq_comm

theorem narrow_cols_subset (V : String → List String → List String)
    (hV : ∀ k cs c, c ∈ V k cs → c ∈ cs) : ∀ (p : Ops) (c : String), c ∈ (narrowWith V p).cols → c ∈ p.cols := by
  intro p
  induction p with
  | table k cs => exact hV k cs
  | extend s ops part od rv w ih =>
    exact fun c h => mem_appendNew.mpr ((mem_appendNew.mp h).imp_left (ih c))
  | project s ops g ih => exact fun c h => h
  | selectRows s e ih => exact ih
  | selectCols s cs ih => exact fun c h => h
  | dropCols s ds ih =>
    exact fun c h => mem_filter_not_contains.mpr ((mem_filter_not_contains.mp h).imp_left (ih c))
  | order s cs rv lim ih => exact ih
  | rename s m ih =>
    intro c h
    obtain ⟨k, hk, rfl⟩ := List.mem_map.mp h
    exact List.mem_map.mpr ⟨k, ih k hk, rfl⟩
  | mapCols s m ds ih =>
    intro c h
    obtain ⟨k, hk, rfl⟩ := List.mem_map.mp h
    exact List.mem_map.mpr ⟨k, mem_filter_not_contains.mpr ((mem_filter_not_contains.mp hk).imp_left (ih k)), rfl⟩
  | join a b oa ob jt iha ihb =>
    exact fun c h => (mem_join_cols a b oa ob jt c).mpr (((mem_join_cols _ _ oa ob jt c).mp h).imp (iha c) (ihb c))
  | concat a b idc an bn iha ihb =>
    exact fun c h => mem_concat_cols.mpr ((mem_concat_cols.mp h).imp_left (iha c))
  | convert s rm ih => exact fun c h => h

/-!
`Run p u acc acc'`: the records `acc'` result from `acc` by a traversal of `p` that, at every node, may enlarge the
request it received (inside the node's columns) before asking the sources – what the implementation does when a
node object is shared (its record accumulates the requests of all its users, and the accumulated record is what is
passed to `columns_used_from_sources`).  `columnsUsedAux` is the run that never enlarges. -/

def Run : Ops → List String → Used → Used → Prop
  | .table k cs, u, acc, acc' => (∀ c ∈ u, c ∈ cs) ∧ acc' = acc.add k u
  | n@(.extend s _ _ _ _ _), u, acc, acc' | n@(.project s _ _), u, acc, acc' | n@(.selectRows s _), u, acc, acc'
  | n@(.selectCols s _), u, acc, acc' | n@(.dropCols s _), u, acc, acc' | n@(.order s _ _ _), u, acc, acc'
  | n@(.rename s _), u, acc, acc' | n@(.mapCols s _ _), u, acc, acc' | n@(.convert s _), u, acc, acc' =>
    ∃ u', (∀ c ∈ u, c ∈ u') ∧ (∀ c ∈ u', c ∈ n.cols) ∧ Run s ((usedFromSources n u').headD []) acc acc'
  | n@(.join a b _ _ _), u, acc, acc' | n@(.concat a b _ _ _), u, acc, acc' =>
    ∃ u' acc1, (∀ c ∈ u, c ∈ u') ∧ (∀ c ∈ u', c ∈ n.cols) ∧
      Run a ((usedFromSources n u').headD []) acc acc1 ∧ Run b (((usedFromSources n u').drop 1).headD []) acc1 acc'

theorem weaken_goal {u0 u cols : List String} {x y : Except Err Table} (hle : ∀ c ∈ u0, c ∈ u)
    (h : (∀ c ∈ u, c ∈ cols) ∧ ResAgree u x y) : (∀ c ∈ u0, c ∈ cols) ∧ ResAgree u0 x y :=
  ⟨fun c hc => h.1 c (hle c hc), h.2.mono hle⟩

/-!
The traversals of `columns_used` treat all nodes with one source alike, and both kinds with two. -/

theorem run_un {n s : Ops} (hn : n.sources = [s]) {u : List String} {acc acc' : Used} :
    Run n u acc acc' ↔
      ∃ u', (∀ c ∈ u, c ∈ u') ∧ (∀ c ∈ u', c ∈ n.cols) ∧ Run s ((usedFromSources n u').headD []) acc acc' := by
  cases n <;> cases hn <;> exact Iff.rfl

theorem run_bin {n a b : Ops} (hn : n.sources = [a, b]) {u : List String} {acc acc' : Used} :
    Run n u acc acc' ↔
      ∃ u' acc1, (∀ c ∈ u, c ∈ u') ∧ (∀ c ∈ u', c ∈ n.cols) ∧
        Run a ((usedFromSources n u').headD []) acc acc1 ∧
        Run b (((usedFromSources n u').drop 1).headD []) acc1 acc' := by
  cases n <;> cases hn <;> exact Iff.rfl

theorem columnsUsedAux_table {k : String} {cs u : List String} {acc acc' : Used} :
    columnsUsedAux (.table k cs) u acc = .ok acc' ↔ (∀ c ∈ u, c ∈ cs) ∧ acc' = acc.add k u := by
  have e : columnsUsedAux (.table k cs) u acc =
      (ok? (subset u cs) .valueError >>= fun _ => .ok (acc.add k u)) := rfl
  rw [e, ok?_bind_ok, subset_iff, Except.ok.injEq, eq_comm]

theorem columnsUsedAux_un {n s : Ops} (hn : n.sources = [s]) {u : List String} {acc acc' : Used} :
    columnsUsedAux n u acc = .ok acc' ↔
      (∀ c ∈ u, c ∈ n.cols) ∧ columnsUsedAux s ((usedFromSources n u).headD []) acc = .ok acc' := by
  have e : columnsUsedAux n u acc =
      (ok? (subset u n.cols) .valueError >>= fun _ => columnsUsedAux s ((usedFromSources n u).headD []) acc) := by
    cases n <;> cases hn <;> rfl
  rw [e, ok?_bind_ok, subset_iff]

theorem columnsUsedAux_bin {n a b : Ops} (hn : n.sources = [a, b]) {u : List String} {acc acc' : Used} :
    columnsUsedAux n u acc = .ok acc' ↔
      (∀ c ∈ u, c ∈ n.cols) ∧ ∃ acc1, columnsUsedAux a ((usedFromSources n u).headD []) acc = .ok acc1 ∧
        columnsUsedAux b (((usedFromSources n u).drop 1).headD []) acc1 = .ok acc' := by
  have e : columnsUsedAux n u acc =
      (ok? (subset u n.cols) .valueError >>= fun _ => columnsUsedAux a ((usedFromSources n u).headD []) acc >>=
        columnsUsedAux b (((usedFromSources n u).drop 1).headD [])) := by
    cases n <;> cases hn <;> rfl
  rw [e, ok?_bind_ok, subset_iff, bind_eq_ok]

theorem run_mono (p : Ops) : ∀ (u : List String) (acc acc' : Used), Run p u acc acc' → UsedLe acc acc' := by
  induction p using Ops.sources_induction with
  | table k cs =>
    intro u acc acc' h
    rw [h.2]
    exact usedLe_add acc k u
  | un n s hn ih =>
    intro u acc acc' h
    obtain ⟨u', _, _, h⟩ := (run_un hn).mp h
    exact ih _ _ _ h
  | bin n a b hn iha ihb =>
    intro u acc acc' h
    obtain ⟨u', acc1, _, _, h1, h2⟩ := (run_bin hn).mp h
    exact (iha _ _ _ h1).trans (ihb _ _ _ h2)

theorem run_of_aux (p : Ops) : ∀ (u : List String) (acc acc' : Used),
    columnsUsedAux p u acc = .ok acc' → Run p u acc acc' := by
  induction p using Ops.sources_induction with
  | table k cs =>
    intro u acc acc' h
    exact columnsUsedAux_table.mp h
  | un n s hn ih =>
    intro u acc acc' h
    obtain ⟨hs, h⟩ := (columnsUsedAux_un hn).mp h
    exact (run_un hn).mpr ⟨u, fun _ hc => hc, hs, ih _ _ _ h⟩
  | bin n a b hn iha ihb =>
    intro u acc acc' h
    obtain ⟨hs, acc1, h1, h2⟩ := (columnsUsedAux_bin hn).mp h
    exact (run_bin hn).mpr ⟨u, acc1, fun _ hc => hc, hs, iha _ _ _ h1, ihb _ _ _ h2⟩

theorem columnsUsedAux_mono (p : Ops) (u : List String) (acc acc' : Used)
    (h : columnsUsedAux p u acc = .ok acc') : UsedLe acc acc' := run_mono p u acc acc' (run_of_aux p u acc acc' h)

/-- what the induction assumes about the table scans: for every table description of the pipeline and every
column set covered by the final records, the narrowed description keeps those columns and the two scans agree -/
def ScanAgree (Θ : Interp) (cfg : SemCfg) (V : String → List String → List String) (env env' : Env)
    (tbls : List (String × List String)) (acc : Used) : Prop :=
  ∀ k cs, (k, cs) ∈ tbls → ∀ w : List String, (∀ c ∈ w, Covers acc k c) →
    (∀ c ∈ w, c ∈ cs → c ∈ V k cs) ∧
      ResAgree w (sem Θ cfg env (.table k cs)) (sem Θ cfg env' (.table k (V k cs)))

theorem ScanAgree.mono {Θ : Interp} {cfg : SemCfg} {V : String → List String → List String} {env env' : Env}
    {tbls tbls' : List (String × List String)} {acc acc' : Used}
    (h : ScanAgree Θ cfg V env env' tbls' acc') (ht : ∀ x ∈ tbls, x ∈ tbls') (ha : UsedLe acc acc') :
    ScanAgree Θ cfg V env env' tbls acc :=
  fun k cs hk w hw => h k cs (ht _ hk) w (fun c hc => ha.covers (hw c hc))

theorem sem_null_outside {Θ : Interp} (hok : ConvertOK Θ) {cfg : SemCfg} {env : Env} {p : Ops} {t : Table}
    (h : sem Θ cfg env p = .ok t) {sc : List String} (hs : ∀ c ∈ p.cols, c ∈ sc) :
    ∀ r ∈ t.rows, ∀ c, c ∉ sc → r.get c = .null := by
  obtain ⟨hc, hw⟩ := sem_cols_wf Θ hok cfg env p t h
  exact hw.null_outside (by rw [hc]; exact hs)

theorem sem_keys_in {Θ : Interp} (hok : ConvertOK Θ) {cfg : SemCfg} {env : Env} {p : Ops} {t : Table}
    (h : sem Θ cfg env p = .ok t) {sc : List String} (hs : ∀ c ∈ p.cols, c ∈ sc) :
    ∀ r ∈ t.rows, ∀ k ∈ r.keys, k ∈ sc := by
  obtain ⟨hc, hw⟩ := sem_cols_wf Θ hok cfg env p t h
  exact hw.keys_in (hc ▸ hs)

/-- agreement on the reported source columns extends to every column list `X` (columns outside the source read
null on both sides) -/
theorem upgrade {sc v : List String} (X : List String) {l l' : List Row} (h : RowsAgree v l l')
    (hl : ∀ r ∈ l, ∀ c, c ∉ sc → r.get c = .null) (hl' : ∀ r ∈ l', ∀ c, c ∉ sc → r.get c = .null) :
    RowsAgree (v ++ X.filter (fun c => !sc.contains c)) l l' := by
  apply h.extend_outside (sc := sc) _ hl hl'
  intro c hc hs
  rcases List.mem_append.mp hc with h1 | h1
  · exact h1
  · exact absurd hs (mem_filter_not_contains.mp h1).2

theorem mem_upgrade {sc v X : List String} {c : String} (hX : c ∈ X) (h : c ∈ sc → c ∈ v) :
    c ∈ v ++ X.filter (fun c => !sc.contains c) := by
  by_cases hs : c ∈ sc
  · exact List.mem_append_left _ (h hs)
  · exact List.mem_append_right _ (mem_filter_not_contains.mpr ⟨hX, hs⟩)

/-- `W`: everything the step reads for the requested columns `u` (partition and order columns when no op assigns them) -/
theorem extend_request {s : Ops} {ops : Assign} {part od rv : List String} {w : Bool} {u : List String}
    {l l' : List Row} (hag : RowsAgree ((usedFromSources (.extend s ops part od rv w) u).headD []) l l')
    (hn : ∀ r ∈ l, ∀ c, c ∉ s.cols → r.get c = .null) (hn' : ∀ r ∈ l', ∀ c, c ∉ s.cols → r.get c = .null) :
    ∃ W, RowsAgree W l l' ∧ (∀ c ∈ u, c ∉ ops.map (·.1) → c ∈ W) ∧
      (∀ kv ∈ ops, kv.1 ∈ u → ∀ c ∈ kv.2.colsRaw, c ∈ W) ∧
      (disjoint (ops.map (·.1)) (part ++ od) = true → ∀ c ∈ part ++ od, c ∈ W) := by
  obtain ⟨v, hv, -, hkeep, hexpr⟩ := used_extend s ops part od rv w u
  rw [hv] at hag
  refine ⟨_, upgrade (sc := s.cols) (u ++ (part ++ od) ++ ops.flatMap (fun kv => kv.2.colsRaw)) hag hn hn', ?_, ?_, ?_⟩
  · intro c hc hk
    exact mem_upgrade (List.mem_append_left _ (List.mem_append_left _ hc))
      fun hcs => hkeep c hcs (.inl hc) fun h => hk (mem_keys_filter h).1
  · intro kv hkv hk c hc
    exact mem_upgrade (List.mem_append_right _ (List.mem_flatMap.mpr ⟨kv, hkv, hc⟩)) (hexpr kv hkv hk c hc)
  · intro hdis c hc
    refine mem_upgrade (List.mem_append_left _ (List.mem_append_right _ hc))
      fun hcs => hkeep c hcs (.inr (List.mem_append.mp hc)) fun h => ?_
    exact disjoint_iff.mp hdis c (mem_keys_filter h).1 hc

theorem join_request (cfg : SemCfg) (jt : JoinType) {a b : Ops} {oa ob u oc oc' : List String}
    {ta ta' tb tb' : Table}
    (haga : RowsAgree ((usedFromSources (.join a b oa ob jt) u).headD []) ta.rows ta'.rows)
    (hagb : RowsAgree (((usedFromSources (.join a b oa ob jt) u).drop 1).headD []) tb.rows tb'.rows)
    (hwa : ta.WF) (hwa' : ta'.WF) (hwb : tb.WF) (hwb' : tb'.WF)
    (hca : ∀ c ∈ ta.cols, c ∈ a.cols) (hca' : ∀ c ∈ ta'.cols, c ∈ a.cols)
    (hcb : ∀ c ∈ tb.cols, c ∈ b.cols) (hcb' : ∀ c ∈ tb'.cols, c ∈ b.cols)
    (hu : ∀ c ∈ u, c ∈ oc ∧ c ∈ oc') :
    RowsAgree u (semJoin cfg jt oa ob ta tb oc).rows (semJoin cfg jt oa ob ta' tb' oc').rows := by
  have hreq : ∀ (x : Ops) c, c ∈ u ∨ c ∈ oa ∨ c ∈ ob → c ∈ x.cols →
      c ∈ x.cols.filter (fun c => (unionL (unionL u oa) ob).contains c) := by
    intro x c hc hcx
    refine mem_filter_contains.mpr ⟨hcx, ?_⟩
    rcases hc with h | h | h
    · exact mem_unionL.mpr (.inl (mem_unionL.mpr (.inl h)))
    · exact mem_unionL.mpr (.inl (mem_unionL.mpr (.inr h)))
    · exact mem_unionL.mpr (.inr h)
  have haga' := upgrade (sc := a.cols) (u ++ oa) haga (hwa.null_outside hca) (hwa'.null_outside hca')
  have hagb' := upgrade (sc := b.cols) (u ++ ob) hagb (hwb.null_outside hcb) (hwb'.null_outside hcb')
  -- a row reads null outside its table's columns, so the `contains` test of `joinRow` changes nothing
  have side : ∀ {t t' : Table} {W on : List String} (x : Ops), t.WF → t'.WF → ∀ r ∈ t.rows, ∀ r' ∈ t'.rows,
      Row.agreeOn (W ++ (u ++ on).filter fun c => !x.cols.contains c) r r' → (∀ c ∈ u, c ∈ x.cols → c ∈ W) →
      ∀ c ∈ u, Ref.sideCell t.cols (some r) c = Ref.sideCell t'.cols (some r') c :=
    fun x hw hw' r hr r' hr' hrr hW c hc => by
      rw [hw.sideCell hr, hw'.sideCell hr']; exact hrr c (mem_upgrade (List.mem_append_left _ hc) (hW c hc))
  refine semJoin_congr cfg jt oa ob haga' hagb' ?_ ?_ ?_ ?_ hu
  · exact fun c hc => mem_upgrade (List.mem_append_right _ hc) (hreq a c (.inr (.inl hc)))
  · exact fun c hc => mem_upgrade (List.mem_append_right _ hc) (hreq b c (.inr (.inr hc)))
  · exact fun r hr r' hr' hrr => side a hwa hwa' r hr r' hr' hrr fun c hc => hreq a c (.inl hc)
  · exact fun r hr r' hr' hrr => side b hwb hwb' r hr r' hr' hrr fun c hc => hreq b c (.inl hc)

theorem concat_request (idc : Option String) (an bn : String) {a b : Ops} {u oc oc' : List String}
    {ta ta' tb tb' : Table}
    (haga : RowsAgree ((usedFromSources (.concat a b idc an bn) u).headD []) ta.rows ta'.rows)
    (hagb : RowsAgree (((usedFromSources (.concat a b idc an bn) u).drop 1).headD []) tb.rows tb'.rows)
    (hna : ∀ r ∈ ta.rows, ∀ c, c ∉ a.cols → r.get c = .null) (hna' : ∀ r ∈ ta'.rows, ∀ c, c ∉ a.cols → r.get c = .null)
    (hnb : ∀ r ∈ tb.rows, ∀ c, c ∉ b.cols → r.get c = .null) (hnb' : ∀ r ∈ tb'.rows, ∀ c, c ∉ b.cols → r.get c = .null)
    (hu : ∀ c ∈ u, c ∈ oc ∧ c ∈ oc' ∧ c ∈ (Ops.concat a b idc an bn).cols) :
    RowsAgree u (semConcat idc an bn ta tb oc).rows (semConcat idc an bn ta' tb' oc').rows := by
  refine semConcat_congr idc an bn (upgrade (sc := a.cols) u haga hna hna') (upgrade (sc := b.cols) u hagb hnb hnb') ?_
  intro c hc
  refine ⟨(hu c hc).1, (hu c hc).2.1, (mem_concat_cols.mp (hu c hc).2.2).symm.imp_right fun _ => ?_⟩
  exact ⟨mem_upgrade hc fun h => mem_filter_contains.mpr ⟨h, hc⟩,
    mem_upgrade hc fun h => mem_filter_contains.mpr ⟨h, hc⟩⟩

theorem sem_narrow_agree (Θ : Interp) (hok : ConvertOK Θ) (hloc : ConvertLocal Θ) (cfg : SemCfg)
    (V : String → List String → List String) (hV : ∀ k cs c, c ∈ V k cs → c ∈ cs) (env env' : Env) :
    ∀ (p : Ops), UsedWF p → ∀ (u : List String) (acc acc' : Used), Run p u acc acc' →
      ScanAgree Θ cfg V env env' p.tables acc' →
      (∀ c ∈ u, c ∈ (narrowWith V p).cols) ∧
        ResAgree u (sem Θ cfg env p) (sem Θ cfg env' (narrowWith V p)) := by
  intro p
  induction p with
  | table k cs =>
    intro _ u acc acc' hcu hscan
    obtain ⟨hsub, rfl⟩ := hcu
    have := hscan k cs List.mem_cons_self u (fun c hc => covers_add acc k u hc)
    exact ⟨fun c hc => this.1 c hc (hsub c hc), this.2⟩
  | extend s ops part od rv w ih =>
    intro hwf u0 acc acc' hcu hscan
    obtain ⟨u, hle0, hsub, hcu⟩ := hcu
    obtain ⟨ihA, ihB⟩ := ih hwf.1 _ acc acc' hcu hscan
    have hA : ∀ c ∈ u, c ∈ (narrowWith V (Ops.extend s ops part od rv w)).cols := by
      obtain ⟨v, hv, -, hkeep, -⟩ := used_extend s ops part od rv w u
      rw [hv] at ihA
      intro c hc
      by_cases hk : c ∈ ops.map (·.1)
      · exact mem_appendNew.mpr (.inr hk)
      · have hcs := (mem_appendNew.mp (hsub c hc)).resolve_right hk
        exact mem_appendNew.mpr (.inl (ihA c (hkeep c hcs (.inl hc) (fun h => hk (mem_keys_filter h).1))))
    refine weaken_goal hle0 ⟨hA, ResAgree.bind ihB ?_⟩
    intro t t' ht ht' hag
    obtain ⟨W, hW, hkeep, hexpr, hpo⟩ := extend_request hag
      (sem_null_outside hok ht fun c hc => hc) (sem_null_outside hok ht' (narrow_cols_subset V hV s))
    have hu2 : ∀ c ∈ u, c ∈ (Ops.extend s ops part od rv w).cols ∧
        c ∈ (Ops.extend (narrowWith V s) ops part od rv w).cols := fun c hc => ⟨hsub c hc, hA c hc⟩
    cases w with
    | false => exact semExtendPlain_congr Θ ops hW hu2 hkeep hexpr
    | true =>
      exact semExtendWindow_congr Θ ops part od rv hW hu2 (fun c hc => hpo (hwf.2 rfl) c (List.mem_append_left _ hc))
        (fun c hc => hpo (hwf.2 rfl) c (List.mem_append_right _ hc)) hkeep hexpr
  | project s ops g ih =>
    intro hwf u0 acc acc' hcu hscan
    obtain ⟨u, hle0, hsub, hcu⟩ := hcu
    obtain ⟨_, ihB⟩ := ih hwf _ acc acc' hcu hscan
    refine weaken_goal hle0 ⟨hsub, ResAgree.bind ihB ?_⟩
    intro t t' ht ht' hag
    refine semProject_congr Θ ops g hag (fun c hc => ⟨hsub c hc, hsub c hc⟩)
      (fun c hc => mem_unionL.mpr (.inl hc)) ?_
    intro kv hkv hk c hc
    refine mem_unionL.mpr (.inr (mem_colsUsedOps.mpr ⟨kv, ?_, hc⟩))
    exact List.mem_filter.mpr ⟨hkv, by simpa using hk⟩
  | selectRows s e ih =>
    intro hwf u0 acc acc' hcu hscan
    obtain ⟨u, hle0, hsub, hcu⟩ := hcu
    obtain ⟨ihA, ihB⟩ := ih hwf _ acc acc' hcu hscan
    have hv : ∀ c ∈ u, c ∈ unionL (s.cols.filter (fun c => u.contains c)) e.colsUsed :=
      fun c hc => mem_unionL.mpr (.inl (mem_filter_contains.mpr ⟨hsub c hc, hc⟩))
    refine weaken_goal hle0 ⟨fun c hc => ihA c (hv c hc), ResAgree.bind ihB ?_⟩
    intro t t' ht ht' hag
    exact semSelectRows_congr Θ e hag (fun c hc => mem_unionL.mpr (.inr (List.mem_eraseDups.mpr hc))) hv
  | selectCols s cs ih =>
    intro hwf u0 acc acc' hcu hscan
    obtain ⟨u, hle0, hsub, hcu⟩ := hcu
    obtain ⟨_, ihB⟩ := ih hwf _ acc acc' hcu hscan
    refine weaken_goal hle0 ⟨hsub, ResAgree.bind ihB ?_⟩
    intro t t' ht ht' hag
    exact select_congr hag (fun c hc => ⟨hsub c hc, hsub c hc, mem_filter_contains.mpr ⟨hsub c hc, hc⟩⟩)
  | dropCols s ds ih =>
    intro hwf u0 acc acc' hcu hscan
    obtain ⟨u, hle0, hsub, hcu⟩ := hcu
    obtain ⟨ihA, ihB⟩ := ih hwf _ acc acc' hcu hscan
    have hv : ∀ c ∈ u, c ∈ u.filter (fun c => !ds.contains c) :=
      fun c hc => mem_filter_not_contains.mpr ⟨hc, (mem_filter_not_contains.mp (hsub c hc)).2⟩
    have hA : ∀ c ∈ u, c ∈ (narrowWith V (Ops.dropCols s ds)).cols :=
      fun c hc => mem_filter_not_contains.mpr ⟨ihA c (hv c hc), (mem_filter_not_contains.mp (hv c hc)).2⟩
    refine weaken_goal hle0 ⟨hA, ResAgree.bind ihB ?_⟩
    intro t t' ht ht' hag
    exact select_congr hag (fun c hc => ⟨hsub c hc, hA c hc, hv c hc⟩)
  | order s cs rv lim ih =>
    intro hwf u0 acc acc' hcu hscan
    obtain ⟨u, hle0, hsub, hcu⟩ := hcu
    obtain ⟨ihA, ihB⟩ := ih hwf _ acc acc' hcu hscan
    have hv : ∀ c ∈ u, c ∈ unionL ((Ops.order s cs rv lim).cols.filter (fun c => u.contains c)) cs :=
      fun c hc => mem_unionL.mpr (.inl (mem_filter_contains.mpr ⟨hsub c hc, hc⟩))
    refine weaken_goal hle0 ⟨fun c hc => ihA c (hv c hc), ResAgree.bind ihB ?_⟩
    intro t t' ht ht' hag
    exact semOrder_congr cs rv lim hag (fun c hc => mem_unionL.mpr (.inr hc)) hv
  | rename s m ih =>
    intro hwf u0 acc acc' hcu hscan
    obtain ⟨u, hle0, hsub, hcu⟩ := hcu
    obtain ⟨ihA, ihB⟩ := ih hwf.1 _ acc acc' hcu hscan
    have hv : ∀ c ∈ u, renBack m c ∈ (u.map (renBack m)).eraseDups :=
      fun c hc => List.mem_eraseDups.mpr (List.mem_map.mpr ⟨c, hc, rfl⟩)
    have hsub' : ∀ c ∈ u, c ∈ s.cols.map (renFwd m) := hsub
    have hA : ∀ c ∈ u, c ∈ (narrowWith V (Ops.rename s m)).cols := by
      intro c hc
      obtain ⟨k0, hk0, rfl⟩ := List.mem_map.mp (hsub' c hc)
      refine List.mem_map.mpr ⟨k0, ?_, rfl⟩
      have := ihA _ (hv _ hc)
      rwa [hwf.2 k0 hk0] at this
    refine weaken_goal hle0 ⟨hA, ResAgree.bind ihB ?_⟩
    intro t t' ht ht' hag
    exact rename_congr (renFwd m) (renBack m) (sc := s.cols) hag (sem_keys_in hok ht (fun c hc => hc))
      (sem_keys_in hok ht' (narrow_cols_subset V hV s)) hwf.2 fun c hc => ⟨hsub' c hc, hv c hc⟩
  | mapCols s m ds ih =>
    intro hwf u0 acc acc' hcu hscan
    obtain ⟨u, hle0, hsub, hcu⟩ := hcu
    obtain ⟨ihA, ihB⟩ := ih hwf.1 _ acc acc' hcu hscan
    have hv : ∀ c ∈ u, renFwd m c ∈ unionL (u.map (renFwd m)).eraseDups ds :=
      fun c hc => mem_unionL.mpr (.inl (List.mem_eraseDups.mpr (List.mem_map.mpr ⟨c, hc, rfl⟩)))
    have hsub' : ∀ c ∈ u, c ∈ (s.cols.filter (fun c => !ds.contains c)).map (renBack m) := hsub
    have hA : ∀ c ∈ u, c ∈ (narrowWith V (Ops.mapCols s m ds)).cols := by
      intro c hc
      obtain ⟨k0, hk0, rfl⟩ := List.mem_map.mp (hsub' c hc)
      rw [mem_filter_not_contains] at hk0
      refine List.mem_map.mpr ⟨k0, mem_filter_not_contains.mpr ⟨?_, hk0.2⟩, rfl⟩
      have := ihA _ (hv _ hc)
      rwa [hwf.2 k0 hk0.1 hk0.2] at this
    refine weaken_goal hle0 ⟨hA, ResAgree.bind ihB ?_⟩
    intro t t' ht ht' hag
    exact mapCols_congr (renBack m) (renFwd m) ds (sc := s.cols) hag (sem_keys_in hok ht (fun c hc => hc))
      (sem_keys_in hok ht' (narrow_cols_subset V hV s)) hwf.2 fun c hc => ⟨hsub' c hc, hv c hc⟩
  | convert s rm ih =>
    intro hwf u0 acc acc' hcu hscan
    obtain ⟨u, hle0, hsub, hcu⟩ := hcu
    obtain ⟨_, ihB⟩ := ih hwf _ acc acc' hcu hscan
    refine weaken_goal hle0 ⟨hsub, ResAgree.bind ihB ?_⟩
    intro t t' ht ht' hag
    show ResAgree u (Θ.convert rm t) (Θ.convert rm t')
    rw [hloc rm t t' hag]
    exact ResAgree.refl u _
  | join a b oa ob jt iha ihb =>
    intro hwf u0 acc acc' hcu hscan
    obtain ⟨u, acc1, hle0, hsub, hcu1, hcu2⟩ := hcu
    obtain ⟨ihAa, ihBa⟩ := iha hwf.1 _ acc acc1 hcu1
      (hscan.mono (fun x hx => List.mem_append_left _ hx) (run_mono _ _ _ _ hcu2))
    obtain ⟨ihAb, ihBb⟩ := ihb hwf.2 _ acc1 acc' hcu2
      (hscan.mono (fun x hx => List.mem_append_right _ hx) (UsedLe.refl _))
    have hA : ∀ c ∈ u, c ∈ (narrowWith V (Ops.join a b oa ob jt)).cols := by
      intro c hc
      refine (mem_join_cols _ _ oa ob jt c).mpr (((mem_join_cols a b oa ob jt c).mp (hsub c hc)).imp ?_ ?_)
      · exact fun h => ihAa c (mem_filter_contains.mpr ⟨h, mem_unionL.mpr (.inl (mem_unionL.mpr (.inl hc)))⟩)
      · exact fun h => ihAb c (mem_filter_contains.mpr ⟨h, mem_unionL.mpr (.inl (mem_unionL.mpr (.inl hc)))⟩)
    refine weaken_goal hle0 ⟨hA, ResAgree.bind ihBa fun ta ta' hta hta' haga => ResAgree.bind ihBb ?_⟩
    intro tb tb' htb htb' hagb
    obtain ⟨hca, hwa⟩ := sem_cols_wf Θ hok cfg env a ta hta
    obtain ⟨hca', hwa'⟩ := sem_cols_wf Θ hok cfg env' _ ta' hta'
    obtain ⟨hcb, hwb⟩ := sem_cols_wf Θ hok cfg env b tb htb
    obtain ⟨hcb', hwb'⟩ := sem_cols_wf Θ hok cfg env' _ tb' htb'
    refine select_congr (w := u) ?_ (fun c hc => ⟨hsub c hc, hA c hc, hc⟩)
    refine join_request cfg jt haga hagb hwa hwa' hwb hwb' (hca ▸ fun _ h => h)
      (hca' ▸ narrow_cols_subset V hV a) (hcb ▸ fun _ h => h) (hcb' ▸ narrow_cols_subset V hV b) ?_
    intro c hc
    exact ⟨mem_appendNew.mpr ((mem_join_cols a b oa ob jt c).mp (hsub c hc)),
      mem_appendNew.mpr ((mem_join_cols _ _ oa ob jt c).mp (hA c hc))⟩
  | concat a b idc an bn iha ihb =>
    intro hwf u0 acc acc' hcu hscan
    obtain ⟨u, acc1, hle0, hsub, hcu1, hcu2⟩ := hcu
    obtain ⟨ihAa, ihBa⟩ := iha hwf.1 _ acc acc1 hcu1
      (hscan.mono (fun x hx => List.mem_append_left _ hx) (run_mono _ _ _ _ hcu2))
    obtain ⟨ihAb, ihBb⟩ := ihb hwf.2 _ acc1 acc' hcu2
      (hscan.mono (fun x hx => List.mem_append_right _ hx) (UsedLe.refl _))
    have hA : ∀ c ∈ u, c ∈ (narrowWith V (Ops.concat a b idc an bn)).cols :=
      fun c hc => mem_concat_cols.mpr ((mem_concat_cols.mp (hsub c hc)).imp_left
        fun h => ihAa c (mem_filter_contains.mpr ⟨h, hc⟩))
    refine weaken_goal hle0 ⟨hA, ResAgree.bind ihBa fun ta ta' hta hta' haga => ResAgree.bind ihBb ?_⟩
    intro tb tb' htb htb' hagb
    exact concat_request idc an bn haga hagb
      (sem_null_outside hok hta fun c hc => hc) (sem_null_outside hok hta' (narrow_cols_subset V hV a))
      (sem_null_outside hok htb fun c hc => hc) (sem_null_outside hok htb' (narrow_cols_subset V hV b))
      fun c hc => ⟨hsub c hc, hA c hc, hsub c hc⟩

end DAVerif
