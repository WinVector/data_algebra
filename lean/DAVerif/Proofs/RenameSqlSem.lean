import DAVerif.Proofs.RenameSem
import DAVerif.Proofs.RenameNearBasic
import DAVerif.Proofs.WithForm
import DAVerif.Proofs.SqlStep
/-!
`semNear` (Sql/Sem.lean) commutes with every node-wise map of the tree whose `col` and `tab` are injective, the columns
of the base tables and of the common table expressions being renamed by `col`; the generated query names and the names
of common table expressions are left as they are.  `semNear` does not look at `ops_key`.

`semNear` is taken node by node in the named pieces of Proofs/SqlStep.lean (`Sql.semNear_unary`
with `Sql.stepRows`, `Sql.semNear_join` with `sqlCell`, `Sql.semNear_union`): each piece commutes with the map.
-/
namespace DAVerif
namespace Ren

open Function (Injective)
open DAVerif.Sql

variable {f : String → String} {φ : NodeMap}

theorem sqlRowLe_rename (hf : Injective f) (ec : EngineCfg) (cs rv : List String) (r1 r2 : Row) :
    sqlRowLe ec (cs.map f) (rv.map f) (r1.rename f) (r2.rename f) = sqlRowLe ec cs rv r1 r2 := by
  induction cs with
  | nil => rfl
  | cons c cs ih => simp only [List.map_cons, sqlRowLe, Row.get_rename hf, contains_map hf, ih]

theorem termVal_map (Θ : Interp) (hf : Injective φ.col) (ec : EngineCfg) (idx : List (Row × Nat)) (ri : Row × Nat)
    (k : String) (ot : Option STerm) :
    termVal Θ ec (idx.map (fun ri => (ri.1.rename φ.col, ri.2))) (ri.1.rename φ.col, ri.2) (φ.col k) (ot.map φ.term)
      = termVal Θ ec idx ri k ot := by
  cases ot with
  | none => exact Row.get_rename hf ri.1 k
  | some t =>
    cases t with
    | pass => exact Row.get_rename hf ri.1 k
    | ident c => exact Row.get_rename hf ri.1 c
    | coalesce lf c => exact Row.get_rename hf ri.1 c
    | qual l c => exact Row.get_rename hf ri.1 c
    | expr t w =>
      cases w with
      | none => exact evalCell_map Θ hf ri.1 t
      | some w => exact winCell_map Θ hf (sqlRowLe_rename hf ec) w.partition w.order w.reverse idx ri t

theorem aggVal_map (Θ : Interp) (hf : Injective φ.col) (g : List Row) (k : String) (ot : Option STerm) :
    aggVal Θ (g.map (fun r => r.rename φ.col)) (φ.col k) (ot.map φ.term) = aggVal Θ g k ot := by
  have hhead : ∀ c : String, ((g.map (fun r => r.rename φ.col)).head?.map (fun r => r.get (φ.col c))).getD .null
      = (g.head?.map (fun r => r.get c)).getD .null := by
    intro c
    cases g with
    | nil => rfl
    | cons r g => simp only [List.map_cons, List.head?_cons, Option.map_some, Option.getD_some, Row.get_rename hf]
  cases ot with
  | none => simp only [Option.map_none, aggVal, hhead]
  | some t =>
    cases t with
    | pass => simp only [Option.map_some, NodeMap.term, aggVal, hhead]
    | ident c => simp only [Option.map_some, NodeMap.term, aggVal, hhead]
    | coalesce lf c => simp only [Option.map_some, NodeMap.term, aggVal, hhead]
    | qual l c => simp only [Option.map_some, NodeMap.term, aggVal, hhead]
    | expr t w => simp only [Option.map_some, NodeMap.term, aggVal, opName_expr, argValues_expr hf]

theorem outCols_map (terms : Option Terms) (cols? : Option (List String)) (fc : List String) :
    outCols (terms.map φ.terms) (cols?.map (·.map φ.col)) (fc.map φ.col) = (outCols terms cols? fc).map φ.col := by
  cases terms with
  | none => rfl
  | some ts =>
    cases cols? with
    | none => simp only [Option.map_some, Option.map_none, outCols, NodeMap.terms_keys]
    | some cs =>
      simp only [Option.map_some, outCols, List.isEmpty_map, NodeMap.terms_keys]
      split <;> rfl

theorem lookT_map (hf : Injective φ.col) (terms : Option Terms) (k : String) :
    lookT (terms.map φ.terms) (φ.col k) = (lookT terms k).map φ.term := by
  cases terms with
  | none => rfl
  | some ts => exact lookupLast_map hf φ.term ts k

theorem joinOut_rename (dflt : List String) (cols? : Option (List String)) :
    joinOut (dflt.map f) (cols?.map (·.map f)) = (joinOut dflt cols?).map f := by
  cases cols? with
  | none => rfl
  | some cs =>
    simp only [Option.map_some, joinOut, List.isEmpty_map]
    split <;> rfl

theorem suffixRows_map (Θ : Interp) (hf : Injective φ.col) (ec : EngineCfg) (sfx : Suffix) (rows : List Row) :
    suffixRows Θ ec (φ.suffix sfx) (rows.map (fun r => r.rename φ.col))
      = (suffixRows Θ ec sfx rows).map (fun r => r.rename φ.col) := by
  cases sfx with
  | none => rfl
  | groupBy gs => rfl
  | whereE e =>
    simp only [NodeMap.suffix, suffixRows]
    rw [List.filter_map]
    congr 1
    apply List.filter_congr
    intro r _
    simp only [Function.comp, evalCell_map Θ hf]
  | orderBy cs rv lim =>
    simp only [NodeMap.suffix, suffixRows]
    exact (List.map_mergeSort (fun a _ b _ => (sqlRowLe_rename hf ec cs rv a b).symm)).symm

theorem limitOf_map {α β : Type} (g : α → β) (sfx : Suffix) (l : List α) :
    limitOf (φ.suffix sfx) (l.map g) = (limitOf sfx l).map g := by
  cases sfx with
  | orderBy cs rv lim => cases lim <;> first | rfl | exact List.map_take.symm
  | _ => rfl

theorem mkRow_map (out : List String) {V' V : String → Val} (h : ∀ c, V' (φ.col c) = V c) :
    (out.map φ.col).map (fun c => (c, V' c)) = Row.rename (out.map (fun c => (c, V c))) φ.col := by
  rw [Row.rename_mk, List.map_map]
  exact List.map_congr_left (fun c _ => congrArg (Prod.mk _) (h c))

theorem stepRows_map (Θ : Interp) (hf : Injective φ.col) (ec : EngineCfg) (terms : Option Terms) (agg : Bool)
    (sfx : Suffix) (out : List String) (rows : List Row) :
    Sql.stepRows Θ ec (terms.map φ.terms) agg (φ.suffix sfx) (out.map φ.col) (rows.map (fun r => r.rename φ.col))
      = (Sql.stepRows Θ ec terms agg sfx out rows).map (fun r => r.rename φ.col) := by
  have hagg : ∀ g : List Row, (out.map φ.col).map (fun c => (c, aggVal Θ (g.map (fun r => r.rename φ.col)) c
        (lookT (terms.map φ.terms) c))) = Row.rename (out.map (fun c => (c, aggVal Θ g c (lookT terms c)))) φ.col :=
    fun g => mkRow_map out (fun c => by rw [lookT_map hf]; exact aggVal_map Θ hf g c _)
  unfold Sql.stepRows
  dsimp only
  rw [suffixRows_map Θ hf]
  cases agg with
  | true =>
    rw [if_pos rfl, if_pos rfl]
    cases sfx with
    | groupBy gs =>
      show List.map _ _ = List.map _ (List.map _ _)
      rw [map_keyOf_rename hf, List.map_map]
      refine List.map_congr_left (fun k _ => ?_)
      rw [filter_keyOf_rename hf]
      exact hagg _
    | _ => exact congrArg (· :: []) (hagg _)
  | false =>
    rw [if_neg Bool.false_ne_true, if_neg Bool.false_ne_true, zipIdx_rename, ← limitOf_map, List.map_map, List.map_map]
    refine congrArg _ (List.map_congr_left (fun ri _ => ?_))
    exact mkRow_map out (fun c => by rw [lookT_map hf]; exact termVal_map Θ hf ec _ ri c _)

theorem sqlCell_map (hf : Injective φ.col) (lc rc : List String) (terms : Terms) (ra rb : Option Row) (c : String) :
    sqlCell (lc.map φ.col) (rc.map φ.col) (φ.terms terms) (ra.map (fun r => r.rename φ.col))
        (rb.map (fun r => r.rename φ.col)) (φ.col c)
      = sqlCell lc rc terms ra rb c := by
  unfold sqlCell refCell
  rw [show lookupLast (φ.terms terms) (φ.col c) = (lookupLast terms c).map φ.term from
    lookupLast_map hf φ.term terms c]
  simp only [sideCell_rename hf, contains_map hf]
  cases lookupLast terms c with
  | none => rfl
  | some t => cases t <;> rfl

theorem sqlJoinRow_map (hf : Injective φ.col) (lc rc : List String) (terms : Terms) (out : List String)
    (ra rb : Option Row) :
    sqlJoinRow (lc.map φ.col) (rc.map φ.col) (φ.terms terms) (out.map φ.col) (ra.map (fun r => r.rename φ.col))
        (rb.map (fun r => r.rename φ.col))
      = (sqlJoinRow lc rc terms out ra rb).rename φ.col := by
  rw [Sql.sqlJoinRow_eq, Sql.sqlJoinRow_eq]
  exact mkRow_map out (sqlCell_map hf lc rc terms ra rb)

theorem semNear_map (Θ : Interp) (ec : EngineCfg) (hφ : φ.Blind) (env : Env) (ctes : List (String × Table)) (n : Near) :
    ∀ (cols? : Option (List String)) (force : Bool),
    semNear Θ ec (Env.rename φ.col φ.tab env) (ctes.map (fun kv => (kv.1, kv.2.rename φ.col))) (φ.near n)
        (cols?.map (·.map φ.col)) force
      = (semNear Θ ec env ctes n cols? force).map (Table.rename φ.col) := by
  have hc := hφ.col_inj
  induction n with
  | table name terms =>
    intro cols? force
    simp only [NodeMap.near, semNear, env_lookup_rename hφ.tab_inj]
    cases env.lookup name with
    | none => rfl
    | some t =>
      simp only [Option.map_some]
      cases force with
      | false => rfl
      | true =>
        simp only [if_true]
        have hcs : (cols?.map (·.map φ.col)).getD (terms.map φ.col) = (cols?.getD terms).map φ.col := by
          cases cols? <;> rfl
        rw [hcs, List.isEmpty_map]
        split
        · rfl
        · have : subset ((cols?.getD terms).map φ.col) (Table.rename φ.col t).cols = subset (cols?.getD terms) t.cols :=
            subset_map hc _ t.cols
          rw [this]
          split
          · simp only [Except.map, Table.selectCols_rename hc]
          · rfl
  | cte name =>
    intro cols? force
    simp only [NodeMap.near, semNear, DAVerif.lookupLast_map ctes (Table.rename φ.col) name]
    cases lookupLast ctes name <;> rfl
  | unary name terms agg sub subCols suffix mg deps key ih =>
    intro cols? force
    simp only [NodeMap.near, Sql.semNear_unary, ih]
    refine map_bind _ _ _ _ _ (fun t => congrArg Except.ok ?_)
    show Table.mk _ _ = Table.mk _ _
    rw [show (t.rename φ.col).cols = t.cols.map φ.col from rfl, outCols_map,
      show (t.rename φ.col).rows = t.rows.map (fun r => r.rename φ.col) from rfl, stepRows_map Θ hc]
  | join name terms l lc ln r rc rn jt oa ob key ihl ihr =>
    intro cols? force
    simp only [NodeMap.near, Sql.semNear_join]
    have hl := ihl (some lc) false
    have hr := ihr (some rc) false
    simp only [Option.map_some] at hl hr
    rw [hl, hr]
    refine map_bind _ _ _ _ _ (fun tl => ?_)
    refine map_bind _ _ _ _ _ (fun tr => ?_)
    split
    · rfl
    · rw [NodeMap.terms_keys, joinOut_rename]
      refine congrArg (fun rows => Except.ok (Table.mk _ rows)) (joinRows_commute (fun r => r.rename φ.col)
        (fun ra rb => ?_) (sqlJoinRow_map hc lc rc terms _) _ _ tl.rows tr.rows)
      unfold refMatch
      rw [List.isEmpty_map, keyOf_rename hc, keyOf_rename hc]
  | union name terms l r cols key ihl ihr =>
    intro cols? force
    simp only [NodeMap.near, Sql.semNear_union]
    have hl := ihl (some cols) true
    have hr := ihr (some cols) true
    simp only [Option.map_some] at hl hr
    rw [hl, hr]
    refine map_bind _ _ _ _ _ (fun tl => ?_)
    refine map_bind _ _ _ _ _ (fun tr => ?_)
    simp only [Except.map, joinOut_rename, Table.rename, Row.renameCols, Table.mk.injEq, true_and,
      Except.ok.injEq, ← List.map_append, List.map_map]
    apply List.map_congr_left
    intro row _
    exact Row.select_rename hc row _

theorem semNear_ren (Θ : Interp) (ec : EngineCfg) {ρc : ColRen} {ρt : TabRen} (hc : Injective ρc) (ht : Injective ρt)
    (env : Env) (ctes : List (String × Table)) (n : Near) (cols? : Option (List String)) (force : Bool) :
    semNear Θ ec (Env.rename ρc ρt env) (ctes.map (fun kv => (kv.1, kv.2.rename ρc))) (n.rename ρc ρt)
        (cols?.map (·.map ρc)) force
      = (semNear Θ ec env ctes n cols? force).map (Table.rename ρc) :=
  renMap_near ρc ρt ▸ semNear_map (φ := renMap ρc ρt) Θ ec ⟨hc, ht⟩ env ctes n cols? force

/-- **the nested-form SQL semantics is equivariant** (no reserved-name guard: `semNear` resolves `Near.table` in the
environment only, and `semSql` starts without common table expressions) -/
theorem semSql_ren (Θ : Interp) (ec : EngineCfg) {ρc : ColRen} {ρt : TabRen} (hc : Injective ρc) (ht : Injective ρt)
    (env : Env) (q : Near) :
    semSql Θ ec (Env.rename ρc ρt env) (q.rename ρc ρt) = (semSql Θ ec env q).map (Table.rename ρc) := by
  have := semNear_ren Θ ec hc ht env [] q none true
  simpa only [semSql, List.map_nil, Option.map_none] using this

theorem semNear_eraseKeys (Θ : Interp) (ec : EngineCfg) (env : Env) (ctes : List (String × Table)) (n : Near) :
    ∀ (cols? : Option (List String)) (force : Bool),
    semNear Θ ec env ctes n.eraseKeys cols? force = semNear Θ ec env ctes n cols? force := by
  induction n with
  | table name terms => exact fun _ _ => rfl
  | cte name => exact fun _ _ => rfl
  | unary name terms agg sub subCols suffix mg deps key ih => exact fun _ _ => semNear_unary_congr Θ ec (ih _ _)
  | join name terms l lc ln r rc rn jt oa ob key ihl ihr =>
    exact fun _ _ => semNear_join_congr Θ ec (ihl _ _) (ihr _ _)
  | union name terms l r cols key ihl ihr => exact fun _ _ => semNear_union_congr Θ ec (ihl _ _) (ihr _ _)

theorem semSql_eraseKeys (Θ : Interp) (ec : EngineCfg) (env : Env) (q : Near) :
    semSql Θ ec env q.eraseKeys = semSql Θ ec env q := semNear_eraseKeys Θ ec env [] q none true

theorem semSql_congr_eraseKeys (Θ : Interp) (ec : EngineCfg) (env : Env) {q q' : Near}
    (h : q.eraseKeys = q'.eraseKeys) : semSql Θ ec env q = semSql Θ ec env q' := by
  rw [← semSql_eraseKeys Θ ec env q, h, semSql_eraseKeys]

end Ren
end DAVerif
