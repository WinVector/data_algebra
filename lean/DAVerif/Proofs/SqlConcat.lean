import DAVerif.Proofs.SqlJoin
import DAVerif.Proofs.SqlMergeMain
import DAVerif.Proofs.BuilderReach
import DAVerif.Proofs.SqlGood
/-!
C01/C02, `concat_rows`: the translation is a `UNION ALL` of the two sides bound with the same column list; with an
id column each side is first wrapped, **by a builder call**, in `extend({id: "name"})` and that pipeline is translated
(the builder may merge the new assignment into a top `extend` node of the side, and skips trailing `order_rows`
nodes without limit).

`SqlE.LabelNodeOK` is what the induction step `SqlE.nodeOK_concat` needs of the labelled side as the builder constructs it
(`build_label_cases`). The label step is an `extend` node, translated by `toNear`'s extend case: with `cfg.merges` the SQL
generator may merge it into the translated step of its source, whence both induction claims (`NodeOK`, `NodeM`) of the
side, resp. of the side's source, are needed (`SqlE.labelNodeOK_listed`, `Proofs/SqlAllTrans.lean`).
-/
namespace DAVerif
namespace Sql
open DAVerif.Ops (usedFromSources unionL)

variable {Θ : Interp} {ec : EngineCfg} {env : Env} {G : Near → Prop} {cfg : SqlCfg} {scfg : SemCfg}

theorem semG_concat_ok {le : RowCmp} {a b : Ops} {idc : Option String} {an bn : String} {tp : Table}
    (h : semG le Θ scfg env (.concat a b idc an bn) = .ok tp) :
    ∃ ta tb, semG le Θ scfg env a = .ok ta ∧ semG le Θ scfg env b = .ok tb ∧
      tp = semConcat idc an bn ta tb (Ops.concat a b idc an bn).cols := by
  rw [semG] at h
  obtain ⟨ta, ha, h⟩ := bind_eq_ok.mp h
  obtain ⟨tb, hb, h⟩ := bind_eq_ok.mp h
  exact ⟨ta, tb, ha, hb, (Except.ok.inj h).symm⟩

theorem sound_unionStep {nl nr : Near} {uj usg pc Sl Sr pl pr : List String} {tl tr tp : Table}
    (nm : String) (key : Option String)
    (hl : Sound Θ ec env nl Sl pl tl) (hlS : ∀ c ∈ uj, c ∈ Sl)
    (hr : Sound Θ ec env nr Sr pr tr) (hrS : ∀ c ∈ uj, c ∈ Sr)
    (husg : ∀ c ∈ usg, c ∈ uj) (hpc : ∀ c ∈ uj, c ∈ pc)
    (htp : ∀ u' : List String, (∀ c ∈ u', c ∈ usg) →
      tp.rows.map (fun r => r.select u') = tl.rows.map (fun r => r.select u') ++ tr.rows.map (fun r => r.select u')) :
    Sound Θ ec env (.union nm uj nl nr uj key) usg pc tp := by
  refine ⟨?_, ?_⟩
  · intro u' hu' force
    obtain ⟨Tl, hTl, _, hTlr⟩ := hl.req uj hlS true
    obtain ⟨Tr, hTr, _, hTrr⟩ := hr.req uj hrS true
    rw [semNear_union, hTl, hTr]
    simp only [Except.bind]
    refine ⟨_, rfl, subset_joinOut _ _, ?_⟩
    have hu'j : ∀ c ∈ u', c ∈ uj := fun c hc => husg c (hu' c hc)
    simp only
    rw [select_map_select _ (subset_joinOut _ _), List.map_append, htp u' hu',
      map_select_mono hTlr hu'j, map_select_mono hTrr hu'j]
  · intro _
    exact ⟨uj, rfl, hpc, husg⟩

namespace SqlE

def LabelNodeOK (Θ : Interp) (ec : EngineCfg) (env : Env) (G : Near → Prop) (cfg : SqlCfg) (fuel : Nat)
    (a : Ops) (c name : String) (ta : Table) : Prop :=
  ∀ a', build a (.extend [(c, .value (.str name))] .none [] []) = .ok a' →
    (∀ x, x ∈ a'.cols ↔ x ∈ a.cols ∨ x = c) ∧
    ∃ ta', NodeOK Θ ec env G cfg fuel a' ta' ∧
      ∀ u' : List String, (∀ x ∈ u', x ∈ a.cols ∨ x = c) →
        ta'.rows.map (fun r => r.select u') = ta.rows.map (fun r => (r.set c (.str name)).select u')

theorem concat_side {fuel : Nat} {x x' : Ops} {idc : Option String} {name : String} {tx : Table}
    (hx' : labelSide x idc name = .ok x')
    (ih : idc = none → NodeOK Θ ec env G cfg fuel x tx)
    (hl : ∀ c, idc = some c → LabelNodeOK Θ ec env G cfg fuel x c name tx) :
    (∀ y, y ∈ x'.cols ↔ y ∈ x.cols ∨ some y = idc) ∧
    ∃ tx', NodeOK Θ ec env G cfg fuel x' tx' ∧ ∀ u' : List String, (∀ y ∈ u', y ∈ x.cols ∨ some y = idc) →
      tx'.rows.map (fun r => r.select u') =
        tx.rows.map (fun r => (match idc with | none => r | some c => r.set c (.str name)).select u') := by
  cases idc with
  | none =>
    cases hx'
    exact ⟨fun y => ⟨Or.inl, fun h => h.elim id nofun⟩, tx, ih rfl, fun _ _ => rfl⟩
  | some c =>
    obtain ⟨h1, tx', h2, h5⟩ := hl c rfl x' hx'
    have e : ∀ y, some y = some c ↔ y = c := fun y => Option.some.injEq y c ▸ Iff.rfl
    exact ⟨fun y => (h1 y).trans (or_congr Iff.rfl (e y).symm), tx', h2,
      fun u' hu' => h5 u' (fun y hy => (hu' y hy).imp id (e y).mp)⟩

/-- Without id column the sides themselves are translated, with id column only the labelled sides are: hence the
hypotheses by cases on `idc`. -/
theorem nodeOK_concat (hJU : ∀ q : Near, q.isJU = true → G q) (fuel : Nat) (a b : Ops) (idc : Option String)
    (an bn : String) {ta tb : Table}
    (iha : idc = none → NodeOK Θ ec env G cfg fuel a ta) (ihb : idc = none → NodeOK Θ ec env G cfg fuel b tb)
    (hla : ∀ c, idc = some c → LabelNodeOK Θ ec env G cfg fuel a c an ta)
    (hlb : ∀ c, idc = some c → LabelNodeOK Θ ec env G cfg fuel b c bn tb) :
    NodeOK Θ ec env G cfg (fuel + 1) (.concat a b idc an bn)
      (semConcat idc an bn ta tb (Ops.concat a b idc an bn).cols) := by
  intro u st q st' _ h
  cases toNear_succ_inv h with
  | step _ hσ => cases hσ
  | rekey _ hk => cases hk
  | concat husg hsub hab huj hsa hsb hnl hnr =>
  subst husg
  have husub := subset_joinUsg (.concat a b idc an bn) u
  obtain ⟨hca, ta', hta', hra⟩ := concat_side hsa iha hla
  obtain ⟨hcb, tb', htb', hrb⟩ := concat_side hsb ihb hlb
  have hncols : ∀ x, x ∈ (Ops.concat a b idc an bn).cols ↔ x ∈ a.cols ∨ some x = idc := by
    intro x
    cases idc with
    | none => exact ⟨Or.inl, fun h => h.elim id nofun⟩
    | some c => exact List.mem_append.trans (or_congr Iff.rfl (List.mem_singleton.trans (Option.some.injEq x c ▸ Iff.rfl)))
  obtain ⟨_, Sl, hSl, _, hsl⟩ := hta' _ _ _ _ (fun x hx => (hca x).mpr (((huj x).mp hx).imp And.left id)) hnl
  obtain ⟨_, Sr, hSr, _, hsr⟩ := htb' _ _ _ _
    (fun x hx => (hcb x).mpr (((huj x).mp hx).imp (fun h => hab x h.1 h.2) id)) hnr
  refine ⟨hJU _ rfl, _, husub, hsub, sound_unionStep _ _ hsl hSl hsr hSr
    (fun x hx => (huj x).mpr (((hncols x).mp (hsub x hx)).imp (fun h => ⟨h, hx⟩) id))
    (fun x hx => (hncols x).mpr (((huj x).mp hx).imp And.left id)) (fun u' hu' => ?_)⟩
  have hu'a : ∀ x ∈ u', x ∈ a.cols ∨ some x = idc := fun x hx => (hncols x).mp (hsub x (hu' x hx))
  rw [hra u' hu'a, hrb u' (fun x hx => (hu'a x hx).imp (fun h => hab x h (hu' x hx)) id)]
  simp only [semConcat, List.map_append, List.map_map]
  congr 1 <;> exact List.map_congr_left (fun r _ => by
    cases idc <;> exact Row.select_select (fun x hx => hsub x (hu' x hx)))

end SqlE

theorem label_cols_plain (a : Ops) (c name : String) (x : String) :
    x ∈ (Ops.extend a [(c, Term.value (Lit.str name))] [] [] [] false).cols ↔ x ∈ a.cols ∨ x = c :=
  mem_appendNew.trans (or_congr Iff.rfl List.mem_singleton)

theorem label_cols_merged (src : Ops) (ops1 : Assign) (c name : String) (x : String) :
    x ∈ (Ops.extend src (ops1 ++ [(c, Term.value (Lit.str name))]) [] [] [] false).cols ↔
      x ∈ (Ops.extend src ops1 [] [] [] false).cols ∨ x = c := by
  simp only [Ops.cols, List.map_append, List.map_cons, List.map_nil, mem_appendNew, List.mem_append,
    List.mem_singleton, or_assoc]

theorem label_rows_plain (Θ : Interp) (c name : String) (ta : Table) {oc u' : List String} (hu' : ∀ x ∈ u', x ∈ oc) :
    (semExtendPlain Θ [(c, .value (.str name))] ta oc).rows.map (fun r => r.select u') =
      ta.rows.map (fun r => (r.set c (.str name)).select u') := by
  simp only [semExtendPlain, List.map_map]
  exact List.map_congr_left (fun r _ => Row.select_select hu')

theorem label_rows_merged (Θ : Interp) (ops1 : Assign) (c name : String) (ts : Table) {oc1 oc u' : List String}
    (hoc : ∀ x ∈ u', x ∈ oc) (hu' : ∀ x ∈ u', x ∈ oc1 ∨ x = c) :
    (semExtendPlain Θ (ops1 ++ [(c, .value (.str name))]) ts oc).rows.map (fun r => r.select u') =
      (semExtendPlain Θ ops1 ts oc1).rows.map (fun r => (r.set c (.str name)).select u') := by
  simp only [semExtendPlain, List.map_map]
  refine List.map_congr_left (fun r _ => ?_)
  simp only [Function.comp]
  rw [Row.select_select hoc]
  refine Row.select_congr.mpr (fun x hx => ?_)
  rw [Row.get_set, Row.get_setAll, List.map_append, List.map_cons, List.map_nil, lookupLast_concat]
  by_cases hxc : x = c
  · simp only [hxc, ↓reduceIte, Option.getD_some]
    rfl
  · simp only [hxc, ↓reduceIte]
    rw [Row.select_get_of_mem ((hu' x hx).resolve_right hxc), Row.get_setAll]

theorem build_label_cases {a a' : Ops} {c name : String} (hwf : WF a) (hstrip : strip a = a) (hc : c ∉ a.cols)
    (hb : build a (.extend [(c, .value (.str name))] .none [] []) = .ok a') :
    (a' = .extend a [(c, .value (.str name))] [] [] [] false ∧
      ExtOK a.cols [(c, .value (.str name))] [] [] [] false) ∨
    ∃ src ops1, a = .extend src ops1 [] [] [] false ∧
      a' = .extend src (ops1 ++ [(c, .value (.str name))]) [] [] [] false ∧
      ExtOK src.cols (ops1 ++ [(c, .value (.str name))]) [] [] [] false := by
  rcases build_eq_ok.mp hb with ⟨hn, _⟩ | ⟨_, hpl⟩
  · cases hn
  rw [hstrip] at hpl
  have hw := hpl.wf hwf (fun _ h => by cases h)
  cases hpl with
  | extend => exact Or.inl ⟨rfl, hw.2⟩
  | merge _ _ ha hm =>
    obtain ⟨rfl, _⟩ := tryMergeOps_eq_some hm
    subst ha
    have hsw : ∀ o1 : Assign, impliesWindowed o1 = false →
        stepWindowed (o1 ++ [(c, .value (.str name))]) .none [] = false := fun o1 h => by
      unfold stepWindowed impliesWindowed at *
      rw [List.any_append, h]
      rfl
    rw [List.filter_eq_self.mpr fun kv hkv => by
      have : kv.1 ≠ c := fun e => hc (mem_appendNew.mpr (Or.inr (e ▸ List.mem_map_of_mem hkv)))
      simpa using this, hsw _ (hwf.2.2.2.2.2.2.1 rfl).1] at hw ⊢
    exact Or.inr ⟨_, _, rfl, rfl, hw.2⟩

theorem label_preserves {P : Ops → Prop} (hP : ∀ s ops, P (.extend s ops [] [] [] false) ↔ P s) {x x' : Ops}
    {c name : String} (hwf : WF x) (hstrip : strip x = x) (hc : c ∉ x.cols)
    (hb : build x (.extend [(c, .value (.str name))] .none [] []) = .ok x') (h : P x) : P x' := by
  rcases build_label_cases hwf hstrip hc hb with ⟨rfl, _⟩ | ⟨src, ops1, rfl, rfl, _⟩
  · exact (hP x _).mpr h
  · exact (hP src _).mpr ((hP src ops1).mp h)

theorem Good.labelled {cfg : SqlCfg} {env : Env} {x x' : Ops} {c name : String} (hg : Good cfg env x)
    (hstrip : strip x = x) (hc : c ∉ x.cols) (hb : build x (.extend [(c, .value (.str name))] .none [] []) = .ok x') :
    Good cfg env x' ∧ x'.size ≤ x.size + 1 ∧ ∀ y, y ∈ x'.cols ↔ y ∈ x.cols ∨ y = c := by
  rcases build_label_cases hg.wf hstrip hc hb with ⟨rfl, hE⟩ | ⟨src, ops1, rfl, rfl, hE⟩
  · exact ⟨hg.extend_of hE, Nat.le_refl _, label_cols_plain x c name⟩
  · exact ⟨(hg.source List.mem_cons_self).extend_of hE, Nat.le_succ _, label_cols_merged src ops1 c name⟩

end Sql
end DAVerif
