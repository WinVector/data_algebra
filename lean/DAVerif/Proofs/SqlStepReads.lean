import DAVerif.Proofs.SqlTrans
/-!
C01/C02: a SELECT step reads its FROM rows only through the columns its suffix and its requested entries mention
(`termReads`, `sfxReads`, `aggReads`; `termVal_reads`, `stepRows_reads`), and the frame every node lemma shares
(`sound_step`): over a sub-query that returns the rows of the source table `ts` as far as the bound columns `S` go, a
step that reads only columns of `S` is sound against `tp` as soon as the step computed on the rows of `ts` itself
returns the rows of `tp`.  What is left to a node lemma is that computation – the SQL step on the reference rows is the
operator – with no transport in it.
-/
namespace DAVerif
namespace Sql
open DAVerif.Ops (usedFromSources unionL)

variable {Θ : Interp} {ec : EngineCfg} {env : Env}

/-- a term dictionary with a key is stored as it is (`NearSQL.__init__` turns only the empty one into `None`) -/
theorem mkTerms_of_key {ts : Terms} {c : String} (h : c ∈ ts.map (·.1)) : mkTerms ts = some ts := by
  cases ts with
  | nil => cases h
  | cons _ _ => rfl

theorem termVal_win (Θ : Interp) (ec : EngineCfg) (idx : List (Row × Nat)) (ri : Row × Nat) (k : String) (t : Term)
    (part order rev : List String) :
    termVal Θ ec idx ri k (some (.expr t (some ⟨part, order, rev⟩))) =
      winCell (sqlRowLe ec) Θ part order rev idx ri t := rfl

/-- the columns of the FROM rows the entry `k ↦ tm` reads -/
def termReads (k : String) : STerm → List String
  | .pass => [k]
  | .ident c => [c]
  | .expr t none => t.colsRaw
  | .expr t (some w) => t.colsRaw ++ (w.partition ++ w.order)
  | .coalesce _ c => [c]
  | .qual _ c => [c]

/-- a key without entry is rendered as the column of that name -/
def optReads (k : String) : Option STerm → List String
  | none => [k]
  | some tm => termReads k tm

/-- the lists agree row by row, not only the two rows: a window entry sees all the rows, in their order -/
theorem termVal_reads (Θ : Interp) (ec : EngineCfg) {L L' : List Row} {R : List String} (k : String)
    (tm : Option STerm) (hR : ∀ x ∈ optReads k tm, x ∈ R)
    (h : L.map (fun r => r.select R) = L'.map (fun r => r.select R)) {ri ri' : Row × Nat}
    (hri : projIdx R ri = projIdx R ri') :
    termVal Θ ec L.zipIdx ri k tm = termVal Θ ec L'.zipIdx ri' k tm := by
  have hrow : ri.1.select R = ri'.1.select R := congrArg Prod.fst hri
  have hget : ∀ c, c ∈ R → ri.1.get c = ri'.1.get c := fun c hc => Row.get_of_select_eq hrow hc
  cases tm with
  | none => exact hget k (hR k List.mem_cons_self)
  | some tm =>
    cases tm with
    | pass => exact hget k (hR k List.mem_cons_self)
    | ident c => exact hget c (hR c List.mem_cons_self)
    | coalesce _ c => exact hget c (hR c List.mem_cons_self)
    | qual _ c => exact hget c (hR c List.mem_cons_self)
    | expr t w =>
      cases w with
      | none => exact evalCell_congr Θ t (fun c hc => hget c (hR c hc))
      | some w =>
        rw [termVal_win, termVal_win]
        have hR' : ∀ x, x ∈ t.colsRaw ∨ x ∈ w.partition ∨ x ∈ w.order → x ∈ R := fun x hx =>
          hR x (List.mem_append.mpr (hx.imp_right List.mem_append.mpr))
        exact winCell_transport (cmpCongr_sqlRowLe ec) Θ w.partition w.order w.reverse h
          (fun c hc => hR' c (Or.inr (Or.inl hc))) (fun c hc => hR' c (Or.inr (Or.inr hc))) t
          (fun c hc => hR' c (Or.inl (argCols_subset_colsRaw t c hc))) hri

def sfxReads : Suffix → List String
  | .whereE e => e.colsRaw
  | .groupBy gs => gs
  | .orderBy cs _ _ => cs
  | .none => []

/-- the columns of the rows of a group an entry of an aggregating SELECT reads -/
def aggReads (k : String) : Option STerm → List String
  | some (.expr t _) => argCols t
  | some (.ident c) => [c]
  | _ => [k]

def entryReads (agg : Bool) (k : String) (tm : Option STerm) : List String :=
  if agg then aggReads k tm else optReads k tm

theorem suffixRows_reads (sfx : Suffix) {R : List String} {L L' : List Row} (hR : ∀ x ∈ sfxReads sfx, x ∈ R)
    (h : L.map (fun r => r.select R) = L'.map (fun r => r.select R)) :
    (suffixRows Θ ec sfx L).map (fun r => r.select R) = (suffixRows Θ ec sfx L').map (fun r => r.select R) := by
  cases sfx with
  | whereE e =>
    exact filter_transport h fun a _ b _ hab => by
      rw [evalCell_congr Θ e (fun c hc => Row.get_of_select_eq hab (hR c hc))]
  | orderBy cs rev lim =>
    exact sort_transport h fun a b => sqlRowLe_congr ec (fun c hc => (Row.select_get_of_mem (hR c hc)).symm)
      (fun c hc => (Row.select_get_of_mem (hR c hc)).symm)
  | _ => exact h

theorem head_get_of_select_eq {g g' : List Row} {R : List String} {c : String}
    (h : g.map (fun r => r.select R) = g'.map (fun r => r.select R)) (hc : c ∈ R) :
    g.head?.map (fun r => r.get c) = g'.head?.map (fun r => r.get c) := by
  cases g with
  | nil => cases g' with
    | nil => rfl
    | cons _ _ => cases h
  | cons a g => cases g' with
    | nil => cases h
    | cons b g' => exact congrArg some (Row.get_of_select_eq (List.cons.inj h).1 hc)

theorem aggVal_reads (k : String) (tm : Option STerm) {g g' : List Row} {R : List String}
    (hR : ∀ x ∈ aggReads k tm, x ∈ R) (h : g.map (fun r => r.select R) = g'.map (fun r => r.select R)) :
    aggVal Θ g k tm = aggVal Θ g' k tm := by
  have hk : ∀ c, c ∈ R → (g.head?.map (fun r => r.get c)).getD Val.null = (g'.head?.map (fun r => r.get c)).getD .null :=
    fun c hc => congrArg (·.getD Val.null) (head_get_of_select_eq h hc)
  cases tm with
  | none => exact hk k (hR k List.mem_cons_self)
  | some t =>
    cases t with
    | expr t w => exact congrArg (Θ.agg (opName t)) (argValues_congr t hR h)
    | ident c => exact hk c (hR c List.mem_cons_self)
    | _ => exact hk k (hR k List.mem_cons_self)

theorem stepRows_reads (terms : Option Terms) (agg : Bool) (sfx : Suffix) {out R : List String} {L L' : List Row}
    (hsfx : ∀ x ∈ sfxReads sfx, x ∈ R) (hout : ∀ c ∈ out, ∀ x ∈ entryReads agg c (lookT terms c), x ∈ R)
    (h : L.map (fun r => r.select R) = L'.map (fun r => r.select R)) :
    stepRows Θ ec terms agg sfx out L = stepRows Θ ec terms agg sfx out L' := by
  have hs := suffixRows_reads (Θ := Θ) (ec := ec) sfx hsfx h
  unfold stepRows
  generalize suffixRows Θ ec sfx L = rows at hs
  generalize suffixRows Θ ec sfx L' = rows' at hs
  cases agg
  · simp only [Bool.false_eq_true, ↓reduceIte]
    congr 1
    refine map_transport (f := projIdx R) (f' := projIdx R) (by rw [zipIdx_projIdx, zipIdx_projIdx, hs]) ?_
    intro ri _ ri' _ hab
    exact mkRow_congr fun c hc => termVal_reads Θ ec c _ (hout c hc) hs hab
  · simp only [↓reduceIte]
    cases sfx with
    | groupBy gs =>
      have hkey : ∀ a b : Row, a.select R = b.select R → keyOf a gs = keyOf b gs := fun a b hab =>
        keyOf_congr fun c hc => Row.get_of_select_eq hab (hsfx c hc)
      simp only
      rw [map_transport hs fun a _ b _ hab => hkey a b hab]
      refine List.map_congr_left fun k _ => mkRow_congr fun c hc => aggVal_reads c _ (hout c hc) ?_
      exact filter_transport hs fun a _ b _ hab => by rw [hkey a b hab]
    | _ => exact congrArg (fun x => [x]) (mkRow_congr fun c hc => aggVal_reads c _ (hout c hc) hs)

theorem stepRows_mkTerms (ts : Terms) (agg : Bool) (sfx : Suffix) (out : List String) (rows : List Row) :
    stepRows Θ ec (mkTerms ts) agg sfx out rows = stepRows Θ ec (some ts) agg sfx out rows := by
  cases ts <;> rfl

theorem sound_step {sub : Near} {S u pc : List String} {T0 ts tp : Table} {terms : Terms} {agg : Bool} {sfx : Suffix}
    (nm : String) (mg : Bool) (dp : Option (List (String × List String))) (key : Option String)
    (hbind : semNear Θ ec env [] sub (some S) false = .ok T0)
    (g4 : T0.rows.map (fun r => r.select S) = ts.rows.map (fun r => r.select S))
    (hsfx : ∀ x ∈ sfxReads sfx, x ∈ S) (hreads : ∀ c ∈ u, ∀ x ∈ entryReads agg c (lookT (some terms) c), x ∈ S)
    (hukeys : ∀ c ∈ u, c ∈ terms.map (·.1)) (hkeys : ∀ k ∈ terms.map (·.1), k ∈ pc)
    (hrows : ∀ u' : List String, (∀ c ∈ u', c ∈ u) →
      stepRows Θ ec (some terms) agg sfx u' ts.rows = tp.rows.map (fun r => r.select u')) :
    Sound Θ ec env (.unary nm (mkTerms terms) agg sub (some S) sfx mg dp key) u pc tp := by
  refine ⟨fun u' hu' force => ?_, fun hne => ?_⟩
  · have hout : ∀ c ∈ u', c ∈ outCols (mkTerms terms) (some u') T0.cols := fun c hc => by
      rw [mkTerms_of_key (hukeys c (hu' c hc))]
      exact subset_outCols_some (fc := T0.cols) c hc
    refine ⟨_, semNear_unary_ok hbind (some u') force, hout, ?_⟩
    simp only
    rw [stepRows_select _ _ _ _ _ hout, stepRows_mkTerms,
      stepRows_reads (some terms) agg sfx hsfx (fun c hc => hreads c (hu' c hc)) g4]
    exact hrows u' hu'
  · obtain ⟨c, hc⟩ := List.exists_mem_of_ne_nil _ hne
    rw [mkTerms_of_key (hukeys c hc)]
    exact ⟨_, rfl, hkeys, hukeys⟩

end Sql
end DAVerif
