import DAVerif.Proofs.ScopeC
/-!
C07, structural part: the scope / column conditions of a node from the pipeline-level hypotheses; `sem_congrC`; the
builder call `replace_leaves` issues at a node (`Ops.stepOf`, `rebuildNode`).  What that call returns is what
`Placed` lists for it (`rebuildNode_placed`), so C06's theorems about accepted calls apply: `rebuildNode_shape`,
`replace_node`.
-/
namespace DAVerif

variable {Θ : Interp} {cfg : SemCfg}

def optTables : Option Ops → List (String × List String)
  | some b => b.tables
  | none => []

theorem tables_node (p : Ops) (hT : ∀ n cs, p ≠ .table n cs) : p.tables = p.srcA.tables ++ optTables p.srcB := by
  cases p with
  | table n cs => exact absurd rfl (hT n cs)
  | join | concat => rfl
  | _ => exact (List.append_nil _).symm

theorem mem_tables_node {p : Ops} (hT : ∀ n cs, p ≠ .table n cs) {x : String × List String} :
    x ∈ p.tables ↔ x ∈ p.srcA.tables ∨ ∃ b, p.srcB = some b ∧ x ∈ b.tables := by
  rw [tables_node p hT, List.mem_append]
  cases p.srcB with
  | none => exact or_congr_right ⟨nofun, fun ⟨_, h, _⟩ => nomatch h⟩
  | some b => exact or_congr_right ⟨fun h => ⟨b, rfl, h⟩, fun ⟨_, h, hx⟩ => Option.some.inj h ▸ hx⟩

theorem tables_srcA {p : Ops} (hT : ∀ n cs, p ≠ .table n cs) : ∀ x ∈ p.srcA.tables, x ∈ p.tables :=
  fun _ hx => (mem_tables_node hT).mpr (.inl hx)

theorem tables_srcB {p b : Ops} (hT : ∀ n cs, p ≠ .table n cs) (h : p.srcB = some b) :
    ∀ x ∈ b.tables, x ∈ p.tables :=
  fun _ hx => (mem_tables_node hT).mpr (.inr ⟨b, h, hx⟩)

theorem nodeScope_of_scope {env : Env} {p : Ops} (hA : AggsOrderFree Θ p) (hW : WindowsTotal Θ cfg env p) :
    ∀ t, sem Θ cfg env p.srcA = .ok t → NodeScope Θ p t.rows := by
  cases p with
  | extend s ops part od rv w => exact fun t ht hw => hW.2 hw t ht
  | project s ops g => exact fun _ _ => hA.2
  | order s cs rv lim =>
    intro t ht
    cases lim with
    | none => trivial
    | some n => exact hW.2 n rfl t ht
  | _ => exact fun _ _ => trivial

theorem scope_srcA {env : Env} {p : Ops} (hA : AggsOrderFree Θ p) (hW : WindowsTotal Θ cfg env p) :
    AggsOrderFree Θ p.srcA ∧ WindowsTotal Θ cfg env p.srcA := by
  cases p with
  | extend | order => exact ⟨hA, hW.1⟩
  | project => exact ⟨hA.1, hW⟩
  | join | concat => exact ⟨hA.1, hW.1⟩
  | _ => exact ⟨hA, hW⟩

theorem scope_srcB {env : Env} {p b : Ops} (h : p.srcB = some b) (hA : AggsOrderFree Θ p)
    (hW : WindowsTotal Θ cfg env p) : AggsOrderFree Θ b ∧ WindowsTotal Θ cfg env b := by
  cases p with
  | join | concat => cases h; exact ⟨hA.2, hW.2⟩
  | _ => cases h

def LookupC (env env' : Env) (k : String) : Prop :=
  (env.lookup k = none ∧ env'.lookup k = none) ∨
    ∃ t t', env.lookup k = some t ∧ env'.lookup k = some t' ∧ t ≈ᶜ t'

/-- C18's invariance (`C18_perm_invariant_gen`, `Props/C18.lean`), extended to column order. -/
theorem sem_congrC (hΘ : ConvertOK Θ) (hC : ConvertInvariant Θ) {env env' : Env} (p : Ops) :
    p.valid = true → (∀ k ∈ p.tables.map (·.1), LookupC env env' k) → AggsOrderFree Θ p →
    WindowsTotal Θ cfg env p → ResEquivC (sem Θ cfg env p) (sem Θ cfg env' p) := by
  induction p using Ops.srcInduction with
  | table k cs =>
    intro hv hl _ _
    have hcs : cs.Nodup := nodupB_iff.mp hv
    rcases hl k (List.mem_singleton.mpr rfl) with ⟨h1, h2⟩ | ⟨t, t', h1, h2, htt⟩
    · simp only [sem, h1, h2]; exact rfl
    · simp only [sem, h1, h2]
      have : subset cs t.cols = subset cs t'.cols := subset_congr_right (fun c => htt.mem_cols c)
      rw [← this]
      split
      · rename_i hs
        exact Table.EquivC.of_equiv (htt.selectCols (subset_iff.mp hs)) (Table.wf_selectCols _ _) hcs
      · exact rfl
  | node p hT iha ihb =>
    intro hv hl hA hW
    have IHa := iha (Ops.valid_srcA hv) (fun k hk => hl k (List.map_subset _ (tables_srcA hT) hk))
      (scope_srcA hA hW).1 (scope_srcA hA hW).2
    -- the conditions under which the operator of `p` respects `≈ᶜ`, on the result of the first source
    have hside : ∀ t, sem Θ cfg env p.srcA = .ok t → NodeScope Θ p t.rows ∧ NodeColsOK p t.cols :=
      fun t ht => ⟨nodeScope_of_scope hA hW t ht, sem_cols hΘ ht ▸ nodeColsOK_of_valid hv⟩
    cases hB : p.srcB with
    | none =>
      rw [sem_eq_applyNode_unary Θ hΘ cfg env p hB hT, sem_eq_applyNode_unary Θ hΘ cfg env' p hB hT]
      apply ResEquivC.bind IHa
      intro t t' ht _ htt
      exact applyNode_congrC Θ cfg hC p htt htt (hside t ht).1 (hside t ht).2
    | some b =>
      have IHb := ihb b hB (valid_srcB hv hB) (fun k hk => hl k (List.map_subset _ (tables_srcB hT hB) hk))
        (scope_srcB hB hA hW).1 (scope_srcB hB hA hW).2
      rw [sem_eq_applyNode_binary Θ hΘ cfg env p b hB, sem_eq_applyNode_binary Θ hΘ cfg env' p b hB]
      apply ResEquivC.bind IHa
      intro ta ta' hta _ htta
      apply ResEquivC.bind IHb
      intro tb tb' _ _ httb
      exact applyNode_congrC Θ cfg hC p htta httb (hside ta hta).1 (hside ta hta).2

/-- `N` is the same operator with the same parameters as `p` (they may differ in their sources) -/
def SameOp (N p : Ops) : Prop :=
  (∀ (Θ : Interp) (cfg : SemCfg) ta tb, applyNode Θ cfg N ta tb = applyNode Θ cfg p ta tb) ∧
  (∀ (Θ : Interp) rows, NodeScope Θ N rows = NodeScope Θ p rows) ∧ (∀ ca, NodeColsOK N ca = NodeColsOK p ca) ∧
  (∀ ca cb, nodeCols N ca cb = nodeCols p ca cb) ∧ (∀ n cs, N ≠ .table n cs) ∧
  N.isTrivialWhenIntermediate = p.isTrivialWhenIntermediate

theorem reSrc_isTrivial (N a : Ops) : (N.reSrc a).isTrivialWhenIntermediate = N.isTrivialWhenIntermediate := by
  cases N with
  | order s cs rv lim => cases lim <;> rfl
  | _ => rfl

theorem SameOp.reSrc {p : Ops} (a : Ops) (hT : ∀ n cs, p ≠ .table n cs) : SameOp (p.reSrc a) p :=
  ⟨fun Θ cfg ta tb => applyNode_reSrc Θ cfg p a ta tb, fun Θ rows => NodeScope_reSrc Θ p a rows,
    fun ca => NodeColsOK_reSrc p a ca, fun ca cb => nodeCols_reSrc p a ca cb, reSrc_ne_table a hT, reSrc_isTrivial p a⟩

/-- the builder call `replace_leaves` issues at the node `p`, `b'` being the rebuilt second source (read by join and
concat only) -/
def Ops.stepOf (p b' : Ops) : Step :=
  match p with
  | .table _ _ => .selectRows none
  | .extend _ ops part od rv w => .extend ops (if w && part.isEmpty then .one else .cols part) od rv
  | .project _ ops g => .project ops g
  | .selectRows _ e => .selectRows (some e)
  | .selectCols _ cs => .selectCols cs
  | .dropCols _ ds => .dropCols ds
  | .order _ cs rv lim => .order cs rv lim
  | .rename _ mp => .rename mp
  | .mapCols _ mp ds => .mapCols (mp.map (fun kv => (kv.1, some kv.2)) ++ ds.map (fun d => (d, none)))
  | .join _ _ oa ob t => .join b' oa ob t.toStr false
  | .concat _ _ idc an bn => .concat (some b') idc an bn
  | .convert _ rm => .convert (some rm)

/-- how `replace_leaves` rebuilds the node `p` on its rebuilt sources `a'` and `b'`: by the builder call `p.stepOf b'`
on `a'`; for `extend`, `project` and `select_rows` by the part of that call that comes after the parser -/
def rebuildNode (p a' b' : Ops) : Except Err Ops :=
  match p with
  | .table _ _ => .ok a'
  | .extend _ ops part od rv w => extendParsed a' ops (if w && part.isEmpty then .one else .cols part) od rv
  | .project _ ops g => projectParsed a' ops g
  | .selectRows _ e => selectRowsB a' e
  | p => build a' (p.stepOf b')

theorem replaceLeaves_unary (m : List (String × Ops)) {p : Ops} (hT : ∀ n cs, p ≠ .table n cs)
    (hB : p.srcB = none) :
    Ops.replaceLeaves m p = Ops.replaceLeaves m p.srcA >>= fun a' => rebuildNode p a' a' := by
  cases p with
  | table n cs => exact absurd rfl (hT n cs)
  | join | concat => cases hB
  | _ => rfl

theorem replaceLeaves_binary (m : List (String × Ops)) {p b : Ops} (hB : p.srcB = some b) :
    Ops.replaceLeaves m p =
      Ops.replaceLeaves m p.srcA >>= fun a' => Ops.replaceLeaves m b >>= fun b' => rebuildNode p a' b' := by
  cases p with
  | join | concat => cases hB; rfl
  | _ => cases hB

/-- `replace_leaves` rebuilds an `extend` node with `partition_by=1` when the node is windowed without partition
columns (fix 8e6df35), else with the node's partition columns: in both cases the rebuilt step names the same
partition columns and is windowed exactly when the node was -/
theorem rebuild_flag {s : Ops} {ops : Assign} {part od rv : List String} {w : Bool}
    (h : (Ops.extend s ops part od rv w).valid = true) :
    (if w && part.isEmpty then PartArg.one else PartArg.cols part).cols' = part ∧
    stepWindowed ops (if w && part.isEmpty then PartArg.one else PartArg.cols part) od = w := by
  have hflag := (valid_extend h).flag
  cases hw : w with
  | false =>
    rw [hw] at hflag
    simp only [Bool.false_and, Bool.false_eq_true, if_false, PartArg.cols', stepWindowed, true_and]
    cases hi : (impliesWindowed ops || !part.isEmpty || !od.isEmpty) with
    | false => rfl
    | true => exact absurd (hflag hi) (by simp)
  | true =>
    cases hp : part.isEmpty with
    | true =>
      simp only [Bool.and_self, if_true, PartArg.cols', stepWindowed, Bool.or_true, Bool.true_or, and_true]
      exact (List.isEmpty_iff.mp hp).symm
    | false =>
      simp only [Bool.and_false, Bool.false_eq_true, if_false, PartArg.cols', stepWindowed, hp, Bool.not_false,
        Bool.or_true, Bool.true_or, and_self]

/-- the parameters of a node of a valid pipeline are not empty: its builder call does not return the receiver -/
theorem stepOf_not_noop {p : Ops} (hv : p.valid = true) (hT : ∀ n cs, p ≠ .table n cs) (b' : Ops) :
    (p.stepOf b').isNoop = false := by
  have hn := Ops.valid_nodeOk hv
  cases p with
  | table n cs => exact absurd rfl (hT n cs)
  | extend => exact (valid_extend hv).ops_ne
  | dropCols => exact (Ops.nodeOk_dropCols.mp hn).1
  | order => exact (Ops.nodeOk_order.mp hn).1
  | rename => exact (Ops.nodeOk_rename.mp hn).1
  | mapCols s mp ds =>
    rw [← (Ops.nodeOk_mapCols.mp hn).1]
    cases mp <;> cases ds <;> rfl
  | _ => rfl

theorem mem_argOps_stepOf {p b' b0 : Ops} (h : b0 ∈ Step.argOps (p.stepOf b')) : b0 = b' ∧ ∃ b, p.srcB = some b := by
  cases p with
  | join | concat => exact ⟨List.mem_singleton.mp h, _, rfl⟩
  | _ => cases h

theorem sameOp_stepOf {p : Ops} (hv : p.valid = true) (hT : ∀ n cs, p ≠ .table n cs) (b' : Ops) (n : String)
    (cs0 : List String) :
    SameOp ((p.stepOf b').nodeOn (.table n cs0)) p ∧
      ((p.stepOf b').nodeOn (.table n cs0)).srcB = p.srcB.map (fun _ => b') := by
  cases p with
  | table k cs => exact absurd rfl (hT k cs)
  | extend s ops part od rv w =>
    simp only [Ops.stepOf, Step.nodeOn, (rebuild_flag hv).1, (rebuild_flag hv).2]
    exact ⟨SameOp.reSrc (p := .extend s ops part od rv w) _ hT, rfl⟩
  | mapCols s mp ds =>
    simp only [Ops.stepOf, Step.nodeOn, mapRemap_canon, mapDels_canon]
    exact ⟨SameOp.reSrc (p := .mapCols s mp ds) _ hT, rfl⟩
  | join a b oa ob jt =>
    simp only [Ops.stepOf, Step.nodeOn, parse_toStr, Option.getD_some]
    exact ⟨⟨fun _ _ _ _ => rfl, fun _ _ => rfl, fun _ => rfl, fun _ _ => rfl, nofun, rfl⟩, rfl⟩
  | concat a b idc an bn =>
    exact ⟨⟨fun _ _ _ _ => rfl, fun _ _ => rfl, fun _ => rfl, fun _ _ => rfl, nofun, rfl⟩, rfl⟩
  | project s ops g => exact ⟨SameOp.reSrc (p := .project s ops g) _ hT, rfl⟩
  | selectRows s e => exact ⟨SameOp.reSrc (p := .selectRows s e) _ hT, rfl⟩
  | selectCols s cs => exact ⟨SameOp.reSrc (p := .selectCols s cs) _ hT, rfl⟩
  | dropCols s ds => exact ⟨SameOp.reSrc (p := .dropCols s ds) _ hT, rfl⟩
  | order s cs rv lim => exact ⟨SameOp.reSrc (p := .order s cs rv lim) _ hT, rfl⟩
  | rename s m => exact ⟨SameOp.reSrc (p := .rename s m) _ hT, rfl⟩
  | convert s rm => exact ⟨SameOp.reSrc (p := .convert s rm) _ hT, rfl⟩

theorem rebuildNode_placed {p a' b' q : Ops} (hv : p.valid = true) (hT : ∀ n cs, p ≠ .table n cs) :
    rebuildNode p a' b' = .ok q ↔ Placed (strip a') (p.stepOf b') q := by
  cases p with
  | table k cs => exact absurd rfl (hT k cs)
  | extend s ops part od rv w => exact extendParsed_eq_ok (List.isEmpty_eq_false_iff.mp (valid_extend hv).ops_ne)
  | project s ops g => exact projectParsed_eq_ok
  | selectRows s e => exact selectRowsB_eq_ok
  | _ => exact build_eq_ok_of (stepOf_not_noop hv hT b') trivial

theorem rebuildNode_shape {p a' b' q : Ops} (hv : p.valid = true) (hT : ∀ n cs, p ≠ .table n cs)
    (hq : rebuildNode p a' b' = .ok q) (ha' : a'.valid = true) (hb' : ∀ b, p.srcB = some b → b'.valid = true) :
    q.valid = true ∧
      ∃ base N, BuildShape a' q base N ∧ N.srcB = p.srcB.map (fun _ => b') ∧ SameOp N p := by
  obtain ⟨hsame, hB⟩ := sameOp_stepOf hv hT b' "" []
  have hpl := (rebuildNode_placed hv hT).mp hq
  obtain ⟨base, hsh⟩ := hpl.shape
  rw [Step.rawNode, rawNodeOf_node hpl.not_noop] at hsh
  exact ⟨hpl.valid (valid_strip ha') fun b0 h0 => by
      obtain ⟨rfl, b, hb⟩ := mem_argOps_stepOf h0
      exact hb' b hb, base, _, hsh, hB, hsame⟩

theorem replace_node {m : List (String × Ops)} {p q : Ops} (hv : p.valid = true)
    (hT : ∀ n cs, p ≠ .table n cs) (hq : Ops.replaceLeaves m p = .ok q) :
    ∃ a', Ops.replaceLeaves m p.srcA = .ok a' ∧
      ((p.srcB = none ∧ (a'.valid = true → q.valid = true ∧
          ∃ base N, BuildShape a' q base N ∧ N.srcB = none ∧ SameOp N p)) ∨
       (∃ b b', p.srcB = some b ∧ Ops.replaceLeaves m b = .ok b' ∧ (a'.valid = true → b'.valid = true →
          q.valid = true ∧ ∃ base N, BuildShape a' q base N ∧ N.srcB = some b' ∧ SameOp N p))) := by
  cases hB : p.srcB with
  | none =>
    rw [replaceLeaves_unary m hT hB] at hq
    obtain ⟨a', ha', hq⟩ := bind_eq_ok.mp hq
    refine ⟨a', ha', Or.inl ⟨rfl, fun ha'v => ?_⟩⟩
    have h := rebuildNode_shape hv hT hq ha'v (fun b hb => by rw [hB] at hb; cases hb)
    rwa [hB] at h
  | some b =>
    rw [replaceLeaves_binary m hB] at hq
    obtain ⟨a', ha', hq⟩ := bind_eq_ok.mp hq
    obtain ⟨b', hb', hq⟩ := bind_eq_ok.mp hq
    refine ⟨a', ha', Or.inr ⟨b, b', rfl, hb', fun ha'v hb'v => ?_⟩⟩
    have h := rebuildNode_shape hv hT hq ha'v (fun _ _ => hb'v)
    rwa [hB] at h

theorem Ops.selectBase_tables : ∀ (p : Ops), p.selectBase.tables = p.tables
  | .order src _ _ none => by simp only [Ops.selectBase, Ops.tables]; exact Ops.selectBase_tables src
  | .selectCols src _ => by simp only [Ops.selectBase, Ops.tables]; exact Ops.selectBase_tables src
  | .dropCols src _ => by simp only [Ops.selectBase, Ops.tables]; exact Ops.selectBase_tables src
  | .order _ _ _ (some _) => rfl
  | .table .. | .extend .. | .project .. | .selectRows .. | .rename .. | .mapCols .. | .join .. | .concat ..
  | .convert .. => rfl

theorem reSrc_tables {N : Ops} (a : Ops) (hT : ∀ n cs, N ≠ .table n cs) :
    (N.reSrc a).tables = a.tables ++ optTables N.srcB := by
  rw [tables_node _ (reSrc_ne_table a hT), reSrc_srcA a hT, reSrc_srcB]

theorem shape_tables {p p' base N : Ops} (h : BuildShape p p' base N) :
    p'.tables = p.tables ++ optTables N.srcB := by
  cases h with
  | ident hN hp =>
    obtain ⟨n, cs, rfl⟩ := hN
    subst hp
    exact (List.append_nil _).symm
  | plain hp hT => rw [hp, reSrc_tables _ hT, strip_tables]
  | merge leaf hst _ _ hp hN =>
    subst hN hp
    rw [← strip_tables p, hst]
    exact (List.append_nil _).symm
  | select leaf cs _ hp hN =>
    subst hN hp
    exact (Ops.selectBase_tables p).trans (List.append_nil _).symm

end DAVerif
