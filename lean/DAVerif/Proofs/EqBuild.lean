import DAVerif.Proofs.Built
import DAVerif.Proofs.EqOps
/-! The builders establish `DictWF` (C11's representation invariant): `parseAssignments` rejects duplicate keys
and `tryMergeOps` keeps keys distinct (`build_dictWF`).  `ReachableC11`: the pipelines obtained from table
descriptions by builder calls, the domain of C11's theorems. -/
namespace DAVerif
open Ops Rules26

theorem Ops.DictWF.stripped {p : Ops} (h : p.DictWF) : (strip p).DictWF :=
  strip_preserves (P := Ops.DictWF) (fun _ _ _ h => h) h

theorem tryMergeOps_nodup {o1 o2 n : Assign} (h1 : (keys o1).Nodup) (h2 : (keys o2).Nodup)
    (h : tryMergeOps o1 o2 = some n) : (keys n).Nodup := by
  obtain ⟨rfl, _⟩ := tryMergeOps_eq_some h
  rw [keys, List.map_append, List.nodup_append]
  refine ⟨(List.filter_sublist.map _).nodup h1, h2, ?_⟩
  rintro a ha b hb rfl
  obtain ⟨kv, hkv, rfl⟩ := List.mem_map.mp ha
  simpa [hb] using (List.mem_filter.mp hkv).2

def Step.arg : Step → Option Ops
  | .join b _ _ _ _ => some b
  | .concat (some b) _ _ _ => some b
  | _ => none

theorem Step.arg_eq_some {st : Step} {b : Ops} : st.arg = some b ↔ b ∈ stepArgs st := by
  have one : ∀ b' : Ops, some b' = some b ↔ b ∈ [b'] := fun b' =>
    ⟨fun h => List.mem_singleton.mpr (Option.some.inj h).symm, fun h => congrArg some (List.mem_singleton.mp h).symm⟩
  cases st with
  | join b' => exact one b'
  | concat b' =>
    cases b' with
    | none => exact ⟨nofun, nofun⟩
    | some b' => exact one b'
  | _ => exact ⟨nofun, nofun⟩

theorem build_dictWF {self r : Ops} {st : Step} (hs : self.DictWF) (ha : ∀ b, st.arg = some b → b.DictWF)
    (h : build self st = .ok r) : r.DictWF := by
  rcases build_eq_ok.mp h with ⟨_, rfl⟩ | ⟨hk, hp⟩
  · exact hs
  have hs' := hs.stripped
  cases hp with
  | extend => exact ⟨hk.1, hs'⟩
  | merge _ _ ht hm =>
    rw [ht] at hs'
    exact ⟨tryMergeOps_nodup hs'.1 hk.1 hm, hs'.2⟩
  | project => exact ⟨hk.1, hs'⟩
  | selectCols =>
    exact Ops.selectBase_preserves (P := Ops.DictWF) (fun _ _ _ h => h) (fun _ _ h => h) (fun _ _ h => h) hs'
  | join | concat => exact ⟨hs', ha _ rfl⟩
  | _ => exact hs'

/-- pipelines obtained from table descriptions by builder calls (join / concat arguments built the same way) -/
inductive ReachableC11 : Ops → Prop
  | table (n : String) (cs : List String) : ReachableC11 (.table n cs)
  | step {p r : Ops} {st : Step} : ReachableC11 p → (∀ b, st.arg = some b → ReachableC11 b) → build p st = .ok r →
      ReachableC11 r

end DAVerif
