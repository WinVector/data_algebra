import DAVerif.Proofs.BuilderReach
import DAVerif.Solutions.RankToAverage
import DAVerif.Solutions.Locf
import DAVerif.Solutions.Replicate
import DAVerif.Solutions.MultiColumnMap
/-!
Which node trees the modelled solution helpers build (C21): every builder call of a helper that succeeds adds
exactly its own node (no merge, no simplification applies to these chains), and the helper's `assert`s together
with the builders' checks yield the side conditions the semantic proofs use.
-/
namespace DAVerif.Sol
open DAVerif DAVerif.Solutions Rules26

set_option linter.unusedSimpArgs false

theorem asrt_bind_ok {α : Type} {c : Bool} {f : Unit → Except Err α} {q : α} :
    (asrt c >>= f) = .ok q ↔ c = true ∧ f () = .ok q := ok?_bind_ok

/-- the node is not an `order_rows` without limit (those the builders skip) -/
abbrev Plain (p : Ops) : Prop := strip p = p

theorem plain_table (n : String) (cs : List String) : Plain (.table n cs) := rfl

theorem build_plain {p q : Ops} {s : Step} (h : build p s = .ok q) (hp : Plain p) (hn : s.isNoop = false)
    (hd : Direct p s) : q = s.nodeOn p ∧ rawChk p.cols p.tables s = .ok () := by
  have := build_direct_ok hn (hp.symm ▸ hd) h
  rwa [hp] at this

theorem build_extend_nomerge {self q : Ops} {ops : Assign} {partition : PartArg} {order reverse : List String}
    (h : build self (.extend ops partition order reverse) = .ok q) (hne : ops.isEmpty = false) (hs : Plain self)
    (hnm : Direct self (.extend ops partition order reverse)) :
    q = .extend self ops (partCols partition) order reverse (windowedSituation ops partition order) ∧
    ExtOK self.cols ops (partCols partition) order reverse (windowedSituation ops partition order) ∧
    (∀ c ∈ partCols partition, c ∉ order) := by
  obtain ⟨_, hpl⟩ := (build_eq_ok.mp h).resolve_left fun h' => Bool.false_ne_true (hne.symm.trans h'.1)
  rw [hs] at hpl
  rw [partCols_eq]
  cases hpl with
  | extend _ hpre _ hc => exact ⟨rfl, .of_chk hc, (extendPre_ok_iff.mp hpre).2.2.2.2.1⟩
  | merge _ _ ha =>
    exact absurd ((hnm _ _ _ _ _ _ ha).symm.trans (mergeCond_iff.mpr ⟨rfl, rfl, rfl, rfl⟩)) Bool.false_ne_true

theorem build_extend_plain {self q : Ops} {ops : Assign} {partition : PartArg} {order reverse : List String}
    (h : build self (.extend ops partition order reverse) = .ok q) (hne : ops.isEmpty = false) (hs : Plain self)
    (hnm : ∀ src ops1 p1 o1 r1 w1, self = .extend src ops1 p1 o1 r1 w1 → (order == o1) = false) :
    q = .extend self ops (partCols partition) order reverse (windowedSituation ops partition order) ∧
    ExtOK self.cols ops (partCols partition) order reverse (windowedSituation ops partition order) ∧
    (∀ c ∈ partCols partition, c ∉ order) :=
  build_extend_nomerge h hne hs (by
    intro src ops1 p1 o1 r1 w1 e
    simp only [mergeCond, hnm src ops1 p1 o1 r1 w1 e, Bool.and_false, Bool.false_and])

theorem append_single_ne (xs : List String) (c : String) : (xs ++ [c] == xs) = false := by
  have : xs ++ [c] ≠ xs := by
    intro e
    have := congrArg List.length e
    simp at this
  simpa using this

theorem nil_ne_append_single (xs : List String) (c : String) : (([] : List String) == xs ++ [c]) = false := by
  have : ([] : List String) ≠ xs ++ [c] := by
    intro e
    have := congrArg List.length e
    simp at this
  simpa using this

def rankTree (d : Ops) (orderBy part : List String) (rankCol tbCol : String) : Ops :=
  .dropCols
    (.extend
      (.extend
        (.extend d [(tbCol, fcall0 "_row_number")] [] orderBy [] true)
        [(rankCol, mcall "cumsum" (.value (.flt 1)))] part (orderBy ++ [tbCol]) [] true)
      [(rankCol, mcall "mean" (.col rankCol))] (part ++ orderBy) [] [] true)
    [tbCol]

/-- side conditions established by the helper's assertion and the builders' checks -/
structure RankOK (cols orderBy part : List String) (rankCol tbCol : String) : Prop where
  nodup : cols.Nodup
  rank_new : rankCol ∉ cols
  tb_new : tbCol ∉ cols
  rank_ne_tb : rankCol ≠ tbCol
  order_sub : ∀ c ∈ orderBy, c ∈ cols
  part_sub : ∀ c ∈ part, c ∈ cols
  order_ne : orderBy ≠ []

theorem windowedSituation_single (c f : String) (args : List Term) (inf mth : Bool) (pa : PartArg) (o : List String) :
    windowedSituation [(c, .app f args inf mth)] pa o
      = (Gen.impliesWindowed.contains f
          || (match pa with | .none => false | .one => true | .cols cs => !cs.isEmpty) || !o.isEmpty) := by
  simp only [windowedSituation, List.any_cons, List.any_nil, Bool.or_false]
  rfl

theorem rownum_windowed : Gen.impliesWindowed.contains "_row_number" = true := by decide +kernel

theorem windowed_rownum (tbCol : String) (pa : PartArg) (o : List String) :
    windowedSituation [(tbCol, fcall0 "_row_number")] pa o = true := by
  rw [fcall0, windowedSituation_single, rownum_windowed]
  rfl

theorem windowed_of_order {ops : Assign} {pa : PartArg} {o : List String} (h : o ≠ []) :
    windowedSituation ops pa o = true := by
  cases o with
  | nil => exact absurd rfl h
  | cons a l => simp only [windowedSituation, List.isEmpty_cons, Bool.not_false, Bool.or_true]

theorem windowed_of_part {ops : Assign} {cs o : List String} (h : cs ≠ []) :
    windowedSituation ops (.cols cs) o = true := by
  cases cs with
  | nil => exact absurd rfl h
  | cons a l => simp only [windowedSituation, List.isEmpty_cons, Bool.not_false, Bool.or_true, Bool.true_or]

/-- a `_row_number()` column passes the builders' checks only under a non-empty ordering -/
theorem order_ne_of_rownum {sc : List String} {tb : String} {part o r : List String} {w : Bool}
    (hok : ExtOK sc [(tb, fcall0 "_row_number")] part o r w) (hw : w = true) : o ≠ [] := by
  intro e
  have := hok.2.2.2.2.2.2 hw _ List.mem_cons_self
  subst e
  have hio : Gen.impliesOrdered.contains "_row_number" = true := by decide +kernel
  simp only [windowOpOk, fcall0, List.isEmpty_nil, Bool.not_true, Bool.not_false, Bool.true_and, hio,
    Bool.and_false, Bool.false_eq_true] at this

theorem rankToAverage_ok {d p : Ops} {orderBy : List String} {partitionBy : Option (List String)}
    {rankCol tbCol : String} (hd : Plain d)
    (hdm : ∀ src ops1 p1 o1 r1 w1, d = .extend src ops1 p1 o1 r1 w1 → (orderBy == o1) = false)
    (h : rankToAverage d orderBy partitionBy rankCol tbCol = .ok p) :
    p = rankTree d orderBy (partitionBy.getD []) rankCol tbCol ∧
    RankOK d.cols orderBy (partitionBy.getD []) rankCol tbCol := by
  simp only [rankToAverage, buildChain, rankToAverageSteps, List.foldlM, bind_eq_ok, pure_ok] at h
  obtain ⟨u, hnd, q1, h1, q2, h2, q3, h3, q4, h4, rfl⟩ := h
  have hnd := nodupB_iff.mp (ok?_eq_ok.mp hnd)
  have hnd' : rankCol ∉ tbCol :: d.cols ∧ tbCol ∉ d.cols ∧ d.cols.Nodup := by
    simpa [List.nodup_cons] using hnd
  obtain ⟨hrk, htb, hcn⟩ := hnd'
  have hrk1 : rankCol ≠ tbCol := fun e => hrk (e ▸ List.mem_cons_self)
  have hrk2 : rankCol ∉ d.cols := fun e => hrk (List.mem_cons_of_mem _ e)
  obtain ⟨e1, ok1, _⟩ := build_extend_plain h1 rfl hd hdm
  subst e1
  obtain ⟨e2, ok2, pre2⟩ := build_extend_plain h2 rfl rfl
    (by intro src ops1 p1 o1 r1 w1 e; cases e; exact append_single_ne _ _)
  subst e2
  obtain ⟨e3, ok3, _⟩ := build_extend_plain h3 rfl rfl
    (by intro src ops1 p1 o1 r1 w1 e; cases e; exact nil_ne_append_single _ _)
  subst e3
  obtain ⟨rfl, -⟩ := build_plain h4 rfl rfl trivial
  have w1 : windowedSituation [(tbCol, fcall0 "_row_number")] .none orderBy = true := windowed_rownum ..
  have hone : orderBy ≠ [] := order_ne_of_rownum ok1 w1
  have w2 : windowedSituation [(rankCol, mcall "cumsum" (.value (.flt 1)))] (.cols (partitionBy.getD []))
      (orderBy ++ [tbCol]) = true := windowed_of_order (by simp)
  have w3 : windowedSituation [(rankCol, mcall "mean" (.col rankCol))]
      (.cols (partitionBy.getD [] ++ orderBy)) [] = true :=
    windowed_of_part (fun e => hone (List.append_eq_nil_iff.mp e).2)
  refine ⟨?_, hcn, hrk2, htb, hrk1, ok1.2.2.1, ?_, hone⟩
  · simp only [rankTree, Step.nodeOn, partCols, w1, w2, w3]
  · intro c hc
    have h1 : c ∈ appendNew d.cols [tbCol] := ok2.2.1 c hc
    rw [appendNew_single htb] at h1
    have h2 : c ∉ orderBy ++ [tbCol] := pre2 c hc
    simp only [List.mem_append, List.mem_singleton, not_or] at h1 h2
    rcases h1 with h1 | h1
    · exact h1
    · exact absurd h1 h2.2

theorem rawChk_selectCols_ok {sc : List String} {ta : List (String × List String)} {cs : List String}
    (h : rawChk sc ta (.selectCols cs) = .ok ()) : ∀ c ∈ cs, c ∈ sc := by
  simp only [rawChk, selectChk, bind_assoc, ok?_bind_ok] at h
  exact subset_iff.mp h.2.2.1

def repTree (d : Ops) (countCol seqCol joinTemp : String) : Ops :=
  .dropCols
    (.selectRows
      (.join (.extend d [(powerCol, powerExpr countCol)] [] [] [] false)
        (.table joinTemp [powerCol, seqCol]) [powerCol] [powerCol] .inner)
      (binop "<" (.col seqCol) (.col countCol)))
    [powerCol]

structure RepOK (cols : List String) (countCol seqCol : String) : Prop where
  count_mem : countCol ∈ cols
  seq_new : seqCol ∉ cols
  power_new : powerCol ∉ cols
  power_ne_count : powerCol ≠ countCol
  power_ne_seq : powerCol ≠ seqCol

theorem not_windowed_power (countCol : String) :
    windowedSituation [(powerCol, powerExpr countCol)] .none [] = false := by
  have : Gen.impliesWindowed.contains "concat" = false := by decide +kernel
  rw [powerExpr, mcall, windowedSituation_single, this]
  rfl

theorem parse_inner : JoinType.parse "inner" = some .inner := by decide +kernel

theorem replicate_ok {powerOf : Nat → Nat} {d p : Ops} {countCol seqCol joinTemp : String} {maxCount : Nat}
    {frame : Table} (h : replicateRowsQuery powerOf d countCol seqCol joinTemp maxCount = .ok (p, frame)) :
    (∃ n cs, d = .table n cs) ∧ p = repTree d countCol seqCol joinTemp ∧
    frame = countFrame seqCol (powerOf maxCount) ∧ RepOK d.cols countCol seqCol ∧ 0 < maxCount := by
  simp only [replicateRowsQuery, buildChain, replicateSteps, List.drop_succ_cons, List.drop_zero, List.foldlM,
    bind_eq_ok, pure_ok, asrt, ok?_eq_ok, mkTable] at h
  obtain ⟨_, hdt, _, hcm, _, hsn, _, hmx, _, hpc, _, hpn, o1, h1, b, ⟨_, _, _, hbn, hb⟩, q, ⟨q2, h2, q3, h3, q4, h4, rfl⟩, hq⟩ := h
  obtain ⟨rfl, rfl⟩ := Prod.mk.inj hq
  subst hb
  have hdtab : ∃ n cs, d = .table n cs := by
    cases d <;> simp [isTable] at hdt
    exact ⟨_, _, rfl⟩
  obtain ⟨n, cs, rfl⟩ := hdtab
  obtain ⟨e1, _, _⟩ := build_extend_plain h1 rfl rfl (by intro _ _ _ _ _ _ e; cases e)
  subst e1
  obtain ⟨rfl, -⟩ := build_plain h2 rfl rfl trivial
  obtain ⟨rfl, -⟩ := build_plain h3 rfl rfl trivial
  obtain ⟨rfl, -⟩ := build_plain h4 rfl rfl trivial
  have hbn' := nodupB_iff.mp hbn
  simp only [List.nodup_cons, List.mem_singleton, List.not_mem_nil, not_false_eq_true, List.nodup_nil,
    and_true] at hbn'
  refine ⟨⟨n, cs, rfl⟩, ?_, rfl, ⟨?_, ?_, ?_, ?_, hbn'⟩, ?_⟩
  · simp only [repTree, Step.nodeOn, parse_inner, Option.getD_some, partCols, not_windowed_power]
  · simpa using hcm
  · simpa using hsn
  · simpa using hpn
  · simpa using hpc
  · simpa using hmx

/-- the text `v.is_null().where(0, 1)` as parsed -/
def useTerm (v : String) : Term := mcall "where" (mcall "is_null" (.col v)) [.value (.int 0), .value (.int 1)]

/-- `d_marked` -/
def locfMarked (d : Ops) (ob part : List String) (v use rk tb : String) : Ops :=
  .extend
    (.extend
      (.extend d [(use, useTerm v)] [] [] [] false)
      [(tb, fcall0 "_row_number")] [] (part ++ ob) [] true)
    [(rk, mcall "cumsum" (.col use))] part (ob ++ [tb]) [] true

def locfTree (d : Ops) (ob part : List String) (v use rk tb : String) : Ops :=
  .dropCols
    (.join (locfMarked d ob part v use rk tb)
      (.selectCols (.selectRows (locfMarked d ob part v use rk tb) (binop "==" (.col use) (.value (.int 1))))
        (part ++ [rk, v]))
      (part ++ [rk]) (part ++ [rk]) .left)
    [use, rk, tb]

structure LocfOK (cols ob part : List String) (v use rk tb : String) : Prop where
  nodup : cols.Nodup
  use_new : use ∉ cols
  rk_new : rk ∉ cols
  tb_new : tb ∉ cols
  use_ne_rk : use ≠ rk
  use_ne_tb : use ≠ tb
  rk_ne_tb : rk ≠ tb
  v_mem : v ∈ cols
  po_ne : part ++ ob ≠ []

theorem not_windowed_use (v use : String) : windowedSituation [(use, useTerm v)] .none [] = false := by
  have : Gen.impliesWindowed.contains "where" = false := by decide +kernel
  rw [useTerm, mcall, windowedSituation_single, this]
  rfl

theorem locf_ok {n : String} {cs : List String} {p : Ops} {orderBy : List String}
    {partitionBy : Option (List String)} {v use rk tb : String}
    (h : lastObservedCarriedForward (.table n cs) orderBy partitionBy v use rk tb = .ok p) :
    p = locfTree (.table n cs) orderBy (partitionBy.getD []) v use rk tb ∧
    LocfOK cs orderBy (partitionBy.getD []) v use rk tb := by
  simp only [lastObservedCarriedForward, buildChain, locfMarkedSteps, List.foldlM, bind_eq_ok, pure_ok] at h
  obtain ⟨u, hnd, m, ⟨q1, h1, q2, h2, q3, h3, rfl⟩, b, ⟨s1, hs1, s2, hs2, rfl⟩, j1, hj, j2, hdrop, rfl⟩ := h
  have hnd := nodupB_iff.mp (ok?_eq_ok.mp hnd)
  have hnd' : use ∉ rk :: tb :: cs ∧ rk ∉ tb :: cs ∧ tb ∉ cs ∧ cs.Nodup := by
    simpa [List.nodup_cons, Ops.cols] using hnd
  obtain ⟨hu, hr, ht, hcn⟩ := hnd'
  obtain ⟨e1, ok1, _⟩ := build_extend_plain h1 rfl rfl (by intro _ _ _ _ _ _ e; cases e)
  subst e1
  have w1 : windowedSituation
      [(use, mcall "where" (mcall "is_null" (Term.col v)) [Term.value (Lit.int 0), Term.value (Lit.int 1)])]
      .none [] = false := not_windowed_use v use
  have hiw : impliesWindowed [(tb, fcall0 "_row_number")] = true := by
    simp only [impliesWindowed, fcall0, List.any_cons, rownum_windowed, Bool.true_or]
  obtain ⟨e2, ok2, _⟩ := build_extend_nomerge h2 rfl rfl (by
    intro src ops1 p1 o1 r1 w1' e
    cases e
    simp [mergeCond, w1, hiw])
  subst e2
  have w2 : windowedSituation [(tb, fcall0 "_row_number")] .none (partitionBy.getD [] ++ orderBy) = true :=
    windowed_rownum ..
  obtain ⟨e3, ok3, _⟩ := build_extend_nomerge h3 rfl rfl (by
    intro src ops1 p1 o1 r1 w1' e
    cases e
    simp only [mergeCond, compatB, partCols]
    cases hp : partitionBy.getD [] with
    | nil =>
      have := append_single_ne orderBy tb
      simp [this]
    | cons a l => simp)
  subst e3
  have w3 : windowedSituation [(rk, mcall "cumsum" (.col use))] (.cols (partitionBy.getD [])) (orderBy ++ [tb]) = true :=
    windowed_of_order (by simp)
  obtain ⟨rfl, -⟩ := build_plain hs1 rfl rfl trivial
  obtain ⟨rfl, -⟩ := build_plain hs2 rfl rfl rfl
  obtain ⟨rfl, -⟩ := build_plain hj rfl rfl trivial
  obtain ⟨rfl, -⟩ := build_plain hdrop rfl rfl trivial
  have hpo : partitionBy.getD [] ++ orderBy ≠ [] := order_ne_of_rownum ok2 w2
  have hv : v ∈ cs := ok1.1 v (by simp [usedBy, useTerm, mcall, Term.colsRaw, Term.colsRawList])
  refine ⟨?_, hcn, ?_, ?_, ht, ?_, ?_, ?_, hv, hpo⟩
  · simp only [locfTree, locfMarked, Step.nodeOn, selectNode, parse_left, Option.getD_some, partCols, w1, w2, w3, useTerm]
  · exact fun e => hu (List.mem_cons_of_mem _ (List.mem_cons_of_mem _ e))
  · exact fun e => hr (List.mem_cons_of_mem _ e)
  · exact fun e => hu (e ▸ List.mem_cons_self)
  · exact fun e => hu (e ▸ List.mem_cons_of_mem _ List.mem_cons_self)
  · exact fun e => hr (e ▸ List.mem_cons_self)

def mcmCoalesce (o : Ops) (mk : String) : Option Lit → Ops
  | none => o
  | some cv => .extend o [(mk, mcall "coalesce" (.col mk) [.value cv])] [] [] [] false

def mcmRename (o : Ops) (cmap : List String) : Option (List String) → Ops
  | none => o
  | some back => .rename o (back.zip cmap)

def mcmTree (d m : Ops) (keys cmap : List String) (nk vk mk : String) (cv : Option Lit)
    (back : Option (List String)) : Ops :=
  mcmRename
    (.convert
      (mcmCoalesce
        (.join (.convert (.selectCols d (keys ++ cmap)) (unpivotRecMap keys nk vk cmap))
          (.selectCols m [nk, vk, mk]) [nk, vk] [nk, vk] .left)
        mk cv)
      (pivotRecMap keys nk mk cmap))
    cmap back

structure McmOK (dcols mcols keys cmap : List String) (nk vk mk : String) (cv : Option Lit)
    (back : Option (List String)) : Prop where
  keys_ne : keys ≠ []
  two_cols : 1 < cmap.length
  nodup_pre : (keys ++ cmap).Nodup
  nodup_mid : (keys ++ [nk, vk, mk]).Nodup
  nodup_to : (keys ++ [nk, vk] ++ cmap).Nodup
  nodup_back : (keys ++ [nk, mk] ++ cmap).Nodup
  nodup_post : (keys ++ back.getD cmap).Nodup
  back_len : ∀ b, back = some b → b.length = cmap.length
  d_sub : ∀ c ∈ keys ++ cmap, c ∈ dcols
  m_sub : ∀ c ∈ [nk, vk, mk], c ∈ mcols
  cv_ok : ∀ v, cv = some v → coalesceLitOk v = true

theorem not_windowed_coalesce (mk : String) (v : Lit) :
    windowedSituation [(mk, mcall "coalesce" (.col mk) [.value v])] .none [] = false := by
  have : Gen.impliesWindowed.contains "coalesce" = false := by decide +kernel
  rw [mcall, windowedSituation_single, this]
  rfl

/-! The `do` block of `defMultiColumnMap` continues inside the branches of its `match`es (on `cols_to_map_back`, on
`coalesce_value`).  `mcmAsserts` followed by `mcmCalls` is the same function (`defMultiColumnMap_eq`) with each optional
step a function of its own – `coalesceCall` takes the rest of the calls as `k`, as the `do` block does – so that the
calls are walked once. -/

/-- the assertions of `def_multi_column_map` and of the two record-map constructors it calls -/
def mcmAsserts (keys cmap : List String) (nk vk mk : String) (back : Option (List String)) : Except Err Unit := do
  asrt (!keys.isEmpty)
  asrt (!cmap.isEmpty)
  asrt (match back with | some b => b.length == cmap.length | none => true)
  asrt (nodupB (keys ++ cmap))
  asrt (nodupB (keys ++ [nk, vk, mk]))
  asrt (nodupB (keys ++ back.getD cmap))
  pivotSpecChecks keys nk vk cmap
  pivotSpecChecks keys nk mk cmap

def coalesceCall (o : Ops) (mk : String) (k : Ops → Except Err Ops) : Option Lit → Except Err Ops
  | none => k o
  | some v =>
    if coalesceLitOk v then build o (.extend [(mk, mcall "coalesce" (.col mk) [.value v])] .none [] []) >>= k
    else match v with
      | .str s =>
        if o.cols.contains s then build o (.extend [(mk, mcall "coalesce" (.col mk) [.col s])] .none [] []) >>= k
        else throw .nameError
      | _ => throw .other

def renameCall (o : Ops) (cmap : List String) : Option (List String) → Except Err Ops
  | none => pure o
  | some b => build o (.rename (b.zip cmap))

def mcmCalls (d m : Ops) (keys cmap : List String) (nk vk mk : String) (cv : Option Lit)
    (back : Option (List String)) : Except Err Ops := do
  let o1 ← buildChain d [.selectCols (keys ++ cmap), .convert (some (unpivotRecMap keys nk vk cmap))]
  let b ← build m (.selectCols [nk, vk, mk])
  let o2 ← build o1 (.join b [nk, vk] [nk, vk] "left" false)
  coalesceCall o2 mk (fun o3 => do
    let o4 ← build o3 (.convert (some (pivotRecMap keys nk mk cmap)))
    renameCall o4 cmap back) cv

theorem defMultiColumnMap_eq (d m : Ops) (keys cmap : List String) (nk vk mk : String) (cv : Option Lit)
    (back : Option (List String)) :
    defMultiColumnMap d m keys cmap nk vk mk cv back
      = mcmAsserts keys cmap nk vk mk back >>= fun _ => mcmCalls d m keys cmap nk vk mk cv back := by
  unfold mcmAsserts
  simp only [bind_assoc]
  cases back <;> rfl

theorem mcmAsserts_ok {keys cmap : List String} {nk vk mk : String} {back : Option (List String)}
    (h : mcmAsserts keys cmap nk vk mk back = .ok ()) :
    keys ≠ [] ∧ 1 < cmap.length ∧ (keys ++ cmap).Nodup ∧ (keys ++ [nk, vk, mk]).Nodup ∧
    (keys ++ [nk, vk] ++ cmap).Nodup ∧ (keys ++ [nk, mk] ++ cmap).Nodup ∧ (keys ++ back.getD cmap).Nodup ∧
    ∀ b, back = some b → b.length = cmap.length := by
  simp only [mcmAsserts, pivotSpecChecks, asrt, bind_assoc, ok?_bind_ok, ok?_eq_ok, nodupB_iff] at h
  obtain ⟨hk, _, hbl, hpre, hmid, hpost, hto, _, htwo, hbk, _, _⟩ := h
  refine ⟨by simpa using hk, by simpa using htwo, hpre, hmid, hto, hbk, hpost, ?_⟩
  intro b e
  subst e
  simpa using hbl

theorem coalesceCall_ok {o q : Ops} {mk : String} {k : Ops → Except Err Ops} {cv : Option Lit} (ho : Plain o)
    (hne : ∀ src o1 p1 od1 rv1 w1, o ≠ .extend src o1 p1 od1 rv1 w1)
    (hcv : ∀ v, cv = some v → coalesceLitOk v = true) (h : coalesceCall o mk k cv = .ok q) :
    k (mcmCoalesce o mk cv) = .ok q := by
  cases cv with
  | none => exact h
  | some v =>
    simp only [coalesceCall, hcv v rfl, if_true, bind_eq_ok] at h
    obtain ⟨o3, h3, hk⟩ := h
    obtain ⟨e, _, _⟩ := build_extend_nomerge h3 rfl ho (fun _ _ _ _ _ _ e => absurd e (hne _ _ _ _ _ _))
    rw [e, not_windowed_coalesce] at hk
    exact hk

theorem renameCall_ok {o q : Ops} {cmap : List String} {back : Option (List String)} (ho : Plain o)
    (htwo : 1 < cmap.length) (hlen : ∀ b, back = some b → b.length = cmap.length)
    (h : renameCall o cmap back = .ok q) : q = mcmRename o cmap back := by
  cases back with
  | none => exact (pure_ok.mp h).symm
  | some b =>
    have hne : (b.zip cmap).isEmpty = false := by
      have hl := hlen b rfl
      cases b with
      | nil => simp at hl; omega
      | cons x xs =>
        cases cmap with
        | nil => simp at htwo
        | cons y ys => rfl
    exact (build_plain (s := .rename (b.zip cmap)) h ho hne trivial).1

theorem plain_mcmCoalesce {o : Ops} (ho : Plain o) (mk : String) (cv : Option Lit) : Plain (mcmCoalesce o mk cv) := by
  cases cv with
  | none => exact ho
  | some _ => rfl

theorem mcm_ok {dn mn : String} {dcols mcols keys cmap : List String} {nk vk mk : String} {cv : Option Lit}
    {back : Option (List String)} {p : Ops} (hcv : ∀ v, cv = some v → coalesceLitOk v = true)
    (h : defMultiColumnMap (.table dn dcols) (.table mn mcols) keys cmap nk vk mk cv back = .ok p) :
    p = mcmTree (.table dn dcols) (.table mn mcols) keys cmap nk vk mk cv back ∧
    McmOK dcols mcols keys cmap nk vk mk cv back := by
  rw [defMultiColumnMap_eq] at h
  obtain ⟨_, ha, h⟩ := bind_eq_ok.mp h
  obtain ⟨hk, htwo, hpre, hmid, hto, hbk, hpost, hlen⟩ := mcmAsserts_ok ha
  simp only [mcmCalls, buildChain, List.foldlM, bind_eq_ok, pure_ok] at h
  obtain ⟨o1, ⟨q1, h1, q2, h2, rfl⟩, b, hb, o2, hj, h3⟩ := h
  obtain ⟨rfl, c1⟩ := build_plain h1 rfl rfl rfl
  obtain ⟨rfl, -⟩ := build_plain h2 rfl rfl trivial
  obtain ⟨rfl, cb⟩ := build_plain hb rfl rfl rfl
  obtain ⟨rfl, -⟩ := build_plain hj rfl rfl trivial
  obtain ⟨o4, h4, h5⟩ := bind_eq_ok.mp (coalesceCall_ok rfl (fun _ _ _ _ _ _ e => by cases e) hcv h3)
  obtain ⟨rfl, -⟩ := build_plain h4 (plain_mcmCoalesce rfl mk cv) rfl trivial
  obtain rfl := renameCall_ok rfl htwo hlen h5
  refine ⟨?_, hk, htwo, hpre, hmid, hto, hbk, hpost, hlen, rawChk_selectCols_ok c1, rawChk_selectCols_ok cb, hcv⟩
  simp only [mcmTree, Step.nodeOn, selectNode, parse_left, Option.getD_some]

end DAVerif.Sol
