import DAVerif.Proofs.ExprWalkWfCalls
import DAVerif.Proofs.ExprWalkWfParse
/-!
C13: every term the walker returns for a tree of the parser's shapes, under the guards `NoDunderCall` and
`floatsInScope`, is well-formed (`walk_wf`; `walk_wf_at` is the instance of `walk_ind` with the guards as the guard of
the induction).  `loose` is the weakest of the shapes `gram` asks of a list of children.
-/
namespace DAVerif.C13W
open DAVerif DAVerif.Expr

theorem guardsWf_node (r : String) (ch : List Cst) :
    guardsWf (.node r ch) = (dunderNodeOk r ch && guardsWfL ch) := by
  unfold guardsWf guardsWfL; rw [allP]
theorem guardsWf_tok (t : Token) : guardsWf (.tok t) = floatTokOk t := by
  unfold guardsWf; rw [allP]
theorem guardsWfL_cons (c : Cst) (cs : List Cst) : guardsWfL (c :: cs) = (guardsWf c && guardsWfL cs) := by
  unfold guardsWf guardsWfL; rw [allPL]
theorem guardsWfL_nil : guardsWfL [] = true := by
  unfold guardsWfL; rw [allPL]

/-- a child as the loosest of the child lists allows it: an operator token, a `None` placeholder, or a tree -/
def looseOk (c : Cst) : Bool :=
  isOpTokIn grammarOps c || (match c with | .none => true | _ => false) || gram c

def loose : List Cst → Bool
  | [] => true
  | c :: cs => looseOk c && loose cs

theorem gramLevel_loose : ∀ cs : List Cst, gramLevel cs = true → loose cs = true
  | [], _ => rfl
  | c :: cs, h => by
    simp only [gramLevel, Bool.and_eq_true, Bool.or_eq_true] at h
    simp only [loose, looseOk, Bool.and_eq_true, Bool.or_eq_true]
    exact ⟨by rcases h.1 with h1 | h1 <;> simp [h1], gramLevel_loose cs h.2⟩

theorem gramAll_loose : ∀ cs : List Cst, gramAll cs = true → loose cs = true
  | [], _ => rfl
  | c :: cs, h => by
    simp only [gramAll, Bool.and_eq_true] at h
    simp only [loose, looseOk, Bool.and_eq_true, Bool.or_eq_true]
    exact ⟨Or.inr h.1, gramAll_loose cs h.2⟩

theorem gramArgs_loose : ∀ cs : List Cst, gramArgs cs = true → loose cs = true
  | [], _ => rfl
  | .none :: cs, h => by
    simp only [gramArgs] at h
    simp [loose, looseOk, gramArgs_loose cs h]
  | .tok t :: cs, h => by simp [gramArgs, gram] at h
  | .node r ch :: cs, h => by
    simp only [gramArgs, Bool.and_eq_true] at h
    simp [loose, looseOk, h.1, gramArgs_loose cs h.2]

theorem looseOk_of_gram {c : Cst} (h : gram c = true) : looseOk c = true := by simp [looseOk, h]

theorem opText_loose {o : Cst} {s : String} (hl : looseOk o = true) (h : opText o = some s) : s ∈ grammarOps := by
  cases o with
  | none => simp [opText] at h
  | node r ch => simp [opText] at h
  | tok tk =>
    simp only [opText, Option.some.injEq] at h
    subst h
    simp only [looseOk, isOpTokIn, gram, Bool.or_false, Bool.and_eq_true] at hl
    simpa using hl.2

theorem opTexts_loose : ∀ (rest : List Cst) (ops : List String), loose rest = true → opTexts rest = some ops →
    (∀ o ∈ ops, o ∈ grammarOps) ∧ 2 * ops.length = rest.length
  | [], ops, _, h => by
    simp only [opTexts, Option.some.injEq] at h
    subst h; simp
  | [_], ops, _, h => by simp [opTexts] at h
  | o :: c :: rest, ops, hl, h => by
    simp only [opTexts] at h
    split at h
    · rename_i s ss ho hr
      cases h
      simp only [loose, Bool.and_eq_true] at hl
      obtain ⟨h1, h2⟩ := opTexts_loose rest ss hl.2.2 hr
      refine ⟨?_, by simp only [List.length_cons]; omega⟩
      intro x hx
      simp only [List.mem_cons] at hx
      rcases hx with rfl | hx
      · exact opText_loose hl.1 ho
      · exact h1 x hx
    · cases h

theorem levelMode_karyOp {kind : RuleKind} {ops : List String} {op : String} (h : levelMode kind ops = .kary op) :
    karyOps.contains op = true := by
  rcases (levelMode_kary h).2.1 with rfl | rfl <;> decide +kernel

theorem levelMode_cmp {kind : RuleKind} {ops : List String} (h : levelMode kind ops = .cmpChain) : ops.length ≥ 2 := by
  have := levelMode_cmpChain.2 h
  simp only [Bool.and_eq_true, decide_eq_true_eq] at this
  exact this.2

theorem walkTok_wf {env : Env} {tk : Token} {t : Term} (hf : floatTokOk tk = true) (h : walkTok env tk = .ok t) :
    wf env t = true := by
  rcases walkTok_ok h with ⟨-, hc, rfl⟩ | ⟨n, -, -, rfl⟩ | ⟨q, hk, hq, rfl⟩ | ⟨s, -, -, rfl⟩
  · rw [wf]; exact hc
  · rw [wf_value]; rfl
  · rw [wf_value]
    simpa [floatTokOk, hk, hq] using hf
  · rw [wf_value]; exact litOk_str _

theorem loose_iff : ∀ {cs : List Cst}, loose cs = true ↔ ∀ c ∈ cs, looseOk c = true
  | [] => by simp [loose]
  | c :: cs => by simp [loose, loose_iff (cs := cs)]

theorem guardsWfL_iff {cs : List Cst} : guardsWfL cs = true ↔ ∀ c ∈ cs, guardsWf c = true := allPL_iff

theorem guardsWf_child {r : String} {ch : List Cst} (h : guardsWf (.node r ch) = true) : ∀ c ∈ ch, guardsWf c = true := by
  rw [guardsWf_node, Bool.and_eq_true] at h
  exact guardsWfL_iff.mp h.2

section relative
variable {env : Env}

/-- the statement of the induction for one tree and its term: well-formed, when the tree is a token or an operand of
the parser's shapes; for a `key_value` child of a dictionary literal, a one-entry dictionary of constants that
re-read -/
def WfAt (env : Env) (c : Cst) (t : Term) : Prop :=
  (((∀ tk, c ≠ .tok tk) → looseOk c = true) → wf env t = true) ∧
  ∀ r k v, c = .node r [k, v] → classify r = .keyValue → gram k = true → gram v = true →
    ∃ a b, t = .dict [(a, b)] ∧ litOk a = true ∧ litOk b = true

theorem WfAt.wf {c : Cst} {t : Term} (h : WfAt env c t) (hl : looseOk c = true) : wf env t = true := h.1 fun _ => hl

theorem walked_wf {cs : List Cst} {ts : List Term} (h : Walked (WfAt env) cs ts) (hl : ∀ c ∈ cs, looseOk c = true) :
    wfs env ts = true :=
  wfs_iff.mpr fun t ht => let ⟨c, hm, hw⟩ := h.mem t ht; hw.wf (hl c hm)

theorem chain_wf (hc : Canon env) {rest : List Cst} {res t : Term} (h : WalkedChain env (WfAt env) res rest t)
    (hl : ∀ c ∈ rest, looseOk c = true) (hr : wf env res = true) : wf env t = true := by
  induction h with
  | stop => exact hr
  | step ho hg hca hab _ ih =>
    exact ih (fun c h => hl c (by simp [h]))
      (step_wf (canon_op hc (opText_loose (hl _ (by simp)) ho)) hg hab hr (hca.wf (hl _ (by simp))))

theorem kop_wf {op : String} (hop : karyOps.contains op = true) {args : List Term} {t : Term}
    (hw : wfs env args = true) (hlen : 2 ≤ args.length) (h : kopExpr env op args = .ok t) : wf env t = true := by
  cases kopExpr_ok h
  match args, hlen, h with
  | a :: b :: rest, _, h => exact wf_app_iff.2 ⟨wfs_iff.1 hw, .kary hop h⟩

theorem level_wf (hc : Canon env) {kind : RuleKind} {ops : List String} {first t : Term} {rest : List Cst}
    (h : WalkedLevel env (WfAt env) kind ops first rest t) (hops : opTexts rest = some ops)
    (hl : loose rest = true) (hfirst : wf env first = true) : wf env t = true := by
  obtain ⟨hmem, hopslen⟩ := opTexts_loose rest ops hl hops
  have hl := loose_iff.mp hl
  have others : ∀ {ts}, Walked (WfAt env) (odds rest) ts → wfs env (first :: ts) = true ∧ 2 * ts.length = rest.length :=
    fun ho => ⟨by rw [wfs_cons, hfirst, walked_wf ho fun c h => hl c (mem_odds h)]; rfl,
      by have := length_odds rest; rw [ho.length]; omega⟩
  cases h with
  | kary hm ho h =>
    obtain ⟨-, -, os, rfl, -⟩ := levelMode_kary hm
    exact kop_wf (levelMode_karyOp hm) (others ho).1
      (by have := (others ho).2; simp only [List.length_cons] at hopslen ⊢; omega) h
  | cmpChain hm ho hcc h =>
    obtain ⟨hwf3, hlen3⟩ := chain_forall (Q := fun t => wf env t = true) (R := (· ∈ grammarOps))
      (fun _ _ _ _ ho ha hb h => call1_wf (canon_op hc ho) h ha hb) _ _ _ hmem (wfs_iff.mp (others ho).1) hcc
    have hge := levelMode_cmp hm
    exact kop_wf (by decide +kernel) (wfs_iff.mpr hwf3)
      (by have := (others ho).2; simp only [List.length_cons] at hlen3; omega) h
  | linear _ h => exact chain_wf hc h hl hfirst

theorem walked_kvs : ∀ {items : List Cst} {parts : List Term}, Walked (WfAt env) items parts →
    gramKVs items = true →
    ∃ kvs : List (Lit × Lit), parts = kvs.map (fun kv => Term.dict [kv]) ∧
      kvs.all (fun kv => litOk kv.1 && litOk kv.2) = true ∧ kvs.length = items.length
  | _, _, .nil, _ => ⟨[], rfl, rfl, rfl⟩
  | _, _, .cons (c := c) h hs, hg => by
    unfold gramKVs at hg
    split at hg
    · contradiction
    · rename_i r k v cs' heq
      cases heq
      simp only [Bool.and_eq_true, beq_iff_eq] at hg
      obtain ⟨⟨⟨rfl, hgk⟩, hgv⟩, hgcs⟩ := hg
      obtain ⟨a, b, rfl, ha, hb⟩ := h.2 _ k v rfl classify_key_value hgk hgv
      obtain ⟨kvs, hps, hok, hlen⟩ := walked_kvs hs hgcs
      exact ⟨(a, b) :: kvs, by simp [hps], by simp [ha, hb, hok], by simp [hlen]⟩
    · contradiction

theorem args_wf {m : Cst} {args : List Term}
    (hg : (match m with | .none => true | .node _ items => gramArgs items | .tok _ => false) = true)
    (h : WalkedArgs (WfAt env) [m] args) : wfs env args = true := by
  cases h with
  | items h => exact walked_wf h (loose_iff.mp (gramArgs_loose _ hg))
  | none => exact wfs_nil env

end relative

section main
set_option linter.unusedSectionVars false
variable {env : Env} (hs : env.Sane) (hc : Canon env)
include hs hc

theorem walk_wf_at : ∀ c t, guardsWf c = true → walk env c = .ok t → WfAt env c t := by
  refine walk_ind (G := fun c => guardsWf c = true) guardsWf_child
    (fun tk t hG hw => ⟨fun _ => walkTok_wf (guardsWf_tok tk ▸ hG) hw, nofun⟩)
    (fun rule ch t hG h => ⟨fun hl => ?_, fun r k v e hkv hgk hgv => ?_⟩)
  · have hg : gram (.node rule ch) = true := by simpa [looseOk, isOpTokIn] using hl nofun
    rw [gram.eq_def] at hg
    cases h with
    | const hk => rw [wf_value]; rcases hk with ⟨-, rfl⟩ | ⟨-, rfl⟩ | ⟨-, rfl⟩ <;> rfl
    | @wrapper c rest _ hk hcw =>
      simp only [hk] at hg
      match c, rest, hg, hcw with
      | .tok tk, [], _, hcw => exact hcw.1 fun h => absurd rfl (h tk)
    | @level _ c rest _ _ _ hk hkind hops hcf h =>
      have hgl : gramLevel (c :: rest) = true := by rcases hkind with rfl | rfl | rfl <;> simpa only [hk] using hg
      have hl := gramLevel_loose _ hgl
      simp only [loose, Bool.and_eq_true] at hl
      exact level_wf hc h hops hl.2 (hcf.wf hl.1)
    | power hk hsub h =>
      simp only [hk] at hg
      match ch, hg, hsub with
      | [a, b], hg, hsub =>
        simp only [Bool.and_eq_true] at hg
        have hwf := walked_wf hsub (by simp [looseOk, hg.1, hg.2])
        rw [wfs_cons, Bool.and_eq_true] at hwf
        exact powFold_forall (Q := fun t => wf env t = true) (fun _ _ _ hr hx h => call1_wf (canon_pow hc) h hr hx)
          _ _ _ hwf.1 (wfs_iff.mp hwf.2) h
    | @factor o _ _ _ hk hcw h =>
      simp only [hk, Bool.and_eq_true] at hg
      have hs' : o.text = "+" ∨ o.text = "-" ∨ o.text = "~" := by simpa [unaryOps] using hg.1.2
      exact factor_wf hs hc hs' (hcw.wf (looseOk_of_gram hg.2)) h
    | @method recv nm more _ _ _ hk hr ha h =>
      cases classify_funccall_inv hk
      simp only [hk] at hg
      match more, hg, ha with
      | [m], hg, ha =>
        simp only [Bool.and_eq_true, gram_getattr] at hg
        rw [guardsWf_node, Bool.and_eq_true] at hG
        have hd : isDunder nm.text = false := by simpa [dunderNodeOk] using hG.1
        exact callMethod_wf hs hc hd h (hr.wf (looseOk_of_gram hg.1)) (args_wf hg.2 ha)
    | @func _ _ _ more _ _ hk hcr ha h =>
      simp only [hk] at hg
      match more, hg, ha with
      | [m], hg, ha =>
        simp only [Bool.and_eq_true] at hg
        exact wf_funcApp (args_wf hg.2 ha) h
    | @funcTok _ more _ _ hk ha h =>
      simp only [hk] at hg
      match more, hg with
      | [m], hg => simp [gram] at hg
    | conn hk hlen ha h =>
      have hgl : gramLevel ch = true := by rcases hk with ⟨hk, _⟩ | ⟨hk, _⟩ <;> simpa only [hk] using hg
      exact kop_wf (by rcases hk with ⟨_, rfl⟩ | ⟨_, rfl⟩ <;> decide +kernel)
        (walked_wf ha (loose_iff.mp (gramLevel_loose ch hgl))) (by rw [ha.length]; exact hlen) h
    | not hk hcw h =>
      simp only [hk] at hg
      exact call1_wf (canon_eq hc) h (hcw.wf (looseOk_of_gram hg)) (by rw [wf_value]; rfl)
    | @comp r2 items _ _ hk hr ha h =>
      simp only [hk, hr, ↓reduceIte, Bool.and_eq_true, Bool.not_eq_true', List.isEmpty_eq_false_iff] at hg
      refine mkList_wf ?_ (walked_wf ha (loose_iff.mp (gramAll_loose items hg.2))) h
      intro hvs; subst hvs
      exact hg.1 (List.length_eq_zero_iff.mp ha.length.symm)
    | @single c v _ hk hr hcw h =>
      simp only [hk] at hg
      have hlc : looseOk c = true := by
        match c, hg, hr with
        | .node r2 items, hg, hr => exact looseOk_of_gram (by simpa [hr r2 items rfl] using hg)
        | .none, _, _ => rfl
      exact mkList_wf (by simp) (by simp only [wfs_cons, wfs_nil, hcw.wf hlc, Bool.and_self]) h
    | @dict r items _ _ hk ha h =>
      simp only [hk, Bool.and_eq_true, Bool.not_eq_true', List.isEmpty_eq_false_iff] at hg
      obtain ⟨kvs, rfl, hok, hl'⟩ := walked_kvs ha hg.2
      refine mkDict_wf ?_ hok h
      intro hk; subst hk
      exact hg.1 (List.length_eq_zero_iff.mp hl'.symm)
    | keyValue hk => simp only [hk] at hg; contradiction
  · cases e
    obtain ⟨_, _, kt, vt, e, hkt, hvt, hmk⟩ := h.kv hkv
    cases e
    obtain ⟨a, b, rfl, rfl, rfl⟩ := mkKeyValue_ok hmk
    have hka := hkt.wf (looseOk_of_gram hgk)
    have hvb := hvt.wf (looseOk_of_gram hgv)
    rw [wf_value] at hka hvb
    exact ⟨a, b, rfl, hka, hvb⟩

theorem walk_wf (c : Cst) (t : Term) (hg : gram c = true) (hG : guardsWf c = true) (hw : walk env c = .ok t) :
    wf env t = true :=
  (walk_wf_at hs hc c t hG hw).wf (looseOk_of_gram hg)

theorem walk_wf_mem {cs : List Cst} (hG : guardsWfL cs = true) :
    ∀ c ∈ cs, ∀ t, walk env c = .ok t → WfAt env c t :=
  fun c h t => walk_wf_at hs hc c t (guardsWfL_iff.mp hG c h)

theorem walkLevel_wf : ∀ (kind : RuleKind) (ch : List Cst) (t : Term), loose ch = true → guardsWfL ch = true →
    walkLevel env kind ch = .ok t → wf env t = true := fun kind _ _ hl hG hw => by
  obtain ⟨c, rest, ops, first, rfl, hops, hcf, h⟩ := walkLevel_walked (walk_wf_mem hs hc hG) hw
  simp only [loose, Bool.and_eq_true] at hl
  exact level_wf hc h hops hl.2 (hcf.wf hl.1)
theorem walkChain_wf : ∀ (rest : List Cst) (res t : Term), loose rest = true → guardsWfL rest = true →
    wf env res = true → walkChain env res rest = .ok t → wf env t = true :=
  fun _ _ _ hl hG hr hw => chain_wf hc (walkChain_walked (walk_wf_mem hs hc hG) hw) (loose_iff.mp hl) hr
theorem walkAll_wf : ∀ (cs : List Cst) (ts : List Term), loose cs = true → guardsWfL cs = true →
    walkAll env cs = .ok ts → wfs env ts = true ∧ ts.length = cs.length :=
  fun _ _ hl hG hw => have h := walkAll_walked (walk_wf_mem hs hc hG) hw; ⟨walked_wf h (loose_iff.mp hl), h.length⟩
theorem walkOdd_wf : ∀ (cs : List Cst) (ts : List Term), loose cs = true → guardsWfL cs = true →
    walkOdd env cs = .ok ts → wfs env ts = true ∧ 2 * ts.length + cs.length % 2 = cs.length :=
  fun cs _ hl hG hw =>
    have h := walkAll_walked (fun c h => walk_wf_mem hs hc hG c (mem_odds h)) (walkOdd_eq env cs ▸ hw)
    ⟨walked_wf h fun c hm => loose_iff.mp hl c (mem_odds hm), h.length ▸ length_odds cs⟩
theorem walkKVs_wf : ∀ (items : List Cst) (parts : List Term), gramKVs items = true → guardsWfL items = true →
    walkAll env items = .ok parts →
    ∃ kvs : List (Lit × Lit), parts = kvs.map (fun kv => Term.dict [kv]) ∧
      kvs.all (fun kv => litOk kv.1 && litOk kv.2) = true ∧ kvs.length = items.length :=
  fun _ _ hg hG hw => walked_kvs (walkAll_walked (walk_wf_mem hs hc hG) hw) hg

end main

mutual
theorem guardsWf_of : ∀ c : Cst, noDunderCall c = true → floatsInScope c = true → guardsWf c = true
  | .tok t, _, h2 => by
    unfold floatsInScope at h2; rw [allP] at h2
    rw [guardsWf_tok]; exact h2
  | .none, _, _ => by unfold guardsWf; rw [allP]
  | .node r ch, h1, h2 => by
    unfold noDunderCall at h1; rw [allP, Bool.and_eq_true] at h1
    unfold floatsInScope at h2; rw [allP, Bool.and_eq_true] at h2
    rw [guardsWf_node, Bool.and_eq_true]
    exact ⟨h1.1, guardsWfL_of ch h1.2 h2.2⟩
theorem guardsWfL_of : ∀ cs : List Cst, allPL dunderNodeOk (fun _ => true) cs = true →
    allPL (fun _ _ => true) floatTokOk cs = true → guardsWfL cs = true
  | [], _, _ => guardsWfL_nil
  | c :: cs, h1, h2 => by
    rw [allPL, Bool.and_eq_true] at h1 h2
    rw [guardsWfL_cons, Bool.and_eq_true]
    exact ⟨guardsWf_of c h1.1 h2.1, guardsWfL_of cs h1.2 h2.2⟩
end

/-- does the walker return a well-formed term for the tree? (`none`: the walker refuses the tree) -/
def walkedWf (env : Env) (c : Cst) : Option Bool := (walk env c).toOption.map (wf env)

end DAVerif.C13W
