import DAVerif.Props.C26
import DAVerif.Proofs.SqlNestedScope
/-!
C01/C02/C16: **what every pipeline the builders produce satisfies**, of the structural scope of the SQL translation theorems
(`Proofs/SqlGood.lean`, `Proofs/SqlNestedScope.lean`): `Sql.SqlWF` (`C01_reachable_sqlwf`), `Sql.JoinWF`
(`C16_reachable_joinwf`) and `SqlE.JoinKeysLen` (`SqlE.reachable_joinKeysLen`).

`Sql.MapsOK` – unique dictionary keys, rename sources named once – is not a consequence of the builder checks: the first
half is true of every Python dict, the second is the guard of the finding `C08_rename_twice_necessary`.
-/
namespace DAVerif
namespace Sql
open Rules26

variable {P : Ops → Prop}

/-- A successful builder call keeps every invariant `P` that passes through the unary nodes (`hun`) and holds of a
`natural_join` / `concat_rows` node over pipelines satisfying it, given what `NaturalJoinNode.__init__` /
`ConcatRowsNode.__init__` check (`hjoin`, `hconcat`). -/
theorem build_preserves (hun : ∀ p s : Ops, p.sources = [s] → (P p ↔ P s))
    (hjoin : ∀ (a b : Ops) (onA onB : List String) (jt : JoinType), P a → P b → (onA.length == onB.length) = true →
      subset onA a.cols = true → subset onB b.cols = true → P (.join a b onA onB jt))
    (hconcat : ∀ (a b : Ops) (idc : Option String) (an bn : String), P a → P b → subset a.cols b.cols = true →
      subset b.cols a.cols = true → P (.concat a b idc an bn))
    {p : Ops} (hs : P p) {s : Step} (hb : ∀ b ∈ stepArgs s, P b) {q : Ops} (h : build p s = .ok q) : P q := by
  have down : ∀ {n s : Ops}, n.sources = [s] → P n → P s := fun hn => (hun _ _ hn).mp
  have hst : P (DAVerif.strip p) := strip_preserves (fun _ _ _ => down rfl) hs
  rcases build_eq_ok.mp h with ⟨_, rfl⟩ | ⟨_, hpl⟩
  · exact hs
  cases hpl with
  | merge _ _ ha => rw [ha] at hst; exact (hun _ _ rfl).mpr (down rfl hst)
  | selectCols =>
    exact (hun _ _ rfl).mpr (Ops.selectBase_preserves (fun _ _ _ => down rfl) (fun _ _ => down rfl) (fun _ _ => down rfl) hst)
  | join hc =>
    obtain ⟨_, hlen, hoa, hob, _⟩ := joinChk_ok_iff.mp hc
    exact hjoin _ _ _ _ _ hst (hb _ List.mem_cons_self) (beq_iff_eq.mpr hlen) (subset_iff.mpr hoa) (subset_iff.mpr hob)
  | concat hc =>
    obtain ⟨_, ⟨hab, hba⟩, _⟩ := concatChk_ok_iff.mp hc
    exact hconcat _ _ _ _ _ hst (hb _ List.mem_cons_self) (subset_iff.mpr hab) (subset_iff.mpr hba)
  | _ => exact (hun _ _ rfl).mpr hst

theorem build_joinwf {p : Ops} (hs : JoinWF p) {s : Step} (hb : ∀ b ∈ stepArgs s, JoinWF b) {q : Ops}
    (h : build p s = .ok q) : JoinWF q :=
  build_preserves JoinWF.unary
    (fun _ _ _ _ _ ha hb _ hoa hob => by simp only [JoinWF, joinWFb, Bool.and_eq_true]; exact ⟨⟨⟨ha, hb⟩, hoa⟩, hob⟩)
    (fun _ _ _ _ _ ha hb hab hba => by simp only [JoinWF, joinWFb, Bool.and_eq_true]; exact ⟨⟨⟨ha, hb⟩, hab⟩, hba⟩)
    hs hb h

namespace SqlE

/-- `NaturalJoinNode.__init__` asserts `len(on_a) == len(on_b)` -/
theorem reachable_joinKeysLen {p : Ops} (h : Reachable p) : JoinKeysLen p := by
  induction h with
  | table name cs hne hnd => rfl
  | @step p s q _ _ hb ihp ihb =>
    exact build_preserves JoinKeysLen.unary
      (fun _ _ _ _ _ ha hb hlen _ _ => by simp only [JoinKeysLen, joinKeysLenb, Bool.and_eq_true]; exact ⟨⟨ha, hb⟩, hlen⟩)
      (fun _ _ _ _ _ ha hb _ _ => by simp only [JoinKeysLen, joinKeysLenb, Bool.and_eq_true]; exact ⟨ha, hb⟩)
      ihp ihb hb

end SqlE

end Sql
open Sql

/-- **Every pipeline obtained from table descriptions by builder calls satisfies `SqlWF`.** -/
theorem C01_reachable_sqlwf {p : Ops} (h : Reachable p) : SqlWF p := by
  induction h with
  | table name cs hne hnd => rfl
  | @step p s q _ _ hb ihp ihb => exact build_sqlwf ihp ihb hb

/-- **Every pipeline obtained from table descriptions by builder calls satisfies `JoinWF`.** -/
theorem C16_reachable_joinwf {p : Ops} (h : Reachable p) : JoinWF p := by
  induction h with
  | table name cs hne hnd => rfl
  | @step p s q _ _ hb ihp ihb => exact build_joinwf ihp ihb hb

end DAVerif
