import DAVerif.Proofs.EraseMap
import DAVerif.Proofs.EvalRead
/-! Lemmas for C11, semantics: `sem` does not look at the `method` flags (`sem_erase`: `sem` factors through
`erase`, an instance of what holds of every node-wise map, `Proofs/EraseMap.lean`). -/
namespace DAVerif

theorem evalArgs_erase (Θ : Interp) (r : Row) : ∀ ts : List Term,
    evalArgs Θ r (Term.eraseList ts) = evalArgs Θ r ts := by
  intro ts
  have h := Ren.evalArgs_mapTerms Θ Function.injective_id (fun _ => false) r ts
  rwa [C11Sql.mapTerms_erase, show r.rename id = r by simp [Row.rename]] at h

theorem eraseList_eq_map (ts : List Term) : Term.eraseList ts = ts.map Term.erase := by
  induction ts <;> simp_all [Term.eraseList]

open C11Sql in
theorem sem_erase (Θ : Interp) (cfg : SemCfg) (env : Env) (p : Ops) :
    sem Θ cfg env p.erase = sem Θ cfg env p := by
  have h := Ren.sem_map Θ cfg eraseMap_blind
    (fun rm t => by rw [eraseMap_col, recMap_rename_id, map_table_rename_id, table_rename_id]; rfl) env p
  rwa [eraseMap_ops, eraseMap_col, eraseMap_tab, env_rename_id, map_table_rename_id] at h

end DAVerif
