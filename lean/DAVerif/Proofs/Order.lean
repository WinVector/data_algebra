import DAVerif.Spec.Perm
import DAVerif.Sem.EvalG
import DAVerif.Proofs.RowBasic
import DAVerif.Prim.Polars
import DAVerif.Sql.Sem
/-!
Order theory of the row comparisons.  `Val.lt` is a strict total order; the comparisons of cells (pandas', the engines',
Polars') are members of one family, each a total order; the comparisons of rows are the lexicographic comparison `lexLe`
over a comparison of cells, hence total preorders whose ties are equality on the order columns (`cmpLex_lexLe`).  A sorted
permutation is unique when ties are equalities (`perm_sorted_eq`), so the sort then does not depend on the input order.
-/
namespace DAVerif

namespace Val

theorem lt_irrefl (a : Val) : Val.lt a a = false := by
  cases a <;> simp [Val.lt, Val.rank]

theorem lt_trans {a b c : Val} (h1 : Val.lt a b = true) (h2 : Val.lt b c = true) : Val.lt a c = true := by
  cases a <;> cases b <;> cases c <;> simp_all [Val.lt, Val.rank]
  · exact Rat.not_le.mp (fun h => Rat.not_le.mpr h2 (Rat.le_trans h (Rat.le_of_lt h1)))
  · exact String.lt_trans h1 h2

theorem lt_trichotomy (a b : Val) : a = b ∨ Val.lt a b = true ∨ Val.lt b a = true := by
  cases a <;> cases b <;> simp [Val.lt, Val.rank]
  · rename_i x y; cases x <;> cases y <;> simp
  · rename_i x y
    by_cases h1 : x < y
    · exact Or.inr (Or.inl h1)
    · by_cases h2 : y < x
      · exact Or.inr (Or.inr h2)
      · exact Or.inl (Rat.le_antisymm (Rat.not_lt.mp h2) (Rat.not_lt.mp h1))
  · rename_i x y
    by_cases h1 : x < y
    · exact Or.inr (Or.inl h1)
    · by_cases h2 : y < x
      · exact Or.inr (Or.inr h2)
      · exact Or.inl (String.le_antisymm (String.not_lt.mp h2) (String.not_lt.mp h1))

theorem lt_asymm {a b : Val} (h : Val.lt a b = true) : Val.lt b a = false := by
  cases hb : Val.lt b a with
  | false => rfl
  | true =>
    have := lt_trans h hb
    rw [lt_irrefl] at this
    cases this

theorem not_lt_or (a b : Val) : (!Val.lt b a || !Val.lt a b) = true := by
  cases h : Val.lt b a with
  | false => rfl
  | true => rw [lt_asymm h]; rfl

theorem nlt_trans {a b c : Val} (h1 : Val.lt b a = false) (h2 : Val.lt c b = false) : Val.lt c a = false := by
  cases h : Val.lt c a with
  | false => rfl
  | true =>
    rcases lt_trichotomy a b with e | e | e
    · subst e; rw [h] at h2; cases h2
    · have := lt_trans h e; rw [this] at h2; cases h2
    · rw [e] at h1; cases h1

theorem eq_of_nlt {a b : Val} (h1 : Val.lt a b = false) (h2 : Val.lt b a = false) : a = b := by
  rcases lt_trichotomy a b with e | e | e
  · exact e
  · rw [e] at h1; cases h1
  · rw [e] at h2; cases h2

theorem eq_null_of_isNull {x : Val} (h : x.isNull = true) : x = .null := by
  cases x <;> first | rfl | cases h

theorem lt_flip_of_ne {x y : Val} (hne : x ≠ y) : Val.lt y x = !Val.lt x y := by
  cases h : Val.lt x y with
  | true => exact lt_asymm h
  | false =>
    rcases lt_trichotomy x y with e | e | e
    · exact absurd e hne
    · rw [h] at e; cases e
    · exact e

end Val

/-! The three comparisons of cells (`cellLe rev`: pandas, nulls last; `sqlCellLe ec rev`: the engines; `Pl.cellLe nl desc`:
Polars) are members of one family, written out as `Pl.cellLe`: the order `Val.lt` or its converse on values, with the null
cell below or above all values. -/

structure CellOrd (cle : Val → Val → Bool) : Prop where
  total : ∀ a b, (cle a b || cle b a) = true
  trans : ∀ {a b c}, cle a b = true → cle b c = true → cle a c = true
  antisymm : ∀ {a b}, cle a b = true → cle b a = true → a = b

theorem cellOrd_pl (nl desc : Bool) : CellOrd (Pl.cellLe nl desc) where
  total a b := by
    cases ha : a.isNull <;> cases hb : b.isNull <;> cases nl <;> cases desc <;>
      simp [Pl.cellLe, ha, hb, Val.not_lt_or]
  trans {a b c} h1 h2 := by
    cases ha : a.isNull <;> cases hb : b.isNull <;> cases hc : c.isNull <;> cases nl <;>
      simp [Pl.cellLe, ha, hb, hc] at h1 h2 ⊢
    all_goals cases desc <;> simp at h1 h2 ⊢
    · exact Val.nlt_trans h1 h2
    · exact Val.nlt_trans h2 h1
    · exact Val.nlt_trans h1 h2
    · exact Val.nlt_trans h2 h1
  antisymm {a b} h1 h2 := by
    cases ha : a.isNull <;> cases hb : b.isNull <;> cases nl <;> simp [Pl.cellLe, ha, hb] at h1 h2
    · cases desc <;> simp at h1 h2
      · exact Val.eq_of_nlt h2 h1
      · exact Val.eq_of_nlt h1 h2
    · cases desc <;> simp at h1 h2
      · exact Val.eq_of_nlt h2 h1
      · exact Val.eq_of_nlt h1 h2
    all_goals exact (Val.eq_null_of_isNull ha).trans (Val.eq_null_of_isNull hb).symm

theorem plCellLe_of_nonnull (nl nl' desc : Bool) {a b : Val} (ha : a.isNull = false) (hb : b.isNull = false) :
    Pl.cellLe nl desc a b = Pl.cellLe nl' desc a b := by
  unfold Pl.cellLe; rw [ha, hb]

theorem plCellLe_nat (nl : Bool) (x y : Nat) : Pl.cellLe nl false (.num (x : Nat)) (.num (y : Nat)) = decide (x ≤ y) := by
  show (!decide ((y : Rat) < (x : Rat))) = decide (x ≤ y)
  rw [Bool.eq_iff_iff]
  simp only [Bool.not_eq_true', decide_eq_false_iff_not, decide_eq_true_eq, Rat.not_lt]
  exact_mod_cast Iff.rfl

theorem cellLe_eq_pl (rev : Bool) : cellLe rev = Pl.cellLe true rev := rfl

/-- the engines: `NULL` is the smallest or the largest value, so `DESC` moves it to the other end -/
theorem sqlCellLe_eq_pl (ec : Sql.EngineCfg) (rev : Bool) :
    Sql.sqlCellLe ec rev = Pl.cellLe (ec.nullsSmallest == rev) rev := by
  funext a b
  cases rev <;> cases ha : a.isNull <;> cases hb : b.isNull <;> cases hn : ec.nullsSmallest <;>
    simp [Sql.sqlCellLe, Pl.cellLe, ha, hb, hn]

theorem cellOrd_cellLe (rev : Bool) : CellOrd (cellLe rev) := cellOrd_pl true rev

theorem cellOrd_sql (ec : Sql.EngineCfg) (rev : Bool) : CellOrd (Sql.sqlCellLe ec rev) :=
  sqlCellLe_eq_pl ec rev ▸ cellOrd_pl _ rev

theorem cellLe_total (rev : Bool) (a b : Val) : (cellLe rev a b || cellLe rev b a) = true :=
  (cellOrd_cellLe rev).total a b

theorem cellLe_refl (rev : Bool) (a : Val) : cellLe rev a a = true := by
  simpa using cellLe_total rev a a

theorem cellLe_trans {rev : Bool} {a b c : Val} (h1 : cellLe rev a b = true) (h2 : cellLe rev b c = true) :
    cellLe rev a c = true := (cellOrd_cellLe rev).trans h1 h2

theorem cellLe_antisymm {rev : Bool} {a b : Val} (h1 : cellLe rev a b = true) (h2 : cellLe rev b a = true) :
    a = b := (cellOrd_cellLe rev).antisymm h1 h2

theorem cellLe_of_ne {rev : Bool} {x y : Val} (hne : x ≠ y) :
    cellLe rev x y = (!x.isNull && (y.isNull || if rev then Val.lt y x else Val.lt x y)) := by
  unfold cellLe
  cases hx : x.isNull <;> cases hy : y.isNull
  · cases rev
    · show (!Val.lt y x) = Val.lt x y
      rw [Val.lt_flip_of_ne hne, Bool.not_not]
    · show (!Val.lt x y) = Val.lt y x
      rw [Val.lt_flip_of_ne hne.symm, Bool.not_not]
  · rfl
  · rfl
  · exact absurd ((Val.eq_null_of_isNull hx).trans (Val.eq_null_of_isNull hy).symm) hne

@[simp] theorem cellEq_iff (a b : Val) : cellEq a b = true ↔ a = b := by
  simp [cellEq]

/-! `rowLe`, the engines' `sqlRowLe ec` and Polars' `Pl.rowLe nl` are the same recursion over the order columns; they differ
in how two different cells compare.  `lexLe cle` is that recursion for an arbitrary comparison `cle rev` of cells. -/

def lexLe (cle : Bool → Val → Val → Bool) : (order reverse : List String) → Row → Row → Bool
  | [], _, _, _ => true
  | c :: cs, reverse, a, b =>
    if a.get c = b.get c then lexLe cle cs reverse a b else cle (reverse.contains c) (a.get c) (b.get c)

theorem rowLe_eq_lexLe : rowLe = lexLe cellLe := by
  funext cs rev a b
  induction cs with
  | nil => rfl
  | cons c cs ih => simp only [rowLe, lexLe, cellEq, beq_iff_eq, ih]

section lex
variable {cle : Bool → Val → Val → Bool}

theorem lexLe_refl (cle : Bool → Val → Val → Bool) (cs rev : List String) (r : Row) : lexLe cle cs rev r r = true := by
  induction cs with
  | nil => rfl
  | cons c cs ih => rw [lexLe, if_pos rfl, ih]

theorem lexLe_congr {cs rev : List String} {a a' b b' : Row} (ha : ∀ c ∈ cs, a.get c = a'.get c)
    (hb : ∀ c ∈ cs, b.get c = b'.get c) : lexLe cle cs rev a b = lexLe cle cs rev a' b' := by
  induction cs with
  | nil => rfl
  | cons k cs ih =>
    simp only [lexLe]
    rw [ha k (List.mem_cons_self ..), hb k (List.mem_cons_self ..),
      ih (fun c hc => ha c (List.mem_cons_of_mem _ hc)) (fun c hc => hb c (List.mem_cons_of_mem _ hc))]

theorem lexLe_congr_cle {cle' : Bool → Val → Val → Bool} {cs rev : List String} {a b : Row}
    (h : ∀ c ∈ cs, cle (rev.contains c) (a.get c) (b.get c) = cle' (rev.contains c) (a.get c) (b.get c)) :
    lexLe cle cs rev a b = lexLe cle' cs rev a b := by
  induction cs with
  | nil => rfl
  | cons k cs ih => rw [lexLe, lexLe, h k (List.mem_cons_self ..), ih fun c hc => h c (List.mem_cons_of_mem _ hc)]

theorem lexLe_append (cle : Bool → Val → Val → Bool) (cs ds rv : List String) (a b : Row) :
    lexLe cle (cs ++ ds) rv a b = if keyOf a cs = keyOf b cs then lexLe cle ds rv a b else lexLe cle cs rv a b := by
  induction cs with
  | nil => rfl
  | cons c cs ih =>
    have hk : keyOf a (c :: cs) = keyOf b (c :: cs) ↔ a.get c = b.get c ∧ keyOf a cs = keyOf b cs := List.cons_eq_cons
    by_cases h : a.get c = b.get c
    · simp only [List.cons_append, lexLe, ih, hk, h, true_and, if_true]
    · simp only [List.cons_append, lexLe, hk, h, false_and, if_false]

theorem lexLe_total (h : ∀ rev, CellOrd (cle rev)) (cs rev : List String) (a b : Row) :
    (lexLe cle cs rev a b || lexLe cle cs rev b a) = true := by
  induction cs with
  | nil => rfl
  | cons c cs ih =>
    simp only [lexLe]
    by_cases e : a.get c = b.get c
    · rw [if_pos e, if_pos e.symm]; exact ih
    · rw [if_neg e, if_neg (Ne.symm e)]; exact (h _).total _ _

theorem lexLe_trans (h : ∀ rev, CellOrd (cle rev)) {cs rev : List String} {a b c : Row}
    (h1 : lexLe cle cs rev a b = true) (h2 : lexLe cle cs rev b c = true) : lexLe cle cs rev a c = true := by
  induction cs with
  | nil => rfl
  | cons k cs ih =>
    simp only [lexLe] at h1 h2 ⊢
    by_cases e1 : a.get k = b.get k
    · rw [if_pos e1] at h1
      rw [e1]
      by_cases e2 : b.get k = c.get k
      · rw [if_pos e2] at h2 ⊢; exact ih h1 h2
      · rw [if_neg e2] at h2 ⊢; exact h2
    · rw [if_neg e1] at h1
      by_cases e2 : b.get k = c.get k
      · rw [← e2, if_neg e1]; exact h1
      · rw [if_neg e2] at h2
        rw [if_neg fun e3 : a.get k = c.get k => e1 ((h _).antisymm h1 (e3 ▸ h2))]
        exact (h _).trans h1 h2

theorem lexLe_tie_iff (h : ∀ rev, CellOrd (cle rev)) (cs rev : List String) (a b : Row) :
    (lexLe cle cs rev a b = true ∧ lexLe cle cs rev b a = true) ↔ ∀ c ∈ cs, a.get c = b.get c := by
  induction cs with
  | nil => simp [lexLe]
  | cons k cs ih =>
    simp only [lexLe, List.mem_cons, forall_eq_or_imp]
    by_cases e : a.get k = b.get k
    · rw [if_pos e, if_pos e.symm, ih]; exact (and_iff_right e).symm
    · rw [if_neg e, if_neg (Ne.symm e)]
      exact ⟨fun hh => absurd ((h _).antisymm hh.1 hh.2) e, fun hh => absurd hh.1 e⟩

theorem lexLe_single_num (hnum : ∀ x y : Nat, cle false (.num (x : Nat)) (.num (y : Nat)) = decide (x ≤ y))
    (c : String) (a b : Row) (x y : Nat) (ha : a.get c = Val.num (x : Nat)) (hb : b.get c = Val.num (y : Nat)) :
    lexLe cle [c] [] a b = decide (x ≤ y) := by
  simp only [lexLe, ha, hb, List.contains_nil, hnum]
  split
  next e => exact (decide_eq_true (Nat.le_of_eq (by exact_mod_cast Val.num.inj e))).symm
  next => rfl

end lex

theorem sqlRowLe_eq_lexLe (ec : Sql.EngineCfg) : Sql.sqlRowLe ec = lexLe (Sql.sqlCellLe ec) := by
  funext cs rev a b
  induction cs with
  | nil => rfl
  | cons c cs ih => simp only [Sql.sqlRowLe, lexLe, beq_iff_eq, ih]

theorem plRowLe_eq_lexLe (nl : Bool) : Pl.rowLe nl = lexLe (Pl.cellLe nl) := by
  funext cs rev a b
  induction cs with
  | nil => rfl
  | cons c cs ih => simp only [Pl.rowLe, lexLe, cellEq, beq_iff_eq, ih]

namespace Sol21Sql
open Sql (RowCmp sqlRowLe sqlCellLe EngineCfg)

structure CmpOK (le : RowCmp) : Prop where
  total : ∀ cs rev a b, (le cs rev a b || le cs rev b a) = true
  trans : ∀ cs rev a b c, le cs rev a b = true → le cs rev b c = true → le cs rev a c = true

namespace Cmp

structure CmpLex (le : RowCmp) : Prop extends CmpOK le where
  refl : ∀ cs rev r, le cs rev r r = true
  congr : ∀ (cs rev : List String) (a a' b b' : Row), (∀ c ∈ cs, a.get c = a'.get c) → (∀ c ∈ cs, b.get c = b'.get c) →
    le cs rev a b = le cs rev a' b'
  append : ∀ (cs ds rv : List String) (a b : Row),
    le (cs ++ ds) rv a b = if keyOf a cs = keyOf b cs then le ds rv a b else le cs rv a b
  tie : ∀ (cs rv : List String) (a b : Row), (le cs rv a b = true ∧ le cs rv b a = true) ↔ keyOf a cs = keyOf b cs
  singleNum : ∀ (c : String) (a b : Row) (x y : Nat), a.get c = Val.num (x : Nat) → b.get c = Val.num (y : Nat) →
    le [c] [] a b = decide (x ≤ y)

theorem cmpLex_lexLe {cle : Bool → Val → Val → Bool} (h : ∀ rev, CellOrd (cle rev))
    (hnum : ∀ x y : Nat, cle false (.num (x : Nat)) (.num (y : Nat)) = decide (x ≤ y)) : CmpLex (lexLe cle) where
  total := lexLe_total h
  trans := fun _ _ _ _ _ => lexLe_trans h
  refl := lexLe_refl cle
  congr := fun _ _ _ _ _ _ => lexLe_congr
  append := lexLe_append cle
  tie := fun cs rv a b => (lexLe_tie_iff h cs rv a b).trans keyOf_eq_iff.symm
  singleNum := lexLe_single_num hnum

theorem cmpLex_rowLe : CmpLex rowLe := rowLe_eq_lexLe ▸ cmpLex_lexLe cellOrd_cellLe (plCellLe_nat true)

theorem cmpLex_sql (ec : EngineCfg) : CmpLex (sqlRowLe ec) :=
  sqlRowLe_eq_lexLe ec ▸ cmpLex_lexLe (cellOrd_sql ec) fun x y => sqlCellLe_eq_pl ec false ▸ plCellLe_nat _ x y

end Cmp

theorem cmpOK_sql (ec : EngineCfg) : CmpOK (sqlRowLe ec) := (Cmp.cmpLex_sql ec).toCmpOK

theorem cmpOK_rowLe : CmpOK rowLe := Cmp.cmpLex_rowLe.toCmpOK

end Sol21Sql

theorem rowLe_refl (cs rev : List String) (r : Row) : rowLe cs rev r r = true :=
  rowLe_eq_lexLe ▸ lexLe_refl cellLe cs rev r

theorem rowLe_total (cs rev : List String) (a b : Row) : (rowLe cs rev a b || rowLe cs rev b a) = true :=
  rowLe_eq_lexLe ▸ lexLe_total cellOrd_cellLe cs rev a b

theorem rowLe_trans {cs rev : List String} {a b c : Row} (h1 : rowLe cs rev a b = true)
    (h2 : rowLe cs rev b c = true) : rowLe cs rev a c = true := by
  rw [rowLe_eq_lexLe] at *
  exact lexLe_trans cellOrd_cellLe h1 h2

theorem rowLe_tie_iff (cs rev : List String) (a b : Row) :
    (rowLe cs rev a b = true ∧ rowLe cs rev b a = true) ↔ ∀ c ∈ cs, a.get c = b.get c :=
  rowLe_eq_lexLe ▸ lexLe_tie_iff cellOrd_cellLe cs rev a b

theorem rowLe_of_eq_on {cs rev : List String} {a b : Row} (h : ∀ c ∈ cs, a.get c = b.get c) :
    rowLe cs rev a b = true := ((rowLe_tie_iff cs rev a b).mpr h).1

theorem rowLe_congr {cs rev : List String} {a a' b b' : Row} (ha : ∀ c ∈ cs, a.get c = a'.get c)
    (hb : ∀ c ∈ cs, b.get c = b'.get c) : rowLe cs rev a b = rowLe cs rev a' b' :=
  rowLe_eq_lexLe ▸ lexLe_congr ha hb

theorem perm_sorted_eq {α : Type} {le : α → α → Prop} {l₁ l₂ : List α} (hp : l₁.Perm l₂) (h1 : l₁.Pairwise le)
    (h2 : l₂.Pairwise le) (anti : ∀ a ∈ l₁, ∀ b ∈ l₁, le a b → le b a → a = b) : l₁ = l₂ :=
  List.Perm.eq_of_pairwise (fun a b ha hb => anti a ha b (hp.symm.subset hb)) h1 h2 hp

theorem mergeSort_eq_of_sorted_perm {α : Type} {le : α → α → Bool}
    (htr : ∀ a b c, le a b = true → le b c = true → le a c = true) (htot : ∀ a b, (le a b || le b a) = true)
    {rows l : List α} (hanti : ∀ a ∈ rows, ∀ b ∈ rows, le a b = true → le b a = true → a = b) (hp : l.Perm rows)
    (hs : l.Pairwise (fun a b => le a b = true)) : rows.mergeSort le = l :=
  perm_sorted_eq ((List.mergeSort_perm rows le).trans hp.symm) (List.pairwise_mergeSort htr htot rows) hs
    (fun a ha b hb => hanti a (List.mem_mergeSort.mp ha) b (List.mem_mergeSort.mp hb))

theorem mergeSort_perm_eq {α : Type} {le : α → α → Bool}
    (htr : ∀ a b c, le a b = true → le b c = true → le a c = true) (htot : ∀ a b, (le a b || le b a) = true)
    {l l' : List α} (hanti : ∀ a ∈ l, ∀ b ∈ l, le a b = true → le b a = true → a = b) (hp : l.Perm l') :
    l.mergeSort le = l'.mergeSort le :=
  mergeSort_eq_of_sorted_perm htr htot hanti ((List.mergeSort_perm l' le).trans hp.symm)
    (List.pairwise_mergeSort htr htot l')

theorem TotalOn.perm {cs rev : List String} {rows rows' : List Row} (h : TotalOn cs rev rows)
    (hp : rows.Perm rows') : TotalOn cs rev rows' :=
  fun a ha b hb => h a (hp.symm.subset ha) b (hp.symm.subset hb)

theorem TotalOn.sublist {cs rev : List String} {rows rows' : List Row} (h : TotalOn cs rev rows)
    (hs : ∀ r ∈ rows', r ∈ rows) : TotalOn cs rev rows' :=
  fun a ha b hb => h a (hs a ha) b (hs b hb)

theorem totalOn_iff (cs rev : List String) (rows : List Row) :
    TotalOn cs rev rows ↔ ∀ a ∈ rows, ∀ b ∈ rows, (∀ c ∈ cs, a.get c = b.get c) → a = b := by
  constructor
  · intro h a ha b hb hab
    have := (rowLe_tie_iff cs rev a b).mpr hab
    exact h a ha b hb this.1 this.2
  · intro h a ha b hb h1 h2
    exact h a ha b hb ((rowLe_tie_iff cs rev a b).mp ⟨h1, h2⟩)

theorem sortRows_perm (cs rev : List String) (rows : List Row) : (sortRows cs rev rows).Perm rows :=
  List.mergeSort_perm _ _

theorem sortRows_sorted (cs rev : List String) (rows : List Row) :
    (sortRows cs rev rows).Pairwise (fun a b => rowLe cs rev a b = true) :=
  List.pairwise_mergeSort (le := fun a b => rowLe cs rev a b) (fun _ _ _ => rowLe_trans)
    (fun a b => rowLe_total cs rev a b) rows

@[simp] theorem mem_sortRows {cs rev : List String} {rows : List Row} {r : Row} :
    r ∈ sortRows cs rev rows ↔ r ∈ rows := List.mem_mergeSort

@[simp] theorem length_sortRows {cs rev : List String} {rows : List Row} :
    (sortRows cs rev rows).length = rows.length := List.length_mergeSort _

theorem sortRows_of_sorted {cs rev : List String} {rows : List Row}
    (h : rows.Pairwise (fun a b => rowLe cs rev a b = true)) : sortRows cs rev rows = rows :=
  List.mergeSort_of_pairwise h

theorem sortRows_eq_of_sorted_perm {cs rev : List String} {rows l : List Row} (ht : TotalOn cs rev rows)
    (hp : l.Perm rows) (hs : l.Pairwise (fun a b => rowLe cs rev a b = true)) : sortRows cs rev rows = l :=
  mergeSort_eq_of_sorted_perm (le := fun a b => rowLe cs rev a b) (fun _ _ _ => rowLe_trans) (rowLe_total cs rev) ht hp hs

theorem sortRows_perm_eq {cs rev : List String} {rows rows' : List Row} (ht : TotalOn cs rev rows)
    (hp : rows.Perm rows') : sortRows cs rev rows = sortRows cs rev rows' :=
  mergeSort_perm_eq (le := fun a b => rowLe cs rev a b) (fun _ _ _ => rowLe_trans) (rowLe_total cs rev) ht hp

/-- windows without `order_by` see the partition in input order -/
theorem sortRows_nil (rev : List String) (rows : List Row) : sortRows [] rev rows = rows :=
  sortRows_of_sorted (List.pairwise_of_forall (fun _ _ => rfl))

theorem sortIdx_map_fst (cs rev : List String) (l : List (Row × Nat)) :
    (sortIdx cs rev l).map (·.1) = sortRows cs rev (l.map (·.1)) :=
  List.map_mergeSort (fun _ _ _ _ => rfl)

theorem sortIdx_perm (cs rev : List String) (l : List (Row × Nat)) : (sortIdx cs rev l).Perm l :=
  List.mergeSort_perm _ _

theorem cellLe_iff_cellBefore {rev : Bool} {x y : Val} (hne : x ≠ y) :
    cellLe rev x y = true ↔ CellBefore rev x y := by
  rw [cellLe_of_ne hne, CellBefore]
  cases x.isNull <;> cases y.isNull <;> cases rev <;> simp

theorem rowLe_iff_lexLe (cs rev : List String) (a b : Row) : rowLe cs rev a b = true ↔ LexLe cs rev a b := by
  induction cs with
  | nil => simp [rowLe, LexLe]
  | cons k cs ih =>
    simp only [rowLe, cellEq, beq_iff_eq]
    by_cases e : a.get k = b.get k
    · simp only [e, if_true, ih]
      constructor
      · rintro (h | ⟨pre, c, post, h1, h2, h3, h4⟩)
        · exact Or.inl (fun c hc => (List.mem_cons.mp hc).elim (fun h' => h' ▸ e) (h c))
        · exact Or.inr ⟨k :: pre, c, post, by rw [h1]; rfl,
            fun d hd => (List.mem_cons.mp hd).elim (fun h' => h' ▸ e) (h2 d), h3, h4⟩
      · rintro (h | ⟨pre, c, post, h1, h2, h3, h4⟩)
        · exact Or.inl (fun c hc => h c (List.mem_cons_of_mem _ hc))
        · cases pre with
          | nil =>
            simp only [List.nil_append, List.cons.injEq] at h1
            exact absurd (h1.1 ▸ e) h3
          | cons p pre =>
            simp only [List.cons_append, List.cons.injEq] at h1
            exact Or.inr ⟨pre, c, post, h1.2, fun d hd => h2 d (List.mem_cons_of_mem _ hd), h3, h4⟩
    · simp only [e, if_false]
      rw [cellLe_iff_cellBefore e]
      constructor
      · intro h
        exact Or.inr ⟨[], k, cs, rfl, fun d hd => absurd hd List.not_mem_nil, e, h⟩
      · rintro (h | ⟨pre, c, post, h1, h2, h3, h4⟩)
        · exact absurd (h k (List.mem_cons_self ..)) e
        · cases pre with
          | nil =>
            simp only [List.nil_append, List.cons.injEq] at h1
            rw [h1.1]; exact h4
          | cons p pre =>
            simp only [List.cons_append, List.cons.injEq] at h1
            exact absurd (h2 p (List.mem_cons_self ..)) (h1.1 ▸ e)

end DAVerif
