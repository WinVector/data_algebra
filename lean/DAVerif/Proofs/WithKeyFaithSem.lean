import DAVerif.Proofs.WithKeyFaithTrans
import DAVerif.Proofs.WithKey
/-!
C04, cache keys of the translation: **sub-queries with the same cache key denote the same table** (`KeyFaith` for the
model's `cacheKey`), from
* `BoundOK` (Proofs/WithKeyFaithTrans.lean): a bound sub-query is a sound translation of the node its key names;
* `KeyCancel`: the text of a cache key determines the node and the bound columns (`cacheKey_cancel`,
  Proofs/WithKeyFaithRender.lean, under the two hypotheses `QuoteCode` and `QuoteHead` about Lean's opaque `String.quote`);
* the shape of the result of a step bound with a non-empty column list: exactly those columns, in that order.
-/
namespace DAVerif.C04K
open DAVerif DAVerif.Sql

/-- the text of a cache key determines the operator node and the bound columns -/
def KeyCancel : Prop :=
  ∀ {n1 n2 : Ops}, RenderOK n1 → RenderOK n2 → ∀ {k1 k2 : String}, IsKeyOf n1 k1 → IsKeyOf n2 k2 →
    ∀ {c1 c2 : List String}, k1 ++ ("_" ++ renderStrs c1) = k2 ++ ("_" ++ renderStrs c2) → n1 = n2 ∧ c1 = c2

section
variable {Θ : Interp} {ec : EngineCfg} {env : Env}

/-- a step with a term dictionary, bound with a non-empty column list, returns exactly these columns, in this order -/
theorem semNear_shape {ctes : List (String × Table)} {q : Near} (hnt : ¬ q.isTable = true) (hk : q.termKeys ≠ none)
    {c : List String} (hc : c ≠ []) {f : Bool} {T : Table} (h : semNear Θ ec env ctes q (some c) f = .ok T) :
    T.cols = c ∧ T.rows.map (fun r => r.select c) = T.rows := by
  have hce : c.isEmpty = false := by cases c <;> simp_all
  cases q with
  | table n ts => exact absurd rfl hnt
  | cte n => exact absurd rfl hnt
  | unary nm terms agg sub sc sfx mg dp key =>
    obtain ⟨t, -, rfl⟩ := semNear_unary_inv h
    cases terms with
    | none => exact absurd rfl hk
    | some ts =>
      have ho : outCols (some ts) (some c) t.cols = c := by simp only [outCols, hce, Bool.false_eq_true, if_false]
      rw [ho]
      exact ⟨rfl, stepRows_select Θ ec _ _ _ (fun _ h => h) _⟩
  | join n terms l lC ln r rC rn jt oa ob key =>
    obtain ⟨tl, tr, -, -, -, rfl⟩ := semNear_join_ok.mp h
    have ho : joinOut (terms.map (·.1)) (some c) = c := by simp only [joinOut, hce, Bool.false_eq_true, if_false]
    rw [ho]
    refine ⟨rfl, ?_⟩
    simp only []
    rw [joinRows_map]
    congr 1
    funext a b
    rw [sqlJoinRow_eq, select_mkRow _ (fun _ h => h)]
  | union n terms l r cols key =>
    obtain ⟨tl, tr, -, -, rfl⟩ := semNear_union_ok.mp h
    have ho : joinOut terms (some c) = c := by simp only [joinOut, hce, Bool.false_eq_true, if_false]
    rw [ho]
    refine ⟨rfl, ?_⟩
    simp only [List.map_map]
    exact List.map_congr_left fun row _ => Row.select_select (fun _ h => h)

theorem den_of_sound {q : Near} (hnt : ¬ q.isTable = true) {c pc : List String} {tp : Table}
    (hs : Sound Θ ec env q c pc tp) (hc : c ≠ []) (f : Bool) :
    semNear Θ ec env [] q (some c) f = .ok ⟨c, tp.rows.map (fun r => r.select c)⟩ := by
  obtain ⟨T, h1, _, h3⟩ := hs.req c (fun _ h => h) f
  obtain ⟨ks, hk, _, _⟩ := hs.keys hc
  obtain ⟨e1, e2⟩ := semNear_shape hnt (by rw [hk]; simp) hc h1
  rw [h1]
  congr 1
  cases T with
  | mk cols rows =>
    simp only at e1 e2 h3
    subst e1
    rw [← e2, h3]

/-- **sub-queries with the same cache key denote the same table**, provided every bound sub-query is a sound
translation of the node its key names (`BoundOK`), the key text determines node and columns (`KeyCancel`), and no
sub-query is bound with an empty column list -/
theorem keyFaith_of_boundOK (hcancel : KeyCancel) {q : Near} (hB : ∀ x ∈ q.desc, BoundOK Θ ec env x)
    (hne : ∀ x ∈ q.desc, x.2.1 ≠ some []) : KeyFaith Θ ec env cacheKey q := by
  intro x hx y hy he
  obtain ⟨n1, k1, c1, pc1, tp1, hk1, hik1, hr1, hc1, hs1, hsd1⟩ := hB x hx
  obtain ⟨n2, k2, c2, pc2, tp2, hk2, hik2, hr2, hc2, hs2, hsd2⟩ := hB y hy
  have hx1 : ¬ x.1.isTable = true := desc_not_isTable q x hx
  have hy1 : ¬ y.1.isTable = true := desc_not_isTable q y hy
  have hne1 : c1 ≠ [] := by
    intro e; subst e; exact hne x hx hc1
  have hne2 : c2 ≠ [] := by
    intro e; subst e; exact hne y hy hc2
  simp only [bkey, cacheKey, hk1, hk2, hc1, hc2] at he
  obtain ⟨rfl, rfl⟩ := hcancel hr1 hr2 hik1 hik2 he
  rw [hs1] at hs2
  cases hs2
  unfold den
  rw [hc1, hc2, den_of_sound hx1 hsd1 hne1, den_of_sound hy1 hsd2 hne1]

end
end DAVerif.C04K
