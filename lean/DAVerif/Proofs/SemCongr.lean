import DAVerif.Proofs.UsedBasic
import DAVerif.Proofs.OpsBasic
import DAVerif.Proofs.RefJoin
/-!
The operators of `Sem/Eval.lean` read their source rows only through `Row.get` on the columns their parameters name:
each maps source rows that agree on the columns it reads for the requested output columns `u` to result rows that agree
on `u`.  The statements are relational (two source tables, possibly with different declared output column lists `oc`,
`oc'` that both contain `u`), so that they serve C10 (two environments, `t' = t.selectCols v`, narrowed pipelines), the
congruence of `applyNode` under column order (`Proofs/ApplyCongr.lean`: C06, C07, C12) and the SQL proofs
(`Proofs/SqlCongr.lean`: C01) alike.
-/
namespace DAVerif

theorem Forall₂.map_mem' {α β γ δ : Type} {R : α → β → Prop} {P : γ → δ → Prop} {f : α → γ} {g : β → δ}
    {l : List α} {l' : List β} (h : Forall₂ R l l')
    (hfg : ∀ a ∈ l, ∀ b ∈ l', R a b → P (f a) (g b)) : Forall₂ P (l.map f) (l'.map g) := by
  induction h with
  | nil => exact .nil
  | cons hr _ ih =>
    exact .cons (hfg _ List.mem_cons_self _ List.mem_cons_self hr)
      (ih (fun a ha b hb => hfg a (List.mem_cons_of_mem _ ha) b (List.mem_cons_of_mem _ hb)))

theorem forall₂_map_same {α γ δ : Type} {P : γ → δ → Prop} {f : α → γ} {g : α → δ} (l : List α)
    (h : ∀ a ∈ l, P (f a) (g a)) : Forall₂ P (l.map f) (l.map g) := by
  induction l with
  | nil => exact .nil
  | cons a l ih => exact .cons (h a List.mem_cons_self) (ih (fun b hb => h b (List.mem_cons_of_mem _ hb)))

theorem Forall₂.with_mem {α β : Type} {R : α → β → Prop} {l : List α} {l' : List β} (h : Forall₂ R l l') :
    Forall₂ (fun a b => (a ∈ l ∧ b ∈ l') ∧ R a b) l l' := by
  induction h with
  | nil => exact .nil
  | cons hr _ ih =>
    refine .cons ⟨⟨List.mem_cons_self, List.mem_cons_self⟩, hr⟩ ?_
    refine Forall₂.imp ?_ ih
    intro a b hab
    exact ⟨⟨List.mem_cons_of_mem _ hab.1.1, List.mem_cons_of_mem _ hab.1.2⟩, hab.2⟩

namespace Row
theorem get_map_congr {α : Type} (ops : List (String × α)) (f g : α → Val) (c : String)
    (h : ∀ kv ∈ ops, kv.1 = c → f kv.2 = g kv.2) :
    Row.get (ops.map (fun kv => (kv.1, f kv.2))) c = Row.get (ops.map (fun kv => (kv.1, g kv.2))) c := by
  induction ops with
  | nil => rfl
  | cons kv ops ih =>
    simp only [List.map_cons, get_cons]
    by_cases e : c = kv.1
    · have : (c == kv.1) = true := by simpa using e
      simp only [this, if_true]
      exact h kv List.mem_cons_self e.symm
    · have : (c == kv.1) = false := by simpa using e
      simp only [this, Bool.false_eq_true, if_false]
      exact ih (fun kv' hkv' => h kv' (List.mem_cons_of_mem _ hkv'))
end Row

theorem select_congr {w u oc oc' : List String} {l l' : List Row} (h : RowsAgree w l l')
    (hu : ∀ c ∈ u, c ∈ oc ∧ c ∈ oc' ∧ c ∈ w) :
    RowsAgree u (l.map (·.select oc)) (l'.map (·.select oc')) := by
  apply Forall₂.map' h
  intro r r' hr c hc
  obtain ⟨h1, h2, h3⟩ := hu c hc
  rw [Row.select_get_of_mem h1, Row.select_get_of_mem h2]
  exact hr c h3

/-- a cell of an extended row: the last assignment to `c` if there is one, else the source cell -/
theorem extendCell_congr {α : Type} (ops : List (String × α)) (f g : α → Val) {w oc oc' : List String} {r r' : Row}
    {c : String} (h1 : c ∈ oc) (h2 : c ∈ oc') (hr : Row.agreeOn w r r') (hkeep : c ∉ ops.map (·.1) → c ∈ w)
    (hfg : ∀ e, (c, e) ∈ ops → f e = g e) :
    ((r.setAll (ops.map (fun kv => (kv.1, f kv.2)))).select oc).get c =
      ((r'.setAll (ops.map (fun kv => (kv.1, g kv.2)))).select oc').get c := by
  rw [Row.select_get_of_mem h1, Row.select_get_of_mem h2, Row.get_setAll, Row.get_setAll,
    lookupLast_map ops f, lookupLast_map ops g]
  cases hl : lookupLast ops c with
  | some e => exact hfg e (lookupLast_mem hl)
  | none => exact hr c (hkeep fun hm => by simpa [hl] using lookupLast_isSome_iff.mpr hm)

theorem semExtendPlain_congr (Θ : Interp) (ops : Assign) {w u oc oc' : List String} {t t' : Table}
    (h : RowsAgree w t.rows t'.rows)
    (hu : ∀ c ∈ u, c ∈ oc ∧ c ∈ oc')
    (hkeep : ∀ c ∈ u, c ∉ ops.map (·.1) → c ∈ w)
    (hexpr : ∀ kv ∈ ops, kv.1 ∈ u → ∀ c ∈ kv.2.colsRaw, c ∈ w) :
    RowsAgree u (semExtendPlain Θ ops t oc).rows (semExtendPlain Θ ops t' oc').rows := by
  refine Forall₂.map' h fun r r' hr c hc => ?_
  exact extendCell_congr ops (evalCell Θ r) (evalCell Θ r') (hu c hc).1 (hu c hc).2 hr (hkeep c hc)
    fun e hm => evalCell_congr Θ e fun c' hc' => hr c' (hexpr _ hm hc c' hc')

/-!
`order_rows` and the window orderings are stated for any row comparison `le` that reads the rows only through the order
columns (`Sql.CmpCongr`; `semOrderG`, `winCell`, `semExtendWindowG` of `Sem/EvalG.lean`); `semOrder`, `semExtendWindow`
are the instances `le := rowLe`. -/

namespace Sql

/-- a comparison that only reads the order columns -/
def CmpCongr (le : RowCmp) : Prop :=
  ∀ (cs rev : List String) (a a' b b' : Row), (∀ c ∈ cs, a.get c = a'.get c) → (∀ c ∈ cs, b.get c = b'.get c) →
    le cs rev a b = le cs rev a' b'

theorem cmpCongr_rowLe : CmpCongr rowLe := fun _ _ _ _ _ _ ha hb => rowLe_congr ha hb

end Sql
open Sql (RowCmp CmpCongr cmpCongr_rowLe semOrderG winCell semExtendWindowG)

theorem semOrderG_congr {le : RowCmp} (hle : CmpCongr le) (cs rv : List String) (lim : Option Nat) {w u : List String}
    {t t' : Table} (h : RowsAgree w t.rows t'.rows) (hcs : ∀ c ∈ cs, c ∈ w) (hu : ∀ c ∈ u, c ∈ w) :
    RowsAgree u (semOrderG le cs rv lim t).rows (semOrderG le cs rv lim t').rows := by
  have hs : RowsAgree w (t.rows.mergeSort fun a b => le cs rv a b) (t'.rows.mergeSort fun a b => le cs rv a b) :=
    Forall₂.mergeSort' h fun a a' b b' ha hb =>
      hle cs rv a a' b b' (fun c hc => ha c (hcs c hc)) (fun c hc => hb c (hcs c hc))
  simp only [semOrderG]
  cases lim with
  | none => exact hs.mono hu
  | some n => exact RowsAgree.mono (Forall₂.take' hs n) hu

theorem semOrder_congr (cs rv : List String) (lim : Option Nat) {w u : List String} {t t' : Table}
    (h : RowsAgree w t.rows t'.rows) (hcs : ∀ c ∈ cs, c ∈ w) (hu : ∀ c ∈ u, c ∈ w) :
    RowsAgree u (semOrder cs rv lim t).rows (semOrder cs rv lim t').rows :=
  semOrderG_congr cmpCongr_rowLe cs rv lim h hcs hu

theorem semSelectRows_congr (Θ : Interp) (e : Term) {w u : List String} {t t' : Table}
    (h : RowsAgree w t.rows t'.rows) (he : ∀ c ∈ e.colsRaw, c ∈ w) (hu : ∀ c ∈ u, c ∈ w) :
    RowsAgree u (semSelectRows Θ e t).rows (semSelectRows Θ e t').rows := by
  simp only [semSelectRows]
  refine RowsAgree.mono ?_ hu
  apply Forall₂.filter' h
  intro r r' hr
  rw [evalCell_congr Θ e (fun c hc => hr c (he c hc))]

theorem argValues_congr {w : List String} (e : Term) {l l' : List Row} (h : RowsAgree w l l')
    (he : ∀ c ∈ argCol e, c ∈ w) : argValues e l = argValues e l' := by
  rw [argValues_eq_map, argValues_eq_map]
  exact Forall₂.map_eq h fun r r' hr => argFn_congr e fun c hc => hr c (he c hc)

theorem Sql.winCell_congr {le : RowCmp} (hle : CmpCongr le) (Θ : Interp) (p o rv : List String) {w : List String}
    {idx idx' : List (Row × Nat)} {ri ri' : Row × Nat} (e : Term)
    (hidx : Forall₂ (fun a b => Row.agreeOn w a.1 b.1 ∧ a.2 = b.2) idx idx')
    (hri : Row.agreeOn w ri.1 ri'.1 ∧ ri.2 = ri'.2)
    (hp : ∀ c ∈ p, c ∈ w) (ho : ∀ c ∈ o, c ∈ w) (he : ∀ c ∈ argCol e, c ∈ w) :
    winCell le Θ p o rv idx ri e = winCell le Θ p o rv idx' ri' e := by
  -- the partition of the current row, in window order
  have hsorted := Forall₂.mergeSort' (le := fun (a b : Row × Nat) => le o rv a.1 b.1)
    (le' := fun (a b : Row × Nat) => le o rv a.1 b.1)
    (Forall₂.filter' hidx (p := fun rj => keyOf rj.1 p == keyOf ri.1 p) (q := fun rj => keyOf rj.1 p == keyOf ri'.1 p)
      fun a b hab => by simp only [keyOf]; rw [hab.1.vals hp, hri.1.vals hp])
    (fun a a' b b' ha hb => hle o rv _ _ _ _ (fun c hc => ha.1 c (ho c hc)) (fun c hc => hb.1 c (ho c hc)))
  simp only [winCell]
  rw [Forall₂.findIdx' (p := fun (rj : Row × Nat) => rj.2 == ri.2) (q := fun (rj : Row × Nat) => rj.2 == ri'.2)
      hsorted (fun a b hab => by rw [hab.2, hri.2]),
    argValues_congr e (Forall₂.map' hsorted fun a b hab => hab.1) he]

theorem semExtendWindowG_congr {le : RowCmp} (hle : CmpCongr le) (Θ : Interp) (ops : Assign) (part od rv : List String)
    {w u oc oc' : List String} {t t' : Table}
    (h : RowsAgree w t.rows t'.rows)
    (hu : ∀ c ∈ u, c ∈ oc ∧ c ∈ oc')
    (hpart : ∀ c ∈ part, c ∈ w) (hod : ∀ c ∈ od, c ∈ w)
    (hkeep : ∀ c ∈ u, c ∉ ops.map (·.1) → c ∈ w)
    (hexpr : ∀ kv ∈ ops, kv.1 ∈ u → ∀ c ∈ kv.2.colsRaw, c ∈ w) :
    RowsAgree u (semExtendWindowG le Θ ops part od rv t oc).rows (semExtendWindowG le Θ ops part od rv t' oc').rows := by
  have hidx := Forall₂.zipIdx' h 0
  refine Forall₂.map' hidx fun ri ri' hri c hc => ?_
  exact extendCell_congr ops (winCell le Θ part od rv t.rows.zipIdx ri) (winCell le Θ part od rv t'.rows.zipIdx ri')
    (hu c hc).1 (hu c hc).2 hri.1 (hkeep c hc) fun e hm =>
      Sql.winCell_congr hle Θ part od rv e hidx hri hpart hod fun c' hc' =>
        hexpr _ hm hc c' (argCol_subset_colsRaw e c' hc')

theorem semExtendWindow_congr (Θ : Interp) (ops : Assign) (part od rv : List String)
    {w u oc oc' : List String} {t t' : Table}
    (h : RowsAgree w t.rows t'.rows)
    (hu : ∀ c ∈ u, c ∈ oc ∧ c ∈ oc')
    (hpart : ∀ c ∈ part, c ∈ w) (hod : ∀ c ∈ od, c ∈ w)
    (hkeep : ∀ c ∈ u, c ∉ ops.map (·.1) → c ∈ w)
    (hexpr : ∀ kv ∈ ops, kv.1 ∈ u → ∀ c ∈ kv.2.colsRaw, c ∈ w) :
    RowsAgree u (semExtendWindow Θ ops part od rv t oc).rows (semExtendWindow Θ ops part od rv t' oc').rows :=
  semExtendWindowG_congr cmpCongr_rowLe Θ ops part od rv h hu hpart hod hkeep hexpr

theorem semProject_congr (Θ : Interp) (ops : Assign) (group : List String) {w u oc oc' : List String}
    {t t' : Table} (h : RowsAgree w t.rows t'.rows)
    (hu : ∀ c ∈ u, c ∈ oc ∧ c ∈ oc') (hg : ∀ c ∈ group, c ∈ w)
    (hexpr : ∀ kv ∈ ops, kv.1 ∈ u → ∀ c ∈ kv.2.colsRaw, c ∈ w) :
    RowsAgree u (semProject Θ ops group t oc).rows (semProject Θ ops group t' oc').rows := by
  unfold semProject
  split
  · refine .cons ?_ .nil
    intro c hc
    obtain ⟨h1, h2⟩ := hu c hc
    rw [Row.select_get_of_mem h1, Row.select_get_of_mem h2]
    apply Row.get_map_congr ops (fun e => Θ.agg (opName e) (argValues e t.rows))
      (fun e => Θ.agg (opName e) (argValues e t'.rows))
    intro kv hkv hk
    rw [argValues_congr kv.2 h fun c' hc' => hexpr kv hkv (hk ▸ hc) c' (argCol_subset_colsRaw _ c' hc')]
  · have hkeys : t.rows.map (fun r => keyOf r group) = t'.rows.map (fun r => keyOf r group) :=
      Forall₂.map_eq h (fun r r' hr => by simp only [keyOf]; exact hr.vals hg)
    simp only [hkeys]
    apply forall₂_map_same
    intro k _ c hc
    obtain ⟨h1, h2⟩ := hu c hc
    rw [Row.select_get_of_mem h1, Row.select_get_of_mem h2, Row.get_append, Row.get_append]
    split
    · rfl
    · have hg' : RowsAgree w (t.rows.filter (fun r => keyOf r group == k))
          (t'.rows.filter (fun r => keyOf r group == k)) := by
        apply Forall₂.filter' h
        intro r r' hr
        simp only [keyOf]; rw [hr.vals hg]
      apply Row.get_map_congr ops (fun e => Θ.agg (opName e) (argValues e _))
        (fun e => Θ.agg (opName e) (argValues e _))
      intro kv hkv hk
      rw [argValues_congr kv.2 hg' fun c' hc' => hexpr kv hkv (hk ▸ hc) c' (argCol_subset_colsRaw _ c' hc')]

theorem rename_congr (f g : String → String) {w u sc : List String} {l l' : List Row}
    (h : RowsAgree w l l')
    (hk : ∀ r ∈ l, ∀ k ∈ r.keys, k ∈ sc) (hk' : ∀ r ∈ l', ∀ k ∈ r.keys, k ∈ sc)
    (hinv : ∀ k ∈ sc, g (f k) = k)
    (hu : ∀ c ∈ u, c ∈ sc.map f ∧ g c ∈ w) :
    RowsAgree u (l.map (·.rename f)) (l'.map (·.rename f)) := by
  apply Forall₂.map_mem' h
  intro r hr r' hr' hrr c hc
  obtain ⟨hcs, hgw⟩ := hu c hc
  obtain ⟨k0, hk0, rfl⟩ := List.mem_map.mp hcs
  have inj : ∀ (x : Row), (∀ k ∈ x.keys, k ∈ sc) → ∀ k' ∈ x.keys, f k' = f k0 → k' = k0 := by
    intro x hx k' hk' e
    rw [← hinv k' (hx k' hk'), ← hinv k0 hk0, e]
  rw [Row.get_rename_of_inj r f k0 (inj r (hk r hr)), Row.get_rename_of_inj r' f k0 (inj r' (hk' r' hr'))]
  have := hrr (g (f k0)) hgw
  rwa [hinv k0 hk0] at this

theorem mapCols_congr (f g : String → String) (dels : List String) {w u sc : List String} {l l' : List Row}
    (h : RowsAgree w l l')
    (hk : ∀ r ∈ l, ∀ k ∈ r.keys, k ∈ sc) (hk' : ∀ r ∈ l', ∀ k ∈ r.keys, k ∈ sc)
    (hinv : ∀ k ∈ sc, k ∉ dels → g (f k) = k)
    (hu : ∀ c ∈ u, c ∈ (sc.filter (fun c => !dels.contains c)).map f ∧ g c ∈ w) :
    RowsAgree u (l.map (fun r => (r.drop dels).rename f)) (l'.map (fun r => (r.drop dels).rename f)) := by
  apply Forall₂.map_mem' h
  intro r hr r' hr' hrr c hc
  obtain ⟨hcs, hgw⟩ := hu c hc
  obtain ⟨k0, hk0, rfl⟩ := List.mem_map.mp hcs
  simp only [List.mem_filter, Bool.not_eq_true', List.contains_eq_mem, decide_eq_false_iff_not] at hk0
  have inj : ∀ (x : Row), (∀ k ∈ x.keys, k ∈ sc) → ∀ k' ∈ (x.drop dels).keys, f k' = f k0 → k' = k0 := by
    intro x hx k' hk' e
    rw [Row.keys_drop] at hk'
    simp only [List.mem_filter, Bool.not_eq_true', List.contains_eq_mem, decide_eq_false_iff_not] at hk'
    rw [← hinv k' (hx k' hk'.1) hk'.2, ← hinv k0 hk0.1 hk0.2, e]
  rw [Row.get_rename_of_inj _ f k0 (inj r (hk r hr)), Row.get_rename_of_inj _ f k0 (inj r' (hk' r' hr')),
    Row.get_drop, Row.get_drop]
  simp only [hk0.2, if_false]
  have := hrr (g (f k0)) hgw
  rwa [hinv k0 hk0.1 hk0.2] at this

/-- a row of a well-formed table gives its own cell to a joined row: outside the table's columns it reads null -/
theorem Table.WF.sideCell {t : Table} (hw : t.WF) {r : Row} (hr : r ∈ t.rows) (c : String) :
    Ref.sideCell t.cols (some r) c = r.get c := by
  by_cases hc : c ∈ t.cols
  · exact RefSem.sideCell_of_mem hc r
  · rw [RefSem.sideCell_of_not_mem hc, hw.get_null hr hc]

theorem joinRow_agree {u oc oc' ca cb ca' cb' : List String} {ra ra' rb rb' : Option Row}
    (ha : ∀ c ∈ u, Ref.sideCell ca ra c = Ref.sideCell ca' ra' c)
    (hb : ∀ c ∈ u, Ref.sideCell cb rb c = Ref.sideCell cb' rb' c) (hu : ∀ c ∈ u, c ∈ oc ∧ c ∈ oc') :
    Row.agreeOn u (joinRow ca cb oc ra rb) (joinRow ca' cb' oc' ra' rb') := by
  intro c hc
  rw [RefSem.get_joinRow (hu c hc).1, RefSem.get_joinRow (hu c hc).2, ha c hc, hb c hc]

theorem Forall₂.ite_nil {α β : Type} {R : α → β → Prop} {c : Prop} [Decidable c] {l : List α} {l' : List β}
    (h : Forall₂ R l l') : Forall₂ R (if c then l else []) (if c then l' else []) := by
  split
  · exact h
  · exact .nil

/-- the rows of one side without a match on the other side, in the two runs -/
theorem unmatched_agree {w wo u : List String} {l l' o o' : List Row} (p : Row → Row → Bool) (f f' : Row → Row)
    (hl : RowsAgree w l l') (ho : RowsAgree wo o o')
    (hp : ∀ r r' x x', Row.agreeOn w r r' → Row.agreeOn wo x x' → p r x = p r' x')
    (hf : ∀ r ∈ l, ∀ r' ∈ l', Row.agreeOn w r r' → Row.agreeOn u (f r) (f' r')) :
    RowsAgree u ((l.filter fun r => !(o.any (p r))).map f) ((l'.filter fun r => !(o'.any (p r))).map f') := by
  have hfl : Forall₂ (Row.agreeOn w) _ _ := Forall₂.filter' hl
    (p := fun r => !(o.any (p r))) (q := fun r => !(o'.any (p r)))
    (fun r r' hr => by rw [Forall₂.any' ho (fun x x' hx => hp r r' x x' hr hx)])
  exact Forall₂.map_mem' hfl
    (fun r hr r' hr' hrr => hf r (List.mem_filter.mp hr).1 r' (List.mem_filter.mp hr').1 hrr)

/-- `hsa`, `hsb`: for well-formed tables by `Table.WF.sideCell` -/
theorem semJoin_congr (cfg : SemCfg) (jt : JoinType) (onA onB : List String)
    {wa wb u oc oc' : List String} {ta ta' tb tb' : Table}
    (ha : RowsAgree wa ta.rows ta'.rows) (hb : RowsAgree wb tb.rows tb'.rows)
    (honA : ∀ c ∈ onA, c ∈ wa) (honB : ∀ c ∈ onB, c ∈ wb)
    (hsa : ∀ r ∈ ta.rows, ∀ r' ∈ ta'.rows, Row.agreeOn wa r r' →
      ∀ c ∈ u, Ref.sideCell ta.cols (some r) c = Ref.sideCell ta'.cols (some r') c)
    (hsb : ∀ r ∈ tb.rows, ∀ r' ∈ tb'.rows, Row.agreeOn wb r r' →
      ∀ c ∈ u, Ref.sideCell tb.cols (some r) c = Ref.sideCell tb'.cols (some r') c)
    (hu : ∀ c ∈ u, c ∈ oc ∧ c ∈ oc') :
    RowsAgree u (semJoin cfg jt onA onB ta tb oc).rows (semJoin cfg jt onA onB ta' tb' oc').rows := by
  have hkey : ∀ {ra ra' rb rb'}, Row.agreeOn wa ra ra' → Row.agreeOn wb rb rb' →
      keyMatch cfg (keyOf ra onA) (keyOf rb onB) = keyMatch cfg (keyOf ra' onA) (keyOf rb' onB) := by
    intro ra ra' rb rb' h1 h2
    simp only [keyOf]
    rw [h1.vals honA, h2.vals honB]
  simp only [semJoin]
  refine Forall₂.append' (Forall₂.append' ?_ ?_) ?_
  · refine Forall₂.flatMap' (Forall₂.with_mem ha) fun ra ra' hra => ?_
    refine Forall₂.map' (Forall₂.filter' (Forall₂.with_mem hb) fun rb rb' hrb => by rw [hkey hra.2 hrb.2])
      fun rb rb' hrb => ?_
    exact joinRow_agree (hsa _ hra.1.1 _ hra.1.2 hra.2) (hsb _ hrb.1.1 _ hrb.1.2 hrb.2) hu
  · refine Forall₂.ite_nil (unmatched_agree _ _ _ ha hb (fun _ _ _ _ hr hx => by rw [hkey hr hx]) ?_)
    exact fun r hr r' hr' hrr => joinRow_agree (hsa r hr r' hr' hrr) (fun _ _ => rfl) hu
  · refine Forall₂.ite_nil (unmatched_agree _ _ _ hb ha (fun _ _ _ _ hr hx => by rw [hkey hx hr]) ?_)
    exact fun r hr r' hr' hrr => joinRow_agree (fun _ _ => rfl) (hsb r hr r' hr' hrr) hu

theorem concat_tag_agree (idc : Option String) (name : String) {w u oc oc' : List String} (r r' : Row)
    (hr : Row.agreeOn w r r') (hoc : ∀ c ∈ u, c ∈ oc ∧ c ∈ oc') (hw : ∀ c ∈ u, idc = some c ∨ c ∈ w) :
    Row.agreeOn u
      (match (generalizing := false) idc with
        | none => r.select oc | some c => (r.set c (.str name)).select oc)
      (match (generalizing := false) idc with
        | none => r'.select oc' | some c => (r'.set c (.str name)).select oc') := by
  intro c hc
  obtain ⟨h1, h2⟩ := hoc c hc
  cases idc with
  | none =>
    simp only
    rw [Row.select_get_of_mem h1, Row.select_get_of_mem h2]
    rcases hw c hc with h | h
    · cases h
    · exact hr c h
  | some i =>
    simp only
    rw [Row.select_get_of_mem h1, Row.select_get_of_mem h2, Row.get_set, Row.get_set]
    split
    · rfl
    · rename_i hne
      rcases hw c hc with h | h
      · cases h; simp at hne
      · exact hr c h

theorem semConcat_congr (idc : Option String) (an bn : String) {wa wb u oc oc' : List String}
    {ta ta' tb tb' : Table}
    (ha : RowsAgree wa ta.rows ta'.rows) (hb : RowsAgree wb tb.rows tb'.rows)
    (hu : ∀ c ∈ u, c ∈ oc ∧ c ∈ oc' ∧ (idc = some c ∨ (c ∈ wa ∧ c ∈ wb))) :
    RowsAgree u (semConcat idc an bn ta tb oc).rows (semConcat idc an bn ta' tb' oc').rows := by
  simp only [semConcat]
  have hoc : ∀ c ∈ u, c ∈ oc ∧ c ∈ oc' := fun c hc => ⟨(hu c hc).1, (hu c hc).2.1⟩
  apply Forall₂.append'
  · exact Forall₂.map' ha (fun r r' hr => concat_tag_agree idc an r r' hr hoc
      (fun c hc => (hu c hc).2.2.imp id (·.1)))
  · exact Forall₂.map' hb (fun r r' hr => concat_tag_agree idc bn r r' hr hoc
      (fun c hc => (hu c hc).2.2.imp id (·.2)))

end DAVerif
