import DAVerif.Proofs.OwnDet
/-!
# Whole runs: independence of set iteration order, and repeatability  (`Heap/Own.lean`, used by `Props/C19.lean`)
-/
namespace DAVerif.Own

/-- scope: the data map and the frames stored in table descriptions are frames of the caller (positions below `n`) -/
def Scoped (dm : DataMap) (p : Pipe) (n : Nat) : Prop :=
  (∀ k id, dm.lookup k = some id → id < n) ∧ (∀ t, t ∈ tablesOf p → ∀ h, t.head = some h → h < n)

theorem Scoped.un {dm : DataMap} {k : UnKind} {fl : Option Fail} {src : Pipe} {n : Nat}
    (h : Scoped dm (.un k fl src) n) : Scoped dm src n := ⟨h.1, fun t ht => h.2 t (by simpa [tablesOf] using ht)⟩

theorem Scoped.left {dm : DataMap} {k : BinKind} {fl : Option Fail} {l r : Pipe} {n : Nat}
    (h : Scoped dm (.bin k fl l r) n) : Scoped dm l n :=
  ⟨h.1, fun t ht => h.2 t (by simp [tablesOf, ht])⟩

theorem Scoped.right {dm : DataMap} {k : BinKind} {fl : Option Fail} {l r : Pipe} {n : Nat}
    (h : Scoped dm (.bin k fl l r) n) : Scoped dm r n :=
  ⟨h.1, fun t ht => h.2 t (by simp [tablesOf, ht])⟩

theorem tableFrameId_lt {dm : DataMap} {t : TableOp} {p : Pipe} {n id : Nat} (hsc : Scoped dm p n)
    (ht : t ∈ tablesOf p) (h : tableFrameId dm t = .ok id) : id < n := by
  unfold tableFrameId at h
  split at h
  · split at h
    · rename_i id' hl
      cases h
      exact hsc.1 _ _ hl
    · cases h
  · split at h
    · rename_i id' hh
      cases h
      exact hsc.2 t ht _ hh
    · cases h

theorem getElem?_of_take_eq {α : Type} {l₁ l₂ : List α} {n i : Nat} (h : l₁.take n = l₂.take n) (hi : i < n) :
    l₁[i]? = l₂[i]? := by
  rw [← List.getElem?_take_of_lt hi, h, List.getElem?_take_of_lt hi]

/-- the table step reads a caller's frame only: two runs from heaps that agree on the caller's frames raise the
same exception, or run the same step body -/
theorem exec_table_of_take {dm : DataMap} {t : TableOp} {n : Nat} (hsc : Scoped dm (.table t) n) {s₁ s₂ : St}
    (ht : s₁.heap.take n = s₂.heap.take n) (ord₁ ord₂ : Ord) :
    (∃ e, exec ord₁ dm (.table t) s₁ = (.error e, s₁) ∧ exec ord₂ dm (.table t) s₂ = (.error e, s₂)) ∨
    (∃ df, exec ord₁ dm (.table t) s₁ = runPlan none [] (planTable t df) s₁ ∧
      exec ord₂ dm (.table t) s₂ = runPlan none [] (planTable t df) s₂) := by
  simp only [exec]
  cases hid : tableFrameId dm t with
  | error e => exact Or.inl ⟨e, rfl, rfl⟩
  | ok id =>
    dsimp only
    rw [← getElem?_of_take_eq ht (tableFrameId_lt hsc (List.mem_singleton.mpr rfl) hid)]
    cases s₁.heap[id]? with
    | none => exact Or.inl ⟨_, rfl, rfl⟩
    | some df =>
      dsimp only
      split
      · exact Or.inl ⟨_, rfl, rfl⟩
      · exact Or.inr ⟨df, rfl, rfl⟩

theorem exec_take (ord : Ord) (dm : DataMap) (p : Pipe) (s : St) {n : Nat} (hn : n ≤ s.heap.length) :
    (exec ord dm p s).2.heap.take n = s.heap.take n :=
  ((exec_ext ord dm p s).ext.mono hn).keep

def evShape : Ev → Ev
  | .alloc id _ => .alloc id ""
  | .write k id _ => .write k id ""
  | .ret id f => .ret id f

/-- two states of the same shape: heaps of the same size, logs equal up to `evShape`.  Nothing is said about the
frames themselves (scratch frames of two runs may differ); what must agree is stated separately on `take n`. -/
structure SRel (s₁ s₂ : St) : Prop where
  len : s₁.heap.length = s₂.heap.length
  log : s₁.log.map evShape = s₂.log.map evShape

theorem SRel.refl (s : St) : SRel s s := ⟨rfl, rfl⟩

theorem commit_shape (base : Nat) (srcIds : List FrameId) (e₁ e₂ : List Eff)
    (he : e₁.map shapeOf = e₂.map shapeOf) (s₁ s₂ : St) (hs : SRel s₁ s₂) :
    (commit base srcIds e₁ s₁).1 = (commit base srcIds e₂ s₂).1 ∧
    SRel (commit base srcIds e₁ s₁).2 (commit base srcIds e₂ s₂).2 := by
  induction e₁ generalizing e₂ s₁ s₂ with
  | nil =>
    cases e₂ with
    | nil => exact ⟨rfl, hs⟩
    | cons _ _ => simp at he
  | cons a as ih =>
    cases e₂ with
    | nil => simp at he
    | cons b bs =>
      simp only [List.map_cons, List.cons.injEq] at he
      obtain ⟨hab, hrest⟩ := he
      cases a with
      | alloc w f =>
        cases b with
        | alloc w' f' =>
          simp only [commit]
          apply ih bs hrest
          exact ⟨by simp [hs.len], by simp [hs.log, hs.len, evShape]⟩
        | write _ _ _ _ => simp [shapeOf] at hab
      | write k r c f =>
        cases b with
        | alloc _ _ => simp [shapeOf] at hab
        | write k' r' c' f' =>
          simp only [shapeOf, Option.some.injEq, Prod.mk.injEq] at hab
          obtain ⟨rfl, rfl⟩ := hab
          simp only [commit, hs.len]
          split
          · apply ih bs hrest
            exact ⟨by simp [hs.len], by simp [hs.log, evShape]⟩
          · exact ⟨rfl, hs⟩

theorem truncate_shape (k : Nat) (e₁ e₂ : List Eff) (he : e₁.map shapeOf = e₂.map shapeOf) :
    (truncate k e₁).map shapeOf = (truncate k e₂).map shapeOf := by
  induction e₁ generalizing e₂ k with
  | nil =>
    cases e₂ with
    | nil => rfl
    | cons _ _ => simp at he
  | cons a as ih =>
    cases e₂ with
    | nil => simp at he
    | cons b bs =>
      simp only [List.map_cons, List.cons.injEq] at he
      obtain ⟨hab, hrest⟩ := he
      cases k with
      | zero => simp [truncate]
      | succ k =>
        cases a with
        | alloc w f =>
          cases b with
          | alloc w' f' => simp [truncate, shapeOf, ih (k + 1) bs hrest]
          | write _ _ _ _ => simp [shapeOf] at hab
        | write wk r c f =>
          cases b with
          | alloc _ _ => simp [shapeOf] at hab
          | write wk' r' c' f' => simp [truncate, hab, ih k bs hrest]

theorem runPlan_ord (fail : Option Fail) (srcIds : List FrameId) (m₁ m₂ : B H) (hm : Equiv m₁ m₂)
    (s₁ s₂ : St) (hs : SRel s₁ s₂) :
    (runPlan fail srcIds m₁ s₁).1 = (runPlan fail srcIds m₂ s₂).1 ∧
    SRel (runPlan fail srcIds m₁ s₁).2 (runPlan fail srcIds m₂ s₂).2 := by
  obtain ⟨h1, _, h3⟩ := hm 0
  unfold runPlan
  cases fail with
  | some fl =>
    simp only
    obtain ⟨c1, c2⟩ := commit_shape s₁.heap.length srcIds _ _ (truncate_shape fl.writes _ _ h3) s₁ s₂ hs
    rw [← hs.len, ← c1]
    split
    · exact ⟨rfl, c2⟩
    · exact ⟨rfl, c2⟩
  | none =>
    simp only
    obtain ⟨c1, c2⟩ := commit_shape s₁.heap.length srcIds _ _ h3 s₁ s₂ hs
    rw [← hs.len, ← c1, ← h1, ← c2.len]
    split
    · split
      · exact ⟨rfl, ⟨c2.len, by simp [c2.log, evShape]⟩⟩
      · exact ⟨rfl, c2⟩
    · exact ⟨rfl, c2⟩

theorem andThen_ord {x₁ x₂ : Except Err (FrameId × Frame) × St}
    {g₁ g₂ : FrameId → Frame → St → Except Err (FrameId × Frame) × St} (hx : x₁.1 = x₂.1 ∧ SRel x₁.2 x₂.2)
    (hg : ∀ r f, x₁.1 = .ok (r, f) →
      (g₁ r f x₁.2).1 = (g₂ r f x₂.2).1 ∧ SRel (g₁ r f x₁.2).2 (g₂ r f x₂.2).2) :
    (andThen x₁ g₁).1 = (andThen x₂ g₂).1 ∧ SRel (andThen x₁ g₁).2 (andThen x₂ g₂).2 := by
  obtain ⟨r1, s1⟩ := x₁
  obtain ⟨r2, s2⟩ := x₂
  obtain ⟨rfl, hs⟩ := hx
  obtain _ | ⟨r, f⟩ := r1
  · exact ⟨rfl, hs⟩
  · exact hg r f rfl

theorem exec_ord {ord₁ ord₂ : Ord} (h₁ : OrdOK ord₁) (h₂ : OrdOK ord₂) (dm : DataMap) (p : Pipe)
    (n : Nat) (hsc : Scoped dm p n) (s₁ s₂ : St) (hs : SRel s₁ s₂)
    (hn : n ≤ s₁.heap.length) (ht : s₁.heap.take n = s₂.heap.take n) :
    (exec ord₁ dm p s₁).1 = (exec ord₂ dm p s₂).1 ∧ SRel (exec ord₁ dm p s₁).2 (exec ord₂ dm p s₂).2 := by
  induction p generalizing s₁ s₂ with
  | table t =>
    rcases exec_table_of_take hsc ht ord₁ ord₂ with ⟨e, e1, e2⟩ | ⟨df, e1, e2⟩
    · rw [e1, e2]; exact ⟨rfl, hs⟩
    · rw [e1, e2]; exact runPlan_ord none [] _ _ (Equiv.refl _) s₁ s₂ hs
  | un k fail src ih =>
    rw [exec_un, exec_un]
    have i := ih hsc.un s₁ s₂ hs hn ht
    exact andThen_ord i fun r f _ => runPlan_ord fail [r] _ _ (planUn_equiv h₁ h₂ k _) _ _ i.2
  | bin k fail l r ihl ihr =>
    rw [exec_bin, exec_bin]
    have i := ihl hsc.left s₁ s₂ hs hn ht
    refine andThen_ord i fun rl fl _ => ?_
    have j := ihr hsc.right _ _ i.2 (Nat.le_trans hn (exec_ext ord₁ dm l s₁).ext.len_le)
      (by rw [exec_take ord₁ dm l s₁ hn, exec_take ord₂ dm l s₂ (hs.len ▸ hn), ht])
    exact andThen_ord j fun rr fr _ => runPlan_ord fail [rl, rr] _ _ (planBin_equiv h₁ h₂ k _ _) _ _ j.2

def regOK (nsrc k : Nat) : Reg → Bool
  | .src i => decide (i < nsrc)
  | .loc n => decide (n < k)

/-- do all effects name existing frames (`k` = number of frames the step has allocated so far) -/
def effsOK (nsrc : Nat) : Nat → List Eff → Bool
  | _, [] => true
  | k, .alloc _ _ :: es => effsOK nsrc (k + 1) es
  | k, .write _ r _ _ :: es => regOK nsrc k r && effsOK nsrc k es

def allocCount : List Eff → Nat
  | [] => 0
  | .alloc _ _ :: es => allocCount es + 1
  | .write _ _ _ _ :: es => allocCount es

theorem resolve_isSome {base len k : Nat} {srcIds : List FrameId} (hsrc : ∀ i ∈ srcIds, i < base)
    (hlen : len = base + k) (r : Reg) :
    (resolve base srcIds len r).isSome = regOK srcIds.length k r := by
  cases r with
  | src i =>
    simp only [resolve, regOK]
    cases hi : srcIds[i]? with
    | none => exact (decide_eq_false (Nat.not_lt.mpr (List.getElem?_eq_none_iff.mp hi))).symm
    | some id =>
      have h2 : id < len := Nat.lt_of_lt_of_le (hsrc id (List.mem_of_getElem? hi)) (hlen ▸ Nat.le_add_right _ _)
      simp only [if_pos h2]
      exact (decide_eq_true (List.getElem?_eq_some_iff.mp hi).1).symm
  | loc n =>
    simp only [resolve, regOK]
    by_cases h : n < k
    · rw [if_pos (by omega), decide_eq_true h]; rfl
    · rw [if_neg (by omega), decide_eq_false h]; rfl

theorem commit_flag {base : Nat} {srcIds : List FrameId} (hsrc : ∀ i ∈ srcIds, i < base)
    (effs : List Eff) (k : Nat) (s : St) (hlen : s.heap.length = base + k) :
    (commit base srcIds effs s).1 = effsOK srcIds.length k effs ∧
    ((commit base srcIds effs s).1 = true →
      (commit base srcIds effs s).2.heap.length = base + k + allocCount effs) := by
  induction effs generalizing k s with
  | nil => simp [commit, effsOK, allocCount, hlen]
  | cons e es ih =>
    cases e with
    | alloc w f =>
      simp only [commit, effsOK, allocCount]
      have := ih (k + 1) ⟨s.heap ++ [f], s.log ++ [.alloc s.heap.length w]⟩ (by simp; omega)
      refine ⟨this.1, fun h => ?_⟩
      rw [this.2 h]; omega
    | write wk r c f =>
      simp only [commit, effsOK, allocCount]
      have hr := resolve_isSome hsrc hlen r
      split
      · rename_i id hres
        rw [hres] at hr
        have := ih k ⟨s.heap.set id f, s.log ++ [.write wk id c]⟩ (by simpa using hlen)
        simp only [Option.isSome_some] at hr
        rw [← hr, Bool.true_and]
        exact this
      · rename_i hres
        rw [hres] at hr
        simp only [Option.isSome_none] at hr
        rw [← hr]
        simp

/-- what a step body returns, as far as it does not depend on frame identities -/
def planDesc (fail : Option Fail) (nsrc : Nat) (m : B H) : Except Err Frame :=
  match fail with
  | some fl =>
    if effsOK nsrc 0 (truncate fl.writes (m 0).2.2) then .error (.raised fl.cls)
    else .error (.internal "unresolved register")
  | none =>
    if effsOK nsrc 0 (m 0).2.2 then
      if regOK nsrc (allocCount (m 0).2.2) (m 0).1.reg then .ok (m 0).1.f
      else .error (.internal "unresolved result")
    else .error (.internal "unresolved register")

theorem runPlan_desc (fail : Option Fail) (srcIds : List FrameId) (m : B H) (s : St)
    (hsrc : ∀ i ∈ srcIds, i < s.heap.length) :
    (runPlan fail srcIds m s).1.map Prod.snd = planDesc fail srcIds.length m := by
  unfold runPlan planDesc
  cases fail with
  | some fl =>
    simp only
    have := commit_flag hsrc (truncate fl.writes (m 0).2.2) 0 s rfl
    rw [this.1]
    split <;> rfl
  | none =>
    simp only
    have := commit_flag hsrc (m 0).2.2 0 s rfl
    rw [this.1]
    split
    · rename_i hok
      have hlen := this.2 (by rw [this.1]; exact hok)
      have hlen' : (commit s.heap.length srcIds (m 0).2.2 s).2.heap.length = s.heap.length + allocCount (m 0).2.2 := by
        rw [hlen]; omega
      have hr := resolve_isSome hsrc hlen' (m 0).1.reg
      split
      · rename_i id hres
        rw [hres] at hr
        simp only [Option.isSome_some] at hr
        simp [← hr, Except.map]
      · rename_i hres
        rw [hres] at hr
        simp only [Option.isSome_none] at hr
        simp [← hr, Except.map]
    · rfl

theorem andThen_agree {x₁ x₂ : Except Err (FrameId × Frame) × St}
    {g₁ g₂ : FrameId → Frame → St → Except Err (FrameId × Frame) × St}
    (hx : x₁.1.map Prod.snd = x₂.1.map Prod.snd)
    (hg : ∀ r₁ r₂ f, x₁.1 = .ok (r₁, f) → x₂.1 = .ok (r₂, f) →
      (g₁ r₁ f x₁.2).1.map Prod.snd = (g₂ r₂ f x₂.2).1.map Prod.snd) :
    (andThen x₁ g₁).1.map Prod.snd = (andThen x₂ g₂).1.map Prod.snd := by
  obtain ⟨_ | ⟨r₁, f₁⟩, s1⟩ := x₁ <;> obtain ⟨_ | ⟨r₂, f₂⟩, s2⟩ := x₂
  · exact hx
  · cases hx
  · cases hx
  · cases (Except.ok.inj hx : f₁ = f₂)
    exact hg r₁ r₂ f₁ rfl rfl

theorem exec_agree (ord : Ord) (dm : DataMap) (p : Pipe) (n : Nat) (hsc : Scoped dm p n) (sa sb : St)
    (ha : n ≤ sa.heap.length) (hb : n ≤ sb.heap.length) (ht : sa.heap.take n = sb.heap.take n) :
    (exec ord dm p sa).1.map Prod.snd = (exec ord dm p sb).1.map Prod.snd := by
  induction p generalizing sa sb with
  | table t =>
    rcases exec_table_of_take hsc ht ord ord with ⟨e, e1, e2⟩ | ⟨df, e1, e2⟩
    · rw [e1, e2]
    · rw [e1, e2, runPlan_desc none [] _ sa (List.forall_mem_nil _), runPlan_desc none [] _ sb (List.forall_mem_nil _)]
  | un k fail src ih =>
    rw [exec_un, exec_un]
    refine andThen_agree (ih hsc.un sa sb ha hb ht) fun ra rb f ea eb => ?_
    rw [runPlan_desc fail [ra] _ _ (List.forall_mem_singleton.mpr ((exec_ext ord dm src sa).res _ _ ea).2),
      runPlan_desc fail [rb] _ _ (List.forall_mem_singleton.mpr ((exec_ext ord dm src sb).res _ _ eb).2)]
    rfl
  | bin k fail l r ihl ihr =>
    rw [exec_bin, exec_bin]
    refine andThen_agree (ihl hsc.left sa sb ha hb ht) fun rla rlb fl ea eb => ?_
    have ka := exec_ext ord dm l sa
    have kb := exec_ext ord dm l sb
    refine andThen_agree (ihr hsc.right _ _ (Nat.le_trans ha ka.ext.len_le) (Nat.le_trans hb kb.ext.len_le)
      (by rw [exec_take ord dm l sa ha, exec_take ord dm l sb hb, ht])) fun rra rrb fr ea' eb' => ?_
    have ka' := exec_ext ord dm r (exec ord dm l sa).2
    have kb' := exec_ext ord dm r (exec ord dm l sb).2
    rw [runPlan_desc fail [rla, rra] _ _ (List.forall_mem_cons.mpr
        ⟨Nat.lt_of_lt_of_le (ka.res _ _ ea).2 ka'.ext.len_le, List.forall_mem_singleton.mpr (ka'.res _ _ ea').2⟩),
      runPlan_desc fail [rlb, rrb] _ _ (List.forall_mem_cons.mpr
        ⟨Nat.lt_of_lt_of_le (kb.res _ _ eb).2 kb'.ext.len_le, List.forall_mem_singleton.mpr (kb'.res _ _ eb').2⟩)]
    rfl

end DAVerif.Own
