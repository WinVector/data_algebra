import DAVerif.Proofs.RenameSem
/-!
From equivariance under injective renamings to renamings that are only injective (`InjOn`, Spec/Rename.lean) on the
names of the pipeline and its inputs: a finite injection agrees on its list with a global one, and the renaming action
only looks at the names involved.
-/
namespace DAVerif
namespace Ren

open Function (Injective)

def maxLen (L : List String) : Nat := L.foldr (fun s n => max s.length n) 0

theorem le_maxLen {L : List String} {s : String} (h : s ∈ L) : s.length ≤ maxLen L := by
  induction L with
  | nil => cases h
  | cons a L ih =>
    simp only [maxLen, List.foldr_cons]
    rcases List.mem_cons.mp h with rfl | h
    · exact Nat.le_max_left _ _
    · exact Nat.le_trans (ih h) (Nat.le_max_right _ _)

def pad (n : Nat) : String := String.ofList (List.replicate (n + 1) 'x')

theorem pad_length (n : Nat) : (pad n).length = n + 1 := by
  simp [pad, String.length_ofList]

/-- `ρ` on `L`, and an injection into strings longer than every `ρ a` (`a ∈ L`) elsewhere -/
def extendInj (ρ : String → String) (L : List String) : String → String :=
  fun s => if s ∈ L then ρ s else s ++ pad (maxLen (L.map ρ))

theorem extendInj_agree (ρ : String → String) (L : List String) {a : String} (h : a ∈ L) :
    extendInj ρ L a = ρ a := by
  simp [extendInj, h]

theorem append_right_cancel {s t p : String} (h : s ++ p = t ++ p) : s = t := by
  have := congrArg String.toList h
  simp only [String.toList_append] at this
  exact String.toList_inj.mp (List.append_cancel_right this)

theorem extendInj_injective {ρ : String → String} {L : List String} (h : InjOn ρ L) :
    Injective (extendInj ρ L) := by
  intro a b e
  unfold extendInj at e
  by_cases ha : a ∈ L <;> by_cases hb : b ∈ L
  · simp only [ha, hb, if_true] at e
    exact h a ha b hb e
  · simp only [ha, hb, if_true, if_false] at e
    have h1 : (ρ a).length ≤ maxLen (L.map ρ) := le_maxLen (List.mem_map_of_mem ha)
    have h2 := congrArg String.length e
    rw [String.length_append, pad_length] at h2
    omega
  · simp only [ha, hb, if_true, if_false] at e
    have h1 : (ρ b).length ≤ maxLen (L.map ρ) := le_maxLen (List.mem_map_of_mem hb)
    have h2 := congrArg String.length e
    rw [String.length_append, pad_length] at h2
    omega
  · simp only [ha, hb, if_false] at e
    exact append_right_cancel e

theorem exists_injective_ext {ρ : String → String} {L : List String} (h : InjOn ρ L) :
    ∃ ρ' : String → String, Injective ρ' ∧ ∀ a ∈ L, ρ' a = ρ a :=
  ⟨extendInj ρ L, extendInj_injective h, fun _ ha => extendInj_agree ρ L ha⟩

theorem map_congr_mem {ρ ρ' : String → String} {l : List String} (e : ∀ c ∈ l, ρ c = ρ' c) : l.map ρ = l.map ρ' :=
  List.map_congr_left e

mutual
theorem Term.rename_congr {ρ ρ' : ColRen} : ∀ t : Term, (∀ c ∈ t.allCols, ρ c = ρ' c) → t.rename ρ = t.rename ρ'
  | .value _, _ => rfl
  | .col c, e => by simp only [Term.rename, e c (by simp [Term.allCols])]
  | .list _, _ => rfl
  | .dict _, _ => rfl
  | .app _ args _ _, e => by
    simp only [Term.rename]
    rw [Term.renameList_congr args (fun c hc => e c (by simpa [Term.allCols] using hc))]
theorem Term.renameList_congr {ρ ρ' : ColRen} : ∀ ts : List Term,
    (∀ c ∈ Term.allColsList ts, ρ c = ρ' c) → Term.renameList ρ ts = Term.renameList ρ' ts
  | [], _ => rfl
  | t :: ts, e => by
    simp only [Term.renameList]
    rw [Term.rename_congr t (fun c hc => e c (by simp [Term.allColsList, hc])),
      Term.renameList_congr ts (fun c hc => e c (by simp [Term.allColsList, hc]))]
end

theorem Assign.rename_congr {ρ ρ' : ColRen} (ops : Assign) (e : ∀ c ∈ Assign.allCols ops, ρ c = ρ' c) :
    Assign.rename ρ ops = Assign.rename ρ' ops := by
  unfold Assign.rename
  apply List.map_congr_left
  intro kv hkv
  have hsub : ∀ c ∈ kv.1 :: kv.2.allCols, c ∈ Assign.allCols ops := by
    intro c hc
    exact List.mem_flatMap.mpr ⟨kv, hkv, hc⟩
  rw [e kv.1 (hsub _ (List.mem_cons_self ..)),
    Term.rename_congr kv.2 (fun c hc => e c (hsub c (List.mem_cons_of_mem _ hc)))]

theorem pairs_congr {ρ ρ' : ColRen} (m : List (String × String))
    (e1 : ∀ c ∈ m.map (·.1), ρ c = ρ' c) (e2 : ∀ c ∈ m.map (·.2), ρ c = ρ' c) :
    m.map (fun kv => (ρ kv.1, ρ kv.2)) = m.map (fun kv => (ρ' kv.1, ρ' kv.2)) := by
  apply List.map_congr_left
  intro kv hkv
  rw [e1 kv.1 (List.mem_map_of_mem (f := (·.1)) hkv), e2 kv.2 (List.mem_map_of_mem (f := (·.2)) hkv)]

theorem Ops.ren_congr {ρc ρc' : ColRen} {ρt ρt' : TabRen} (p : Ops)
    (ec : ∀ c ∈ p.colNames, ρc c = ρc' c) (et : ∀ n ∈ p.tables.map (·.1), ρt n = ρt' n) :
    p.ren ρc ρt = p.ren ρc' ρt' := by
  induction p with
  | table name cs =>
    show Ops.table _ _ = Ops.table _ _
    rw [et name (List.mem_cons_self ..), List.map_congr_left (l := cs) ec]
  | extend src ops part od rv w ih =>
    simp only [Ops.colNames, List.forall_mem_append] at ec
    obtain ⟨⟨⟨⟨hs, ho⟩, hp⟩, hd⟩, hr⟩ := ec
    show Ops.extend _ _ _ _ _ _ = Ops.extend _ _ _ _ _ _
    rw [ih hs et, Assign.rename_congr ops ho, List.map_congr_left hp, List.map_congr_left hd,
      List.map_congr_left hr]
  | project src ops g ih =>
    simp only [Ops.colNames, List.forall_mem_append] at ec
    obtain ⟨⟨hs, ho⟩, hg⟩ := ec
    show Ops.project _ _ _ = Ops.project _ _ _
    rw [ih hs et, Assign.rename_congr ops ho, List.map_congr_left hg]
  | selectRows src e ih =>
    simp only [Ops.colNames, List.forall_mem_append] at ec
    show Ops.selectRows _ _ = Ops.selectRows _ _
    rw [ih ec.1 et, Term.rename_congr e ec.2]
  | selectCols src cs ih =>
    simp only [Ops.colNames, List.forall_mem_append] at ec
    show Ops.selectCols _ _ = Ops.selectCols _ _
    rw [ih ec.1 et, List.map_congr_left ec.2]
  | dropCols src ds ih =>
    simp only [Ops.colNames, List.forall_mem_append] at ec
    show Ops.dropCols _ _ = Ops.dropCols _ _
    rw [ih ec.1 et, List.map_congr_left ec.2]
  | order src cs rv lim ih =>
    simp only [Ops.colNames, List.forall_mem_append] at ec
    obtain ⟨⟨hs, hcs⟩, hr⟩ := ec
    show Ops.order _ _ _ _ = Ops.order _ _ _ _
    rw [ih hs et, List.map_congr_left hcs, List.map_congr_left hr]
  | rename src m ih =>
    simp only [Ops.colNames, List.forall_mem_append] at ec
    obtain ⟨⟨hs, h1⟩, h2⟩ := ec
    show Ops.rename _ _ = Ops.rename _ _
    rw [ih hs et, pairs_congr m h1 h2]
  | mapCols src m ds ih =>
    simp only [Ops.colNames, List.forall_mem_append] at ec
    obtain ⟨⟨⟨hs, h1⟩, h2⟩, hd⟩ := ec
    show Ops.mapCols _ _ _ = Ops.mapCols _ _ _
    rw [ih hs et, pairs_congr m h1 h2, List.map_congr_left hd]
  | join a b oa ob jt iha ihb =>
    simp only [Ops.colNames, List.forall_mem_append] at ec
    simp only [Ops.tables, List.map_append, List.forall_mem_append] at et
    obtain ⟨⟨⟨ha, hb⟩, hoa⟩, hob⟩ := ec
    show Ops.join _ _ _ _ _ = Ops.join _ _ _ _ _
    rw [iha ha et.1, ihb hb et.2, List.map_congr_left hoa, List.map_congr_left hob]
  | concat a b idc an bn iha ihb =>
    simp only [Ops.colNames, List.forall_mem_append] at ec
    simp only [Ops.tables, List.map_append, List.forall_mem_append] at et
    obtain ⟨⟨ha, hb⟩, hi⟩ := ec
    show Ops.concat _ _ _ _ _ = Ops.concat _ _ _ _ _
    rw [iha ha et.1, ihb hb et.2]
    cases idc with
    | none => rfl
    | some c => rw [Option.map_some, Option.map_some, hi c (List.mem_cons_self ..)]
  | convert src rm ih =>
    simp only [Ops.colNames, List.forall_mem_append] at ec
    obtain ⟨⟨hs, hn⟩, hp⟩ := ec
    show Ops.convert _ ⟨_, _, _⟩ = Ops.convert _ ⟨_, _, _⟩
    rw [ih hs et, List.map_congr_left hn, List.map_congr_left hp]

theorem Table.rename_congr {ρ ρ' : ColRen} (t : Table)
    (e : ∀ c ∈ t.cols ++ t.rows.flatMap Row.keys, ρ c = ρ' c) : t.rename ρ = t.rename ρ' := by
  simp only [Table.rename, Row.renameCols]
  rw [map_congr_mem (l := t.cols) (fun c hc => e c (by simp [hc]))]
  congr 1
  apply List.map_congr_left
  intro r hr
  apply Row.rename_congr
  intro c hc
  exact e c (List.mem_append_right _ (List.mem_flatMap.mpr ⟨r, hr, hc⟩))

theorem Env.rename_congr {ρc ρc' : ColRen} {ρt ρt' : TabRen} (env : Env)
    (ec : ∀ c ∈ env.colNames, ρc c = ρc' c) (et : ∀ n ∈ env.map (·.1), ρt n = ρt' n) :
    Env.rename ρc ρt env = Env.rename ρc' ρt' env := by
  unfold Env.rename
  apply List.map_congr_left
  intro nt hnt
  rw [et nt.1 (List.mem_map_of_mem (f := (·.1)) hnt),
    Table.rename_congr nt.2 (fun c hc => ec c (List.mem_flatMap.mpr ⟨nt, hnt, hc⟩))]

/-! An evaluation function that commutes with every injective renaming can only put into its result names that occur in
its arguments: a name from elsewhere could be exchanged with a fresh one by a renaming that leaves the arguments, and
hence the result, alone.  So equivariance under injective renamings gives, with no further look at the function, the
equivariance under renamings that are injective on the names involved only - with the given renaming on the result. -/

def swap (a b : String) : String → String := fun s => if s = a then b else if s = b then a else s

theorem swap_swap (a b x : String) : swap a b (swap a b x) = x := by
  unfold swap
  by_cases hxa : x = a
  · subst hxa
    by_cases hba : b = x
    · simp only [hba, if_true]
    · simp only [hba, if_true, if_false]
  · by_cases hxb : x = b
    · subst hxb
      simp only [hxa, if_true, if_false]
    · simp only [hxa, hxb, if_false]

theorem swap_injective (a b : String) : Injective (swap a b) :=
  fun x y e => by rw [← swap_swap a b x, e, swap_swap]

theorem swap_of_ne {a b c : String} (ha : c ≠ a) (hb : c ≠ b) : swap a b c = c := by
  simp only [swap, ha, hb, if_false]

theorem exists_fresh (L : List String) : ∃ b : String, b ∉ L :=
  ⟨pad (maxLen L), fun h => by have := le_maxLen h; rw [pad_length] at this; omega⟩

theorem Table.names_of_rename_fixed (t : Table) (L : List String)
    (h : ∀ σ : ColRen, Injective σ → (∀ c ∈ L, σ c = c) → t.rename σ = t.rename id) :
    ∀ c ∈ t.cols ++ t.rows.flatMap Row.keys, c ∈ L := by
  intro c hc
  refine Classical.byContradiction (fun hcL => ?_)
  obtain ⟨b, hb⟩ := exists_fresh (c :: L)
  rw [List.mem_cons, not_or] at hb
  have hfix : ∀ x ∈ L, swap c b x = x := fun x hx =>
    swap_of_ne (fun e => hcL (e ▸ hx)) (fun e => hb.2 (e ▸ hx))
  have e := h (swap c b) (swap_injective c b) hfix
  simp only [Table.rename, Row.renameCols, Table.mk.injEq, List.map_inj_left] at e
  have hcb : swap c b c = b := by simp only [swap, if_true]
  have hmoved : swap c b c ≠ c := fun e' => hb.1 (hcb.symm.trans e')
  rcases List.mem_append.mp hc with hc | hc
  · exact hmoved (e.1 c hc)
  · obtain ⟨r, hr, hcr⟩ := List.mem_flatMap.mp hc
    have hk := congrArg Row.keys (e.2 r hr)
    rw [Row.keys_rename, Row.keys_rename, List.map_inj_left] at hk
    exact hmoved (hk c hcr)

def Equivariant (F : Env → Ops → Except Err Table) : Prop :=
  ∀ {ρc : ColRen} {ρt : TabRen}, Injective ρc → Injective ρt → ∀ (env : Env) (p : Ops),
    F (Env.rename ρc ρt env) (p.ren ρc ρt) = (F env p).map (Table.rename ρc)

variable {F : Env → Ops → Except Err Table}

theorem ren_congr_names {ρc ρc' : ColRen} {ρt ρt' : TabRen} (env : Env) (p : Ops)
    (ec : ∀ c ∈ names p env, ρc c = ρc' c) (et : ∀ n ∈ tabNames p env, ρt n = ρt' n) :
    F (Env.rename ρc ρt env) (p.ren ρc ρt) = F (Env.rename ρc' ρt' env) (p.ren ρc' ρt') := by
  rw [Ops.ren_congr p (fun c h => ec c (List.mem_append_left _ h)) (fun n h => et n (List.mem_append_left _ h)),
    Env.rename_congr env (fun c h => ec c (List.mem_append_right _ h)) (fun n h => et n (List.mem_append_right _ h))]

theorem equivariant_names (hF : Equivariant F) {env : Env} {p : Ops} {t : Table} (h : F env p = .ok t) :
    ∀ c ∈ t.cols ++ t.rows.flatMap Row.keys, c ∈ names p env := by
  refine Table.names_of_rename_fixed t _ (fun σ hσ hfix => ?_)
  have e := (hF hσ Function.injective_id env p).symm.trans
    ((ren_congr_names env p hfix (fun _ _ => rfl)).trans (hF Function.injective_id Function.injective_id env p))
  rw [h] at e
  exact Except.ok.inj e

theorem equivariant_map_congr (hF : Equivariant F) (env : Env) (p : Ops) {ρ ρ' : ColRen}
    (e : ∀ c ∈ names p env, ρ c = ρ' c) : (F env p).map (Table.rename ρ) = (F env p).map (Table.rename ρ') := by
  cases hs : F env p with
  | error _ => rfl
  | ok t => exact congrArg Except.ok (Table.rename_congr t (fun c hc => e c (equivariant_names hF hs c hc)))

theorem equivariant_on (hF : Equivariant F) {ρc : ColRen} {ρt : TabRen} (env : Env) (p : Ops)
    (hc : InjOn ρc (names p env)) (ht : InjOn ρt (tabNames p env)) :
    F (Env.rename ρc ρt env) (p.ren ρc ρt) = (F env p).map (Table.rename ρc) := by
  obtain ⟨ρc', hc', ec⟩ := exists_injective_ext hc
  obtain ⟨ρt', ht', et⟩ := exists_injective_ext ht
  exact (ren_congr_names env p (fun c h => (ec c h).symm) (fun n h => (et n h).symm)).trans
    ((hF hc' ht' env p).trans (equivariant_map_congr hF env p ec))

theorem sem_equivariant (Θ : Interp) (hΘ : ConvertEquivariant Θ) (cfg : SemCfg) : Equivariant (sem Θ cfg) :=
  fun hc ht env p => sem_ren Θ hΘ cfg hc ht env p

theorem injOn_mono {ρ : String → String} {L L' : List String} (h : InjOn ρ L) (hs : ∀ a ∈ L', a ∈ L) : InjOn ρ L' :=
  fun a ha b hb e => h a (hs a ha) b (hs b hb) e

theorem sem_ren_on (Θ : Interp) (hΘ : ConvertEquivariant Θ) (cfg : SemCfg) {ρc : ColRen}
    {ρt : TabRen} (env : Env) (p : Ops) (hc : InjOn ρc (names p env)) (ht : InjOn ρt (tabNames p env)) :
    sem Θ cfg (Env.rename ρc ρt env) (p.ren ρc ρt) = (sem Θ cfg env p).map (Table.rename ρc) :=
  equivariant_on (sem_equivariant Θ hΘ cfg) env p hc ht

end Ren
end DAVerif
