import DAVerif.Proofs.C06Main
/-!
The constructor and argument checks only look at the *set* of source columns (as a duplicate-free list: up to
permutation): a table description whose columns are listed in another order accepts the same steps, with the
same error class.
-/
namespace DAVerif

theorem nodupB_congr {a b : List String} (h : a.Perm b) : nodupB a = nodupB b := by
  rw [Bool.eq_iff_iff, nodupB_iff, nodupB_iff]; exact h.nodup_iff

theorem filter_isEmpty_congr {a b : List String} (h : ∀ c, c ∈ a ↔ c ∈ b) (p : String → Bool) :
    (a.filter p).isEmpty = (b.filter p).isEmpty := by
  rw [Bool.eq_iff_iff]
  simp only [List.isEmpty_iff, List.filter_eq_nil_iff]
  exact ⟨fun hh x hx => hh x ((h x).mpr hx), fun hh x hx => hh x ((h x).mp hx)⟩

theorem map_isEmpty {α β : Type} (l : List α) (f : α → β) : (l.map f).isEmpty = l.isEmpty := by
  cases l <;> rfl

theorem workColGroup_perm {a sc sc' : List String} (h : ∀ c, c ∈ sc ↔ c ∈ sc') :
    workColGroup a sc = workColGroup a sc' := by
  simp only [workColGroup, subset_congr_right h]

theorem parseChk_perm {sc sc' : List String} (h : ∀ c, c ∈ sc ↔ c ∈ sc') (ops : Assign) :
    parseChk sc ops = parseChk sc' ops := by
  have : (ops.all fun kv => subset (Term.colsRaw kv.2) sc) = (ops.all fun kv => subset (Term.colsRaw kv.2) sc') :=
    List.all_congr rfl fun kv => subset_congr_right h
  simp only [parseChk, this]

theorem parseAssignments_perm {sc sc' : List String} (h : ∀ c, c ∈ sc ↔ c ∈ sc') (ops : Assign) :
    parseAssignments sc ops = parseAssignments sc' ops := by
  rw [parseAssignments_eqC, parseAssignments_eqC, parseChk_perm h]

theorem extendChecks_perm {sc sc' : List String} (h : ∀ c, c ∈ sc ↔ c ∈ sc') (ops : Assign) (pa : PartArg)
    (od rv : List String) : extendChecks sc ops pa od rv = extendChecks sc' ops pa od rv := by
  simp only [extendChecks, workColGroup_perm h]

theorem projectChecks_perm {sc sc' : List String} (h : ∀ c, c ∈ sc ↔ c ∈ sc') (ops : Assign) (g : List String) :
    projectChecks sc ops g = projectChecks sc' ops g := by
  simp only [projectChecks, workColGroup_perm h]

theorem windowOpOk_perm {sc sc' : List String} (h : ∀ c, c ∈ sc ↔ c ∈ sc') (ordered : Bool) (t : Term) :
    windowOpOk sc ordered t = windowOpOk sc' ordered t := windowOpOk_congr (fun c _ => h c)

theorem extendChk_perm {sc sc' : List String} (h : ∀ c, c ∈ sc ↔ c ∈ sc') (ops : Assign) (pa : PartArg)
    (od rv : List String) : extendChk sc ops pa od rv = extendChk sc' ops pa od rv := by
  have : (ops.all fun kv => windowOpOk sc (!od.isEmpty) kv.2) = (ops.all fun kv => windowOpOk sc' (!od.isEmpty) kv.2) := by
    apply List.all_congr rfl
    intro kv; exact windowOpOk_perm h _ _
  simp only [extendChk, subset_congr_right h, this]

theorem projectChk_perm {sc sc' : List String} (h : ∀ c, c ∈ sc ↔ c ∈ sc') (ops : Assign) (g : List String) :
    projectChk sc ops g = projectChk sc' ops g := by
  simp only [projectChk, subset_congr_right h]

theorem selectChk_perm {sc sc' : List String} (h : ∀ c, c ∈ sc ↔ c ∈ sc') (cs : List String) :
    selectChk sc cs = selectChk sc' cs := by
  simp only [selectChk, subset_congr_right h]

theorem dropChk_perm {sc sc' : List String} (h : ∀ c, c ∈ sc ↔ c ∈ sc') (ds : List String) :
    dropChk sc ds = dropChk sc' ds := by
  simp only [dropChk, subset_congr_right h, filter_isEmpty_congr h]

theorem orderChk_perm {sc sc' : List String} (h : ∀ c, c ∈ sc ↔ c ∈ sc') (cs rv : List String) :
    orderChk sc cs rv = orderChk sc' cs rv := by
  simp only [orderChk, subset_congr_right h]

theorem renameChk_perm {sc sc' : List String} (hp : sc.Perm sc') (m : List (String × String)) :
    renameChk sc m = renameChk sc' m := by
  have h : ∀ c, c ∈ sc ↔ c ∈ sc' := fun c => hp.mem_iff
  have e2 : ((sc.filter (fun c => !(inter (m.map (·.1)) (m.map (·.2))).contains c)).filter
        (fun c => (m.map (·.1)).contains c)).isEmpty
      = ((sc'.filter (fun c => !(inter (m.map (·.1)) (m.map (·.2))).contains c)).filter
        (fun c => (m.map (·.1)).contains c)).isEmpty :=
    filter_isEmpty_congr (fun c => by simp only [List.mem_filter, h c]) _
  simp only [renameChk, subset_congr_right h, e2, nodupB_congr (show (renameCols sc m).Perm (renameCols sc' m) from hp.map _)]

theorem mapColsChk_perm {sc sc' : List String} (hp : sc.Perm sc') (m : List (String × Option String)) :
    mapColsChk sc m = mapColsChk sc' m := by
  have h : ∀ c, c ∈ sc ↔ c ∈ sc' := fun c => hp.mem_iff
  have e2 : ((sc.filter (fun c => !(inter ((mapRemap m).map (·.2)) (m.map (·.1))).contains c)).filter
        (fun c => ((mapRemap m).map (·.2)).contains c)).isEmpty
      = ((sc'.filter (fun c => !(inter ((mapRemap m).map (·.2)) (m.map (·.1))).contains c)).filter
        (fun c => ((mapRemap m).map (·.2)).contains c)).isEmpty :=
    filter_isEmpty_congr (fun c => by simp only [List.mem_filter, h c]) _
  have hpc : (mapColsCols sc (mapRemap m) (mapDels m)).Perm (mapColsCols sc' (mapRemap m) (mapDels m)) :=
    (hp.filter _).map _
  have e3 : (mapColsCols sc (mapRemap m) (mapDels m)).isEmpty = (mapColsCols sc' (mapRemap m) (mapDels m)).isEmpty := by
    simp only [mapColsCols, map_isEmpty]
    exact filter_isEmpty_congr h _
  simp only [mapColsChk, subset_congr_right h, e2, e3, nodupB_congr hpc]

theorem joinChk_perm {ca ca' : List String} (h : ∀ c, c ∈ ca ↔ c ∈ ca') (cb : List String)
    (ta tb : List (String × List String)) (oa ob : List String) (jt : String) (chk : Bool) :
    joinChk ca cb ta tb oa ob jt chk = joinChk ca' cb ta tb oa ob jt chk := by
  have e : ((inter ca cb).filter (fun c => !(inter oa ob).contains c)).isEmpty
      = ((inter ca' cb).filter (fun c => !(inter oa ob).contains c)).isEmpty :=
    filter_isEmpty_congr (fun c => by simp only [mem_inter, h c]) _
  simp only [joinChk, subset_congr_right h, e]

theorem concatChk_perm {ca ca' : List String} (h : ∀ c, c ∈ ca ↔ c ∈ ca') (cb : List String)
    (ta tb : List (String × List String)) (idc : Option String) :
    concatChk ca cb ta tb idc = concatChk ca' cb ta tb idc := by
  cases idc with
  | none => simp only [concatChk, subset_congr_right h, subset_congr_left h]
  | some c => simp only [concatChk, subset_congr_right h, subset_congr_left h, contains_congr h c]

theorem convertChk_perm {sc sc' : List String} (h : ∀ c, c ∈ sc ↔ c ∈ sc') (rm : RecMap) :
    convertChk sc rm = convertChk sc' rm := by
  simp only [convertChk, subset_congr_right h]

theorem rawChk_perm {cs cs' : List String} (hp : cs.Perm cs') (n : String) (s : Step) (hf : Step.Fresh n s) :
    rawChk cs [(n, cs)] s = rawChk cs' [(n, cs')] s := by
  have h : ∀ c, c ∈ cs ↔ c ∈ cs' := fun c => hp.mem_iff
  cases s with
  | extend ops pa od rv => simp only [rawChk, parseChk_perm h, extendChecks_perm h, extendChk_perm h]
  | project ops g => simp only [rawChk, parseChk_perm h, projectChecks_perm h, projectChk_perm h]
  | selectRows e =>
    cases e with
    | none => rfl
    | some e => exact parseChk_perm h _
  | selectCols cs0 => simp only [rawChk, selectChk_perm h]
  | dropCols ds => simp only [rawChk, dropChk_perm h]
  | order cs0 rv lim => simp only [rawChk, orderChk_perm h]
  | rename m => simp only [rawChk, renameChk_perm hp]
  | mapCols m => simp only [rawChk, mapColsChk_perm hp]
  | join b oa ob jt chk =>
    have hfr := hf b (List.mem_singleton.mpr rfl)
    have e : ∀ ca cs0 : List String, joinChk ca b.cols [(n, cs0)] b.tables oa ob jt chk
        = joinChk ca b.cols [] b.tables oa ob jt chk := fun ca cs0 => by
      simp only [joinChk, tablesConsistent_fresh hfr]; rfl
    simp only [rawChk]
    rw [e cs, joinChk_perm h, ← e cs' cs']
  | concat b idc an bn =>
    cases b with
    | none => rfl
    | some b =>
      have hfr := hf b (List.mem_singleton.mpr rfl)
      have e : ∀ ca cs0 : List String, concatChk ca b.cols [(n, cs0)] b.tables idc
          = concatChk ca b.cols [] b.tables idc := fun ca cs0 => by
        simp only [concatChk, tablesConsistent_fresh hfr]; rfl
      simp only [rawChk]
      rw [e cs, concatChk_perm h, ← e cs' cs']
  | convert rm =>
    cases rm with
    | none => rfl
    | some rm => exact convertChk_perm h _

theorem buildRaw_errOf_perm {cs cs' : List String} (hp : cs.Perm cs') (n : String) (s : Step)
    (hf : Step.Fresh n s) : errOf (buildRaw (.table n cs) s) = errOf (buildRaw (.table n cs') s) := by
  rw [buildRaw_eq, buildRaw_eq, errOf_bind_ok, errOf_bind_ok]
  exact congrArg errOf (rawChk_perm hp n s hf)

end DAVerif
