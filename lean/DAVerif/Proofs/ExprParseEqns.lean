import DAVerif.Expr.Parse
/-!
`pLevel` at fuel `f + 1`, one equation per kind of level (`not`, prefix operator, power over `pPostfix`, binary loop).
Apart from `Proofs/ExprParse.lean` because `Proofs/ExprWalkWfParse.lean` needs these equations and nothing else of it.
-/
namespace DAVerif.Expr

/-- atom with trailers (what level 11 parses before looking for `**`) -/
def pPostfix (f : Nat) (toks : List Token) : E (Cst × List Token) := do
  let (a0, r0) ← pAtom f toks
  pTrailers f a0 r0

theorem pLevel_succ_11 (f : Nat) (toks : List Token) :
    pLevel (f + 1) 11 toks = (do
      let (a, r) ← pPostfix f toks
      match r with
      | t :: r' =>
        if t.isOp "**" then do
          let (b, r2) ← pLevel f 10 r'
          return (.node "power" [a, b], r2)
        else return (a, r)
      | [] => return (a, r)) := by
  rw [pLevel.eq_def]
  simp only [show (11 == 2) = false by decide +kernel, show (11 == 10) = false by decide +kernel, beq_self_eq_true,
    Bool.false_eq_true, ↓reduceIte, pPostfix, bind_assoc]
  rfl

theorem pLevel_succ_2 (f : Nat) (toks : List Token) :
    pLevel (f + 1) 2 toks =
      match toks with
      | t :: rest =>
        if t.isOp "not" then do
          let (x, r) ← pLevel f 2 rest
          return (.node "not" [x], r)
        else pLevel f 3 toks
      | [] => .error .syntax := by
  rw [pLevel.eq_def]
  simp only [beq_self_eq_true, ↓reduceIte]
  rfl

theorem pLevel_succ_10 (f : Nat) (toks : List Token) :
    pLevel (f + 1) 10 toks =
      match toks with
      | t :: rest =>
        if opIn t ["+", "-", "~"] then do
          let (x, r) ← pLevel f 10 rest
          return (.node "factor" [.tok t, x], r)
        else pLevel f 11 toks
      | [] => .error .syntax := by
  rw [pLevel.eq_def]
  simp only [show (10 == 2) = false by decide +kernel, beq_self_eq_true, Bool.false_eq_true, ↓reduceIte]
  rfl

theorem pLevel_succ_bin (f l : Nat) (rule : String) (toks : List Token) (h : binRule l = some rule) :
    pLevel (f + 1) l toks = (do
      let (first, r) ← pLevel f (l + 1) toks
      let (chs, r') ← pLoop f l [first] r
      if chs.length == 1 then return (first, r') else return (.node rule chs, r')) := by
  have hne : l ≠ 2 ∧ l ≠ 10 ∧ l ≠ 11 := by
    refine ⟨?_, ?_, ?_⟩ <;> rintro rfl <;> simp [binRule] at h
  rw [pLevel.eq_def]
  simp only [beq_eq_false_iff_ne.2 hne.1, beq_eq_false_iff_ne.2 hne.2.1, beq_eq_false_iff_ne.2 hne.2.2,
    Bool.false_eq_true, ↓reduceIte, h]

end DAVerif.Expr
