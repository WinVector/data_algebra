import DAVerif.Proofs.SqlGood
/-!
C01/C02/C16, nested emulation: scope of the theorem "SQLite's emulated RIGHT / FULL joins anywhere in the pipeline".

* `JoinKeysLen` – both key lists of a join have the same length (`NaturalJoinNode.__init__` asserts it, hence every
  pipeline the builders produce satisfies it: `reachable_joinKeysLen`, `SqlReach.lean`);
* `GoodE env p` – the structural hypotheses of `Sql.Good` (`SqlGood.lean`) **without** `JoinsNative` (any join type but
  `OUTER` anywhere), plus `JoinKeysLen`;
* `InScope cfg env p` – the scope of the main induction (`Proofs/SqlAllTrans.lean`): what `Good cfg env p` and `GoodE env p`
  have in common, i.e. `Good` without `JoinsNative`, and key lists of equal length at every join unless every join is
  rendered natively;
* `FullKeysNullFree Θ env cfg p` – the data-side guard of finding D19: wherever the dialect emulates a FULL join, no
  join key of either side is null;
* `ScopeE` – the data-side scope: C18's `AggsOrderFree`, `WindowsTotal`, C01's `SqlScope`, and `FullKeysNullFree`.

Both scopes are hereditary and hold of the pipeline `fullSimOps a b K` that `_emit_full_join_as_complex` builds
(`InScope.fullSim`, `scopeE_fullSim`).
-/
namespace DAVerif
namespace Sql
namespace SqlE
open DAVerif.Ops (usedFromSources unionL)

variable {Θ : Interp} {ec : EngineCfg} {env : Env} {cfg : SqlCfg}

def joinKeysLenb : Ops → Bool
  | .table _ _ => true
  | .extend s _ _ _ _ _ | .project s _ _ | .selectRows s _ | .selectCols s _ | .dropCols s _
  | .order s _ _ _ | .rename s _ | .mapCols s _ _ | .convert s _ => joinKeysLenb s
  | .join a b onA onB _ => joinKeysLenb a && joinKeysLenb b && (onA.length == onB.length)
  | .concat a b _ _ _ => joinKeysLenb a && joinKeysLenb b

def JoinKeysLen (p : Ops) : Prop := joinKeysLenb p = true
instance (p : Ops) : Decidable (JoinKeysLen p) := by unfold JoinKeysLen; exact inferInstance

theorem joinKeysLen_stripped {p : Ops} (h : JoinKeysLen p) : JoinKeysLen (strip p) :=
  strip_preserves (fun _ _ _ h => h) h

theorem JoinKeysLen.unary (p s : Ops) (hs : p.sources = [s]) : JoinKeysLen p ↔ JoinKeysLen s := by
  cases p <;> first | (cases hs; exact Iff.rfl) | cases hs

structure GoodE (env : Env) (p : Ops) : Prop where
  frag : InFragJ p = true
  wf : WF p
  sqlwf : SqlWF p
  maps : MapsOK p
  jwf : JoinWF p
  types : JoinTypesSql p
  keylen : JoinKeysLen p
  label : LabelSidesPlain p
  env : EnvOK false env p

/-- the Boolean part of the structural scope in one check (what `decide` evaluates for a concrete pipeline) -/
theorem GoodE.of_checks {p : Ops} (hwf : WF p) (henv : EnvOK false env p)
    (h : (InFragJ p && sqlWFb p && mapsOKb p && joinWFb p && joinTypesSqlb p && joinKeysLenb p &&
      labelSidesPlainb p) = true) : GoodE env p := by
  simp only [Bool.and_eq_true] at h
  exact ⟨h.1.1.1.1.1.1, hwf, h.1.1.1.1.1.2, h.1.1.1.1.2, h.1.1.1.2, h.1.1.2, h.1.2, h.2, henv⟩

theorem GoodE.of_good {p : Ops} (h : Good cfg env p) (hk : JoinKeysLen p) : GoodE env p :=
  ⟨h.frag, h.wf, h.sqlwf, h.maps, h.jwf, h.types, hk, h.label, h.env⟩

theorem JoinKeysLen.source {p s : Ops} (h : JoinKeysLen p) (hs : s ∈ p.sources) : JoinKeysLen s := by
  cases p with
  | table name cs => cases hs
  | join a b oa ob jt =>
    rcases mem_pair.mp hs with rfl | rfl
    · exact and_left (and_left h)
    · exact and_right (and_left h)
  | concat a b idc an bn =>
    rcases mem_pair.mp hs with rfl | rfl
    · exact and_left h
    · exact and_right h
  | _ =>
    obtain rfl := List.mem_singleton.mp hs
    exact h

theorem GoodE.stripped {p : Ops} (h : GoodE env p) : GoodE env (strip p) :=
  ⟨inFragJ_stripped h.frag, h.wf.stripped, SqlWF.stripped h.sqlwf, mapsOK_stripped h.maps, JoinWF.stripped h.jwf,
    joinTypesSql_stripped h.types, joinKeysLen_stripped h.keylen, labelSidesPlain_stripped h.label,
    fun nc hnc => h.env nc (by rw [← strip_tables]; exact hnc)⟩

theorem joinKeysLen_fullSimOps {a b : Ops} (K : List String) (ha : JoinKeysLen a) (hb : JoinKeysLen b) :
    JoinKeysLen (fullSimOps a b K) := by
  have hsa := joinKeysLen_stripped ha
  have hsb := joinKeysLen_stripped hb
  simp only [JoinKeysLen] at ha hb hsa hsb ⊢
  simp only [fullSimOps, joinKeysLenb, ha, hb, hsa, hsb, Bool.and_self, beq_self_eq_true]

theorem JoinsNative.source {p s : Ops} (h : JoinsNative cfg p) (hs : s ∈ p.sources) : JoinsNative cfg s := by
  cases p with
  | table name cs => cases hs
  | join a b oa ob jt =>
    rcases mem_pair.mp hs with rfl | rfl
    · exact and_left (and_left h)
    · exact and_right (and_left h)
  | concat a b idc an bn =>
    rcases mem_pair.mp hs with rfl | rfl
    · exact and_left h
    · exact and_right h
  | _ =>
    obtain rfl := List.mem_singleton.mp hs
    exact h

structure InScope (cfg : SqlCfg) (env : Env) (p : Ops) : Prop where
  good : Good ⟨false, false⟩ env p
  keys : JoinsNative cfg p ∨ JoinKeysLen p

namespace InScope

theorem of_good {p : Ops} (h : Good cfg env p) : InScope cfg env p :=
  ⟨⟨h.frag, h.wf, h.sqlwf, h.maps, h.jwf, h.types, joinsNative_of_generic rfl p, h.label, h.env⟩, Or.inl h.native⟩

theorem of_goodE {p : Ops} (h : GoodE env p) : InScope cfg env p :=
  ⟨⟨h.frag, h.wf, h.sqlwf, h.maps, h.jwf, h.types, joinsNative_of_generic rfl p, h.label, h.env⟩, Or.inr h.keylen⟩

theorem source {p s : Ops} (h : InScope cfg env p) (hs : s ∈ p.sources) : InScope cfg env s :=
  ⟨h.good.source hs, h.keys.imp (JoinsNative.source · hs) (JoinKeysLen.source · hs)⟩

theorem join_sides {a b : Ops} {oa ob : List String} {jt : JoinType} (h : InScope cfg env (.join a b oa ob jt)) :
    InScope cfg env a ∧ InScope cfg env b ∧ (∀ c ∈ oa, c ∈ a.cols) ∧ (∀ c ∈ ob, c ∈ b.cols) ∧ jt ≠ .outer ∧
      (¬ (cfg.emulateRightFull = false ∨ (jt ≠ .right ∧ jt ≠ .full)) → oa.length = ob.length) := by
  obtain ⟨hoa, hob, hjt, _⟩ := h.good.of_join
  refine ⟨h.source List.mem_cons_self, h.source (List.mem_cons_of_mem _ List.mem_cons_self), hoa, hob, hjt, fun hnn => ?_⟩
  rcases h.keys with hn | hk
  · exact absurd (Good.of_join ⟨h.good.frag, h.good.wf, h.good.sqlwf, h.good.maps, h.good.jwf, h.good.types, hn,
      h.good.label, h.good.env⟩).2.2.2 hnn
  · exact beq_iff_eq.mp (and_right hk)

theorem fullSim {a b : Ops} {K : List String} (hemu : cfg.emulateRightFull = true)
    (h : InScope cfg env (.join a b K K .full)) (hK : K ≠ []) (hnd : K.Nodup) (hKa : ∀ c ∈ K, c ∈ a.cols)
    (hKb : ∀ c ∈ K, c ∈ b.cols) : InScope cfg env (fullSimOps a b K) := by
  refine ⟨good_fullSim (h.good.source List.mem_cons_self) (h.good.source (List.mem_cons_of_mem _ List.mem_cons_self))
    hK hnd hKa hKb, Or.inr ?_⟩
  rcases h.keys with hn | hk
  · have := and_right hn
    rw [hemu] at this
    cases this
  · exact joinKeysLen_fullSimOps K (JoinKeysLen.source hk List.mem_cons_self)
      (JoinKeysLen.source hk (List.mem_cons_of_mem _ List.mem_cons_self))

end InScope

def FullKeysNullFree (Θ : Interp) (env : Env) (cfg : SqlCfg) : Ops → Prop
  | .table _ _ => True
  | .extend s _ _ _ _ _ | .project s _ _ | .selectRows s _ | .selectCols s _ | .dropCols s _
  | .order s _ _ _ | .rename s _ | .mapCols s _ _ | .convert s _ => FullKeysNullFree Θ env cfg s
  | .join a b onA onB jt => FullKeysNullFree Θ env cfg a ∧ FullKeysNullFree Θ env cfg b ∧
      (cfg.emulateRightFull = true → jt = .full →
        (∀ ta, sem Θ SemCfg.ref env a = .ok ta → NullFreeOn onA ta.rows) ∧
        (∀ tb, sem Θ SemCfg.ref env b = .ok tb → NullFreeOn onB tb.rows))
  | .concat a b _ _ _ => FullKeysNullFree Θ env cfg a ∧ FullKeysNullFree Θ env cfg b

theorem fullKeysNullFree_of_generic (Θ : Interp) (env : Env) {cfg : SqlCfg} (h : cfg.emulateRightFull = false)
    (p : Ops) : FullKeysNullFree Θ env cfg p := by
  induction p with
  | table => trivial
  | join a b oa ob jt iha ihb => exact ⟨iha, ihb, fun h' => by rw [h] at h'; cases h'⟩
  | concat a b i an bn iha ihb => exact ⟨iha, ihb⟩
  | _ => rename_i ih; exact ih

structure ScopeE (Θ : Interp) (env : Env) (cfg : SqlCfg) (p : Ops) : Prop where
  aggs : AggsOrderFree Θ p
  wins : WindowsTotal Θ SemCfg.ref env p
  sql : SqlScope Θ SemCfg.ref env p
  full : FullKeysNullFree Θ env cfg p

theorem ScopeE.source {p s : Ops} (h : ScopeE Θ env cfg p) (hs : s ∈ p.sources) : ScopeE Θ env cfg s := by
  cases p with
  | table name cs => cases hs
  | join a b oa ob jt =>
    rcases mem_pair.mp hs with rfl | rfl
    · exact ⟨h.aggs.1, h.wins.1, h.sql.1, h.full.1⟩
    · exact ⟨h.aggs.2, h.wins.2, h.sql.2, h.full.2.1⟩
  | concat a b idc an bn =>
    rcases mem_pair.mp hs with rfl | rfl
    · exact ⟨h.aggs.1, h.wins.1, h.sql.1, h.full.1⟩
    · exact ⟨h.aggs.2, h.wins.2, h.sql.2, h.full.2⟩
  | extend | order =>
    obtain rfl := List.mem_singleton.mp hs
    exact ⟨h.aggs, h.wins.1, h.sql.1, h.full⟩
  | project =>
    obtain rfl := List.mem_singleton.mp hs
    exact ⟨h.aggs.1, h.wins, h.sql, h.full⟩
  | _ =>
    obtain rfl := List.mem_singleton.mp hs
    exact ⟨h.aggs, h.wins, h.sql, h.full⟩

theorem aggsOrderFree_stripped {p : Ops} (h : AggsOrderFree Θ p) : AggsOrderFree Θ (strip p) :=
  strip_preserves (fun _ _ _ h => h) h

theorem windowsTotal_stripped {p : Ops} (h : WindowsTotal Θ SemCfg.ref env p) :
    WindowsTotal Θ SemCfg.ref env (strip p) :=
  strip_preserves (fun _ _ _ h => h.1) h

theorem sqlScope_stripped {p : Ops} (h : SqlScope Θ SemCfg.ref env p) : SqlScope Θ SemCfg.ref env (strip p) :=
  strip_preserves (fun _ _ _ h => h.1) h

theorem fullKeysNullFree_stripped {p : Ops} (h : FullKeysNullFree Θ env cfg p) :
    FullKeysNullFree Θ env cfg (strip p) :=
  strip_preserves (fun _ _ _ h => h) h

theorem ScopeE.stripped {p : Ops} (h : ScopeE Θ env cfg p) : ScopeE Θ env cfg (strip p) :=
  ⟨aggsOrderFree_stripped h.aggs, windowsTotal_stripped h.wins, sqlScope_stripped h.sql,
    fullKeysNullFree_stripped h.full⟩

/-- its own joins are LEFT joins, its projections have no aggregates -/
theorem scopeE_fullSim {a b : Ops} (K : List String) (ha : ScopeE Θ env cfg a) (hb : ScopeE Θ env cfg b) :
    ScopeE Θ env cfg (fullSimOps a b K) := by
  have hsa := ha.stripped
  have hsb := hb.stripped
  refine ⟨?_, ?_, ?_, ?_⟩
  · exact ⟨⟨⟨⟨⟨hsa.aggs, fun _ h => by cases h⟩, ⟨hsb.aggs, fun _ h => by cases h⟩⟩, fun _ h => by cases h⟩, ha.aggs⟩,
      hb.aggs⟩
  · exact ⟨⟨⟨hsa.wins, hsb.wins⟩, ha.wins⟩, hb.wins⟩
  · exact ⟨⟨⟨hsa.sql, hsb.sql⟩, ha.sql⟩, hb.sql⟩
  · exact ⟨⟨⟨hsa.full, hsb.full⟩, ha.full, fun _ h => by cases h⟩, hb.full, fun _ h => by cases h⟩

end SqlE
end Sql
end DAVerif
