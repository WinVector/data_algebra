import DAVerif.Core.CC
import DAVerif.Spec.Conn
/-!
The proofs behind C23: the loop invariant `Inv`, its preservation by one iteration (`inv_step`, with the merge branch
`inv_merge`) and over the loop, and the correctness theorem `cc_spec`, of which the theorems of `Props/C23.lean` are
corollaries.
-/
namespace DAVerif.CC
open DAVerif.CCSpec

section prim
variable {V β : Type} [DecidableEq V]

theorem dictGet_dictSet (d : List (V × β)) (k : V) (v : β) (k' : V) :
    dictGet (dictSet d k v) k' = if k = k' then some v else dictGet d k' := by
  induction d with
  | nil => simp [dictSet, dictGet]
  | cons p d ih =>
    obtain ⟨a, b⟩ := p
    simp only [dictSet]
    by_cases h : a = k
    · subst h
      by_cases h' : a = k' <;> simp [dictGet, h']
    · by_cases h' : a = k'
      · subst h'
        have : ¬ k = a := fun e => h e.symm
        simp [dictGet, h, this]
      · simp [dictGet, h, h', ih]

theorem dictGet_repoint (comps : List (V × Handle)) (items : List V) (hm : Handle) (k : V) :
    dictGet (repoint comps items hm) k = if k ∈ items then some hm else dictGet comps k := by
  unfold repoint
  induction items generalizing comps with
  | nil => simp
  | cons x items ih =>
    simp only [List.foldl_cons, ih, dictGet_dictSet, List.mem_cons]
    by_cases h1 : k ∈ items
    · simp [h1]
    · by_cases h2 : x = k
      · simp [h2]
      · have : ¬ k = x := fun e => h2 e.symm
        simp [h1, h2, this]

theorem mem_setAdd {s : List V} {x y : V} : y ∈ setAdd s x ↔ y ∈ s ∨ y = x := by
  unfold setAdd
  by_cases h : x ∈ s
  · simp only [h, if_true]
    constructor
    · exact Or.inl
    · rintro (h' | rfl)
      · exact h'
      · exact h
  · simp [h]

theorem nodup_setAdd {s : List V} (hs : s.Nodup) (x : V) : (setAdd s x).Nodup := by
  unfold setAdd
  by_cases h : x ∈ s
  · simp [h, hs]
  · simp only [h, if_false]
    rw [List.nodup_append]
    refine ⟨hs, by simp, ?_⟩
    intro a ha b hb
    simp only [List.mem_singleton] at hb
    subst hb
    intro e; subst e; exact h ha

theorem mem_setUpdate {s t : List V} {y : V} : y ∈ setUpdate s t ↔ y ∈ s ∨ y ∈ t := by
  unfold setUpdate
  induction t generalizing s with
  | nil => simp
  | cons x t ih =>
    simp only [List.foldl_cons, ih, mem_setAdd, List.mem_cons]
    constructor
    · rintro ((h | h) | h)
      · exact Or.inl h
      · exact Or.inr (Or.inl h)
      · exact Or.inr (Or.inr h)
    · rintro (h | h | h)
      · exact Or.inl (Or.inl h)
      · exact Or.inl (Or.inr h)
      · exact Or.inr h

theorem nodup_setUpdate {s : List V} (hs : s.Nodup) (t : List V) : (setUpdate s t).Nodup := by
  unfold setUpdate
  induction t generalizing s with
  | nil => simpa
  | cons x t ih => exact ih (nodup_setAdd hs x)

theorem mem_keysOf {f g : List V} {v : V} : v ∈ keysOf f g ↔ v ∈ f ∨ v ∈ g := by
  simp [keysOf, mem_setUpdate]

theorem nodup_keysOf (f g : List V) : (keysOf f g).Nodup :=
  nodup_setUpdate (nodup_setUpdate List.nodup_nil f) g

theorem dictGet_initFrom (ks : List V) (n : Nat) (k : V) (hk : k ∈ ks) :
    ∃ i, dictGet (initFrom ks n) k = some (n + i) ∧ ks[i]? = some k := by
  induction ks generalizing n with
  | nil => cases hk
  | cons a ks ih =>
    by_cases h : a = k
    · exact ⟨0, by simp [initFrom, dictGet, h], by simp [h]⟩
    · have hk' : k ∈ ks := by
        rcases List.mem_cons.mp hk with e | e
        · exact absurd e.symm h
        · exact e
      obtain ⟨i, h1, h2⟩ := ih (n + 1) hk'
      refine ⟨i + 1, ?_, by simpa using h2⟩
      simp only [initFrom, dictGet, h, if_false, h1]
      congr 1; omega

end prim

section pymin
variable {V : Type} [LE V] [LT V] [DecidableLT V] [Std.IsLinearOrder V] [Std.LawfulOrderLT V]

omit [LE V] [Std.IsLinearOrder V] [Std.LawfulOrderLT V] in
theorem pyMin_eq (a b : V) : pyMin a b = a ∨ pyMin a b = b := by
  unfold pyMin; by_cases h : b < a <;> simp [h]

theorem pyMin_le_left (a b : V) : pyMin a b ≤ a := by
  unfold pyMin
  by_cases h : b < a
  · simp only [h, if_true]; exact ((Std.LawfulOrderLT.lt_iff b a).mp h).1
  · simp only [h, if_false]; exact Std.IsPreorder.le_refl a

theorem pyMin_le_right (a b : V) : pyMin a b ≤ b := by
  unfold pyMin
  by_cases h : b < a
  · simp only [h, if_true]; exact Std.IsPreorder.le_refl b
  · simp only [h, if_false]; exact Std.not_lt.mp h

end pymin

section conn
variable {V : Type}

theorem conn_nil {a b : V} (h : Conn ([] : List (V × V)) a b) : a = b := by
  induction h with
  | refl a => rfl
  | edge h => cases h
  | symm _ ih => exact ih.symm
  | trans _ _ ih1 ih2 => exact ih1.trans ih2

theorem conn_mono {es es' : List (V × V)} (hsub : ∀ e ∈ es, e ∈ es') {a b : V} (h : Conn es a b) :
    Conn es' a b := by
  induction h with
  | refl a => exact .refl a
  | edge h => exact .edge (hsub _ h)
  | symm _ ih => exact .symm ih
  | trans _ _ ih1 ih2 => exact .trans ih1 ih2

theorem conn_snoc_iff (es : List (V × V)) (a b x y : V) :
    Conn (es ++ [(a, b)]) x y ↔
      Conn es x y ∨ ((Conn es x a ∨ Conn es x b) ∧ (Conn es y a ∨ Conn es y b)) := by
  constructor
  · intro h
    induction h with
    | refl a => exact Or.inl (.refl a)
    | edge h =>
      rcases List.mem_append.mp h with h | h
      · exact Or.inl (.edge h)
      · cases List.mem_singleton.mp h
        exact Or.inr ⟨Or.inl (.refl _), Or.inr (.refl _)⟩
    | symm _ ih => exact ih.imp .symm And.symm
    | trans _ _ ih1 ih2 =>
      rcases ih1 with h | ⟨p, q⟩ <;> rcases ih2 with k | ⟨r, t⟩
      · exact Or.inl (h.trans k)
      · exact Or.inr ⟨r.imp h.trans h.trans, t⟩
      · exact Or.inr ⟨p, q.imp k.symm.trans k.symm.trans⟩
      · exact Or.inr ⟨p, t⟩
  · have mono : ∀ {u v}, Conn es u v → Conn (es ++ [(a, b)]) u v :=
      fun h => conn_mono (fun e he => List.mem_append.mpr (Or.inl he)) h
    have toA : ∀ {u}, Conn es u a ∨ Conn es u b → Conn (es ++ [(a, b)]) u a :=
      fun h => h.elim mono fun h => (mono h).trans (Conn.symm (.edge (by simp)))
    rintro (h | ⟨p, q⟩)
    · exact mono h
    · exact (toA p).trans (toA q).symm

end conn

section inv
variable {V : Type} [DecidableEq V] [LE V] [LT V] [DecidableLT V]

/-- What holds of one key `k` in state `σ` after the edges `es` have been processed: the dict has an entry
for `k`, it references a live object `c`, and
* `c.items` is exactly the connected component of `k` (as a duplicate-free list),
* `c.id` is a member of the component and `≤` every member (the least vertex),
* every member of the component references the *same* object (the aliasing the code relies on). -/
def KeyOk (es : List (V × V)) (σ : State V) (k : V) (h : Handle) (c : Component V) : Prop :=
  dictGet σ.components k = some h ∧ σ.heap[h]? = some c ∧
  (∀ v, v ∈ c.items ↔ Conn es k v) ∧ c.items.Nodup ∧
  c.id ∈ c.items ∧ (∀ v ∈ c.items, c.id ≤ v) ∧
  (∀ v ∈ c.items, dictGet σ.components v = some h)

/-- Loop invariant of `for fi, gi in zip(f, g)` after the prefix `es` of edges, over the key set `ks`. -/
def Inv (ks : List V) (es : List (V × V)) (σ : State V) : Prop :=
  ∀ k ∈ ks, ∃ h c, KeyOk es σ k h c

omit [LT V] [DecidableLT V] in
theorem KeyOk.deref {es : List (V × V)} {σ : State V} {k : V} {h : Handle} {c : Component V}
    (hk : KeyOk es σ k h c) : deref σ k = some (h, c) := by
  simp only [CC.deref, hk.1, hk.2.1, Option.bind_eq_bind, Option.bind_some]
  rfl

omit [LT V] [DecidableLT V] in
theorem KeyOk.isLeast {es : List (V × V)} {σ : State V} {k : V} {h : Handle} {c : Component V}
    (hk : KeyOk es σ k h c) : IsLeastOfClass es k c.id :=
  ⟨(hk.2.2.1 _).mp hk.2.2.2.2.1, fun v hv => hk.2.2.2.2.2.1 v ((hk.2.2.1 v).mpr hv)⟩

omit [LE V] in
theorem step_of_deref {σ : State V} {a b : V} {hf hg : Handle} {cf cg : Component V}
    (ea : CC.deref σ a = some (hf, cf)) (eb : CC.deref σ b = some (hg, cg)) :
    step σ (a, b) = some (
      if cf.id = cg.id then σ
      else if cf.items.length ≥ cg.items.length then
        { components := repoint σ.components cg.items hf,
          heap := σ.heap.set hf { id := pyMin cf.id cg.id, items := setUpdate cf.items cg.items } }
      else
        { components := repoint σ.components cf.items hg,
          heap := σ.heap.set hg { id := pyMin cg.id cf.id, items := setUpdate cg.items cf.items } }) := by
  simp only [step, ea, eb, Option.bind_eq_bind, Option.bind_some, ne_eq, ite_not]
  by_cases hid : cf.id = cg.id
  · rw [if_pos hid, if_pos hid]; rfl
  · rw [if_neg hid, if_neg hid]
    by_cases hlen : cf.items.length ≥ cg.items.length
    · rw [if_pos hlen, if_pos hlen]; rfl
    · rw [if_neg hlen, if_neg hlen]; rfl

omit [LT V] [DecidableLT V] in
theorem Inv.congr {ks : List V} {es es' : List (V × V)} {σ : State V}
    (h : ∀ u v, Conn es' u v ↔ Conn es u v) (hinv : Inv ks es σ) : Inv ks es' σ := by
  intro k hk
  obtain ⟨hd, c, k1, k2, k3, k4⟩ := hinv k hk
  exact ⟨hd, c, k1, k2, fun v => (k3 v).trans (h k v).symm, k4⟩

variable [Std.IsLinearOrder V] [Std.LawfulOrderLT V]

omit [LT V] [DecidableLT V] [Std.LawfulOrderLT V] in
theorem inv_init (ks : List V) : Inv ks [] (init ks) := by
  intro k hk
  obtain ⟨i, h1, h2⟩ := dictGet_initFrom ks 0 k hk
  refine ⟨0 + i, Component.new k, h1, ?_, ?_, by simp [Component.new], by simp [Component.new], ?_, ?_⟩
  · simp [init, h2]
  · intro v
    simp only [Component.new, List.mem_singleton]
    constructor
    · rintro rfl; exact .refl _
    · intro h; exact (conn_nil h).symm
  · simp only [Component.new, List.mem_singleton]
    rintro v rfl
    exact Std.IsPreorder.le_refl _
  · simp only [Component.new, List.mem_singleton]
    rintro v rfl
    exact h1

/-- The merge branch of the loop body: `m` (object `hm`, the class of `x`) absorbs `d` (object `hd`, the
class of `y`).  Stated for any edge list `es'` whose connectivity is "`es` plus an edge between `x` and `y`", so that it
serves both orientations of the size test.  (That the two ids differ is not needed for the invariant.) -/
theorem inv_merge {ks : List V} {es es' : List (V × V)} {σ : State V} (hinv : Inv ks es σ)
    (x y : V) (hm hd : Handle) (m d : Component V)
    (hx : KeyOk es σ x hm m) (hy : KeyOk es σ y hd d)
    (hchar : ∀ u v, Conn es' u v ↔
      Conn es u v ∨ ((Conn es u x ∨ Conn es u y) ∧ (Conn es v x ∨ Conn es v y))) :
    Inv ks es'
      { components := repoint σ.components d.items hm,
        heap := σ.heap.set hm { id := pyMin m.id d.id, items := setUpdate m.items d.items } } := by
  obtain ⟨hx1, hx2, hx3, hx4, hx5, hx6, hx7⟩ := hx
  obtain ⟨hy1, hy2, hy3, hy4, hy5, hy6, hy7⟩ := hy
  have hmlt : hm < σ.heap.length := by
    rcases Nat.lt_or_ge hm σ.heap.length with h | h
    · exact h
    · rw [List.getElem?_eq_none h] at hx2; cases hx2
  have A : ∀ v, v ∈ setUpdate m.items d.items ↔ Conn es' x v := by
    intro v
    rw [mem_setUpdate, hx3, hy3, hchar]
    constructor
    · rintro (h | h)
      · exact Or.inl h
      · exact Or.inr ⟨Or.inl (.refl x), Or.inr h.symm⟩
    · rintro (h | ⟨_, h⟩)
      · exact Or.inl h
      · exact h.imp .symm .symm
  have hget : ∀ v, v ∈ setUpdate m.items d.items →
      dictGet (repoint σ.components d.items hm) v = some hm := by
    intro v hv
    rw [dictGet_repoint]
    by_cases hvd : v ∈ d.items
    · rw [if_pos hvd]
    · rw [if_neg hvd]
      exact (mem_setUpdate.mp hv).elim (hx7 v) fun h => absurd h hvd
  have hidmem : pyMin m.id d.id ∈ setUpdate m.items d.items := by
    rw [mem_setUpdate]
    rcases pyMin_eq m.id d.id with e | e <;> rw [e]
    · exact Or.inl hx5
    · exact Or.inr hy5
  have hleast : ∀ v ∈ setUpdate m.items d.items, pyMin m.id d.id ≤ v := by
    intro v hv
    rcases mem_setUpdate.mp hv with h | h
    · exact Std.IsPreorder.le_trans _ _ _ (pyMin_le_left _ _) (hx6 v h)
    · exact Std.IsPreorder.le_trans _ _ _ (pyMin_le_right _ _) (hy6 v h)
  intro k hk
  by_cases hkm : Conn es' x k
  · refine ⟨hm, { id := pyMin m.id d.id, items := setUpdate m.items d.items },
      hget k ((A k).mpr hkm), List.getElem?_set_self hmlt, ?_, nodup_setUpdate hx4 _, hidmem, hleast,
      fun v hv => hget v hv⟩
    intro v
    rw [A]
    exact ⟨fun h => hkm.symm.trans h, fun h => hkm.trans h⟩
  · obtain ⟨h, c, k1, k2, k3, k4, k5, k6, k7⟩ := hinv k hk
    have hkx : ¬ Conn es k x := fun hc => hkm ((hchar x k).mpr (Or.inl hc.symm))
    have hky : ¬ Conn es k y := fun hc => hkm ((hchar x k).mpr (Or.inr ⟨Or.inl (.refl x), Or.inr hc⟩))
    -- `k` references another heap object than the one being overwritten: an object's `items` are exactly the class of
    -- its keys (`k3`, `hx3`), and `x` is not connected to `k`; so the write to `hm` leaves the object of `k` alone
    have hhm : hm ≠ h := by
      intro e; subst e
      rw [hx2] at k2
      injection k2 with e; subst e
      exact hkx ((k3 x).mp ((hx3 x).mpr (.refl x)))
    refine ⟨h, c, ?_, ?_, ?_, k4, k5, k6, ?_⟩
    · rw [dictGet_repoint]
      rw [if_neg fun hin => hky ((hy3 k).mp hin).symm, k1]
    · show (σ.heap.set hm _)[h]? = some c
      rw [List.getElem?_set_ne hhm, k2]
    · intro v
      rw [k3, hchar]
      exact ⟨Or.inl, fun h => h.elim id fun h => h.1.elim (absurd · hkx) (absurd · hky)⟩
    · intro v hv
      rw [dictGet_repoint]
      rw [if_neg fun hin => hky (((k3 v).mp hv).trans ((hy3 v).mp hin).symm), k7 v hv]

theorem inv_step {ks : List V} {es : List (V × V)} {σ : State V} (hinv : Inv ks es σ)
    (a b : V) (ha : a ∈ ks) (hb : b ∈ ks) :
    ∃ σ', step σ (a, b) = some σ' ∧ Inv ks (es ++ [(a, b)]) σ' := by
  obtain ⟨hf, cf, hfo⟩ := hinv a ha
  obtain ⟨hg, cg, hgo⟩ := hinv b hb
  refine ⟨_, step_of_deref hfo.deref hgo.deref, ?_⟩
  split
  · -- equal ids: `a` and `b` are connected already, the new edge changes nothing
    have hab : Conn es a b := hfo.isLeast.1.trans (‹cf.id = cg.id› ▸ hgo.isLeast.1.symm)
    have toA : ∀ {u}, Conn es u a ∨ Conn es u b → Conn es u a := fun h => h.elim id (·.trans hab.symm)
    refine hinv.congr fun u v => (conn_snoc_iff es a b u v).trans ⟨?_, Or.inl⟩
    rintro (h | ⟨p, q⟩)
    · exact h
    · exact (toA p).trans (toA q).symm
  · split
    · exact inv_merge hinv a b hf hg cf cg hfo hgo (conn_snoc_iff es a b)
    · exact inv_merge hinv b a hg hf cg cf hgo hfo fun u v =>
        (conn_snoc_iff es a b u v).trans (or_congr_right (and_congr or_comm or_comm))

theorem inv_run {ks : List V} (rest : List (V × V)) (hrest : ∀ e ∈ rest, e.1 ∈ ks ∧ e.2 ∈ ks)
    {es : List (V × V)} {σ : State V} (hinv : Inv ks es σ) :
    ∃ σ', runEdges σ rest = some σ' ∧ Inv ks (es ++ rest) σ' := by
  induction rest generalizing es σ with
  | nil => exact ⟨σ, by simp [runEdges], by simpa using hinv⟩
  | cons e rest ih =>
    obtain ⟨a, b⟩ := e
    have hab := hrest (a, b) (by simp)
    obtain ⟨σ1, hs1, hinv1⟩ := inv_step hinv a b hab.1 hab.2
    obtain ⟨σ2, hs2, hinv2⟩ := ih (fun e he => hrest e (List.mem_cons_of_mem _ he)) hinv1
    refine ⟨σ2, ?_, by simpa using hinv2⟩
    simp only [runEdges, List.foldlM_cons, hs1] at hs2 ⊢
    exact hs2

omit [LT V] [DecidableLT V] [Std.IsLinearOrder V] [Std.LawfulOrderLT V] in
theorem assignments_spec {ks : List V} {es : List (V × V)} {σ : State V} (hinv : Inv ks es σ)
    (f : List V) (hf : ∀ v ∈ f, v ∈ ks) :
    ∃ labels, assignments σ f = some labels ∧ labels.length = f.length ∧
      ∀ i (h1 : i < f.length) (h2 : i < labels.length), IsLeastOfClass es f[i] labels[i] := by
  induction f with
  | nil => exact ⟨[], by simp [assignments], rfl, fun i h1 => absurd h1 (Nat.not_lt_zero i)⟩
  | cons k f ih =>
    obtain ⟨ls, hl1, hl2, hl3⟩ := ih (fun v hv => hf v (List.mem_cons_of_mem _ hv))
    obtain ⟨h, c, hk⟩ := hinv k (hf k List.mem_cons_self)
    refine ⟨c.id :: ls, ?_, by rw [List.length_cons, List.length_cons, hl2], ?_⟩
    · unfold assignments at hl1 ⊢
      rw [List.mapM_cons, hl1, hk.deref]
      rfl
    · intro i h1 h2
      cases i with
      | zero => exact hk.isLeast
      | succ i => simpa using hl3 i (by simpa using h1) (by simpa using h2)

/-- `connected_components(f, g)`, for any enumeration `ks` of a key set that contains every vertex of `f` and
`g`: no `KeyError`, one label per element of `f`, and label `i` is the least vertex of the component of `f[i]`
in the graph with edge list `zip(f, g)`. -/
theorem cc_spec (ks f g : List V) (hks : ∀ v, v ∈ f ∨ v ∈ g → v ∈ ks) :
    ∃ labels, connectedComponentsWith ks f g = some labels ∧ labels.length = f.length ∧
      ∀ i (h1 : i < f.length) (h2 : i < labels.length), IsLeastOfClass (f.zip g) f[i] labels[i] := by
  have hz : ∀ e ∈ f.zip g, e.1 ∈ ks ∧ e.2 ∈ ks := by
    rintro ⟨a, b⟩ he
    have := List.of_mem_zip he
    exact ⟨hks a (Or.inl this.1), hks b (Or.inr this.2)⟩
  obtain ⟨σ, hs, hinv⟩ := inv_run (f.zip g) hz (inv_init ks)
  simp only [List.nil_append] at hinv
  obtain ⟨ls, hl1, hl2, hl3⟩ := assignments_spec hinv f (fun v hv => hks v (Or.inl hv))
  exact ⟨ls, by simp [connectedComponentsWith, hs, hl1], hl2, hl3⟩

omit [DecidableEq V] [LT V] [DecidableLT V] [Std.LawfulOrderLT V] in
theorem isLeast_unique {es : List (V × V)} {a m m' : V} (h : IsLeastOfClass es a m)
    (h' : IsLeastOfClass es a m') : m = m' :=
  Std.IsPartialOrder.le_antisymm _ _ (h.2 _ h'.1) (h'.2 _ h.1)

omit [DecidableEq V] [LT V] [DecidableLT V] [Std.IsLinearOrder V] [Std.LawfulOrderLT V] in
theorem isLeast_congr {es : List (V × V)} {a b m : V} (hab : Conn es a b) (h : IsLeastOfClass es a m) :
    IsLeastOfClass es b m :=
  ⟨hab.symm.trans h.1, fun v hv => h.2 v (hab.trans hv)⟩

end inv
end DAVerif.CC
