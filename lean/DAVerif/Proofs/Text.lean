import DAVerif.Text.Lex
/-!
Helper lemmas for C14 (`Props/C14.lean`): the string / identifier lexers undo the quoting functions,
`_clean_annotation` leaves no line break, and the step lemmas of the token stream `lexSql`.

The vocabulary in which the statements about generated SQL are made is defined here: a `Piece` is a bare word, a
punctuation character, `-`, a blank, a line break, `quote_string(s)` or `quote_identifier(s)`; `renderPs` is the text
of a piece list and `toksPs` its tokens; `Good d ps` (every piece valid, neighbours well spaced) gives
`lexSql d (renderPs d ps ++ rest) = toksPs ps ++ …` (`Good.lexes`).
-/
namespace DAVerif.Text

theorem pyReplace_append (c : Char) (r a b : List Char) :
    pyReplace c r (a ++ b) = pyReplace c r a ++ pyReplace c r b := by
  induction a with
  | nil => rfl
  | cons x xs ih => by_cases h : x = c <;> simp [pyReplace, h, ih]

theorem pyReplace_of_not_mem {c : Char} (r : List Char) {s : List Char} (h : c ∉ s) : pyReplace c r s = s := by
  induction s with
  | nil => rfl
  | cons x xs ih =>
    have hx : x ≠ c := fun e => h (by simp [e])
    have : c ∉ xs := fun e => h (by simp [e])
    simp [pyReplace, hx, ih this]

/-- `enc` is a quoting function (a chain of `pyReplace`, a homomorphism by `pyReplace_append`), `L` one of the body
lexers: the one induction behind every round trip. -/
theorem body_roundtrip {L : List Char → Option (List Char × List Char)} (enc : List Char → List Char) {q : Char}
    {s rest : List Char} (happ : ∀ a b, enc (a ++ b) = enc a ++ enc b)
    (hstep : ∀ c ∈ s, ∀ cs, L (enc [c] ++ cs) = consVal [c] (L cs)) (hend : L (q :: rest) = some ([], rest)) :
    L (enc s ++ q :: rest) = some (s, rest) := by
  induction s with
  | nil => rwa [List.self_eq_append_right.1 (happ [] []), List.nil_append]
  | cons x xs ih =>
    rw [← List.singleton_append, happ, List.append_assoc, hstep x List.mem_cons_self,
      ih fun c hc => hstep c (List.mem_cons_of_mem _ hc)]
    rfl

theorem lexBodyStd_cons_ne {q c : Char} (cs : List Char) (h : c ≠ q) :
    lexBodyStd q (c :: cs) = consVal [c] (lexBodyStd q cs) := by
  rw [lexBodyStd.eq_def]; simp [h]

theorem lexBodyStd_qq (q : Char) (cs : List Char) :
    lexBodyStd q (q :: q :: cs) = consVal [q] (lexBodyStd q cs) := by
  rw [lexBodyStd.eq_def]; simp

theorem lexBodyStd_end (q : Char) (rest : List Char) (h : rest.head? ≠ some q) :
    lexBodyStd q (q :: rest) = some ([], rest) := by
  rw [lexBodyStd.eq_def]
  cases rest with
  | nil => simp
  | cons c2 cs2 =>
    have : c2 ≠ q := by simpa using h
    simp [this]

theorem lexBodyStd_roundtrip (q : Char) (s rest : List Char) (h : rest.head? ≠ some q) :
    lexBodyStd q (pyReplace q [q, q] s ++ q :: rest) = some (s, rest) :=
  body_roundtrip _ (pyReplace_append q _) (lexBodyStd_end q rest h) (hstep := fun x _ cs => by
    by_cases hx : x = q
    · subst hx; simp [pyReplace, lexBodyStd_qq]
    · simp [pyReplace, hx, lexBodyStd_cons_ne _ hx])

theorem lexBodyMy_cons_plain {q c : Char} (cs : List Char) (h : c ≠ q) (h2 : c ≠ '\\') :
    lexBodyMy q (c :: cs) = consVal [c] (lexBodyMy q cs) := by
  rw [lexBodyMy.eq_def]; simp [h, h2]

theorem lexBodyMy_qq (q : Char) (cs : List Char) :
    lexBodyMy q (q :: q :: cs) = consVal [q] (lexBodyMy q cs) := by
  rw [lexBodyMy.eq_def]; simp

theorem lexBodyMy_esc {q : Char} (e : Char) (cs : List Char) (h : '\\' ≠ q) :
    lexBodyMy q ('\\' :: e :: cs) = consVal (mysqlEsc e) (lexBodyMy q cs) := by
  rw [lexBodyMy.eq_def]; simp [h]

theorem lexBodyMy_end (q : Char) (rest : List Char) (h : rest.head? ≠ some q) :
    lexBodyMy q (q :: rest) = some ([], rest) := by
  rw [lexBodyMy.eq_def]
  cases rest with
  | nil => simp
  | cons c2 cs2 =>
    have : c2 ≠ q := by simpa using h
    simp [this]

theorem lexBodyMy_roundtrip (s rest : List Char) (h : rest.head? ≠ some '\'') :
    lexBodyMy '\'' (pyReplace '\'' ['\'', '\''] (pyReplace '\\' ['\\', '\\'] s) ++ '\'' :: rest) = some (s, rest) :=
  body_roundtrip (fun s => pyReplace '\'' ['\'', '\''] (pyReplace '\\' ['\\', '\\'] s))
    (fun a b => by simp only [pyReplace_append]) (lexBodyMy_end '\'' rest h) (hstep := fun x _ cs => by
    by_cases h1 : x = '\\'
    · subst h1; simp [pyReplace, lexBodyMy_esc, mysqlEsc]
    · by_cases h2 : x = '\''
      · subst h2; simp [pyReplace, lexBodyMy_qq]
      · simp [pyReplace, h1, h2, lexBodyMy_cons_plain _ h2 h1])

theorem lexBodySpark_cons_plain {q c : Char} (cs : List Char) (h : c ≠ q) (h2 : c ≠ '\\') :
    lexBodySpark q (c :: cs) = consVal [c] (lexBodySpark q cs) := by
  rw [lexBodySpark.eq_def]; simp [h, h2]

theorem lexBodySpark_esc {q : Char} (e : Char) (cs : List Char) (h : '\\' ≠ q)
    (h1 : e ≠ 'u') (h2 : e ≠ 'U') (h3 : e ≠ '0') (h4 : e ≠ '1') :
    lexBodySpark q ('\\' :: e :: cs) = consVal (sparkEsc e) (lexBodySpark q cs) := by
  rw [lexBodySpark.eq_def]
  simp only [h, if_false, if_true, h1, h2, h3, h4, or_self]
  split <;> rfl

theorem lexBodySpark_end (q : Char) (rest : List Char) (h : rest.head? ≠ some q) :
    lexBodySpark q (q :: rest) = some ([], rest) := by
  rw [lexBodySpark.eq_def]
  cases rest with
  | nil => simp
  | cons c2 cs2 =>
    have : c2 ≠ q := by simpa using h
    simp [this]

theorem lexBodySpark_roundtrip (s rest : List Char) (h : rest.head? ≠ some '"') :
    lexBodySpark '"' (pyReplace '"' ['\\', '"'] (pyReplace '\\' ['\\', '\\'] s) ++ '"' :: rest) = some (s, rest) :=
  body_roundtrip (fun s => pyReplace '"' ['\\', '"'] (pyReplace '\\' ['\\', '\\'] s))
    (fun a b => by simp only [pyReplace_append]) (lexBodySpark_end '"' rest h) (hstep := fun x _ cs => by
    have esc := fun e h1 h2 h3 h4 => lexBodySpark_esc (q := '"') e cs (by decide) h1 h2 h3 h4
    by_cases h1 : x = '\\'
    · subst h1; simp [pyReplace, esc '\\' (by decide) (by decide) (by decide) (by decide), sparkEsc]
    · by_cases h2 : x = '"'
      · subst h2; simp [pyReplace, esc '"' (by decide) (by decide) (by decide) (by decide), sparkEsc]
      · simp [pyReplace, h1, h2, lexBodySpark_cons_plain _ h2 h1])

theorem lexBodyBq_cons_plain {q c : Char} (cs : List Char) (h : c ≠ q) (h2 : c ≠ '\\') (h3 : c ≠ '\n') (h4 : c ≠ '\r') :
    lexBodyBq q (c :: cs) = consVal [c] (lexBodyBq q cs) := by
  rw [lexBodyBq.eq_def]; simp [h, h2, h3, h4]

theorem lexBodyBq_esc {q : Char} (e ch : Char) (cs : List Char) (h : '\\' ≠ q)
    (h1 : e ≠ 'x') (h2 : e ≠ 'X') (h3 : e ≠ 'u') (h4 : e ≠ 'U') (h5 : octVal e = none) (h6 : bqEsc e = some ch) :
    lexBodyBq q ('\\' :: e :: cs) = consVal [ch] (lexBodyBq q cs) := by
  rw [lexBodyBq.eq_def]
  simp [h, h1, h2, h3, h4, h5, h6]

theorem lexBodyBq_end (q : Char) (rest : List Char) :
    lexBodyBq q (q :: rest) = some ([], rest) := by
  rw [lexBodyBq.eq_def]; simp

/-- what BigQuery's `quote_string` (`q = '"'`) puts between the quotes; also what its `quote_identifier` (`q` the
backtick) puts there, since a name in scope does not contain `q` and the replacement of `q` does nothing -/
def bqEscStr (q : Char) (s : List Char) : List Char :=
  pyReplace '\r' ['\\', 'r'] (pyReplace '\n' ['\\', 'n'] (pyReplace q ['\\', q] (pyReplace '\\' ['\\', '\\'] s)))

theorem lexBodyBq_roundtrip (q : Char) (hq : q = '"' ∨ q = '`') (s rest : List Char) :
    lexBodyBq q (bqEscStr q s ++ q :: rest) = some (s, rest) := by
  have hqs : ∀ k ∈ ['"', '`'], k ∉ ['\\', '\n', '\r', 'n', 'r', 'x', 'X', 'u', 'U'] ∧ octVal k = none ∧ bqEsc k = some k := by
    decide
  obtain ⟨hq1, hq5, hq6⟩ := hqs q (by simpa using hq)
  simp only [List.mem_cons, List.not_mem_nil, or_false, not_or] at hq1
  obtain ⟨b1, b2, b3, b4, b5, b6, b7, b8, b9⟩ := hq1
  refine body_roundtrip (bqEscStr q) (fun a b => by simp only [bqEscStr, pyReplace_append]) (lexBodyBq_end q rest)
    (hstep := fun x _ cs => ?_)
  have esc := fun e ch h1 h2 h3 h4 h5 h6 => lexBodyBq_esc (q := q) e ch cs (Ne.symm b1) h1 h2 h3 h4 h5 h6
  unfold bqEscStr
  by_cases h1 : x = '\\'
  · subst h1
    simp [pyReplace, Ne.symm b1, esc '\\' '\\' (by decide) (by decide) (by decide) (by decide) (by decide) (by decide)]
  · by_cases h2 : x = q
    · subst h2
      simp [pyReplace, b1, b2, b3, esc x x b6 b7 b8 b9 hq5 hq6]
    · by_cases h3 : x = '\n'
      · subst h3
        simp [pyReplace, h2, esc 'n' '\n' (by decide) (by decide) (by decide) (by decide) (by decide) (by decide)]
      · by_cases h4 : x = '\r'
        · subst h4
          simp [pyReplace, h2, esc 'r' '\r' (by decide) (by decide) (by decide) (by decide) (by decide) (by decide)]
        · simp [pyReplace, h1, h2, h3, h4, lexBodyBq_cons_plain _ h2 h1 h3 h4]

theorem mem_pyLstrip {c : Char} {s : List Char} (h : c ∈ pyLstrip s) : c ∈ s := by
  induction s with
  | nil => simp [pyLstrip] at h
  | cons x xs ih =>
    simp only [pyLstrip] at h
    split at h
    · exact List.mem_cons_of_mem _ (ih h)
    · exact h

theorem mem_pyRstrip {c : Char} {s : List Char} (h : c ∈ pyRstrip s) : c ∈ s := by
  simp only [pyRstrip, List.mem_reverse] at h
  simpa using mem_pyLstrip h

theorem mem_pyStrip {c : Char} {s : List Char} (h : c ∈ pyStrip s) : c ∈ s :=
  mem_pyLstrip (mem_pyRstrip h)

theorem mem_pyReplace {c x : Char} {r s : List Char} (h : x ∈ pyReplace c r s) : x ∈ r ∨ (x ∈ s ∧ x ≠ c) := by
  induction s with
  | nil => simp [pyReplace] at h
  | cons y ys ih =>
    have tail := fun h => (ih h).imp_right (And.imp_left (List.mem_cons_of_mem y))
    simp only [pyReplace] at h
    split at h
    · exact (List.mem_append.mp h).elim .inl tail
    · rename_i hy
      rcases List.mem_cons.mp h with rfl | h
      · exact .inr ⟨List.mem_cons_self, hy⟩
      · exact tail h

theorem mem_collapseWs {x : Char} {b : Bool} {s : List Char} (h : x ∈ collapseWs b s) :
    x = ' ' ∨ (x ∈ s ∧ isPySpace x = false) := by
  induction s generalizing b with
  | nil => simp [collapseWs] at h
  | cons y ys ih =>
    have tail := fun b (h : x ∈ collapseWs b ys) => (ih h).imp_right (And.imp_left (List.mem_cons_of_mem y))
    simp only [collapseWs] at h
    split at h
    · split at h
      · exact tail _ h
      · exact (List.mem_cons.mp h).elim .inl (tail _)
    · rename_i hy
      rcases List.mem_cons.mp h with rfl | h
      · exact .inr ⟨List.mem_cons_self, by simpa using hy⟩
      · exact tail _ h

theorem cleanAnnotation_space {a : List Char} {x : Char} (h : x ∈ cleanAnnotation a) (hs : isPySpace x = true) :
    x = ' ' := by
  have h1 := mem_pyStrip h
  rcases mem_pyReplace h1 with h2 | ⟨h2, _⟩
  · exfalso
    have : ∀ y ∈ "percent".toList, isPySpace y = false := by decide +kernel
    simp [this x h2] at hs
  · rcases mem_collapseWs h2 with h3 | ⟨_, h3⟩
    · exact h3
    · simp [h3] at hs

theorem pyLstrip_shape (s : List Char) :
    pyLstrip s = [] ∨ ∃ c cs, pyLstrip s = c :: cs ∧ isPySpace c = false := by
  induction s with
  | nil => simp [pyLstrip]
  | cons x xs ih =>
    simp only [pyLstrip]
    split
    · exact ih
    · exact .inr ⟨x, xs, rfl, by simpa using ‹¬ _ = true›⟩

theorem pyRstrip_append_last (t : List Char) (c : Char) (h : isPySpace c = false) :
    pyRstrip (t ++ [c]) = t ++ [c] := by
  simp [pyRstrip, pyLstrip, h]

theorem pyStrip_shape (t : List Char) :
    pyStrip t = [] ∨ ∃ u c, pyStrip t = u ++ [c] ∧ isPySpace c = false := by
  unfold pyStrip pyRstrip
  rcases pyLstrip_shape (pyLstrip t).reverse with h | ⟨c, cs, h, hc⟩
  · simp [h]
  · exact .inr ⟨cs.reverse, c, by simp [h], hc⟩

theorem skipComment_body {d : Dialect} (body rest : List Char) (hb : ∀ c ∈ body, commentEnd d c = false)
    (hsp : d = .spark → body.getLast? ≠ some '\\') :
    skipComment d (body ++ '\n' :: rest) = '\n' :: rest := by
  have hnl : commentEnd d '\n' = true := by cases d <;> rfl
  induction body with
  | nil =>
    rw [List.nil_append, skipComment.eq_def]
    cases rest with
    | nil => simp [hnl]
    | cons c2 cs2 => simp [hnl]
  | cons x xs ih =>
    have hx : commentEnd d x = false := hb x (by simp)
    have ih' := ih (fun c hc => hb c (by simp [hc]))
    rw [List.cons_append, skipComment.eq_def]
    cases hxs : xs with
    | nil =>
      subst hxs
      have : ¬ (d = .spark ∧ x = '\\') := by
        rintro ⟨h1, h2⟩; subst h2; exact hsp h1 (by simp)
      simp only [List.nil_append]
      have ih'' := ih' (fun h => by simp)
      simp only [List.nil_append] at ih''
      by_cases h1 : d = .spark
      · have h2 : x ≠ '\\' := fun h => this ⟨h1, h⟩
        simp [h1, h2]
        subst h1; simpa [hx] using ih''
      · simp [h1, hx, ih'']
    | cons y ys =>
      subst hxs
      have hy : y ≠ '\n' := by
        intro h; subst h; have := hb '\n' (by simp); simp [hnl] at this
      have ih'' := ih' (fun h => by simpa using hsp h)
      simp only [List.cons_append] at ih'' ⊢
      simp [hy, hx, ih'']

theorem lexSql_ws {d : Dialect} {c : Char} (cs : List Char) (h : isWs d c = true) :
    lexSql d (c :: cs) = lexSql d cs := by
  rw [lexSql.eq_2, if_pos h]

/-- the characters at which some dialect's tokenizer starts something other than a word or a one-character symbol,
blanks apart: `-`, the quotes, and the first characters of what `notHandled` refuses -/
def marks : List Char := ['-', '\'', '"', '`', '/', '[', '$', '&', '#']

/-- `c` is no blank of any dialect and none of the `marks` -/
abbrev Plain (c : Char) : Prop := 32 < c.toNat ∧ c.toNat ≠ 160 ∧ c ∉ marks

theorem isWs_bound {d : Dialect} {c : Char} (h : isWs d c = true) : c.toNat ≤ 32 ∨ c.toNat = 160 := by
  cases d <;> simp only [isWs, Bool.or_eq_true, Bool.and_eq_true, beq_iff_eq, decide_eq_true_eq] at h <;> omega

theorem quote_mem_marks (d : Dialect) : ∀ q ∈ strQuotes d ++ idQuotes d, q ∈ marks := by cases d <;> decide

theorem plain_facts {c : Char} (h : Plain c) (d : Dialect) (cs : List Char) :
    isWs d c = false ∧ c ≠ '-' ∧ c ∉ strQuotes d ∧ c ∉ idQuotes d ∧ notHandled d c cs = false := by
  obtain ⟨h1, h2, h3⟩ := h
  refine ⟨?_, ?_, fun hq => h3 (quote_mem_marks d c (List.mem_append_left _ hq)),
    fun hq => h3 (quote_mem_marks d c (List.mem_append_right _ hq)), ?_⟩
  · cases hw : isWs d c with
    | false => rfl
    | true => have := isWs_bound hw; omega
  · rintro rfl; exact h3 (by decide)
  · simp only [marks, List.mem_cons, List.not_mem_nil, or_false, not_or] at h3
    cases d <;> simp [notHandled, h3]

theorem strQuote_facts {d : Dialect} {q : Char} (h : q ∈ strQuotes d) : isWs d q = false ∧ q ≠ '-' :=
  (by cases d <;> decide : ∀ q ∈ strQuotes d, isWs d q = false ∧ q ≠ '-') q h

theorem idQuote_facts {d : Dialect} {q : Char} (h : q ∈ idQuotes d) :
    isWs d q = false ∧ q ≠ '-' ∧ q ∉ strQuotes d :=
  (by cases d <;> decide : ∀ q ∈ idQuotes d, isWs d q = false ∧ q ≠ '-' ∧ q ∉ strQuotes d) q h

theorem lexSql_str {d : Dialect} {q : Char} {cs s r : List Char} (hq : q ∈ strQuotes d)
    (hl : lexString d (q :: cs) = some (s, r)) (hlen : r.length < (q :: cs).length) :
    lexSql d (q :: cs) = (lexSql d r).map (Tok.str s :: ·) := by
  obtain ⟨h1, h2⟩ := strQuote_facts hq
  rw [lexSql.eq_2]; simp only [List.length_cons] at hlen; simp [h1, h2, hq, hl, hlen]

theorem lexSql_ident {d : Dialect} {q : Char} {cs s r : List Char} (hq : q ∈ idQuotes d)
    (hl : lexIdent d (q :: cs) = some (s, r)) (hlen : r.length < (q :: cs).length) :
    lexSql d (q :: cs) = (lexSql d r).map (Tok.ident s :: ·) := by
  obtain ⟨h1, h2, h3⟩ := idQuote_facts hq
  rw [lexSql.eq_2]; simp only [List.length_cons] at hlen; simp [h1, h2, h3, hq, hl, hlen]

theorem lexSql_sym {d : Dialect} {c : Char} {cs : List Char} (h1 : isWs d c = false)
    (h2 : c = '-' → cs.head? ≠ some '-') (h3 : c ∉ strQuotes d) (h4 : c ∉ idQuotes d)
    (h5 : notHandled d c cs = false) (h6 : isWordChar c = false) :
    lexSql d (c :: cs) = (lexSql d cs).map (Tok.sym c :: ·) := by
  have h2' : ¬ (c = '-' ∧ cs.head? = some '-' ∧ startsComment d (cs.drop 1) = true) := fun h => h2 h.1 h.2.1
  rw [lexSql.eq_2]
  simp only [h1, h2', h3, h4, h5, h6, if_false, Bool.false_eq_true]

/-- punctuation the generated SQL uses outside quotes -/
def isPunct (c : Char) : Bool := c == '(' || c == ')' || c == ',' || c == '=' || c == '.' || c == '*'

theorem mem_of_isPunct {c : Char} (h : isPunct c = true) : c ∈ ['(', ')', ',', '=', '.', '*'] := by
  simpa [isPunct, or_assoc] using h

theorem lexSql_punct {d : Dialect} {c : Char} (cs : List Char) (h : isPunct c = true) :
    lexSql d (c :: cs) = (lexSql d cs).map (Tok.sym c :: ·) := by
  have : ∀ k ∈ ['(', ')', ',', '=', '.', '*'], Plain k ∧ isWordChar k = false := by decide
  obtain ⟨hp, h6⟩ := this c (mem_of_isPunct h)
  obtain ⟨h1, h2, h3, h4, h5⟩ := plain_facts hp d cs
  exact lexSql_sym h1 (fun e => absurd e h2) h3 h4 h5 h6

theorem lexSql_minus {d : Dialect} (cs : List Char) (h : cs.head? ≠ some '-') :
    lexSql d ('-' :: cs) = (lexSql d cs).map (Tok.sym '-' :: ·) :=
  lexSql_sym (by cases d <;> rfl) (fun _ => h) (by cases d <;> decide) (by cases d <;> decide)
    (by cases d <;> rfl) (by decide)

def isAsciiWord (c : Char) : Bool :=
  isDigit c || (65 ≤ c.toNat && c.toNat ≤ 90) || (97 ≤ c.toNat && c.toNat ≤ 122) || c.toNat == 95

theorem isWordChar_of_ascii {c : Char} (h : isAsciiWord c = true) : isWordChar c = true := by
  have : isWordChar c = (isAsciiWord c || decide (128 ≤ c.toNat)) := rfl
  rw [this, h]; rfl

theorem plain_of_asciiWord {c : Char} (h : isAsciiWord c = true) : Plain c := by
  refine ⟨?_, ?_, fun hm => ?_⟩
  · simp only [isAsciiWord, isDigit, Bool.or_eq_true, Bool.and_eq_true, decide_eq_true_eq, beq_iff_eq] at h; omega
  · simp only [isAsciiWord, isDigit, Bool.or_eq_true, Bool.and_eq_true, decide_eq_true_eq, beq_iff_eq] at h; omega
  · exact Bool.false_ne_true (((by decide : ∀ k ∈ marks, isAsciiWord k = false) c hm).symm.trans h)

theorem takeWhile_word (w rest : List Char) (hw : ∀ c ∈ w, isAsciiWord c = true)
    (hr : ∀ c, rest.head? = some c → isWordChar c = false) :
    (w ++ rest).takeWhile isWordChar = w ∧ (w ++ rest).dropWhile isWordChar = rest := by
  induction w with
  | nil =>
    cases rest with
    | nil => simp
    | cons c cs => have := hr c rfl; simp [this]
  | cons x xs ih =>
    have hx := isWordChar_of_ascii (hw x (by simp))
    have := ih (fun c hc => hw c (by simp [hc]))
    simp [hx, this]

def wordEnd (d : Dialect) (rest : List Char) : Prop :=
  ∀ c, rest.head? = some c → isWordChar c = false ∧ c ∉ strQuotes d

theorem lexSql_word {d : Dialect} (w rest : List Char) (hne : w ≠ []) (hw : ∀ c ∈ w, isAsciiWord c = true)
    (hr : wordEnd d rest) : lexSql d (w ++ rest) = (lexSql d rest).map (mkWord w :: ·) := by
  cases w with
  | nil => exact absurd rfl hne
  | cons c w' =>
    have hc := hw c (by simp)
    obtain ⟨h1, h2, h3, h4, h5⟩ := plain_facts (plain_of_asciiWord hc) d (w' ++ rest)
    obtain ⟨t1, t2⟩ := takeWhile_word w' rest (fun c hc => hw c (by simp [hc])) (fun c hc => (hr c hc).1)
    rw [List.cons_append, lexSql.eq_2]
    simp only [h1, h2, h3, h4, h5, isWordChar_of_ascii hc, t1, t2]
    cases hrest : rest.head? with
    | none => simp
    | some q => simp [(hr q hrest).2]

/-- the text `quote_identifier` returns when it does not raise -/
def identText (d : Dialect) (s : List Char) : List Char :=
  match d with
  | .bigquery => d.identQuote :: pyReplace '\r' ['\\', 'r'] (pyReplace '\n' ['\\', 'n'] (pyReplace '\\' ['\\', '\\'] s))
      ++ [d.identQuote]
  | _ => d.identQuote :: s ++ [d.identQuote]

/-- scope of the identifier claims: no identifier quote inside; not empty where the dialect forbids it -/
def IdentOk (d : Dialect) (s : List Char) : Prop :=
  d.identQuote ∉ s ∧ ((d = .postgres ∨ d = .bigquery) → s ≠ [])

theorem quoteIdent_ok {d : Dialect} {s : List Char} (h : d.identQuote ∉ s) : quoteIdent d s = .ok (identText d s) := by
  cases d <;> simp [quoteIdent, quoteIdentBase, identText, h]

theorem identQuote_mem (d : Dialect) : d.identQuote ∈ idQuotes d := by cases d <;> decide
theorem stringQuote_mem (d : Dialect) : d.stringQuote ∈ strQuotes d := by cases d <;> decide

theorem lexBodyStd_plain {q : Char} {s : List Char} (rest : List Char) (h : q ∉ s) (hr : rest.head? ≠ some q) :
    lexBodyStd q (s ++ q :: rest) = some (s, rest) := by
  have := lexBodyStd_roundtrip q s rest hr
  rwa [pyReplace_of_not_mem _ h] at this

/-- the guard "a quoted identifier is not empty" of `lexIdent` (PostgreSQL, BigQuery) lets a non-empty name pass -/
theorem nonempty_guard {s : List Char} (rest : List Char) (hs : s ≠ []) :
    (match some (s, rest) with
      | some ([], _) => none
      | r => r) = some (s, rest) := by
  cases s with
  | nil => exact absurd rfl hs
  | cons x xs => rfl

theorem lexIdent_identText {d : Dialect} {s : List Char} (h : IdentOk d s) (rest : List Char)
    (hr : rest.head? ≠ some d.identQuote) : lexIdent d (identText d s ++ rest) = some (s, rest) := by
  obtain ⟨h1, h2⟩ := h
  cases d
  case bigquery =>
    have hb := lexBodyBq_roundtrip '`' (.inr rfl) s rest
    simp only [bqEscStr, pyReplace_of_not_mem _ (show '`' ∉ pyReplace '\\' ['\\', '\\'] s from by
      intro hm; rcases mem_pyReplace hm with hm | hm
      · simp at hm
      · exact h1 hm.1)] at hb
    simp only [identText, Dialect.identQuote, List.cons_append, List.append_assoc, lexIdent,
      idQuotes, List.mem_singleton, if_true, List.nil_append, hb]
    exact nonempty_guard rest (h2 (.inr rfl))
  case postgres =>
    simp only [identText, Dialect.identQuote, List.cons_append, List.append_assoc, lexIdent,
      idQuotes, List.mem_singleton, if_true, List.nil_append, lexBodyStd_plain (q := '"') rest h1 hr]
    exact nonempty_guard rest (h2 (.inl rfl))
  all_goals
    have hb := lexBodyStd_plain rest h1 hr
    simp [identText, Dialect.identQuote, lexIdent, idQuotes, hb] at hb ⊢
    try exact hb

theorem lexString_quoteString (d : Dialect) (s rest : List Char) (hr : rest.head? ≠ some d.stringQuote) :
    lexString d (quoteString d s ++ rest) = some (s, rest) := by
  cases d
  case sqlite =>
    have := lexBodyStd_roundtrip '\'' s rest hr
    simpa [quoteString, quoteStringBase, Dialect.stringQuote, lexString, strQuotes] using this
  case postgres =>
    have := lexBodyStd_roundtrip '\'' s rest hr
    simpa [quoteString, quoteStringBase, Dialect.stringQuote, lexString, strQuotes] using this
  case mysql =>
    have := lexBodyMy_roundtrip s rest hr
    simpa [quoteString, Dialect.stringQuote, lexString, strQuotes] using this
  case spark =>
    have := lexBodySpark_roundtrip s rest hr
    simpa [quoteString, Dialect.stringQuote, lexString, strQuotes] using this
  case bigquery =>
    have hb := lexBodyBq_roundtrip '"' (.inl rfl) s rest
    have hq : quoteString .bigquery s ++ rest = '"' :: (bqEscStr '"' s ++ '"' :: rest) := by
      simp [quoteString, Dialect.stringQuote, bqEscStr]
    rw [hq]
    simp only [lexString, strQuotes, List.mem_cons, List.not_mem_nil, or_false, or_true, if_true]
    cases hbody : bqEscStr '"' s ++ '"' :: rest with
    | nil => simp at hbody
    | cons c2 t =>
      rw [hbody] at hb
      cases t with
      | nil => exact hb
      | cons c3 t' =>
        -- a body that began with two quotes would be read as the empty string followed by a quote
        have : ¬ (c2 = '"' ∧ c3 = '"') := by
          rintro ⟨rfl, rfl⟩
          rw [lexBodyBq_end] at hb
          obtain ⟨rfl, rfl⟩ : [] = s ∧ '"' :: t' = rest := by simpa using hb
          exact hr rfl
        simp only [this, if_false]; exact hb

theorem quoteString_cons (d : Dialect) (s : List Char) : ∃ cs, quoteString d s = d.stringQuote :: cs := by
  cases d <;> exact ⟨_, rfl⟩

theorem identText_cons (d : Dialect) (s : List Char) : ∃ cs, identText d s = d.identQuote :: cs := by
  cases d <;> exact ⟨_, rfl⟩

theorem lexSql_quoteString (d : Dialect) (s rest : List Char) (hr : rest.head? ≠ some d.stringQuote) :
    lexSql d (quoteString d s ++ rest) = (lexSql d rest).map (Tok.str s :: ·) := by
  have hl := lexString_quoteString d s rest hr
  obtain ⟨cs, hcs⟩ := quoteString_cons d s
  rw [hcs] at hl ⊢
  exact lexSql_str (stringQuote_mem d) hl (by simp; omega)

theorem lexSql_identText {d : Dialect} {s : List Char} (h : IdentOk d s) (rest : List Char)
    (hr : rest.head? ≠ some d.identQuote) :
    lexSql d (identText d s ++ rest) = (lexSql d rest).map (Tok.ident s :: ·) := by
  have hl := lexIdent_identText h rest hr
  obtain ⟨cs, hcs⟩ := identText_cons d s
  rw [hcs] at hl ⊢
  exact lexSql_ident (identQuote_mem d) hl (by simp; omega)

inductive Piece where
  | kw (w : List Char)     -- bare word (keyword, alias, number)
  | p (c : Char)           -- punctuation
  | minus                  -- `-` of a negative number
  | sp                     -- one space
  | nl                     -- line break between two generated lines
  | str (s : List Char)    -- `quote_string(s)`
  | id (s : List Char)     -- `quote_identifier(s)` (when it does not raise)

def Piece.text (d : Dialect) : Piece → List Char
  | .kw w => w | .p c => [c] | .minus => ['-'] | .sp => [' '] | .nl => ['\n']
  | .str s => quoteString d s | .id s => identText d s

def Piece.toks : Piece → List Tok
  | .kw w => [mkWord w] | .p c => [.sym c] | .minus => [.sym '-'] | .sp => [] | .nl => []
  | .str s => [.str s] | .id s => [.ident s]

def Piece.Valid (d : Dialect) : Piece → Prop
  | .kw w => w ≠ [] ∧ ∀ c ∈ w, isAsciiWord c = true
  | .p c => isPunct c = true
  | .id s => IdentOk d s
  | _ => True

/-- blank or punctuation: may be followed and preceded by anything -/
def Piece.isOpen : Piece → Bool
  | .p _ => true | .sp => true | .nl => true | _ => false

/-- may `b` come directly after `a`? -/
def Piece.follows (a b : Piece) : Bool :=
  match b with
  | .p _ => true | .sp => true | .nl => true
  | .kw _ => a.isOpen || (match a with | .minus => true | _ => false)
  | _ => a.isOpen

def chainOk : List Piece → Bool
  | [] => true
  | [_] => true
  | a :: b :: r => a.follows b && chainOk (b :: r)

def renderPs (d : Dialect) (ps : List Piece) : List Char := ps.flatMap (Piece.text d)
def toksPs (ps : List Piece) : List Tok := ps.flatMap Piece.toks

/-- a character that ends any token before it and does not open a literal or a comment -/
def isBreak (c : Char) : Bool := c == ' ' || c == '\n' || isPunct c

def BreakStart (txt : List Char) : Prop := ∀ c, txt.head? = some c → isBreak c = true

theorem mem_of_isBreak {c : Char} (h : isBreak c = true) : c ∈ [' ', '\n', '(', ')', ',', '=', '.', '*'] := by
  simpa [isBreak, isPunct, or_assoc] using h

theorem not_break_of_mark {k : Char} (h : k ∈ marks) : isBreak k = false :=
  (by decide : ∀ k ∈ marks, isBreak k = false) k h

theorem BreakStart.head_ne {txt : List Char} (h : BreakStart txt) {k : Char} (hk : isBreak k = false) :
    txt.head? ≠ some k := fun e => Bool.false_ne_true (hk.symm.trans (h k e))

theorem BreakStart.wordEnd {d : Dialect} {rest : List Char} (h : BreakStart rest) : wordEnd d rest :=
  fun c hc =>
    ⟨(by decide : ∀ k ∈ [' ', '\n', '(', ')', ',', '=', '.', '*'], isWordChar k = false) c (mem_of_isBreak (h c hc)),
     fun hq => h.head_ne (not_break_of_mark (quote_mem_marks d c (List.mem_append_left _ hq))) hc⟩

theorem open_text_break (d : Dialect) {a : Piece} (h : a.isOpen = true) (hv : a.Valid d) (x : List Char) :
    BreakStart (a.text d ++ x) := by
  intro c hc
  cases a <;> simp [Piece.isOpen] at h
  · simp [Piece.text] at hc; subst hc; simp [isBreak, show isPunct _ = true from hv]
  · simp [Piece.text] at hc; subst hc; rfl
  · simp [Piece.text] at hc; subst hc; rfl

/-- the text `x` directly after the piece `a` lets the token of `a` end where the piece ends -/
def Piece.SepBy (a : Piece) (x : List Char) : Prop :=
  match a with
  | .p _ | .sp | .nl => True
  | .minus => x.head? ≠ some '-'
  | _ => BreakStart x

theorem sepBy_of_break (a : Piece) {x : List Char} (h : BreakStart x) : a.SepBy x := by
  cases a <;> first | trivial | exact h.head_ne (by decide)

theorem sepBy_of_follows {d : Dialect} {a b : Piece} (hf : a.follows b = true) (hb : b.Valid d)
    (x : List Char) : a.SepBy (b.text d ++ x) := by
  by_cases hbo : b.isOpen = true
  · exact sepBy_of_break a (open_text_break d hbo hb x)
  · -- `b` is a word, `-` or a literal: only blanks and punctuation may precede it, and `-` a word
    cases a <;> cases b <;> first | trivial | exact absurd rfl hbo | cases hf | skip
    rename_i w
    obtain ⟨c, w', rfl⟩ := List.exists_cons_of_ne_nil hb.1
    exact fun e => (plain_of_asciiWord (hb.2 c (by simp))).2.2 (by cases e; decide)

theorem lexSql_piece {d : Dialect} {a : Piece} (hv : a.Valid d) {x : List Char} (hx : a.SepBy x) :
    lexSql d (a.text d ++ x) = (lexSql d x).map (a.toks ++ ·) := by
  have hws : ∀ c, isWs d c = true → lexSql d (c :: x) = (lexSql d x).map ([] ++ ·) := by
    intro c hc; rw [lexSql_ws x hc]; cases lexSql d x <;> rfl
  cases a with
  | kw w => exact lexSql_word w x hv.1 hv.2 (BreakStart.wordEnd hx)
  | p c => exact lexSql_punct x hv
  | minus => exact lexSql_minus x hx
  | sp => exact hws ' ' (by cases d <;> rfl)
  | nl => exact hws '\n' (by cases d <;> rfl)
  | str s =>
    exact lexSql_quoteString d s x
      (BreakStart.head_ne hx (not_break_of_mark (quote_mem_marks d _ (List.mem_append_left _ (stringQuote_mem d)))))
  | id s =>
    exact lexSql_identText hv x
      (BreakStart.head_ne hx (not_break_of_mark (quote_mem_marks d _ (List.mem_append_right _ (identQuote_mem d)))))

theorem chainOk_cons (a : Piece) (ps : List Piece) :
    chainOk (a :: ps) = true ↔ (∀ b, ps.head? = some b → a.follows b = true) ∧ chainOk ps = true := by
  cases ps with
  | nil => simp [chainOk]
  | cons b r => simp [chainOk]

theorem renderPs_cons (d : Dialect) (a : Piece) (ps : List Piece) :
    renderPs d (a :: ps) = a.text d ++ renderPs d ps := List.flatMap_cons ..

theorem lexSql_pieces (d : Dialect) (ps : List Piece) (hv : ∀ p ∈ ps, p.Valid d) (hw : chainOk ps = true)
    (rest : List Char) (hr : BreakStart rest) :
    lexSql d (renderPs d ps ++ rest) = (lexSql d rest).map (toksPs ps ++ ·) := by
  induction ps with
  | nil => simp [renderPs, toksPs]
  | cons a ps ih =>
    rw [chainOk_cons] at hw
    have hsep : a.SepBy (renderPs d ps ++ rest) := by
      cases ps with
      | nil => exact sepBy_of_break a hr
      | cons b r =>
        rw [renderPs_cons, List.append_assoc]
        exact sepBy_of_follows (hw.1 b rfl) (hv b (by simp)) _
    rw [renderPs_cons, List.append_assoc, lexSql_piece (hv a (by simp)) hsep,
      ih (fun p hp => hv p (by simp [hp])) hw.2]
    cases lexSql d rest <;> simp [toksPs]

theorem digitChar_facts (n : Nat) : isDigit (digitChar n) = true ∧ (digitChar n).toNat - 48 = n % 10 := by
  have : ∀ k, k < 10 → isDigit (Char.ofNat (48 + k)) = true ∧ (Char.ofNat (48 + k)).toNat - 48 = k := by decide
  exact this (n % 10) (Nat.mod_lt _ (by omega))

theorem digitsVal_snoc (a : List Char) (c : Char) : digitsVal (a ++ [c]) = 10 * digitsVal a + (c.toNat - 48) := by
  simp [digitsVal, List.foldl_append]

theorem natDigits_facts (n : Nat) :
    natDigits n ≠ [] ∧ (∀ c ∈ natDigits n, isDigit c = true) ∧ digitsVal (natDigits n) = n := by
  fun_induction natDigits n with
  | case1 n h =>
    refine ⟨by simp, ?_, ?_⟩
    · intro c hc; simp at hc; subst hc; exact (digitChar_facts n).1
    · simp [digitsVal, (digitChar_facts n).2]; omega
  | case2 n h ih =>
    refine ⟨by simp, ?_, ?_⟩
    · intro c hc
      rcases List.mem_append.mp hc with hc | hc
      · exact ih.2.1 c hc
      · simp at hc; subst hc; exact (digitChar_facts n).1
    · rw [digitsVal_snoc, ih.2.2, (digitChar_facts n).2]; omega

theorem isAsciiWord_of_digit {c : Char} (h : isDigit c = true) : isAsciiWord c = true := by
  simp [isAsciiWord, h]

theorem mkWord_natDigits (n : Nat) : mkWord (natDigits n) = .num n := by
  obtain ⟨_, h2, h3⟩ := natDigits_facts n
  have : (natDigits n).all isDigit = true := by simpa [List.all_eq_true] using h2
  simp [mkWord, this, h3]

theorem follows_open_right (a : Piece) {b : Piece} (h : b.isOpen = true) : a.follows b = true := by
  cases b <;> simp [Piece.isOpen] at h <;> rfl

theorem follows_open_left {a : Piece} (b : Piece) (h : a.isOpen = true) : a.follows b = true := by
  cases b <;> simp [Piece.follows, h]

theorem chainOk_append {a b : List Piece} (ha : chainOk a = true) (hb : chainOk b = true)
    (hj : ∀ x y, a.getLast? = some x → b.head? = some y → x.follows y = true) : chainOk (a ++ b) = true := by
  induction a with
  | nil => simpa using hb
  | cons x xs ih =>
    rw [List.cons_append, chainOk_cons]
    rw [chainOk_cons] at ha
    refine ⟨?_, ih ha.2 ?_⟩
    · intro y hy
      cases xs with
      | nil => exact hj x y (by simp) (by simpa using hy)
      | cons z zs => exact ha.1 y (by simpa using hy)
    · intro u v hu hv
      cases xs with
      | nil => simp at hu
      | cons z zs => exact hj u v (by simpa [List.getLast?_cons_cons] using hu) hv

def OpenHead (b : List Piece) : Prop := ∀ y, b.head? = some y → y.isOpen = true
def OpenLast (a : List Piece) : Prop := ∀ x, a.getLast? = some x → x.isOpen = true

def Good (d : Dialect) (ps : List Piece) : Prop := (∀ p ∈ ps, p.Valid d) ∧ chainOk ps = true

theorem Good.lexes {d : Dialect} {ps : List Piece} (h : Good d ps) (rest : List Char) (hr : BreakStart rest) :
    lexSql d (renderPs d ps ++ rest) = (lexSql d rest).map (toksPs ps ++ ·) :=
  lexSql_pieces d ps h.1 h.2 rest hr

theorem Good.nil (d : Dialect) : Good d [] := ⟨nofun, rfl⟩

theorem Good.append {d : Dialect} {a b : List Piece} (ha : Good d a) (hb : Good d b)
    (hj : ∀ x y, a.getLast? = some x → b.head? = some y → x.follows y = true) : Good d (a ++ b) :=
  ⟨fun p hp => (List.mem_append.1 hp).elim (ha.1 p) (hb.1 p), chainOk_append ha.2 hb.2 hj⟩

theorem Good.append_openHead {d : Dialect} {a b : List Piece} (ha : Good d a) (hb : Good d b) (h : OpenHead b) :
    Good d (a ++ b) := ha.append hb fun x y _ hy => follows_open_right x (h y hy)

theorem Good.append_openLast {d : Dialect} {a b : List Piece} (ha : Good d a) (hb : Good d b) (h : OpenLast a) :
    Good d (a ++ b) := ha.append hb fun x y hx _ => follows_open_left y (h x hx)

theorem renderPs_append (d : Dialect) (a b : List Piece) : renderPs d (a ++ b) = renderPs d a ++ renderPs d b := by
  simp [renderPs]
theorem toksPs_append (a b : List Piece) : toksPs (a ++ b) = toksPs a ++ toksPs b := by
  simp [toksPs]

def PyVal.noFloat : PyVal → Bool
  | .float _ => false
  | .list l => noFloats l
  | _ => true
where noFloats : List PyVal → Bool
  | [] => true
  | v :: vs => v.noFloat && noFloats vs

theorem kw_valid_digits (d : Dialect) (n : Nat) : (Piece.kw (natDigits n)).Valid d :=
  ⟨(natDigits_facts n).1, fun c hc => isAsciiWord_of_digit ((natDigits_facts n).2.1 c hc)⟩

theorem good_singleton {d : Dialect} {a : Piece} (h : a.Valid d) : Good d [a] :=
  ⟨fun _ hp => List.mem_singleton.1 hp ▸ h, rfl⟩

theorem openHead_cons {a : Piece} (ps : List Piece) (h : a.isOpen = true) : OpenHead (a :: ps) :=
  fun _ hy => Option.some.inj hy ▸ h
theorem openLast_concat {a : Piece} (ps : List Piece) (h : a.isOpen = true) : OpenLast (ps ++ [a]) :=
  fun _ hy => Option.some.inj ((List.getLast?_concat ..).symm.trans hy) ▸ h

/-- code points at which some consumer of text ends a line (`str.splitlines` of Python; a superset of what any
of the five dialects accepts as the end of a `--` comment) -/
def isLineBreak (c : Char) : Bool :=
  let n := c.toNat
  n == 0x0A || n == 0x0B || n == 0x0C || n == 0x0D || n == 0x1C || n == 0x1D || n == 0x1E || n == 0x85 ||
  n == 0x2028 || n == 0x2029

theorem lineBreak_isPySpace {c : Char} (h : isLineBreak c = true) : isPySpace c = true ∧ c ≠ ' ' := by
  have hc : c.toNat ∈ [0x0A, 0x0B, 0x0C, 0x0D, 0x1C, 0x1D, 0x1E, 0x85, 0x2028, 0x2029] := by
    simpa [isLineBreak, or_assoc] using h
  have : ∀ n ∈ [0x0A, 0x0B, 0x0C, 0x0D, 0x1C, 0x1D, 0x1E, 0x85, 0x2028, 0x2029],
      isPySpace (Char.ofNat n) = true ∧ Char.ofNat n ≠ ' ' := by decide
  exact Char.ofNat_toNat c ▸ this _ hc

theorem commentEnd_lineBreak {d : Dialect} {c : Char} (h : commentEnd d c = true) : isLineBreak c = true := by
  cases d <;> simp [commentEnd] at h <;> (first | (subst h; rfl) | (rcases h with h | h <;> subst h <;> rfl))

theorem cleanAnnotation_lineBreak_free (a : List Char) : ∀ c ∈ cleanAnnotation a, isLineBreak c = false := by
  intro c hc
  cases h : isLineBreak c with
  | false => rfl
  | true =>
    have h1 := lineBreak_isPySpace h
    exact absurd (cleanAnnotation_space hc h1.1) h1.2

theorem cleanAnnotation_no_commentEnd (d : Dialect) (a : List Char) :
    ∀ c ∈ cleanAnnotation a, commentEnd d c = false := by
  intro c hc
  cases h : commentEnd d c with
  | false => rfl
  | true => exact absurd (commentEnd_lineBreak h) (by rw [cleanAnnotation_lineBreak_free a c hc]; exact Bool.false_ne_true)

theorem lexSql_comment {d : Dialect} (body rest : List Char) (hs : startsComment d (body ++ '\n' :: rest) = true)
    (hb : ∀ c ∈ body, commentEnd d c = false) (hsp : d = .spark → body.getLast? ≠ some '\\') :
    lexSql d ('-' :: '-' :: (body ++ '\n' :: rest)) = lexSql d rest := by
  rw [lexSql.eq_2]
  have h1 : isWs d '-' = false := by cases d <;> rfl
  have h2 : isWs d '\n' = true := by cases d <;> rfl
  simp only [h1, List.head?_cons, List.drop_one, List.tail_cons, hs, and_self, if_true, Bool.false_eq_true, if_false]
  rw [skipComment_body body rest hb hsp, lexSql_ws _ h2]

theorem selectCommentLine_eq (a : List Char) :
    selectCommentLine a = "SELECT".toList ++ ' ' :: ' ' :: '-' :: '-' ::
      (if cleanAnnotation a = [] then [] else ' ' :: cleanAnnotation a) := by
  unfold selectCommentLine
  rcases pyStrip_shape (pyReplace '%' "percent".toList (collapseWs false (pyStrip a))) with h | ⟨u, c, h, hc⟩
  · have : cleanAnnotation a = [] := h
    rw [this, if_pos rfl]
    decide +kernel
  · have : cleanAnnotation a = u ++ [c] := h
    rw [if_neg (by rw [this]; exact List.append_ne_nil_of_right_ne_nil _ (List.cons_ne_nil _ _)), this,
      ← List.append_assoc, pyRstrip_append_last _ _ hc,
      (by decide +kernel : "SELECT  -- ".toList = "SELECT".toList ++ [' ', ' ', '-', '-', ' '])]
    simp only [List.append_assoc, List.cons_append, List.nil_append]

theorem comment_inert (d : Dialect) (a rest : List Char)
    (hsp : d = .spark → (cleanAnnotation a).getLast? ≠ some '\\') :
    lexSql d (annotatedSelectLine a ++ '\n' :: rest) = lexSql d ("SELECT".toList ++ '\n' :: rest) := by
  by_cases ha : a = []
  · rw [annotatedSelectLine, if_pos ha]
  have hS : "SELECT".toList ≠ [] ∧ ∀ c ∈ "SELECT".toList, isAsciiWord c = true := by decide +kernel
  have hws : ∀ c ∈ [' ', '\n'], isWs d c = true ∧ ∀ x, wordEnd d (c :: x) := by
    intro c hc
    have : isWs d c = true ∧ isWordChar c = false ∧ c ∉ strQuotes d := by
      simp only [List.mem_cons, List.not_mem_nil, or_false] at hc
      rcases hc with rfl | rfl <;> cases d <;> decide
    exact ⟨this.1, fun x k hk => by cases hk; exact this.2⟩
  obtain ⟨hsp1, hwe⟩ := hws ' ' (by simp)
  obtain ⟨hnl, hwn⟩ := hws '\n' (by simp)
  -- the comment text: empty, or a blank and the cleaned annotation; neither holds a line end
  have hbody : ∀ c ∈ (if cleanAnnotation a = [] then [] else ' ' :: cleanAnnotation a), commentEnd d c = false := by
    split
    · nofun
    · intro c hc
      rcases List.mem_cons.mp hc with rfl | hc
      · cases d <;> rfl
      · exact cleanAnnotation_no_commentEnd d a c hc
  have hlast : d = .spark →
      (if cleanAnnotation a = [] then [] else ' ' :: cleanAnnotation a).getLast? ≠ some '\\' := by
    intro hd
    split
    · simp
    · rename_i h0
      obtain ⟨x, xs, hx⟩ := List.exists_cons_of_ne_nil h0
      rw [hx, List.getLast?_cons_cons, ← hx]; exact hsp hd
  have hstart : startsComment d ((if cleanAnnotation a = [] then [] else ' ' :: cleanAnnotation a) ++ '\n' :: rest)
      = true := by
    split <;> cases d <;> rfl
  rw [annotatedSelectLine, if_neg ha, selectCommentLine_eq]
  simp only [List.append_assoc, List.cons_append]
  rw [lexSql_word _ _ hS.1 hS.2 (hwe _), lexSql_ws _ hsp1, lexSql_ws _ hsp1, lexSql_comment _ rest hstart hbody hlast,
    lexSql_word _ _ hS.1 hS.2 (hwn rest), lexSql_ws _ hnl]

end DAVerif.Text
