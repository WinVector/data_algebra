import DAVerif.Sem.Eval
/-!
The bottom layer of the proofs: Python dictionaries as association lists (`lookupLast`: the last binding of a key
wins), rows as finite maps (`Row.get` after each row operation), expressions read only the columns they mention,
inversion of a successful `Except` bind, and the lift `LiftRel` of a relation between tables to results.
-/
namespace DAVerif

theorem lookupLast_nil {β : Type} (k : String) : lookupLast ([] : List (String × β)) k = none := rfl

theorem lookupLast_append {β : Type} (a b : List (String × β)) (k : String) :
    lookupLast (a ++ b) k = (lookupLast b k).or (lookupLast a k) := by
  simp only [lookupLast, List.reverse_append, List.find?_append]
  cases List.find? (fun kv => kv.1 == k) b.reverse <;> rfl

theorem lookupLast_singleton {β : Type} (k' : String) (v : β) (k : String) :
    lookupLast [(k', v)] k = if k' == k then some v else none := by
  simp only [lookupLast, List.reverse_cons, List.reverse_nil, List.nil_append, List.find?_cons, List.find?_nil]
  cases k' == k <;> rfl

theorem lookupLast_concat {β : Type} (a : List (String × β)) (k' : String) (v : β) (k : String) :
    lookupLast (a ++ [(k', v)]) k = if k' == k then some v else lookupLast a k := by
  rw [lookupLast_append, lookupLast_singleton]
  cases k' == k <;> rfl

theorem lookupLast_cons {β : Type} (kv : String × β) (a : List (String × β)) (k : String) :
    lookupLast (kv :: a) k = (lookupLast a k).or (if kv.1 == k then some kv.2 else none) :=
  (lookupLast_append [kv] a k).trans (congrArg _ (lookupLast_singleton kv.1 kv.2 k))

theorem lookupLast_eq_none_iff {β : Type} {a : List (String × β)} {k : String} :
    lookupLast a k = none ↔ k ∉ a.map (·.1) := by
  simp only [lookupLast, Option.map_eq_none_iff, List.find?_eq_none, List.mem_reverse, beq_iff_eq,
    List.mem_map, not_exists, not_and]

theorem lookupLast_isSome_iff {β : Type} {a : List (String × β)} {k : String} :
    (lookupLast a k).isSome ↔ k ∈ a.map (·.1) :=
  Option.isSome_iff_ne_none.trans ((not_congr lookupLast_eq_none_iff).trans Decidable.not_not)

theorem lookupLast_mem {β : Type} {m : List (String × β)} {k : String} {v : β} (h : lookupLast m k = some v) :
    (k, v) ∈ m := by
  simp only [lookupLast, Option.map_eq_some_iff] at h
  obtain ⟨kv, hf, rfl⟩ := h
  have hk : kv.1 = k := beq_iff_eq.mp (List.find?_some (p := fun (kv : String × β) => kv.1 == k) hf)
  exact hk ▸ List.mem_reverse.mp (List.mem_of_find?_eq_some hf)

theorem nodup_keys_unique {β : Type} {m : List (String × β)} (hnd : (m.map (·.1)).Nodup) {k : String} {v v' : β}
    (h : (k, v) ∈ m) (h' : (k, v') ∈ m) : v = v' := by
  induction m with
  | nil => cases h
  | cons kv m ih =>
    simp only [List.map_cons, List.nodup_cons, List.mem_map, not_exists, not_and] at hnd
    rcases List.mem_cons.mp h with e | e <;> rcases List.mem_cons.mp h' with e' | e'
    · rw [← e] at e'; exact ((Prod.mk.inj e').2).symm
    · subst e; exact absurd rfl (hnd.1 (k, v') e')
    · subst e'; exact absurd rfl (hnd.1 (k, v) e)
    · exact ih hnd.2 e e'

theorem lookupLast_of_nodup {β : Type} {m : List (String × β)} (hnd : (m.map (·.1)).Nodup) {k : String} {v : β}
    (h : (k, v) ∈ m) : lookupLast m k = some v := by
  cases hl : lookupLast m k with
  | none => exact absurd (List.mem_map.mpr ⟨(k, v), h, rfl⟩) (lookupLast_eq_none_iff.mp hl)
  | some v' => rw [nodup_keys_unique hnd (lookupLast_mem hl) h]

theorem lookupLast_map_snd {β γ : Type} (a : List (String × β)) (g : String × β → γ) (k : String) :
    lookupLast (a.map (fun kv => (kv.1, g kv))) k =
      ((a.reverse.find? (fun kv => kv.1 == k)).map g) := by
  simp only [lookupLast, ← List.map_reverse, List.find?_map, Option.map_map]
  rfl

theorem lookupLast_map {β γ : Type} (m : List (String × β)) (f : β → γ) (k : String) :
    lookupLast (m.map (fun kv => (kv.1, f kv.2))) k = (lookupLast m k).map f := by
  rw [lookupLast_map_snd, lookupLast, Option.map_map]
  rfl

theorem lookupLast_filter {β : Type} (a : List (String × β)) (p : String → Bool) (k : String) (hk : p k = true) :
    lookupLast (a.filter (fun kv => p kv.1)) k = lookupLast a k := by
  induction a with
  | nil => rfl
  | cons kv a ih =>
    rw [List.filter_cons]
    split
    · rw [lookupLast_cons, lookupLast_cons, ih]
    · rename_i h
      have : (kv.1 == k) = false := beq_false_of_ne (fun e => h (e ▸ hk))
      rw [lookupLast_cons, ih, this]
      cases lookupLast a k <;> rfl

namespace Row

theorem get_nil (c : String) : Row.get [] c = .null := rfl

theorem get_cons (k : String) (x : Val) (r : Row) (c : String) :
    Row.get ((k, x) :: r) c = if c == k then x else Row.get r c := by
  simp only [Row.get, List.lookup_cons]
  cases c == k <;> rfl

theorem get_of_not_mem_keys {r : Row} {c : String} (h : c ∉ r.keys) : r.get c = .null := by
  induction r with
  | nil => rfl
  | cons kv r ih =>
    rw [get_cons, beq_false_of_ne (fun e => h (List.mem_cons.mpr (Or.inl e)))]
    exact ih (fun e => h (List.mem_cons_of_mem _ e))

theorem get_of_mem_nodup {r : Row} {k : String} {v : Val} (hn : r.keys.Nodup) (h : (k, v) ∈ r) :
    Row.get r k = v := by
  induction r with
  | nil => cases h
  | cons kv r ih =>
    have hn' : kv.1 ∉ Row.keys r ∧ (Row.keys r).Nodup := List.nodup_cons.mp hn
    rw [get_cons]
    rcases List.mem_cons.mp h with e | h'
    · rw [← e, if_pos (beq_self_eq_true k)]
    · rw [beq_false_of_ne (fun e : k = kv.1 => hn'.1 (e ▸ List.mem_map.mpr ⟨(k, v), h', rfl⟩))]
      exact ih hn'.2 h'

theorem get_append (a b : Row) (c : String) :
    Row.get (a ++ b) c = if c ∈ a.keys then a.get c else b.get c := by
  induction a with
  | nil => rfl
  | cons kv a ih =>
    rw [List.cons_append, get_cons, get_cons, ih]
    by_cases h : c = kv.1
    · have hm : c ∈ Row.keys (kv :: a) := List.mem_cons.mpr (Or.inl h)
      rw [if_pos hm, if_pos (beq_iff_eq.mpr h), if_pos (beq_iff_eq.mpr h)]
    · have hm : c ∈ Row.keys (kv :: a) ↔ c ∈ Row.keys a :=
        ⟨fun hm => (List.mem_cons.mp hm).resolve_left h, List.mem_cons_of_mem _⟩
      simp only [beq_false_of_ne h, hm, Bool.false_eq_true, if_false]

theorem get_append_left {r s : Row} {k : String} (h : k ∈ r.keys) : Row.get (r ++ s) k = Row.get r k := by
  rw [get_append, if_pos h]

theorem get_append_right {r s : Row} {k : String} (h : k ∉ r.keys) : Row.get (r ++ s) k = Row.get s k := by
  rw [get_append, if_neg h]

theorem get_map_mk {cs : List String} {f : String → Val} {c : String} (h : c ∈ cs) :
    Row.get (cs.map (fun c => (c, f c))) c = f c := by
  induction cs with
  | nil => cases h
  | cons d cs ih =>
    rw [List.map_cons, get_cons]
    by_cases e : c = d
    · rw [if_pos (beq_iff_eq.mpr e), e]
    · rw [beq_false_of_ne e]
      exact ih ((List.mem_cons.mp h).resolve_left e)

theorem get_zip_map {cs : List String} {f : String → Val} {c : String} (h : c ∈ cs) :
    Row.get (cs.zip (cs.map f)) c = f c := by
  induction cs with
  | nil => cases h
  | cons d cs ih =>
    rw [List.map_cons, List.zip_cons_cons, get_cons]
    by_cases e : c = d
    · rw [if_pos (beq_iff_eq.mpr e), e]
    · rw [beq_false_of_ne e]
      exact ih ((List.mem_cons.mp h).resolve_left e)

theorem keys_zip_map (cs : List String) (f : String → Val) : Row.keys (cs.zip (cs.map f)) = cs := by
  induction cs with
  | nil => rfl
  | cons d cs ih => exact congrArg (d :: ·) ih

theorem keys_map_mk (cs : List String) (f : String → Val) : Row.keys (cs.map (fun c => (c, f c))) = cs := by
  simp only [Row.keys, List.map_map, Function.comp_def, List.map_id']

@[simp] theorem keys_select (r : Row) (cs : List String) : (r.select cs).keys = cs := keys_map_mk cs _

theorem keys_rename (r : Row) (f : String → String) : (r.rename f).keys = r.keys.map f := by
  simp only [Row.rename, Row.keys, List.map_map, Function.comp_def]

theorem keys_drop (r : Row) (cs : List String) :
    (r.drop cs).keys = r.keys.filter (fun c => !cs.contains c) := by
  simp only [Row.drop, Row.keys, List.filter_map, Function.comp_def]

theorem select_get_of_mem {r : Row} {cs : List String} {c : String} (h : c ∈ cs) :
    (Row.select r cs).get c = r.get c := get_map_mk h

theorem get_select (r : Row) (cs : List String) (c : String) :
    (r.select cs).get c = if c ∈ cs then r.get c else .null := by
  by_cases h : c ∈ cs
  · rw [if_pos h, select_get_of_mem h]
  · rw [if_neg h, get_of_not_mem_keys (by rw [keys_select]; exact h)]

theorem keys_set_of_mem (r : Row) {c : String} (v : Val) (h : c ∈ r.keys) : (r.set c v).keys = r.keys := by
  induction r with
  | nil => cases h
  | cons kv r ih =>
    obtain ⟨k', v'⟩ := kv
    simp only [Row.set]
    by_cases e : k' = c
    · subst e; simp [Row.keys]
    · have : (k' == c) = false := beq_false_of_ne e
      simp only [this, Bool.false_eq_true, if_false, Row.keys, List.map_cons]
      simp only [Row.keys, List.map_cons, List.mem_cons] at h
      have := ih (h.resolve_left (Ne.symm e))
      simp only [Row.keys] at this
      rw [this]

theorem get_set (r : Row) (k : String) (v : Val) (c : String) :
    (r.set k v).get c = if c == k then v else r.get c := by
  induction r with
  | nil => exact get_cons k v [] c
  | cons kx r ih =>
    obtain ⟨k1, x⟩ := kx
    by_cases h1 : k1 = k
    · subst h1
      rw [Row.set, if_pos (beq_self_eq_true k1), get_cons, get_cons]
      cases c == k1 <;> rfl
    · rw [Row.set, if_neg (by simpa using h1), get_cons, get_cons, ih]
      by_cases h2 : c = k1
      · subst h2
        rw [beq_self_eq_true, beq_false_of_ne h1]; rfl
      · rw [beq_false_of_ne h2]; rfl

theorem get_set_same (r : Row) (c : String) (v : Val) : (r.set c v).get c = v := by
  rw [get_set, if_pos (beq_self_eq_true c)]

theorem get_set_ne (r : Row) {c c' : String} (v : Val) (h : c' ≠ c) : (r.set c v).get c' = r.get c' := by
  rw [get_set, beq_false_of_ne h]; rfl

theorem get_setAll (r : Row) (kvs : List (String × Val)) (c : String) :
    (r.setAll kvs).get c = (lookupLast kvs c).getD (r.get c) := by
  induction kvs generalizing r with
  | nil => rfl
  | cons kv kvs ih =>
    show ((r.set kv.1 kv.2).setAll kvs).get c = _
    rw [ih, get_set, lookupLast_cons]
    cases lookupLast kvs c with
    | some x => rfl
    | none =>
      by_cases h : c = kv.1
      · subst h; simp only [beq_self_eq_true, if_true, Option.none_or, Option.getD_some, Option.getD_none]
      · rw [beq_false_of_ne h, beq_false_of_ne (Ne.symm h)]; rfl

theorem get_setAll_of_not_mem (r : Row) (kvs : List (String × Val)) {c : String} (h : c ∉ kvs.map (·.1)) :
    (r.setAll kvs).get c = r.get c := by
  rw [get_setAll, lookupLast_eq_none_iff.mpr h]; rfl

theorem get_setAll_of_mem (r : Row) (kvs : List (String × Val)) {c : String} {v : Val}
    (hn : (kvs.map (·.1)).Nodup) (h : (c, v) ∈ kvs) : (r.setAll kvs).get c = v := by
  rw [get_setAll, lookupLast_of_nodup hn h]; rfl

theorem get_drop (r : Row) (dels : List String) (c : String) :
    (r.drop dels).get c = if c ∈ dels then .null else r.get c := by
  induction r with
  | nil => exact (ite_self _).symm
  | cons kx r ih =>
    obtain ⟨k, x⟩ := kx
    simp only [Row.drop, List.filter_cons] at ih ⊢
    by_cases hk : k ∈ dels
    · rw [if_neg (by simpa using hk), ih, get_cons]
      by_cases hc : c = k
      · rw [if_pos (hc ▸ hk), if_pos (hc ▸ hk)]
      · rw [beq_false_of_ne hc]; rfl
    · rw [if_pos (by simpa using hk), get_cons, get_cons, ih]
      by_cases hc : c = k
      · rw [if_pos (beq_iff_eq.mpr hc), if_neg (hc ▸ hk), if_pos (beq_iff_eq.mpr hc)]
      · rw [beq_false_of_ne hc]; rfl

theorem get_rename_of_inj (r : Row) (f : String → String) (k : String)
    (h : ∀ k' ∈ r.keys, f k' = f k → k' = k) : (r.rename f).get (f k) = r.get k := by
  induction r with
  | nil => rfl
  | cons kx r ih =>
    obtain ⟨k1, x⟩ := kx
    show Row.get ((f k1, x) :: Row.rename r f) (f k) = _
    rw [get_cons, get_cons]
    by_cases h1 : k1 = k
    · subst h1; rw [beq_self_eq_true, beq_self_eq_true]; rfl
    · have h2 : f k ≠ f k1 := fun e => h1 (h k1 (List.mem_cons_self ..) e.symm)
      rw [beq_false_of_ne h2, beq_false_of_ne (Ne.symm h1)]
      exact ih (fun k' hk' => h k' (List.mem_cons_of_mem _ hk'))

theorem select_congr {r r' : Row} {cs : List String} (h : ∀ c ∈ cs, r.get c = r'.get c) :
    r.select cs = r'.select cs :=
  List.map_congr_left (fun c hc => by rw [h c hc])

theorem select_select {r : Row} {cs cs' : List String} (h : ∀ c ∈ cs', c ∈ cs) :
    (r.select cs).select cs' = r.select cs' :=
  select_congr (fun c hc => select_get_of_mem (h c hc))

theorem select_keys : ∀ {r : Row}, r.keys.Nodup → r.select r.keys = r
  | [], _ => rfl
  | (k, x) :: r, h => by
    have h' : k ∉ Row.keys r ∧ (Row.keys r).Nodup := List.nodup_cons.mp h
    show (k, Row.get ((k, x) :: r) k) :: Row.select ((k, x) :: r) (Row.keys r) = _
    rw [get_cons, if_pos (beq_self_eq_true k)]
    refine congrArg _ (Eq.trans (select_congr fun c hc => ?_) (select_keys h'.2))
    rw [get_cons, beq_false_of_ne (fun e : c = k => h'.1 (e ▸ hc))]; rfl

theorem select_self {r : Row} {cs : List String} (hk : r.keys = cs) (hn : cs.Nodup) : r.select cs = r := by
  subst hk; exact select_keys hn

theorem vals_congr {r r' : Row} {cs : List String} (h : ∀ c ∈ cs, r.get c = r'.get c) :
    r.vals cs = r'.vals cs :=
  List.map_congr_left (fun c hc => h c hc)

end Row

theorem keyOf_congr {r r' : Row} {cs : List String} (h : ∀ c ∈ cs, r.get c = r'.get c) :
    keyOf r cs = keyOf r' cs := Row.vals_congr h

theorem keyOf_eq_iff {a b : Row} {cs : List String} : keyOf a cs = keyOf b cs ↔ ∀ c ∈ cs, a.get c = b.get c :=
  List.map_inj_left

mutual
theorem evalTerm_congr (Θ : Interp) {r r' : Row} :
    ∀ (t : Term), (∀ c ∈ Term.colsRaw t, r.get c = r'.get c) → evalTerm Θ r t = evalTerm Θ r' t
  | .value _, _ => rfl
  | .col c, h => by simp only [evalTerm]; rw [h c (by simp [Term.colsRaw])]
  | .list _, _ => rfl
  | .dict _, _ => rfl
  | .app op args i m, h => by
    simp only [evalTerm]
    rw [evalArgs_congrC Θ args (by simpa [Term.colsRaw] using h)]
theorem evalArgs_congrC (Θ : Interp) {r r' : Row} :
    ∀ (ts : List Term), (∀ c ∈ Term.colsRawList ts, r.get c = r'.get c) → evalArgs Θ r ts = evalArgs Θ r' ts
  | [], _ => rfl
  | t :: ts, h => by
    simp only [evalArgs]
    rw [evalTerm_congr Θ t (fun c hc => h c (by simp [Term.colsRawList, hc])),
      evalArgs_congrC Θ ts (fun c hc => h c (by simp [Term.colsRawList, hc]))]
end

theorem evalCell_congr (Θ : Interp) {r r' : Row} (t : Term) (h : ∀ c ∈ Term.colsRaw t, r.get c = r'.get c) :
    evalCell Θ r t = evalCell Θ r' t := by
  simp only [evalCell, evalTerm_congr Θ t h]

theorem inj_of_nodup_map {α β : Type} {f : α → β} {l : List α} (hn : (l.map f).Nodup) :
    ∀ a ∈ l, ∀ b ∈ l, f a = f b → a = b := by
  have h := List.pairwise_map.mp hn
  exact fun a ha b hb => List.Pairwise.forall_of_forall_of_flip (R := fun a b => f a = f b → a = b)
    (fun _ _ _ => rfl) (h.imp fun hne e => absurd e hne) (h.imp fun hne e => absurd e.symm hne) ha hb

theorem bind_eq_ok {ε α β : Type} {x : Except ε α} {f : α → Except ε β} {b : β} :
    (x >>= f) = .ok b ↔ ∃ a, x = .ok a ∧ f a = .ok b := by
  cases x with
  | error e => exact ⟨fun h => (nomatch h), fun ⟨_, h, _⟩ => (nomatch h)⟩
  | ok a => exact ⟨fun h => ⟨a, rfl, h⟩, fun ⟨_, h, hf⟩ => Except.ok.inj h ▸ hf⟩

theorem except_bind_congr {ε α β : Type} {x : Except ε α} {f g : α → Except ε β}
    (h : ∀ a, x = .ok a → f a = g a) : (x >>= f) = (x >>= g) := by
  cases x with
  | error e => rfl
  | ok a => exact h a rfl

/-! ### the lift of a relation between tables to results

`ResEquiv`, `ResEquivC`, `ResEquivR` (`Spec/Perm.lean`, `Spec/Chain.lean`, `Spec/ColOrder.lean`) are `LiftRel` of `≈`, `≈ᶜ`,
`≈ʳ`, by unfolding: a fact about `LiftRel R` is a fact about them. -/

def LiftRel (R : Table → Table → Prop) : Except Err Table → Except Err Table → Prop
  | .ok t, .ok t' => R t t'
  | .error e, .error e' => e = e'
  | _, _ => False

namespace LiftRel
variable {R S T : Table → Table → Prop} {x y z : Except Err Table}

theorem of_ok {t : Table} (h : LiftRel R x y) (hx : x = .ok t) : ∃ t', y = .ok t' ∧ R t t' := by
  subst hx
  cases y with
  | ok t' => exact ⟨t', rfl, h⟩
  | error e => exact h.elim

theorem of_error {e : Err} (h : LiftRel R x y) (hx : x = .error e) : y = .error e := by
  subst hx
  cases y with
  | ok t' => exact h.elim
  | error e' => exact congrArg _ (Eq.symm h)

theorem of_eq (h : x = y) (hr : ∀ t, x = .ok t → R t t) : LiftRel R x y := by
  subst h
  cases x with
  | error e => rfl
  | ok t => exact hr t rfl

theorem symm (h : ∀ t t', R t t' → R t' t) : ∀ {x y}, LiftRel R x y → LiftRel R y x
  | .ok _, .ok _, hr => h _ _ hr
  | .error _, .error _, hr => Eq.symm hr
  | .ok _, .error _, hr => hr.elim
  | .error _, .ok _, hr => hr.elim

theorem comp (h : ∀ t t' t'', R t t' → S t' t'' → T t t'') :
    ∀ {x y z}, LiftRel R x y → LiftRel S y z → LiftRel T x z
  | .ok _, .ok _, .ok _, h1, h2 => h _ _ _ h1 h2
  | .error _, .error _, .error _, h1, h2 => Eq.trans h1 h2
  | .ok _, .error _, _, h1, _ => h1.elim
  | .error _, .ok _, _, h1, _ => h1.elim
  | .ok _, .ok _, .error _, _, h2 => h2.elim
  | .error _, .error _, .ok _, _, h2 => h2.elim

theorem imp (h : LiftRel R x y) (hrs : ∀ t t', x = .ok t → y = .ok t' → R t t' → S t t') : LiftRel S x y := by
  cases x with
  | error e => cases y with
    | error e' => exact h
    | ok _ => exact h.elim
  | ok t => cases y with
    | error _ => exact h.elim
    | ok t' => exact hrs t t' rfl rfl h

theorem eq : ∀ {x y}, LiftRel Eq x y → x = y
  | .ok _, .ok _, h => congrArg Except.ok h
  | .error _, .error _, h => congrArg Except.error h
  | .ok _, .error _, h => h.elim
  | .error _, .ok _, h => h.elim

theorem bind {f g : Table → Except Err Table} (h : LiftRel R x y)
    (hfg : ∀ t t', x = .ok t → y = .ok t' → R t t' → LiftRel S (f t) (g t')) : LiftRel S (x >>= f) (y >>= g) := by
  cases x with
  | error e => cases y with
    | error e' => exact h
    | ok _ => exact h.elim
  | ok t => cases y with
    | error _ => exact h.elim
    | ok t' => exact hfg t t' rfl rfl h

end LiftRel

theorem zipIdx_eq_map_range (rows : List Row) :
    rows.zipIdx = (List.range rows.length).map (fun j => (rows.getD j [], j)) := by
  apply List.ext_getElem
  · simp
  · intro i h1 h2
    simp at h1
    simp [h1]

end DAVerif
