/-!
Counting lemmas for C21 (no imports): sums of "number of smaller elements" over a duplicate-free list of naturals,
sums over `List.range`, counting with exclusive alternatives.
-/
namespace DAVerif.Sol

theorem countP_or_excl {α : Type} (p q : α → Bool) (l : List α) (h : ∀ x ∈ l, ¬ (p x = true ∧ q x = true)) :
    l.countP (fun x => p x || q x) = l.countP p + l.countP q := by
  induction l with
  | nil => rfl
  | cons a l ih =>
    rw [List.countP_cons, List.countP_cons, List.countP_cons, ih (fun x hx => h x (List.mem_cons_of_mem _ hx))]
    cases hp : p a <;> cases hq : q a
    · simp only [Bool.or_false, Bool.false_eq_true, if_false]; omega
    · simp only [Bool.or_true, Bool.false_eq_true, if_false, if_true]; omega
    · simp only [Bool.or_false, Bool.false_eq_true, if_false, if_true]; omega
    · exact absurd ⟨hp, hq⟩ (h a List.mem_cons_self)

theorem countP_congr_mem {α : Type} {p q : α → Bool} {l : List α} (h : ∀ x ∈ l, p x = q x) :
    l.countP p = l.countP q :=
  List.countP_congr (fun x hx => by rw [h x hx])

theorem countP_lt_add_gt (a : Nat) (t : List Nat) (h : a ∉ t) :
    t.countP (fun y => decide (y < a)) + t.countP (fun y => decide (a < y)) = t.length := by
  rw [List.length_eq_countP_add_countP (fun y => decide (y < a))]
  refine congrArg (_ + ·) (List.countP_congr ?_)
  intro y hy
  have : y ≠ a := fun e => h (e ▸ hy)
  simp only [decide_eq_true_eq]
  omega

theorem succ_sq (m : Nat) : (m + 1) * (m + 1) = m * m + 2 * m + 1 := by
  rw [Nat.add_mul, Nat.mul_add]; omega

/-- the numbers of smaller elements of the elements of a duplicate-free list add up to `0 + 1 + … + (n-1)` -/
theorem sum_countP_lt (xs : List Nat) (hnd : xs.Nodup) :
    2 * (xs.map (fun x => xs.countP (fun y => decide (y < x)))).sum + xs.length = xs.length * xs.length := by
  induction xs with
  | nil => rfl
  | cons a t ih =>
    obtain ⟨hat, hnt⟩ := List.nodup_cons.mp hnd
    have ih' := ih hnt
    -- the new element `a` is counted once for every larger element of `t`
    have hadd : ∀ (l : List Nat), (l.map (fun x => t.countP (fun y => decide (y < x)) + if decide (a < x) = true then 1 else 0)).sum
        = (l.map (fun x => t.countP (fun y => decide (y < x)))).sum + l.countP (fun y => decide (a < y)) := by
      intro l
      induction l with
      | nil => rfl
      | cons b l ihl =>
        simp only [List.map_cons, List.sum_cons, List.countP_cons, ihl]
        omega
    have h2 := countP_lt_add_gt a t hat
    simp only [List.map_cons, List.sum_cons, List.countP_cons, Nat.lt_irrefl, decide_false, Bool.false_eq_true,
      if_false, Nat.add_zero, hadd t, List.length_cons, succ_sq]
    omega

theorem sum_range_id (m : Nat) : 2 * ((List.range m).map (fun e => e)).sum + m = m * m := by
  induction m with
  | zero => rfl
  | succ m ih =>
    rw [List.range_succ, List.map_append, List.sum_append, succ_sq]
    simp only [List.map_cons, List.map_nil, List.sum_cons, List.sum_nil]
    omega

theorem sum_map_add_const {α : Type} (l : List α) (f : α → Nat) (c : Nat) :
    (l.map (fun x => c + f x + 1)).sum = l.length * (c + 1) + (l.map f).sum := by
  induction l with
  | nil => simp
  | cons a l ih =>
    simp only [List.map_cons, List.sum_cons, ih, List.length_cons, Nat.add_mul]
    omega

/-- **Positions of a tie group.**  If the `m` members of a group have `L + (number of members with a smaller
tie-breaking number)` strict predecessors each, and the tie-breaking numbers are different, their 1-based
positions add up to `(L+1) + … + (L+m)`. -/
theorem sum_positions (T : List Nat) (hnd : T.Nodup) (L : Nat) :
    (T.map (fun x => L + T.countP (fun y => decide (y < x)) + 1)).sum
      = ((List.range T.length).map (fun e => L + e + 1)).sum := by
  rw [sum_map_add_const T (fun x => T.countP (fun y => decide (y < x))) L,
    sum_map_add_const (List.range T.length) (fun e => e) L, List.length_range]
  have h1 := sum_countP_lt T hnd
  have h2 := sum_range_id T.length
  omega

end DAVerif.Sol
