import DAVerif.Proofs.PrintCalls
import DAVerif.Proofs.PrintSemStruct
/-!
C12, semantic half without the guard: for a valid pipeline in builder normal form, evaluating the printed calls is
`replace_leaves {}` (`Ops.replaceLeaves []`, C07's model), the same pipeline or the same error (`rebuild_eq_replace`).
Both rebuild every node through its builder on the rebuilt source; they differ in three places, none of which matters
for such a pipeline: the text starts with `TableDescription(...)` (two assertions) where `replace_leaves` copies the
node; `extend` / `project` / `select_rows` print their expressions as text, which the evaluated call parses again over
the rebuilt source's columns, where `replace_leaves` calls `extend_parsed_` / `project_parsed_` /
`select_rows_parsed_` directly; the printed `partition_by` (`printPart`) is not literally the argument
`replace_leaves` passes (`1` / the list), but names the same columns and the same windowed situation.
-/
namespace DAVerif.C12S
open DAVerif Rules26 DAVerif.C12

theorem extendTop_congr (self : Ops) (ops : Assign) (pa pa' : PartArg) (od rv : List String)
    (h : pa'.cols' = pa.cols') (hw : ∀ o, stepWindowed o pa' od = stepWindowed o pa od) :
    extendTop self ops pa' od rv = extendTop self ops pa od rv := by
  rw [extendTop_eq, extendTop_eq, mergeInto_congr _ _ pa pa' _ _ h (hw ops)]
  cases mergeInto self ops pa od rv with
  | none => exact mkExtend_congr _ _ pa pa' _ _ h (hw ops)
  | some so => exact mkExtend_congr _ _ pa pa' _ _ h (hw _)

theorem extendParsed_congr (self : Ops) (ops : Assign) (pa pa' : PartArg) (od rv : List String)
    (h : pa'.cols' = pa.cols') (hw : ∀ o, stepWindowed o pa' od = stepWindowed o pa od) :
    extendParsed self ops pa' od rv = extendParsed self ops pa od rv := by
  cases hne : ops.isEmpty with
  | true =>
    rw [extendParsed.eq_def, extendParsed.eq_def]
    simp only [hne, ↓reduceIte]
  | false =>
    rw [extendParsed_strip _ _ _ _ _ hne, extendParsed_strip _ _ _ _ _ hne, extendPre_congr _ _ pa pa' _ _ h,
      extendTop_congr _ _ pa pa' _ _ h hw]

/-- `hflag`: a node that is not windowed has no partition columns (the constructor guarantees it) -/
theorem printPart_vs_replace (part : List String) (w : Bool) (od : List String) (hflag : w = false → part = []) :
    (printPart part w).cols' = (if w && part.isEmpty then PartArg.one else PartArg.cols part).cols' ∧
    ∀ o, stepWindowed o (printPart part w) od =
      stepWindowed o (if w && part.isEmpty then PartArg.one else PartArg.cols part) od := by
  cases w with
  | false =>
    have := hflag rfl
    subst this
    exact ⟨rfl, fun o => rfl⟩
  | true =>
    cases part with
    | nil => exact ⟨rfl, fun o => rfl⟩
    | cons c cs => exact ⟨rfl, fun o => rfl⟩

theorem build_extend_eq {s s' : Ops} {ops : Assign} {part od rv : List String} {w : Bool}
    (hm : ∀ c, c ∈ s.cols ↔ c ∈ s'.cols) (hl : ExtLocal s ops part od rv w) :
    build s' (.extend ops (printPart part w) od rv) =
      extendParsed s' ops (if w && part.isEmpty then PartArg.one else PartArg.cols part) od rv := by
  obtain ⟨_, hpa, _, hmk⟩ := hl
  have hflag : w = false → part = [] := by
    intro hw
    rw [mkExtend_eqC, bind_ok_node] at hmk
    subst hw
    exact (Ops.extend.inj hmk.2).2.2.1.symm
  obtain ⟨h1, h2⟩ := printPart_vs_replace part w od hflag
  simp only [build]
  rw [← parseAssignments_perm hm, hpa, ok_bind]
  exact extendParsed_congr _ _ _ _ _ _ h1 h2

theorem build_project_eq {s s' : Ops} {ops : Assign} {g : List String} {q : Ops}
    (hm : ∀ c, c ∈ s.cols ↔ c ∈ s'.cols) (h : build s (.project ops g) = .ok q) :
    build s' (.project ops g) = projectParsed s' ops g := by
  simp only [build] at h ⊢
  obtain ⟨parsed, hpa, _⟩ := bind_eq_ok.mp h
  obtain ⟨rfl, _⟩ := parseAssignments_okC hpa
  rw [← parseAssignments_perm hm, hpa, ok_bind]

theorem build_selectRows_eq {s s' : Ops} {e : Term} {q : Ops}
    (hm : ∀ c, c ∈ s.cols ↔ c ∈ s'.cols) (h : build s (.selectRows (some e)) = .ok q) :
    build s' (.selectRows (some e)) = selectRowsB s' e := by
  simp only [build] at h ⊢
  obtain ⟨parsed, hpa, _⟩ := bind_eq_ok.mp h
  rw [← parseAssignments_perm hm, hpa, ok_bind]

theorem rebuild_eq_replace (p : Ops) (h : NF p) (hv : p.valid = true) :
    rebuild (toCalls p) = Ops.replaceLeaves [] p := by
  have facts : ∀ {s s' : Ops}, s.valid = true → Ops.replaceLeaves [] s = .ok s' → ∀ c, c ∈ s.cols ↔ c ∈ s'.cols :=
    fun hsv hs' c => (replaceId_struct _ hsv _ hs').2.2.mem_iff.symm
  induction p with
  | table n cs =>
    simp only [toCalls, rebuild, h.wf_table, Ops.replaceLeaves, lookupLast]
    rfl
  | extend s ops part od rv w ih =>
    have hsv := Ops.valid_srcA (p := .extend s ops part od rv w) hv
    simp only [toCalls, rebuild, Call.toStep, Ops.replaceLeaves, ih h.1 hsv]
    exact except_bind_congr (fun s' hs' => build_extend_eq (facts hsv hs') h.2.2)
  | project s ops g ih =>
    have hsv := Ops.valid_srcA (p := .project s ops g) hv
    simp only [toCalls, rebuild, Call.toStep, Ops.replaceLeaves, ih h.1 hsv]
    exact except_bind_congr (fun s' hs' => build_project_eq (facts hsv hs') h.2.2)
  | selectRows s e ih =>
    have hsv := Ops.valid_srcA (p := .selectRows s e) hv
    simp only [toCalls, rebuild, Call.toStep, Ops.replaceLeaves, ih h.1 hsv]
    exact except_bind_congr (fun s' hs' => build_selectRows_eq (facts hsv hs') h.2.2)
  | selectCols s _ ih | dropCols s _ ih | order s _ _ _ ih | rename s _ ih | mapCols s _ _ ih | convert s _ ih =>
    simp only [toCalls, rebuild, Call.toStep, Ops.replaceLeaves, ih h.1 (Ops.valid_srcA hv), printMap]
  | join a b onA onB jt iha ihb =>
    simp only [Ops.valid, Bool.and_eq_true] at hv
    obtain ⟨ha, _, hb, hlen, _⟩ := h
    simp only [toCalls, rebuild, Ops.replaceLeaves, iha ha hv.1.2, ihb hb hv.2, onLists_printOn hlen]
  | concat a b idc an bn iha ihb =>
    simp only [Ops.valid, Bool.and_eq_true] at hv
    obtain ⟨ha, _, hb, _⟩ := h
    simp only [toCalls, rebuild, Ops.replaceLeaves, iha ha hv.1.2, ihb hb hv.2]

end DAVerif.C12S
