import DAVerif.Proofs.SqlUnary3
/-!
C01/C02, the unary fragment {table, extend, project, select_rows, select_columns, drop_columns, order_rows,
rename_columns, map_columns}: independence of the fuel (`toNear_fuel_indep`), and reading a well-formed table through its
own column list (`map_select_self_of_wf`).
-/
namespace DAVerif
namespace Sql
open DAVerif.Ops (usedFromSources unionL)
open Rules26 (usedBy keys)

local macro "fuel_case" ih:ident : tactic =>
  `(tactic| (
    intro hfr f f' hf hf' u
    cases f with
    | zero => simp [Ops.size] at hf
    | succ f =>
      cases f' with
      | zero => simp [Ops.size] at hf'
      | succ f' =>
        have hrec := $ih hfr f f' (by simp [Ops.size] at hf; omega) (by simp [Ops.size] at hf'; omega)
        conv => lhs; rw [toNear]
        conv => rhs; rw [toNear]
        simp only [hrec]))

theorem toNear_fuel_indep (cfg : SqlCfg) (p : Ops) : InFrag p = true → ∀ (f f' : Nat), p.size ≤ f → p.size ≤ f' →
    ∀ u, toNear cfg f p u = toNear cfg f' p u := by
  induction p with
  | table name cs =>
    intro _ f f' hf hf' u
    cases f with
    | zero => exact absurd hf (Nat.not_succ_le_zero 0)
    | succ f =>
      cases f' with
      | zero => exact absurd hf' (Nat.not_succ_le_zero 0)
      | succ f' => rfl
  | extend _ _ _ _ _ _ ih | project _ _ _ ih | selectRows _ _ ih | selectCols _ _ ih | dropCols _ _ ih
  | order _ _ _ _ ih | rename _ _ ih | mapCols _ _ _ ih => fuel_case ih
  | join | concat | convert => intro h; cases h

/-- the fuel `toNearSql` supplies is sufficient on the fragment: any larger (or any other sufficient) fuel gives
the same translation -/
theorem toNearSql_fuel_sufficient (cfg : SqlCfg) (p : Ops) (hf : InFrag p = true) (f : Nat) (h : p.size ≤ f) :
    toNear cfg f p none = toNear cfg (6 * p.size + 6) p none :=
  toNear_fuel_indep cfg p hf f _ h
    (Nat.le_trans (Nat.le_mul_of_pos_left _ (by decide)) (Nat.le_add_right _ _)) none

/-- monotonicity in the fuel (fragment): a translation that succeeds keeps its result with more fuel -/
theorem toNear_fuel_mono (cfg : SqlCfg) (p : Ops) (hf : InFrag p = true) {f f' : Nat} (hle : f ≤ f')
    (hsz : p.size ≤ f) (u : Option (List String)) (st : Nat) (r : Near × Nat)
    (h : toNear cfg f p u st = .ok r) : toNear cfg f' p u st = .ok r := by
  rw [← toNear_fuel_indep cfg p hf f f' hsz (Nat.le_trans hsz hle) u]; exact h

theorem Row.select_keys_self (r : Row) (h : r.keys.Nodup) : r.select r.keys = r := by
  induction r with
  | nil => rfl
  | cons kv r ih =>
    obtain ⟨k, v⟩ := kv
    have hnd : k ∉ Row.keys r ∧ (Row.keys r).Nodup := List.nodup_cons.mp h
    refine List.cons_eq_cons.mpr ⟨congrArg (Prod.mk k) ((Row.get_cons k v r k).trans (if_pos rfl)), ?_⟩
    refine Eq.trans (List.map_congr_left fun c hc => ?_) (ih hnd.2)
    exact congrArg (Prod.mk c) ((Row.get_cons k v r c).trans (if_neg fun (e : c = k) => hnd.1 (e ▸ hc)))

theorem map_select_self_of_wf {t : Table} (hw : t.WF) (hnd : t.cols.Nodup) :
    t.rows.map (fun r => r.select t.cols) = t.rows := by
  conv => rhs; rw [← List.map_id t.rows]
  apply List.map_congr_left
  intro r hr
  have hk := hw r hr
  rw [← hk] at hnd ⊢
  exact Row.select_keys_self r hnd

end Sql
end DAVerif
