import DAVerif.Proofs.SqlFullSem
import DAVerif.Proofs.SqlConcat
/-!
C16, SQLite FULL join emulation, translation side.

`SQLiteModel._emit_full_join_as_complex` asserts non-empty and identical key lists, **builds** (through the user-level
builders) the pipeline `(keys ⟕ a) ⟕ b` with `keys = (a.project({}, K) ++ b.project({}, K)).project({}, K)` and
translates that pipeline.  What the builders construct is `fullSimOps a b K` (`Proofs/SqlGood.lean`; they skip trailing
`order_rows` nodes of `a`, `b` for the key projections: `fullSim_shape`); its table is the reference FULL join up to row
order **when no join key is null** (`fullSimOps_rows_perm`); the translations of the FULL join are the translations of
that pipeline (`SqlE.nodeOK_join_sqlite_full`).
-/
namespace DAVerif
namespace Sql
open DAVerif.Ops (usedFromSources unionL)

variable {Θ : Interp} {ec : EngineCfg} {env : Env} {cfg : SqlCfg}

theorem build_project_nil {a ka : Ops} {K : List String} (h : build a (.project [] K) = .ok ka) :
    ka = .project (strip a) [] K ∧ K.Nodup ∧ (∀ c ∈ K, c ∈ a.cols) := by
  rcases build_eq_ok.mp h with ⟨hn, _⟩ | ⟨_, hpl⟩
  · cases hn
  cases hpl with
  | project h1 =>
    obtain ⟨hnd, hsub, _⟩ := projectChecks_ok_iff.mp h1
    exact ⟨rfl, hnd, fun c hc => strip_cols a ▸ hsub c hc⟩

theorem build_join_left {p b q : Ops} {K : List String} (h : build p (.join b K K "left" false) = .ok q) :
    q = .join (strip p) b K K .left ∧ (∀ c ∈ K, c ∈ b.cols) := by
  rcases build_eq_ok.mp h with ⟨hn, _⟩ | ⟨_, hpl⟩
  · cases hn
  cases hpl with
  | join hc =>
    obtain ⟨_, _, _, hob, _, hp, _⟩ := joinChk_ok_iff.mp hc
    cases parse_left.symm.trans hp
    exact ⟨rfl, hob⟩

theorem fullSim_shape {a b sim : Ops} {K : List String} (h : fullSim a b K = .ok sim) :
    sim = fullSimOps a b K ∧ K.Nodup ∧ (∀ c ∈ K, c ∈ a.cols) ∧ (∀ c ∈ K, c ∈ b.cols) := by
  unfold fullSim at h
  obtain ⟨ka, hka, h⟩ := bind_eq_ok.mp h
  obtain ⟨kb, hkb, h⟩ := bind_eq_ok.mp h
  obtain ⟨ks0, hks0, h⟩ := bind_eq_ok.mp h
  obtain ⟨ks, hks, h⟩ := bind_eq_ok.mp h
  obtain ⟨j1, hj1, h⟩ := bind_eq_ok.mp h
  obtain ⟨rfl, hnd, hKa⟩ := build_project_nil hka
  obtain ⟨rfl, _, hKb⟩ := build_project_nil hkb
  rcases build_eq_ok.mp hks0 with ⟨hn, _⟩ | ⟨_, hpl⟩
  · cases hn
  cases hpl
  obtain ⟨rfl, _, _⟩ := build_project_nil hks
  obtain ⟨rfl, _⟩ := build_join_left hj1
  obtain ⟨rfl, _⟩ := build_join_left h
  exact ⟨rfl, hnd, hKa, hKb⟩

/-- translation fails with `AssertionError` unless the key lists are non-empty and identical
(`assert len(join_node.on_a) > 0`, `assert join_node.on_a == join_node.on_b`) -/
theorem toNear_sqlite_full_assert (hemu : cfg.emulateRightFull = true) (fuel : Nat) (a b : Ops)
    (onA onB : List String) (h : onA = [] ∨ onA ≠ onB) (u : Option (List String)) (st : Nat) :
    toNear cfg (fuel + 1) (.join a b onA onB .full) u st = .error .assertionError := by
  rw [toNear_sqlite_full_eq hemu]
  cases onA with
  | nil => rfl
  | cons k K =>
    have h2 : (k :: K == onB) = false := by simpa using h
    rw [h2]
    rfl

theorem toNear_sqlite_full_of_sim (hemu : cfg.emulateRightFull = true) (fuel : Nat) {a b sim : Ops} {K : List String}
    (hK : K ≠ []) (hsim : fullSim a b K = .ok sim) (u : Option (List String)) :
    toNear cfg (fuel + 1) (.join a b K K .full) u =
      toNear cfg fuel sim (some (u.getD (Ops.join a b K K .full).cols)) := by
  rw [toNear_sqlite_full_eq hemu, hsim]
  have h1 : (!K.isEmpty) = true := by simpa using hK
  have h2 : (K == K) = true := by simp
  rw [h1, h2]
  rfl

theorem toNear_join_sqlite_full (hemu : cfg.emulateRightFull = true) {fuel : Nat} {a b : Ops}
    {onA onB u : List String} {st st' : Nat} {q : Near}
    (h : toNear cfg (fuel + 1) (.join a b onA onB .full) (some u) st = .ok (q, st')) :
    onA ≠ [] ∧ onA = onB ∧ ∃ sim, fullSim a b onA = .ok sim ∧ toNear cfg fuel sim (some u) st = .ok (q, st') := by
  cases toNear_succ_inv h with
  | step _ hσ => cases hσ
  | rekey _ hk => cases hk
  | join hfull => rw [hemu] at hfull; cases hfull
  | joinFull _ hne heq hsim hsub => exact ⟨hne, heq, _, hsim, hsub⟩

theorem semG_strip {le : RowCmp} {scfg : SemCfg} {p : Ops} {tp : Table} (h : semG le Θ scfg env p = .ok tp) :
    ∃ ts, semG le Θ scfg env (strip p) = .ok ts ∧ ∀ r, r ∈ ts.rows ↔ r ∈ tp.rows := by
  fun_induction strip p generalizing tp with
  | case1 src cs rev ih =>
    simp only [semG] at h
    obtain ⟨t0, h0, rfl⟩ := bind_pure_ok h
    obtain ⟨ts, hts, hmem⟩ := ih h0
    refine ⟨ts, hts, fun r => (hmem r).trans ?_⟩
    simp only [semOrderG]
    exact List.mem_mergeSort.symm
  | case2 p _ => exact ⟨tp, h, fun _ => Iff.rfl⟩

theorem fullSimOps_rows_perm {le : RowCmp} {a b : Ops} {K : List String} (hK : K ≠ []) (hKa : ∀ c ∈ K, c ∈ a.cols)
    (hKb : ∀ c ∈ K, c ∈ b.cols) (hfa : InFragJ a = true) (hfb : InFragJ b = true) {ta tb tsim : Table}
    (hta : semG le Θ SemCfg.ref env a = .ok ta) (htb : semG le Θ SemCfg.ref env b = .ok tb)
    (htsim : semG le Θ SemCfg.ref env (fullSimOps a b K) = .ok tsim)
    (hna : NullFreeOn K ta.rows) (hnb : NullFreeOn K tb.rows) (u' : List String)
    (hu' : ∀ c ∈ u', c ∈ (Ops.join a b K K .full).cols) :
    (tsim.rows.map (fun r => r.select u')).Perm
      (((semJoin SemCfg.ref .full K K ta tb (appendNew a.cols b.cols)).selectCols
        (Ops.join a b K K .full).cols).rows.map (fun r => r.select u')) := by
  obtain ⟨tsa, htsa, hmema⟩ := semG_strip hta
  obtain ⟨tsb, htsb, hmemb⟩ := semG_strip htb
  simp only [fullSimOps, semG, htsa, htsb, hta, htb, bind, Except.bind, pure, Except.pure, Except.ok.injEq] at htsim
  rw [← htsim]
  exact fullSim_rows_perm Θ hK hKa hKb ta tb tsa tsb (semG_cols_wf_fragJ _ Θ SemCfg.ref env a hfa ta hta).1
    (semG_cols_wf_fragJ _ Θ SemCfg.ref env b hfb tb htb).1 hmema hmemb hna hnb _ _ _ u'
    (fun c => mem_join_cols _ a K K .left c) (fun c => mem_join_cols _ b K K .left c)
    (mem_join_cols a b K K .full) hu' "a" "b"

namespace SqlE

variable {G : Near → Prop}

/-- a FULL join on SQLite whose emulation cannot be built does not translate -/
theorem nodeOK_full_vacuous (hemu : cfg.emulateRightFull = true) (fuel : Nat) (a b : Ops) (onA onB : List String)
    (hno : ¬ (onA ≠ [] ∧ onA = onB ∧ ∃ sim, fullSim a b onA = .ok sim)) (tp : Table) :
    NodeOK Θ ec env G cfg (fuel + 1) (.join a b onA onB .full) tp ∧ NodeM cfg (fuel + 1) (.join a b onA onB .full) := by
  refine ⟨?_, ?_⟩
  · intro u st q st' _ h
    obtain ⟨h1, h2, sim, hsim, _⟩ := toNear_join_sqlite_full hemu h
    exact absurd ⟨h1, h2, sim, hsim⟩ hno
  · intro u st q st' _ h
    obtain ⟨h1, h2, sim, hsim, _⟩ := toNear_join_sqlite_full hemu h
    exact absurd ⟨h1, h2, sim, hsim⟩ hno

/-- the translations of the join are those of the pipeline `fullSimOps a b K`, which has the same column set: what they
satisfy against a table `tsim` of the pipeline they satisfy against `tsim` re-ordered to the declared columns of the
join node -/
theorem nodeOK_join_sqlite_full (hemu : cfg.emulateRightFull = true) (fuel : Nat) {a b : Ops} {K : List String}
    (hKa : ∀ c ∈ K, c ∈ a.cols) {tsim : Table} (hN : NodeOK Θ ec env G cfg fuel (fullSimOps a b K) tsim)
    (hM : NodeM cfg fuel (fullSimOps a b K)) :
    NodeOK Θ ec env G cfg (fuel + 1) (.join a b K K .full)
        ⟨(Ops.join a b K K .full).cols, tsim.rows.map (fun r => r.select (Ops.join a b K K .full).cols)⟩ ∧
      NodeM cfg (fuel + 1) (.join a b K K .full) := by
  have hcols : ∀ c, c ∈ (fullSimOps a b K).cols ↔ c ∈ (Ops.join a b K K .full).cols :=
    fun c => (mem_fullSimOps_cols hKa c).trans (mem_join_cols a b K K .full c).symm
  refine ⟨?_, ?_⟩
  · intro u st q st' hu h
    obtain ⟨_, _, sim, hsim, htn⟩ := toNear_join_sqlite_full hemu h
    obtain ⟨rfl, _⟩ := fullSim_shape hsim
    obtain ⟨hju, u₁, h1, h2, hsound⟩ := hN u st q st' (fun c hc => (hcols c).mpr (hu c hc)) htn
    have hu₁n : ∀ c ∈ u₁, c ∈ (Ops.join a b K K .full).cols := fun c hc => (hcols c).mp (h2 c hc)
    exact ⟨hju, u₁, h1, hu₁n, hsound.mono (fun c hc => (hcols c).mp hc)
      (fun u' hu' => select_map_select _ (fun c hc => hu₁n c (hu' c hc)))⟩
  · intro u st q st' hu h
    obtain ⟨_, _, sim, hsim, htn⟩ := toNear_join_sqlite_full hemu h
    obtain ⟨rfl, _⟩ := fullSim_shape hsim
    exact hM u st q st' (fun c hc => (hcols c).mpr (hu c hc)) htn

end SqlE

end Sql
end DAVerif
