import DAVerif.Proofs.UsedSem
import DAVerif.Proofs.EquivC
/-!
C10, from the main induction to the statements about `columnsUsed`: table scans under the two hypotheses the
property theorems use (environments agreeing on the report / environment restricted to the report), the records
`columnsUsed` starts from, and table equality from agreement on all (duplicate-free) columns.
-/
namespace DAVerif
open Ops

theorem narrowWith_id (p : Ops) : narrowWith (fun _ cs => cs) p = p := by
  induction p <;> simp [narrowWith, *]

/-- agreement on `w` from agreement on column lists that together cover `w`; `h0` only supplies the induction over
the two row lists (it says they have the same length) -/
theorem rowsAgree_of_cover {us0 w : List String} {l l' : List Row} (h0 : RowsAgree us0 l l')
    (h : ∀ c ∈ w, ∃ us, c ∈ us ∧ RowsAgree us l l') : RowsAgree w l l' := by
  induction h0 with
  | nil => exact .nil
  | cons hr _ ih =>
    refine .cons ?_ (ih ?_)
    · intro c hc
      obtain ⟨us, hcu, hag⟩ := h c hc
      cases hag with
      | cons h1 _ => exact h1 c hcu
    · intro c hc
      obtain ⟨us, hcu, hag⟩ := h c hc
      cases hag with
      | cons _ h2 => exact ⟨us, hcu, h2⟩

theorem select_same_congr {w' w cs : List String} {l l' : List Row} (h : RowsAgree w' l l')
    (hw : ∀ c ∈ w, c ∈ w') : RowsAgree w (l.map (·.select cs)) (l'.map (·.select cs)) := by
  apply Forall₂.map' h
  intro r r' hr c hc
  rw [Row.get_select, Row.get_select]
  split
  · exact hr c (hw c hc)
  · rfl

/-- the records `columns_used` starts from: an empty entry for every table key -/
def initUsed (p : Ops) : Used := (p.tables.map (·.1)).eraseDups.map (fun k => (k, []))

theorem run_has_entry {p : Ops} {u : List String} {U : Used} (h : Run p u (initUsed p) U) {k : String}
    {cs : List String} (hk : (k, cs) ∈ p.tables) : ∃ us, (k, us) ∈ U := by
  have hle := run_mono _ _ _ _ h
  have : (k, ([] : List String)) ∈ initUsed p := by
    apply List.mem_map.mpr
    exact ⟨k, List.mem_eraseDups.mpr (List.mem_map.mpr ⟨(k, cs), hk, rfl⟩), rfl⟩
  obtain ⟨us, hus, _⟩ := hle k [] this
  exact ⟨us, hus⟩

theorem run_of_columnsUsed {p : Ops} {U : Used} (h : columnsUsed p = .ok U) : Run p p.cols (initUsed p) U :=
  run_of_aux p p.cols _ U h

theorem scan_of_envAgree (Θ : Interp) (cfg : SemCfg) {U : Used} {env env' : Env} (h : EnvAgree U env env')
    (tbls : List (String × List String)) (hent : ∀ k cs, (k, cs) ∈ tbls → ∃ us, (k, us) ∈ U) :
    ScanAgree Θ cfg (fun _ cs => cs) env env' tbls U := by
  intro k cs hk w hw
  refine ⟨fun c _ hc => hc, ?_⟩
  obtain ⟨us0, hus0⟩ := hent k cs hk
  have h0 := h k us0 hus0
  simp only [sem]
  cases e : env.lookup k <;> cases e' : env'.lookup k <;> simp only [e, e'] at h0
  · rfl
  · rename_i t t'
    obtain ⟨hc0, hr0⟩ := h0
    have hall : RowsAgree w t.rows t'.rows := by
      apply rowsAgree_of_cover hr0
      intro c hc
      obtain ⟨us, hus, hcu⟩ := hw c hc
      have := h k us hus
      simp only [e, e'] at this
      exact ⟨us, hcu, this.2⟩
    dsimp only
    rw [← hc0]
    split
    · exact select_same_congr hall (fun c hc => hc)
    · rfl

theorem lookup_restrictEnv (U : Used) (env : Env) (k : String) :
    (restrictEnv U env).lookup k = (env.lookup k).map (fun t => t.restrict (U.colsOf k)) := by
  unfold restrictEnv
  induction env with
  | nil => rfl
  | cons kt env ih =>
    obtain ⟨k1, t⟩ := kt
    simp only [List.map_cons, List.lookup_cons]
    by_cases hk : k == k1
    · have : k = k1 := by simpa using hk
      subst this
      simp
    · simp only [hk]
      exact ih

theorem mem_colsOf {U : Used} {k c : String} : c ∈ U.colsOf k ↔ Covers U k c := by
  simp only [Used.colsOf, List.mem_flatMap, List.mem_filter, Covers]
  constructor
  · rintro ⟨kv, ⟨hkv, hk⟩, hc⟩
    have : kv.1 = k := by simpa using hk
    exact ⟨kv.2, by rw [← this]; exact hkv, hc⟩
  · rintro ⟨us, hus, hc⟩
    exact ⟨(k, us), ⟨hus, by simp⟩, hc⟩

theorem scan_of_restrict (Θ : Interp) (cfg : SemCfg) (U : Used) (env : Env)
    (tbls : List (String × List String))
    (hconf : ∀ k cs, (k, cs) ∈ tbls → ∃ t, env.lookup k = some t ∧ subset cs t.cols = true) :
    ScanAgree Θ cfg (narrowCols U) env (restrictEnv U env) tbls U := by
  intro k cs hk w hw
  refine ⟨fun c hc hcs => ?_, ?_⟩
  · simp only [narrowCols]
    exact mem_filter_contains.mpr ⟨hcs, mem_colsOf.mpr (hw c hc)⟩
  · obtain ⟨t, ht, hsub⟩ := hconf k cs hk
    have hsub' := subset_iff.mp hsub
    simp only [sem, lookup_restrictEnv, ht, hsub, if_true, Option.map_some]
    have hs2 : subset (narrowCols U k cs) (t.restrict (U.colsOf k)).cols = true := by
      apply subset_iff.mpr
      intro c hc
      simp only [narrowCols] at hc
      obtain ⟨h1, h2⟩ := mem_filter_contains.mp hc
      simp only [Table.restrict, Table.selectCols]
      exact mem_filter_contains.mpr ⟨hsub' c h1, h2⟩
    simp only [hs2, if_true]
    show RowsAgree w _ _
    simp only [Table.selectCols, Table.restrict, List.map_map]
    apply forall₂_map_same
    intro r _ c hc
    simp only [Function.comp]
    rw [Row.get_select, Row.get_select]
    have hcov := mem_colsOf.mpr (hw c hc)
    by_cases hcs : c ∈ cs
    · have h1 : c ∈ narrowCols U k cs := mem_filter_contains.mpr ⟨hcs, hcov⟩
      have h2 : c ∈ t.cols.filter (fun c => (U.colsOf k).contains c) :=
        mem_filter_contains.mpr ⟨hsub' c hcs, hcov⟩
      simp only [hcs, h1, if_true, Row.select_get_of_mem h2]
    · have h1 : c ∉ narrowCols U k cs := fun h => hcs (mem_filter_contains.mp h).1
      simp only [hcs, h1, if_false]

theorem table_eq_of_agree {t t' : Table} (hc : t.cols = t'.cols) (hw : t.WF) (hw' : t'.WF) (hn : t.cols.Nodup)
    (h : RowsAgree t.cols t.rows t'.rows) : t = t' :=
  Table.eq_of_rowsAgree (Table.selectCols_self hw hn) (hc ▸ Table.selectCols_self hw' (hc ▸ hn)) h

end DAVerif
