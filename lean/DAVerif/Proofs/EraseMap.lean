import DAVerif.Proofs.RenameSem
import DAVerif.Spec.Erase
/-!
Forgetting the `method` flags of expressions (`Ops.erase`, Spec/Erase.lean) is a node-wise map in the sense of
Proofs/RenameBasic.lean: the identity on column and table names, every flag to `false`.  The identity on names is
injective and acts as the identity on tables and environments, so what holds of node-wise maps holds of `erase`.
-/
namespace DAVerif
namespace C11Sql
open DAVerif.Ren (NodeMap mapTerm mapTerms)

def eraseMap : NodeMap := ⟨id, id, fun _ => false⟩

theorem eraseMap_blind : eraseMap.Blind := ⟨Function.injective_id, Function.injective_id⟩

mutual
theorem mapTerm_erase : ∀ t : Term, mapTerm id (fun _ => false) t = t.erase
  | .value _ | .col _ | .list _ | .dict _ => rfl
  | .app op args i _ => congrArg (Term.app op · i false) (mapTerms_erase args)
theorem mapTerms_erase : ∀ ts : List Term, mapTerms id (fun _ => false) ts = Term.eraseList ts
  | [] => rfl
  | t :: ts => by simp only [mapTerms, Term.eraseList, mapTerm_erase t, mapTerms_erase ts]
end

theorem eraseMap_col : eraseMap.col = id := rfl
theorem eraseMap_tab : eraseMap.tab = id := rfl
theorem eraseMap_expr : eraseMap.expr = Term.erase := funext mapTerm_erase

theorem eraseMap_assign : eraseMap.assign = eraseAssign := by
  funext ops
  rw [NodeMap.assign, eraseMap_expr]
  rfl

theorem recMap_rename_id : RecMap.rename id = id := by
  funext rm
  simp [RecMap.rename]

theorem eraseMap_ops : eraseMap.ops = Ops.erase := by
  funext p
  induction p <;>
    simp [NodeMap.ops, Ops.erase, eraseMap_assign, eraseMap_col, eraseMap_tab, eraseMap_expr, recMap_rename_id, *]

theorem table_rename_id : Table.rename id = id := by
  funext t
  simp [Table.rename, Row.renameCols, Row.rename]

theorem env_rename_id (env : Env) : Env.rename id id env = env := by
  simp [Env.rename, table_rename_id]

theorem map_table_rename_id (x : Except Err Table) : x.map (Table.rename id) = x := by
  rw [table_rename_id]
  cases x <;> rfl

end C11Sql
end DAVerif
