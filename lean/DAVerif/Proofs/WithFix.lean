import DAVerif.Proofs.WithSound
/-!
The model's three WITH-form recursions against each other.  The shared `toWithForm` / `withStub` (Sql/WithForm.lean) is
`toWithFormG` / `stubStep` at the key `cacheKey` (`toWithFormG_cacheKey`).  The stub before fix N28 (`toWithFormOld` of
Sql/WithFormG.lean: sub-query converted first, cache consulted afterwards, the converted steps discarded on a hit) **computes
what the stub as it is computes when the key function is closed on the query** (`toWithFormOld_eq`); hence
`toWithFormOld_sound` from `toWithFormG_sound`.  Only the cache is reasoned about: if with a key it holds the keys below it
(`DownClosed`), a conversion registers only keys of its sub-tree and leaves all of them present (`CacheGrow`); none is the
node's own key (`KeyClosed.acyclic`), so both stubs see the same hit or miss, and on a hit all keys below were present
before, so the discarded conversion has registered nothing.
-/
namespace DAVerif.Sql
open DAVerif

theorem withStub_eq (cache : Option Cache) (near : Near) (cols : Option (List String)) (force : Bool) :
    withStub cache near cols force = stubStep cacheKey cache near cols force (toWithForm cache near) := by
  by_cases ht : near.isTable = true
  · rw [withStub, if_pos ht, stubStep_isTable cacheKey _ _ _ _ ht]
    cases near with
    | table n ts => simp only [toWithForm]
    | cte n => simp only [toWithForm]
    | _ => cases ht
  · rw [withStub, if_neg ht, stubStep, if_neg ht]
    rfl

theorem toWithForm_eq (near : Near) : ∀ cache, toWithForm cache near = toWithFormG cacheKey cache near := by
  induction near with
  | table n ts => intro cache; simp only [toWithForm, toWithFormG]
  | cte n => intro cache; simp only [toWithForm, toWithFormG]
  | unary name terms agg sub sc sf mg deps k ih =>
    intro cache
    rw [toWithForm, toWithFormG]
    split
    · rfl
    · rw [withStub_eq, ih]
  | join name terms l lc ln r rc rn jt oa ob k ihl ihr =>
    intro cache
    rw [toWithForm, toWithFormG]
    split
    · rfl
    · rw [withStub_eq, ihl]
      simp only
      rw [withStub_eq, ihr]
  | union name terms l r cs k ihl ihr =>
    intro cache
    rw [toWithForm, toWithFormG]
    split
    · rfl
    · rw [withStub_eq, ihl]
      simp only
      rw [withStub_eq, ihr]

theorem toWithFormG_cacheKey (near : Near) :
    (∀ cache, toWithForm cache near = toWithFormG cacheKey cache near) ∧
    (∀ cache cols force, withStub cache near cols force =
      stubStep cacheKey cache near cols force (toWithFormG cacheKey cache near)) :=
  ⟨toWithForm_eq near, fun cache cols force => by rw [withStub_eq, toWithForm_eq]⟩

theorem stubStepOld_eq (key : KeyFn) (near : Near) (cols : Option (List String)) (force : Bool) (r : WFRes) :
    stubStepOld key near cols force r = stubStep key r.2.2 near cols force r := rfl

section
variable (key : KeyFn) (q : Near)

/-- `KeyOK.closed`, which does not depend on the semantics -/
def KeyClosed : Prop :=
  ∀ x ∈ q.desc, ∀ y ∈ q.desc, bkey key x = bkey key y → ∀ m ∈ x.1.desc, ∃ m0 ∈ y.1.desc, bkey key m0 = bkey key m

/-- with the key of a bound sub-query of `q` the cache holds the keys of the sub-queries below it.  `KeyClosed` sits inside
the `some` case so that without a cache nothing is asked of the key function. -/
def DownClosed : Option Cache → Prop
  | none => True
  | some c => KeyClosed key q ∧
      ∀ x ∈ q.desc, bkey key x ∈ c.map (·.1) → ∀ m ∈ x.1.desc, bkey key m ∈ c.map (·.1)

/-- the cache after the conversion of the bound sub-queries `ds` of `q`: it has only grown, by keys of `ds`; every key
of `ds` is present; nothing was added if they all were present before -/
def CacheGrow (ds : List Bound) : Option Cache → Option Cache → Prop
  | none, res => res = none
  | some c, res => ∃ more : Cache, res = some (c ++ more) ∧ (∀ e ∈ more, e.1 ∈ ds.map (bkey key)) ∧
      (∀ k ∈ ds.map (bkey key), k ∈ (c ++ more).map (·.1)) ∧
      ((∀ k ∈ ds.map (bkey key), k ∈ c.map (·.1)) → more = []) ∧ DownClosed key q (some (c ++ more))

variable {key q}

theorem KeyClosed.acyclic (h : KeyClosed key q) : ∀ x ∈ q.desc, ∀ m ∈ x.1.desc, bkey key m ≠ bkey key x := by
  have main : ∀ n : Nat, ∀ x ∈ q.desc, x.1.sz = n → ∀ m ∈ x.1.desc, bkey key m ≠ bkey key x := by
    intro n
    induction n using Nat.strongRecOn with
    | _ n ih =>
      intro x hx hsz m hm he
      have hmq := desc_trans q x hx m hm
      obtain ⟨m0, hm0, he0⟩ := h x hx m hmq he.symm m hm
      have hlt := desc_sz x.1 m hm
      exact ih m.1.sz (by omega) m hmq rfl m0 hm0 he0
  intro x hx
  exact main _ x hx rfl

theorem CacheGrow.down {ds : List Bound} {cache res : Option Cache} (h : CacheGrow key q ds cache res) :
    DownClosed key q res := by
  cases cache with
  | none => cases h; trivial
  | some c => obtain ⟨m, e, -, -, -, hD⟩ := h; exact e ▸ hD

theorem CacheGrow.nil {cache : Option Cache} (hD : DownClosed key q cache) : CacheGrow key q [] cache cache := by
  cases cache with
  | none => rfl
  | some c => exact ⟨[], by simp, by simp, by simp, fun _ => rfl, by rwa [List.append_nil]⟩

theorem CacheGrow.append {d1 d2 : List Bound} {cache c1 res : Option Cache}
    (h1 : CacheGrow key q d1 cache c1) (h2 : CacheGrow key q d2 c1 res) : CacheGrow key q (d1 ++ d2) cache res := by
  cases cache with
  | none => cases h1; exact h2
  | some c =>
    obtain ⟨m1, rfl, a1, b1, n1, -⟩ := h1
    obtain ⟨m2, e2, a2, b2, n2, hD⟩ := h2
    rw [List.append_assoc] at e2 hD
    refine ⟨m1 ++ m2, e2, ?_, ?_, ?_, hD⟩
    · intro e he
      rw [List.map_append, List.mem_append]
      exact (List.mem_append.mp he).imp (a1 e) (a2 e)
    · intro k hk
      rw [List.map_append, List.mem_append] at hk
      rw [← List.append_assoc]
      cases hk with
      | inl h => rw [List.map_append, List.mem_append]; exact Or.inl (b1 k h)
      | inr h => exact b2 k h
    · intro hall
      have hm1 : m1 = [] := n1 fun k hk => hall k (by rw [List.map_append, List.mem_append]; exact Or.inl hk)
      subst hm1
      rw [List.append_nil] at n2
      rw [n2 fun k hk => hall k (by rw [List.map_append, List.mem_append]; exact Or.inr hk)]
      rfl

theorem stubStep_cacheGrow {cache : Option Cache} {near : Near} {cols : Option (List String)} {force : Bool} {r : WFRes}
    (hx : ¬ near.isTable = true → (near, cols, force) ∈ q.desc) (hD : DownClosed key q cache)
    (ih : CacheGrow key q near.desc cache r.2.2) :
    CacheGrow key q (bdesc near cols force) cache (stubStep key cache near cols force r).2.2 := by
  by_cases ht : near.isTable = true
  · rw [stubStep_isTable key _ cols force _ ht, bdesc_of_isTable _ _ ht]
    rwa [desc_of_isTable ht] at ih
  · cases cache with
    | none => exact stubStep_cache_none key near cols force rfl ih
    | some c =>
      have hx := hx ht
      rw [bdesc_of_not_isTable _ _ ht]
      cases hl : lookupLast c (key near cols) with
      | some nm =>
        -- a hit: nothing below is visited, and every key below is in the cache already
        rw [stubStep_hit key (some c) cols force _ ht hl]
        refine ⟨[], by rw [List.append_nil], nofun, fun k hk => ?_, fun _ => rfl, by rwa [List.append_nil]⟩
        rw [List.append_nil]
        have hk0 := lookupLast_some_fst_mem _ _ _ hl
        rcases List.mem_cons.mp hk with rfl | h
        · exact hk0
        · obtain ⟨m, hm, rfl⟩ := List.mem_map.mp h
          exact hD.2 _ hx hk0 m hm
      | none =>
        obtain ⟨m1, e1, a1, b1, n1, hD1⟩ := ih
        rw [stubStep_miss key (some c) cols force _ ht hl, e1]
        refine ⟨m1 ++ [(key near cols, r.1.name)], by rw [Option.map_some, List.append_assoc], ?_, ?_, ?_, ?_⟩
        · intro e he
          rcases List.mem_append.mp he with h | h
          · exact List.mem_cons_of_mem _ (a1 e h)
          · rw [List.mem_singleton.mp h]; exact List.mem_cons_self
        · intro k hk
          rw [← List.append_assoc, List.map_append, List.mem_append]
          rcases List.mem_cons.mp hk with rfl | h
          · exact Or.inr List.mem_cons_self
          · exact Or.inl (b1 k h)
        · exact fun hall => absurd (hall _ List.mem_cons_self) (lookupLast_eq_none_iff.mp hl)
        · refine ⟨hD.1, fun y hy hyk m hm => ?_⟩
          rw [← List.append_assoc, List.map_append, List.mem_append] at hyk ⊢
          rcases hyk with h | h
          · exact Or.inl (hD1.2 y hy h m hm)
          · -- `y` has the key just registered for `near`: by `KeyClosed` every key below `y` is a key below `near`,
            -- and the conversion of `near` has left all of those in the cache (`b1`)
            obtain ⟨m0, hm0, he0⟩ := hD.1 y hy _ hx (List.mem_singleton.mp h) m hm
            exact Or.inl (he0 ▸ b1 _ (List.mem_map.mpr ⟨m0, hm0, rfl⟩))

/-- the cache the old stub consults, the one left by the conversion `r` of its sub-query, gives the same answer as the
cache the conversion started from -/
theorem stubStep_old_eq {cache : Option Cache} {near : Near} {cols : Option (List String)} {force : Bool} {r : WFRes}
    (hx : ¬ near.isTable = true → (near, cols, force) ∈ q.desc) (hD : DownClosed key q cache)
    (hg : CacheGrow key q near.desc cache r.2.2) :
    stubStepOld key near cols force r = stubStep key cache near cols force r := by
  rw [stubStepOld_eq]
  by_cases ht : near.isTable = true
  · rw [stubStep_isTable key _ cols force _ ht, stubStep_isTable key _ cols force _ ht]
  · cases cache with
    | none => rw [show r.2.2 = none from hg]
    | some c =>
      obtain ⟨m1, e1, a1, -, n1, -⟩ := hg
      have hx := hx ht
      have hlk : lookupLast (c ++ m1) (key near cols) = lookupLast c (key near cols) := by
        refine lookupLast_append_of_notMem _ _ _ fun hmem => ?_
        obtain ⟨e, he, hek⟩ := List.mem_map.mp hmem
        obtain ⟨m, hm, hme⟩ := List.mem_map.mp (a1 e he)
        exact hD.1.acyclic _ hx m hm (hme.trans hek)
      cases hl : lookupLast c (key near cols) with
      | some nm =>
        have hm1 : m1 = [] := n1 fun k hk => by
          obtain ⟨m, hm, rfl⟩ := List.mem_map.mp hk
          exact hD.2 _ hx (lookupLast_some_fst_mem _ _ _ hl) m hm
        rw [e1, hm1, List.append_nil]
      | none =>
        rw [stubStep_miss key (some c) cols force _ ht hl,
          stubStep_miss key r.2.2 cols force _ ht (by rw [e1]; exact hlk.trans hl)]

/-- the two conversions of a sub-tree of `q` agree, and what they leave in the cache -/
theorem toWithFormOld_sub (near : Near) : (∀ x ∈ near.desc, x ∈ q.desc) → ∀ cache, DownClosed key q cache →
    toWithFormOld key cache near = toWithFormG key cache near ∧
      CacheGrow key q near.desc cache (toWithFormG key cache near).2.2 := by
  have stub : ∀ {n : Near} {cache : Option Cache} {cols : Option (List String)} {f : Bool},
      (∀ x ∈ bdesc n cols f, x ∈ q.desc) → DownClosed key q cache →
      (toWithFormOld key cache n = toWithFormG key cache n ∧
        CacheGrow key q n.desc cache (toWithFormG key cache n).2.2) →
      stubStepOld key n cols f (toWithFormOld key cache n) = stubG key cache n cols f ∧
        CacheGrow key q (bdesc n cols f) cache (stubG key cache n cols f).2.2 := by
    intro n cache cols f hb hD ih
    have hx : ¬ n.isTable = true → (n, cols, f) ∈ q.desc :=
      fun ht => hb _ (by rw [bdesc_of_not_isTable _ _ ht]; exact List.mem_cons_self)
    exact ⟨ih.1 ▸ stubStep_old_eq hx hD ih.2, stubStep_cacheGrow hx hD ih.2⟩
  induction near with
  | table n ts => exact fun _ _ hD => ⟨rfl, .nil hD⟩
  | cte n => exact fun _ _ hD => ⟨rfl, .nil hD⟩
  | unary name terms agg sub sc sf mg deps k ih =>
    intro hsub cache hD
    have h := stub hsub hD (ih (fun x hx => hsub x (List.mem_append_right _ hx)) cache hD)
    refine ⟨by simp only [toWithFormOld, toWithFormG, h.1], ?_⟩
    rw [toWithFormG_unary, desc_unary]
    exact h.2
  | join name terms l lc ln r rc rn jt oa ob k ihl ihr =>
    intro hsub cache hD
    rw [desc_join] at hsub ⊢
    have hbl : ∀ x ∈ bdesc l (some lc) false, x ∈ q.desc := fun x hx => hsub x (List.mem_append_left _ hx)
    have hbr : ∀ x ∈ bdesc r (some rc) false, x ∈ q.desc := fun x hx => hsub x (List.mem_append_right _ hx)
    have h1 := stub hbl hD (ihl (fun x hx => hbl x (List.mem_append_right _ hx)) cache hD)
    have h2 := stub hbr h1.2.down (ihr (fun x hx => hbr x (List.mem_append_right _ hx)) _ h1.2.down)
    refine ⟨by simp only [toWithFormOld, toWithFormG, h1.1, h2.1], ?_⟩
    rw [toWithFormG_join]
    exact h1.2.append h2.2
  | union name terms l r cs k ihl ihr =>
    intro hsub cache hD
    rw [desc_union] at hsub ⊢
    have hbl : ∀ x ∈ bdesc l (some cs) true, x ∈ q.desc := fun x hx => hsub x (List.mem_append_left _ hx)
    have hbr : ∀ x ∈ bdesc r (some cs) true, x ∈ q.desc := fun x hx => hsub x (List.mem_append_right _ hx)
    have h1 := stub hbl hD (ihl (fun x hx => hbl x (List.mem_append_right _ hx)) cache hD)
    have h2 := stub hbr h1.2.down (ihr (fun x hx => hbr x (List.mem_append_right _ hx)) _ h1.2.down)
    refine ⟨by simp only [toWithFormOld, toWithFormG, h1.1, h2.1], ?_⟩
    rw [toWithFormG_union]
    exact h1.2.append h2.2

/-- **on closed keys the stub before fix N28 computes what the stub as it is computes** -/
theorem toWithFormOld_eq {cache : Option Cache} (h : DownClosed key q cache) :
    toWithFormOld key cache q = toWithFormG key cache q :=
  (toWithFormOld_sub q (fun _ h => h) cache h).1

end

/-- **soundness of the WITH form before fix N28 for a faithful and closed key function** (cache on), and with the cache
off -/
theorem toWithFormOld_sound (Θ : Interp) (ec : EngineCfg) (env : Env) (key : KeyFn) (q : Near) (cache : Option Cache)
    (hc : cache = none ∨ (cache = some [] ∧ KeyOK Θ ec env key q)) (hnc : q.noCte = true) (hnd : q.names.Nodup) :
    semWith Θ ec env (toWithFormOld key cache q).2.1 (toWithFormOld key cache q).1 = semSql Θ ec env q := by
  have hD : DownClosed key q cache := by
    rcases hc with rfl | ⟨rfl, h2⟩
    · trivial
    · exact ⟨h2.closed, fun _ _ h => nomatch h⟩
  rw [toWithFormOld_eq hD]
  exact toWithFormG_sound Θ ec env key q cache (hc.imp_right (And.imp_right KeyOK.faith)) hnc hnd

end DAVerif.Sql
